import DeeprobModel.Props.C13Clt
set_option linter.unusedSimpArgs false
set_option linter.unusedVariables false
/-
C13, Chow-Liu documents: the modelled `is_arborescence` (`Model/CltIo.lean: isArborescence`) accepts exactly the
arborescences among the graphs `node_link_graph` builds (the argument is in `Lemmas/Arborescence.lean`; every such graph
is a `GraphOK` graph, `graphOfDoc_ok`), so the tree test of `load_binary_clt_json` rejects a document iff its graph is not
an arborescence.
-/
namespace Deeprob.GraphIo
open Deeprob Deeprob.Clt Deeprob.CltFit

/-- on a graph with distinct node ids whose edges end in nodes, the decision procedure accepts every
arborescence — the bound of `2·len(G)` expansion rounds loses nothing. -/
theorem isArborescence_complete {g : DiGraph} (hok : GraphOK g) (h : IsArborescence g) : isArborescence g = true :=
  h.isArborescence hok

/-- the Boolean test accepts exactly the arborescences. -/
theorem isArborescence_iff {g : DiGraph} (hok : GraphOK g) : isArborescence g = true ↔ IsArborescence g :=
  ⟨isArborescence_sound, isArborescence_complete hok⟩

/-- a node-wise change that keeps ids keeps the id list -/
theorem nodeIds_map {g : DiGraph} {f : GNode → GNode} (hf : ∀ x, (f x).id = x.id) : nodeIds (g.map f) = nodeIds g := by
  unfold nodeIds
  rw [List.map_map]
  exact List.map_congr_left fun x _ => hf x

theorem graphOK_map_attr {g : DiGraph} (h : GraphOK g) {f : GNode → GNode} (hid : ∀ x, (f x).id = x.id)
    (hs : ∀ x, (f x).succ = x.succ) : GraphOK (g.map f) := by
  have he : edgesOf (g.map f) = edgesOf g := by
    unfold edgesOf
    rw [List.flatMap_map]
    exact List.flatMap_congr fun x _ => by rw [hid, hs]
  exact ⟨by rw [nodeIds_map hid]; exact h.nodup, fun e he' => by rw [nodeIds_map hid]; exact h.closed e (he ▸ he')⟩

/-- appending a fresh node without successors -/
theorem graphOK_snoc {g : DiGraph} (h : GraphOK g) (i : Nat) (a : Option CAttr) (hi : hasNode g i = false) :
    GraphOK (g ++ [{ id := i, attr := a, succ := [] }]) := by
  have hids : nodeIds (g ++ [{ id := i, attr := a, succ := [] }]) = nodeIds g ++ [i] := List.map_append
  have hedges : edgesOf (g ++ [{ id := i, attr := a, succ := [] }]) = edgesOf g := by
    unfold edgesOf
    rw [List.flatMap_append, List.flatMap_singleton, List.map_nil, List.append_nil]
  refine ⟨?_, fun e he => ?_⟩
  · rw [hids]
    refine List.Nodup.append h.nodup (List.nodup_singleton i) ?_
    intro x hx hx'
    rw [List.mem_singleton.1 hx', ← hasNode_iff, hi] at hx
    cases hx
  · rw [hedges] at he
    rw [hids]
    exact ⟨List.mem_append_left _ (h.closed e he).1, List.mem_append_left _ (h.closed e he).2⟩

theorem graphOK_addNode {g : DiGraph} (h : GraphOK g) (i : Nat) (a : Option CAttr) : GraphOK (addNode g i a) := by
  unfold addNode
  split_ifs with hh
  · exact graphOK_map_attr h (fun x => by split <;> rfl) (fun x => by split <;> rfl)
  · exact graphOK_snoc h i a (by simpa using hh)

/-- `add_edge` first makes sure that an endpoint is a node -/
def ensure (g : DiGraph) (i : Nat) : DiGraph := if hasNode g i then g else g ++ [{ id := i, attr := none, succ := [] }]

theorem graphOK_ensure {g : DiGraph} (h : GraphOK g) (i : Nat) :
    GraphOK (ensure g i) ∧ i ∈ nodeIds (ensure g i) ∧ ∀ v ∈ nodeIds g, v ∈ nodeIds (ensure g i) := by
  unfold ensure
  cases hh : hasNode g i with
  | true => exact ⟨h, (hasNode_iff g i).1 hh, fun v hv => hv⟩
  | false =>
    rw [if_neg Bool.false_ne_true]
    have hids : nodeIds (g ++ [{ id := i, attr := none, succ := [] }]) = nodeIds g ++ [i] := List.map_append
    rw [hids]
    exact ⟨graphOK_snoc h i none hh, List.mem_append_right _ List.mem_cons_self, fun v hv => List.mem_append_left _ hv⟩

/-- adding a successor to the nodes with id `u` keeps the ids and adds at most the edge `(u, v)` -/
theorem graphOK_link {g : DiGraph} (h : GraphOK g) (u v : Nat) (hu : u ∈ nodeIds g) (hv : v ∈ nodeIds g) :
    GraphOK (g.map (fun x => if x.id == u && !(x.succ.contains v) then { x with succ := x.succ ++ [v] } else x)) := by
  have hids := nodeIds_map (g := g) (f := fun x => if x.id == u && !(x.succ.contains v) then { x with succ := x.succ ++ [v] } else x)
    (fun x => by split <;> rfl)
  refine ⟨by rw [hids]; exact h.nodup, ?_⟩
  intro e he
  rw [hids]
  unfold edgesOf at he
  rw [List.flatMap_map, List.mem_flatMap] at he
  obtain ⟨x, hx, hm⟩ := he
  have hold : ∀ w ∈ x.succ, (x.id, w) ∈ edgesOf g := fun w hw => List.mem_flatMap.2 ⟨x, hx, List.mem_map.2 ⟨w, hw, rfl⟩⟩
  split_ifs at hm with hc
  · obtain ⟨w, hw, rfl⟩ := List.mem_map.1 hm
    rcases List.mem_append.1 hw with hw | hw
    · exact h.closed _ (hold w hw)
    · -- the new edge `(u, v)`
      rw [Bool.and_eq_true, beq_iff_eq] at hc
      rw [List.mem_singleton.1 hw, hc.1]
      exact ⟨hu, hv⟩
  · obtain ⟨w, hw, rfl⟩ := List.mem_map.1 hm
    exact h.closed _ (hold w hw)

theorem graphOK_addEdge {g : DiGraph} (h : GraphOK g) (e : Nat × Nat) : GraphOK (addEdge g e) := by
  obtain ⟨h1, hm1, hk1⟩ := graphOK_ensure h e.1
  obtain ⟨h2, hm2, hk2⟩ := graphOK_ensure h1 e.2
  exact graphOK_link h2 e.1 e.2 (hk2 _ hm1) hm2

theorem graphOK_nil : GraphOK [] := ⟨List.nodup_nil, fun _ he => absurd he List.not_mem_nil⟩

theorem foldl_graphOK {β : Type} (f : DiGraph → β → DiGraph) (hf : ∀ g b, GraphOK g → GraphOK (f g b)) :
    ∀ (l : List β) (g : DiGraph), GraphOK g → GraphOK (l.foldl f g)
  | [], g, h => h
  | b :: l, g, h => foldl_graphOK f hf l _ (hf g b h)

/-- the graph `node_link_graph` builds from any document has distinct node ids and edges that end in nodes. -/
theorem graphOfDoc_ok (d : CDoc) : GraphOK (graphOfDoc d) := by
  unfold graphOfDoc
  apply foldl_graphOK _ (fun g e h => graphOK_addEdge h e)
  exact foldl_graphOK _ (fun g na h => graphOK_addNode h na.1 na.2) _ _ graphOK_nil

/-- C13: the tree test of `load_binary_clt_json` passes for a document iff the document's graph is
an arborescence: non-empty, `n − 1` edges, every node joined to the first one by edges (direction ignored), no node with two
incoming edges.  (`cltDecode_rejects_non_tree` is the "only if" half.) -/
theorem cltDecode_tree_test_iff (d : CDoc) : isArborescence (graphOfDoc d) = true ↔ IsArborescence (graphOfDoc d) :=
  isArborescence_iff (graphOfDoc_ok d)

/-- an accepted arborescence with five nodes (edges given in an order that makes the search work through several rounds) -/
example : IsArborescence (graphOfDoc { nodes := [(0, none), (1, none), (2, none), (3, none), (4, none)], edges := [(3, 4), (2, 3), (1, 2), (0, 1)] }) :=
  (cltDecode_tree_test_iff _).1 (by decide +kernel)

/-- rejected: a cycle next to an isolated root (4 nodes, 3 edges, in-degrees ≤ 1 — only connectivity fails) -/
example : ¬ IsArborescence (graphOfDoc { nodes := [(0, none), (1, none), (2, none), (3, none)], edges := [(1, 2), (2, 3), (3, 1)] }) := by
  intro h
  have := (cltDecode_tree_test_iff _).2 h
  revert this
  decide +kernel

/-- rejected: a forest of two trees (too few edges) -/
example : ¬ IsArborescence (graphOfDoc { nodes := [(0, none), (1, none), (2, none), (3, none)], edges := [(0, 1), (2, 3)] }) := by
  intro h
  have := (cltDecode_tree_test_iff _).2 h
  revert this
  decide +kernel

end Deeprob.GraphIo
