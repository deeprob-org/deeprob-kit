import DeeprobModel.Lemmas.F32Lemmas
import DeeprobModel.Spec.Io
set_option linter.unusedSimpArgs false
set_option linter.unusedVariables false
/-
C13, "× repeated save/load generations" with single-precision storage modelled (`Model/F32.lean`):
`f32`/`f64` are IEEE-754 round-to-nearest-even on exact rationals (no overflow: faithful below 2¹²⁸ − 2¹⁰³ /
2¹⁰²⁴ − 2⁹⁷⁰); `save = round8`; `load32 = f32 ∘ f64` (float32 parameters: sum weights, Categorical / Isotonic /
CLT arrays), `load64 = f64` (Bernoulli / Gaussian / Uniform scalars).
Unlike `C13.gen_idempotent_partial` nothing here is partial. The only modelling restriction is the absence of
overflow in `f32`/`f64`; `chain_bounded` shows every number of the chain stays below `2¹⁰¹` when `|y| ≤ 2¹⁰⁰`.
-/
namespace Deeprob.Io32
open Deeprob

/-- the exponent used by the model is `⌊log₂|q|⌋` -/
theorem ilog2_is_floor_log2 (q : ℚ) (h : q ≠ 0) : (2 : ℚ) ^ (ilog2 q) ≤ |q| ∧ |q| < (2 : ℚ) ^ (ilog2 q + 1) :=
  ilog2_spec q h

example : ilog2 (7 / 10) = -1 ∧ ilog2 (-5) = 2 ∧ ilog2 (1 / 1024) = -10 ∧ ilog2 (1023 / 1024) = -1 := by
  refine ⟨?_, ?_, ?_, ?_⟩ <;> decide +kernel

theorem f32_idem (q : ℚ) : f32 (f32 q) = f32 q := fpr_idem (by norm_num) q

example : f32 (7 / 10) = 11744051 / 16777216 ∧ f32 (f32 (7 / 10)) = f32 (7 / 10) :=
  ⟨by decide +kernel, f32_idem _⟩

theorem f64_idem (q : ℚ) : f64 (f64 q) = f64 q := fpr_idem (by norm_num) q

example : f64 (1 / 10) = 3602879701896397 / 36028797018963968 ∧ f64 (f64 (1 / 10)) = f64 (1 / 10) :=
  ⟨by decide +kernel, f64_idem _⟩

/-- monotone on all rationals: across binades, zero and signs -/
theorem f32_mono {a b : ℚ} (h : a ≤ b) : f32 a ≤ f32 b := fpr_mono (by norm_num) h

example : f32 (16777215 / 16777216 + 1 / 2 ^ 30) ≤ f32 (1 + 1 / 2 ^ 30) := f32_mono (by norm_num)

theorem f64_mono {a b : ℚ} (h : a ≤ b) : f64 a ≤ f64 b := fpr_mono (by norm_num) h

example : f64 (-1 / 3) ≤ f64 (1 / 3) := f64_mono (by norm_num)

/-- local spacing of binary32 at `q`: `2^max(⌊log₂|q|⌋ − 23, −149)` -/
def ulp32 (q : ℚ) : ℚ := (2 : ℚ) ^ (qexp 24 (-149) q)
/-- local spacing of binary64 at `q` -/
def ulp64 (q : ℚ) : ℚ := (2 : ℚ) ^ (qexp 53 (-1074) q)

/-- the error is at most half the local spacing (normal and subnormal range) -/
theorem f32_nearest (q : ℚ) : |f32 q - q| ≤ ulp32 q / 2 := fpr_err 24 (-149) q

example : ulp32 (7 / 10) = 1 / 2 ^ 24 ∧ |f32 (7 / 10) - 7 / 10| ≤ ulp32 (7 / 10) / 2 ∧
    ulp32 (1 / 10 ^ 44) = 1 / 2 ^ 149 := by
  refine ⟨?_, f32_nearest _, ?_⟩
  · unfold ulp32; rw [show qexp 24 (-149) (7 / 10) = -24 by decide +kernel]; norm_num
  · unfold ulp32; rw [show qexp 24 (-149) (1 / 10 ^ 44) = -149 by decide +kernel]; norm_num

theorem f64_nearest (q : ℚ) : |f64 q - q| ≤ ulp64 q / 2 := fpr_err 53 (-1074) q

example : |f64 (1 / 3) - 1 / 3| ≤ ulp64 (1 / 3) / 2 := f64_nearest _

/-- no binary32 number (fixed point of `f32`) is closer to `q` than `f32 q` -/
theorem f32_nearest_repr (q g : ℚ) (hg : f32 g = g) : |f32 q - q| ≤ |g - q| :=
  fpr_nearest_repr (by norm_num) q hg

example : |f32 (7 / 10) - 7 / 10| ≤ |(11744052 / 16777216 : ℚ) - 7 / 10| :=
  f32_nearest_repr _ _ (by decide +kernel)

theorem f64_nearest_repr (q g : ℚ) (hg : f64 g = g) : |f64 q - q| ≤ |g - q| :=
  fpr_nearest_repr (by norm_num) q hg

example : |f64 (1 / 10) - 1 / 10| ≤ |(1 / 8 : ℚ) - 1 / 10| := f64_nearest_repr _ _ (by decide +kernel)

/-- the result is `m·2^k` with `|m| < 2²⁴`, `k ≥ −149` (every such number is a fixed point: `f32_fixed`) -/
theorem f32_repr (q : ℚ) : ∃ m k : ℤ, f32 q = (m : ℚ) * (2 : ℚ) ^ k ∧ |m| < 2 ^ 24 ∧ -149 ≤ k :=
  fpr_repr (by norm_num) q

example : ∃ m k : ℤ, f32 (7 / 10) = (m : ℚ) * (2 : ℚ) ^ k ∧ |m| < 2 ^ 24 ∧ -149 ≤ k := f32_repr _

theorem f32_fixed (m k : ℤ) (hm : |m| < 2 ^ 24) (hk : -149 ≤ k) :
    f32 ((m : ℚ) * (2 : ℚ) ^ k) = (m : ℚ) * (2 : ℚ) ^ k := fpr_fixed hm hk

example : f32 ((11744051 : ℤ) * (2 : ℚ) ^ (-24 : ℤ)) = (11744051 : ℤ) * (2 : ℚ) ^ (-24 : ℤ) :=
  f32_fixed 11744051 (-24) (by norm_num) (by norm_num)

/-- relative error `≤ 2⁻²⁴` in the normal range `|q| ≥ 2⁻¹²⁶` -/
theorem f32_rel_err (q : ℚ) (hq : (2 : ℚ) ^ (-126 : ℤ) ≤ |q|) : |f32 q - q| ≤ (2 : ℚ) ^ (-24 : ℤ) * |q| :=
  fpr_rel_err (by norm_num) hq

example : |f32 (1 / 3) - 1 / 3| ≤ (2 : ℚ) ^ (-24 : ℤ) * |(1 / 3 : ℚ)| :=
  f32_rel_err _ (by rw [abs_of_pos (by norm_num)]; norm_num)

/-- the hypothesis is needed: in the subnormal range the relative error is unbounded -/
example : f32 (1 / 2 ^ 151) = 0 := by decide +kernel

/-- relative error `≤ 2⁻⁵³` in the normal range `|q| ≥ 2⁻¹⁰²²` -/
theorem f64_rel_err (q : ℚ) (hq : (2 : ℚ) ^ (-1022 : ℤ) ≤ |q|) : |f64 q - q| ≤ (2 : ℚ) ^ (-53 : ℤ) * |q| :=
  fpr_rel_err (by norm_num) hq

example : |f64 (1 / 3) - 1 / 3| ≤ (2 : ℚ) ^ (-53 : ℤ) * |(1 / 3 : ℚ)| :=
  f64_rel_err _ (by
    rw [abs_of_pos (by norm_num)]
    calc (2 : ℚ) ^ (-1022 : ℤ) ≤ (2 : ℚ) ^ (-2 : ℤ) := two_zpow_le (by norm_num)
      _ ≤ 1 / 3 := by norm_num)

/-- NumPy's binary64 `np.around(x.astype(float64), 8)` (multiply, rint, divide) of a
float32 array entry is exactly the binary64 nearest to the correctly rounded decimal — the array writer and the
scalar writer `round(float(x), 8)` agree on float32 data -/
theorem around64_is_save_on_f32 (x : ℚ) (hx : f32 x = x) : around64 x = f64 (save x) :=
  around64_eq_save_of_f32 x hx

example : around64 (11744051 / 16777216) = f64 (69999999 / 100000000) := by
  rw [around64_is_save_on_f32 _ (by decide +kernel)]
  decide +kernel

/-- float32 parameters, every rational start value `y` (in particular every float32 or
float64): with `d₁ = save y`, `y₁ = load d₁`, `d₂ = save y₁`, `y₂ = load d₂`, `d₃ = save y₂`:
`d₃ = d₂` and `y₂ = y₁` — documents and memory are stable from the second generation on. No guard is needed:
ties and powers of two included (the regime boundary is `d₁ = 1/8`, which lies on the decimal grid). -/
theorem docs_stable_from_gen2 (y : ℚ) :
    let d1 := save y; let y1 := load32 d1; let d2 := save y1; let y2 := load32 d2; let d3 := save y2
    d3 = d2 ∧ y2 = y1 := by
  intro d1 y1 d2 y2 d3
  have h : y2 = y1 := load32_twoRegime.gen2 y
  exact ⟨by show save y2 = save y1; rw [h], h⟩

/-- the float64 start value 0.7 (e.g. `Sum(weights=np.array([0.7, 0.3]))`): the document changes once
(0.7 → 0.69999999), then everything is stable -/
example :
    let y : ℚ := 3152519739159347 / 4503599627370496
    let d1 := save y; let y1 := load32 d1; let d2 := save y1; let y2 := load32 d2; let d3 := save y2
    d1 = 7 / 10 ∧ y1 = 11744051 / 16777216 ∧ d2 = 69999999 / 100000000 ∧ y2 = y1 ∧ d3 = d2 := by
  decide +kernel

/-- `docs_stable_from_gen2` for float64 parameters (Bernoulli `p`, Gaussian `mean`/`stddev`, Uniform) -/
theorem docs_stable_from_gen2_f64 (y : ℚ) :
    let d1 := save y; let y1 := load64 d1; let d2 := save y1; let y2 := load64 d2; let d3 := save y2
    d3 = d2 ∧ y2 = y1 := by
  intro d1 y1 d2 y2 d3
  have h : y2 = y1 := load64_twoRegime.gen2 y
  exact ⟨by show save y2 = save y1; rw [h], h⟩

/-- a start value above `2²⁶`, where binary64 is coarser than the decimal grid: 100000000.123456789 -/
example :
    let y : ℚ := 100000000123456789 / 1000000000
    let d1 := save y; let y1 := load64 d1; let d2 := save y1; let y2 := load64 d2; let d3 := save y2
    d1 = 10000000012345679 / 100000000 ∧ y1 ≠ d1 ∧ d2 = d1 ∧ y2 = y1 ∧ d3 = d2 := by
  decide +kernel

/-- when the start value already is a float32 (weights built from a list, EM,
any reloaded model), the document is stable from the first generation on (`d₂ = d₁`); only the memory value may
change once (`gen1_may_differ`). -/
theorem docs_stable_from_gen1_of_f32 (y : ℚ) (hy : f32 y = y) :
    let d1 := save y; let y1 := load32 d1; let d2 := save y1
    d2 = d1 := load32_twoRegime.gen1 hy

example : f32 (2684355 / 67108864) = 2684355 / 67108864 ∧
    save (load32 (save (2684355 / 67108864))) = save (2684355 / 67108864) :=
  ⟨by decide +kernel, docs_stable_from_gen1_of_f32 _ (by decide +kernel)⟩

/-- `docs_stable_from_gen1_of_f32` for float64 parameters with a float64 start value -/
theorem docs_stable_from_gen1_of_f64 (y : ℚ) (hy : f64 y = y) :
    let d1 := save y; let y1 := load64 d1; let d2 := save y1
    d2 = d1 := load64_twoRegime.gen1 hy

example : save (load64 (save (f64 (1 / 3)))) = save (f64 (1 / 3)) :=
  docs_stable_from_gen1_of_f64 _ (f64_idem _)

/-- the first generation is not a fixed point.
(a) the float32 `y = 2684355·2⁻²⁶ = 0.040000006556510925` (below 1/8 the float32 grid is finer than 10⁻⁸): the
    document says 0.04000001 and the reload stores the float32 nearest to that, `10737421·2⁻²⁸ ≠ y`;
(b) the float64 `0.7` stored into a float32 weight: also the document changes, `d₂ = 0.69999999 ≠ d₁ = 0.7`.
This is why the property says "up to rounding" and why the harness compares generation 2 with generation 3. -/
theorem gen1_may_differ :
    (let y : ℚ := 2684355 / 67108864
     f32 y = y ∧ save y = 4000001 / 100000000 ∧ load32 (save y) = 10737421 / 268435456 ∧ load32 (save y) ≠ y) ∧
    (let y : ℚ := 3152519739159347 / 4503599627370496
     f64 y = y ∧ save y = 7 / 10 ∧ save (load32 (save y)) = 69999999 / 100000000 ∧
       save (load32 (save y)) ≠ save y) := by
  decide +kernel

/-- for every model with distinct ids in which no node lists a child twice, whatever its
parameters are (float32, float64 or any rational), the first reload succeeds, keeps ids / kinds / scopes / child
order, and yields a model `m₁` that save + load reproduces exactly (memory stable from generation 1 on). -/
theorem reload_is_fixed_point (m : Model) (h : NoRepeat m) :
    ∃ m1, loadDoc (encode m) = some m1 ∧ m1.map C13.shape = m.map C13.shape ∧ loadDoc (encode m1) = some m1 := by
  refine ⟨m.map reloadNode, loadDoc_encode m h, ?_, ?_⟩
  · rw [List.map_map]; apply List.map_congr_left; intro n _; rfl
  · rw [loadDoc_encode _ (noRepeat_reload m h), reload_reload]

/-- `C13.gen_idempotent_partial` with float32 / float64 storage modelled: the document of generation 3 equals the
document of generation 2 — nodes, rounded numbers and links. -/
theorem gen_stable (m : Model) (h : NoRepeat m) :
    encode (loadModel (encode (loadModel (encode m)))) = encode (loadModel (encode m)) := by
  rw [loadModel_encode m h, loadModel_encode _ (noRepeat_reload m h), reload_reload]

/-- and so for every later generation -/
theorem genDocs_stable (m : Model) (h : NoRepeat m) (g : Nat) :
    ∀ d ∈ (genDocs (g + 2) m).drop 1, d = encode (loadModel (encode m)) := by
  -- from the first reload on the model in memory no longer changes
  have hfix : ∀ g : Nat, ∀ d ∈ genDocs g (m.map reloadNode), d = encode (m.map reloadNode) := by
    intro g
    induction g with
    | zero => intro d hd; cases hd
    | succ g ih =>
      intro d hd
      rw [genDocs, loadModel_encode _ (noRepeat_reload m h), reload_reload] at hd
      exact (List.mem_cons.1 hd).elim id (ih d)
  show ∀ d ∈ genDocs (g + 1) (loadModel (encode m)), _
  rw [loadModel_encode m h]
  exact hfix (g + 1)

/-- the DAG of `C13.exM` with float64-looking parameters (1/3, 2/3, 1/7 are not even dyadic) -/
def exM : Model :=
  [⟨0, "Sum", [0, 1], [1/3, 2/3], [], [1, 2]⟩,
   ⟨1, "Product", [0, 1], [], [], [3, 4]⟩,
   ⟨2, "Product", [0, 1], [], [], [5, 3]⟩,
   ⟨3, "Bernoulli", [0], [], [1/7], []⟩,
   ⟨4, "Gaussian", [1], [], [1/3, 1/100000], []⟩,
   ⟨5, "Categorical", [1], [], [7/10, 1/5, 1/10], []⟩]

theorem exM_noRepeat : NoRepeat exM := ⟨by decide, by decide⟩

example : encode (loadModel (encode (loadModel (encode exM)))) = encode (loadModel (encode exM)) :=
  gen_stable exM exM_noRepeat

example : ∀ d ∈ (genDocs 5 exM).drop 1, d = encode (loadModel (encode exM)) := genDocs_stable exM exM_noRepeat 3

example : (genDocs 5 exM).length = 5 ∧ (genDocs 5 exM)[0]? ≠ (genDocs 5 exM)[1]? := by
  refine ⟨?_, ?_⟩ <;> decide +kernel

/-- non-vacuity of the "may differ" side on a document: generation 2 of `exM` differs from generation 1
(the Categorical entry 0.7 becomes 0.69999999, the weight 0.33333333 becomes 0.33333334), and the reload stored
float32 values in the Sum and the Categorical but the binary64 of 0.14285714 in the Bernoulli -/
example : encode (loadModel (encode exM)) ≠ encode exM ∧
    ((encode (loadModel (encode exM))).nodes.map (·.weights)).head? = some [33333334 / 100000000, 66666669 / 100000000] ∧
    ((loadModel (encode exM)).map (·.params))[3]? = some [f64 (14285714 / 100000000)] ∧
    ((loadModel (encode exM)).map (·.params))[5]? =
      some [11744051 / 16777216, 13421773 / 67108864, 13421773 / 134217728] := by
  decide +kernel

example : ∃ m1, loadDoc (encode exM) = some m1 ∧ m1.map C13.shape = exM.map C13.shape ∧
    loadDoc (encode m1) = some m1 := reload_is_fixed_point exM exM_noRepeat

/-- a monotone odd map that fixes `B` maps `[-B, B]` into itself -/
theorem abs_le_of_mono_odd {f : ℚ → ℚ} {B : ℚ} (hm : ∀ {a b}, a ≤ b → f a ≤ f b) (ho : ∀ a, f (-a) = -f a)
    (hf : f B = B) (z : ℚ) (hz : |z| ≤ B) : |f z| ≤ B := by
  rw [abs_le] at hz ⊢
  constructor
  · have := hm hz.1; rwa [ho, hf] at this
  · have := hm hz.2; rwa [hf] at this

/-- for `j ≥ -3`, where `2^j` lies on the decimal grid, `save` and both loaders map `[-2^j, 2^j]` into itself
(the model has no overflow, so there is no upper limit on `j`) -/
theorem abs_le_pow_invariant {j : ℤ} (hj : -3 ≤ j) (z : ℚ) (hz : |z| ≤ 2 ^ j) :
    |save z| ≤ 2 ^ j ∧ |load32 z| ≤ 2 ^ j ∧ |load64 z| ≤ 2 ^ j :=
  ⟨abs_le_of_mono_odd (f := save) round8_mono round8_neg (round8_pow_fixed j hj) z hz,
    abs_le_of_mono_odd load32_twoRegime.mono load32_neg (load32_pow_fixed (by omega)) z hz,
    abs_le_of_mono_odd load64_twoRegime.mono load64_twoRegime.odd (load64_pow_fixed (by omega)) z hz⟩

/-- `save` moves a number by at most ½·10⁻⁸ and the loaders are monotone with `2¹⁰¹` a fixed
point, so from `|y| ≤ 2¹⁰⁰` every document number and every stored value of every generation stays within
`[−2¹⁰¹, 2¹⁰¹]`, far below the binary32 overflow threshold `2¹²⁸ − 2¹⁰³`, where `f32` is faithful. -/
theorem chain_bounded (y : ℚ) (hy : |y| ≤ (2 : ℚ) ^ (100 : ℤ)) :
    |save y| ≤ (2 : ℚ) ^ (101 : ℤ) ∧ |load32 (save y)| ≤ (2 : ℚ) ^ (101 : ℤ) ∧
    |load64 (save y)| ≤ (2 : ℚ) ^ (101 : ℤ) ∧
    |save (load32 (save y))| ≤ (2 : ℚ) ^ (101 : ℤ) ∧ |save (load64 (save y))| ≤ (2 : ℚ) ^ (101 : ℤ) := by
  have B := abs_le_pow_invariant (j := 101) (by norm_num)
  have h1 := (B y (hy.trans (two_zpow_le (by norm_num)))).1
  exact ⟨h1, (B _ h1).2.1, (B _ h1).2.2, (B _ (B _ h1).2.1).1, (B _ (B _ h1).2.2).1⟩

example : |save (load32 (save (2 ^ 100 - 1 / 3)))| ≤ (2 : ℚ) ^ (101 : ℤ) :=
  (chain_bounded (2 ^ 100 - 1 / 3) (by
    rw [abs_of_pos (by norm_num)]; norm_num)).2.2.2.1

end Deeprob.Io32
