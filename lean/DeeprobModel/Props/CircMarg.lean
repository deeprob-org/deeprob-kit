import DeeprobModel.Lemmas.CircLemmas
/-
Central theorems about tree circuits: evaluating with missing entries is summing over their completions; normalisation.
-/
namespace Deeprob
namespace Circ
variable {α : Type} [CommSemiring α]

/-- **NaN-marginalisation = explicit sum over all completions**, for every valid
circuit, every arity / depth / labelling, every evidence pattern, any commutative semiring. -/
theorem marg (dom : Nat → Nat) : (c : Circ α) → Valid dom c → ∀ e : Ev,
    eval e c = sumOver dom (scope c) e (fun e' => eval e' c) := by
  intro c
  induction c using Circ.ind with
  | hl s f =>
    intro hv e
    simp only [eval_leaf, scope]; exact ((valid_leaf_iff.1 hv).marg e).symm
  | hs s ws cs ih =>
    intro hv e
    obtain ⟨_, _, hsc, hval⟩ := valid_sum_iff.1 hv
    simp only [eval_sum, scope]
    rw [wsum_sumOver]
    exact congrArg _ (List.map_congr_left fun c hc =>
      (ih c hc (hval c hc) e).trans (sumOver_set_eq dom (hsc c hc) e _))
  | hp s cs ih =>
    intro hv e
    obtain ⟨hnd, hsc, hval⟩ := valid_prod_iff.1 hv
    simp only [eval_prod, scope]
    rw [← sumOver_set_eq dom hsc,
      sumOver_lprod dom scope (fun c x => eval x c) cs (fun c hc => eval_congr dom c (hval c hc)) hnd e]
    exact congrArg lprod (List.map_congr_left fun c hc => ih c hc (hval c hc) e)

/-- with nothing observed a valid circuit with normalised weights and leaves evaluates to one -/
theorem all_missing_one (dom : Nat → Nat) : (c : Circ α) → Valid dom c → NormW c → LeafNorm dom c →
    eval (fun _ => none) c = 1 := by
  intro c
  induction c using Circ.ind with
  | hl s f => exact fun _ _ hl => (eval_leaf _).trans (leafNorm_leaf_iff.1 hl)
  | hs s ws cs ih =>
    intro hv hn hl
    obtain ⟨_, hlen, _, hval⟩ := valid_sum_iff.1 hv
    obtain ⟨hws, hnc⟩ := normW_sum_iff.1 hn
    rw [eval_sum, wsum_ones ws _ _ (by rw [List.length_map]; exact hlen), hws]
    exact List.forall_mem_map.2 fun c hc => ih c hc (hval c hc) (hnc c hc) (leafNorm_sum_iff.1 hl c hc)
  | hp s cs ih =>
    intro hv hn hl
    rw [eval_prod]
    exact lprod_ones _ (List.forall_mem_map.2 fun c hc =>
      ih c hc ((valid_prod_iff.1 hv).2.2 c hc) (normW_prod_iff.1 hn c hc) (leafNorm_prod_iff.1 hl c hc))

/-- **normalisation**: the complete-evidence values of a valid normalised circuit sum to one
over the whole domain of its scope -/
theorem normalised (dom : Nat → Nat) (c : Circ α) (hv : Valid dom c) (hn : NormW c) (hl : LeafNorm dom c) :
    sumOver dom (scope c) (fun _ => none) (fun x => eval x c) = 1 := by
  rw [← marg dom c hv, all_missing_one dom c hv hn hl]

end Circ
end Deeprob
