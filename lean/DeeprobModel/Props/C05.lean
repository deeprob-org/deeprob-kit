import DeeprobModel.Model.Learn
import DeeprobModel.Spec.LearnSpec
import DeeprobModel.Lemmas.LearnInv
import DeeprobModel.Lemmas.LearnFinal
import DeeprobModel.Props.C04
import Mathlib.Data.Rat.Defs
import Mathlib.Algebra.Order.Field.Rat
import Mathlib.Data.Rat.Cast.Order
import Mathlib.Tactic.FieldSimp
/-
C05 — learned mixture weights are the training-row proportions of their children; every leaf was fitted on
exactly its routed rows; the re-queue at the back of the deque, which the library had before the fix of finding F3
of DESIGN.md §7 (`front := false` in the machine), breaks this; classifier root weights.
-/
namespace Deeprob.Learn
open List

/-- the C05 part of `learn_inv`: at every moment of a run of the machine with re-queue at the front
(`cfg.front = true`), for every sum node `i` of the table, *children so far ++ pending tasks of that parent, in deque
order,* are the slices in label order — position by position — and the weights are `|slice| / |rows|` in
that same order. -/
theorem learn_weights_follow_children (cfg : Cfg) (hf : cfg.front = true) (nRows nCols : Nat) (hr : 0 < nRows)
    (hc : 0 < nCols) (script : List Ans) (fuel : Nat) (s : St)
    (h : run cfg fuel (init nRows nCols script) = .ok s) (i : Nat) (hi : i < s.size)
    (hk : (s.node i).kind = .sum) :
    ∃ labels : List Int, labels.length = (s.node i).rows.length ∧
      (s.node i).children.map (fun c => (s.node c).rows) ++ (pend s.queue i).map (·.rows)
        = slicesOf labels (s.node i).rows ∧
      (s.node i).weights = weightsOf (slicesOf labels (s.node i).rows) (s.node i).rows.length := by
  have hI := learn_inv cfg hf nRows nCols hr hc script fuel s h
  obtain ⟨h1, _, labels, h3, h4, h5⟩ := (hI.nodes i hi).sum hk
  exact ⟨labels, h3, by rw [← h4]; exact h1, by rw [← h4]; exact h5⟩

theorem Tree.mem_subtrees_children {u : Tree} {ch : List Tree} (hu : u ∈ (ch.map Tree.subtrees).flatten) :
    ∃ c ∈ ch, u ∈ c.subtrees := by
  obtain ⟨l, hl, hul⟩ := mem_flatten.1 hu
  obtain ⟨c, hc, rfl⟩ := mem_map.1 hl
  exact ⟨c, hc, hul⟩

theorem Tree.Proportions.sub (t : Tree) (h : t.Proportions) : ∀ u ∈ t.subtrees, u.Proportions := by
  induction t using Tree.induct with
  | leaf r sc =>
    intro u hu
    rw [Tree.subtrees_leaf, mem_singleton] at hu
    exact hu ▸ h
  | prod r sc ch ih =>
    intro u hu
    rw [Tree.subtrees_prod, mem_cons] at hu
    rcases hu with rfl | hu
    · exact h
    · obtain ⟨c, hc, huc⟩ := Tree.mem_subtrees_children hu
      exact ih c hc ((Tree.proportions_prod r sc ch).1 h c hc) u huc
  | sum r sc ws ch ih =>
    intro u hu
    rw [Tree.subtrees_sum, mem_cons] at hu
    rcases hu with rfl | hu
    · exact h
    · obtain ⟨c, hc, huc⟩ := Tree.mem_subtrees_children hu
      exact ih c hc (((Tree.proportions_sum r sc ws ch).1 h).2.2.2.2 c hc) u huc

theorem sum_map_div (l : List Nat) (n : ℚ) :
    (l.map (fun (k : Nat) => (k : ℚ) / n)).sum = ((l.sum : Nat) : ℚ) / n := by
  induction l with
  | nil => simp
  | cons a l ih => simp [ih, add_div]

/-- C05. In the structure returned by the machine with re-queue at the front,
for every sum node: weight `i` is the exact pair `(|rows routed to child i|, |rows of the sum|)`; as
rationals the weights are positive and add up to 1. -/
theorem learn_final_proportions (cfg : Cfg) (hf : cfg.front = true) (nRows nCols : Nat) (hr : 0 < nRows)
    (hc : 0 < nCols) (script : List Ans) (s : St) (h : learn cfg nRows nCols script = .ok s)
    (hq : s.queue = []) :
    ∃ t, result s = some t ∧ ∀ r sc ws ch, Tree.sum r sc ws ch ∈ t.subtrees →
      ws = ch.map (fun c => (c.rows.length, r.length)) ∧
      (∀ w ∈ ws, (0 : ℚ) < (w.1 : ℚ) / (w.2 : ℚ)) ∧
      (ws.map (fun w => (w.1 : ℚ) / (w.2 : ℚ))).sum = 1 := by
  obtain ⟨t, h1, _, _, _, hp, _⟩ := learn_final_valid cfg hf nRows nCols hr hc script s h hq
  refine ⟨t, h1, ?_⟩
  intro r sc ws ch hu
  obtain ⟨e1, e2, e3, e4, _⟩ := (Tree.proportions_sum r sc ws ch).1 (Tree.Proportions.sub t hp _ hu)
  have hn : (0 : ℚ) < (r.length : ℚ) := by exact_mod_cast e4
  refine ⟨e1, ?_, ?_⟩
  · intro w hw
    rw [e1] at hw
    obtain ⟨c, hc, rfl⟩ := mem_map.1 hw
    have : (0 : ℚ) < (c.rows.length : ℚ) := by exact_mod_cast e2 c hc
    exact div_pos this hn
  · rw [e1, map_map]
    have : ((fun w : Nat × Nat => (w.1 : ℚ) / (w.2 : ℚ)) ∘ fun c : Tree => (c.rows.length, r.length))
        = (fun k : Nat => (k : ℚ) / (r.length : ℚ)) ∘ (fun c : Tree => c.rows.length) := rfl
    rw [this, ← map_map, sum_map_div, e3]
    exact div_self (ne_of_gt hn)

/-- Rows are routed: the root receives all rows, a product hands its rows to every
child, a sum hands child `i` the `i`-th label class of one labelling of its rows — and every node (in
particular every leaf `L(rows; scope)`) records exactly the rows × columns that reach it. -/
theorem learn_leaf_rows (cfg : Cfg) (hf : cfg.front = true) (nRows nCols : Nat) (hr : 0 < nRows)
    (hc : 0 < nCols) (script : List Ans) (s : St) (h : learn cfg nRows nCols script = .ok s)
    (hq : s.queue = []) :
    ∃ t, result s = some t ∧ t.rows = List.range nRows ∧ t.scope = List.range nCols ∧ t.Routed := by
  obtain ⟨t, h1, _, h3, h4, _, h6⟩ := learn_final_valid cfg hf nRows nCols hr hc script s h hq
  exact ⟨t, h1, h4, h3, h6⟩

/-- weights of node `i` next to the row sets of its children, in child order -/
def sumView (s : St) (i : Nat) : List ((Nat × Nat) × List Nat) :=
  (s.node i).weights.zip ((s.node i).children.map (fun c => (s.node c).rows))

/-- 7 rows, 2 columns, `min_rows_slice = 3`, `min_cols_slice = 2`. The first row split yields three slices
A = {0,1,2}, B = {3,4}, C = {5,6}. A's column split returns a single cluster (fails once), then its row
split fails too and A becomes a leaf; B and C are leaves at once (2 < 3 rows). Consultation order of the
library before the fix of F3 (`tasks.append`): A is deferred behind B and C. -/
def wScriptBack : List Ans :=
  [.zeroVar [], .rows [0, 0, 0, 1, 1, 2, 2],
   .zeroVar [], .cols [0, 0],          -- A: column split fails → re-queued at the back
   .zeroVar [],                        -- B: leaf
   .zeroVar [],                        -- C: leaf
   .zeroVar [], .rows [0, 0, 0],       -- A again: row split fails → re-queued
   .zeroVar []]                        -- A: leaf

/-- the same oracle (same answer for the same slice) in the consultation order of the machine with `front := true` -/
def wScriptFront : List Ans :=
  [.zeroVar [], .rows [0, 0, 0, 1, 1, 2, 2],
   .zeroVar [], .cols [0, 0],          -- A: column split fails → re-queued at the front
   .zeroVar [], .rows [0, 0, 0],       -- A again: row split fails → re-queued at the front
   .zeroVar [],                        -- A: leaf
   .zeroVar [],                        -- B: leaf
   .zeroVar []]                        -- C: leaf

/-- On this 3-slice history the machine with re-queue at the back
(`front := false`) finishes with the sum (node 1) whose weights `3/7, 2/7, 2/7` (label order A, B, C) sit
on the children B, C, A (completion order): weight `3/7` is attached to a child fitted on 2 of the 7 rows.
With `front := true` the machine attaches A, B, C in label order. -/
theorem fifo_requeue_breaks :
    (∃ s, learn ⟨3, 2, false⟩ 7 2 wScriptBack = .ok s ∧
      (s.queue = [] ∧ s.script = [] ∧ (s.node 1).kind = .sum ∧
       sumView s 1 = [((3, 7), [3, 4]), ((2, 7), [5, 6]), ((2, 7), [0, 1, 2])] ∧
       (s.node 1).weights ≠ (s.node 1).children.map (fun c => ((s.node c).rows.length, (s.node 1).rows.length)))) ∧
    (∃ s, learn ⟨3, 2, true⟩ 7 2 wScriptFront = .ok s ∧
      (s.queue = [] ∧ s.script = [] ∧ (s.node 1).kind = .sum ∧
       sumView s 1 = [((3, 7), [0, 1, 2]), ((2, 7), [3, 4]), ((2, 7), [5, 6])] ∧
       (s.node 1).weights = (s.node 1).children.map (fun c => ((s.node c).rows.length, (s.node 1).rows.length)))) :=
  ⟨exists_ok_of_check _ _ (by decide +kernel), exists_ok_of_check _ _ (by decide +kernel)⟩

/-- the invariant clause really fails with `front := false`: after A's re-queue at the back, children ++
pending of the sum are B, C, A — not the slices in label order -/
example : ∃ s, run ⟨3, 2, false⟩ 2 (init 7 2 wScriptBack) = .ok s ∧
    ((s.node 1).children.map (fun c => (s.node c).rows) ++ (pend s.queue 1).map (·.rows)
      = [[3, 4], [5, 6], [0, 1, 2]] ∧ (s.node 1).parts = [[0, 1, 2], [3, 4], [5, 6]]) :=
  exists_ok_of_check _ _ (by decide +kernel)

theorem learnBranches_spec (cfg : Cfg) (nCols : Nat) (slices : List (List Nat)) (scripts : List (List Ans))
    (ts : List Tree) (h : learnBranches cfg nCols slices scripts = .ok ts) :
    List.Forall₂ (fun t r => ∃ sc, learnOn cfg r nCols sc = .ok t) ts slices := by
  induction slices generalizing scripts ts with
  | nil =>
    cases h
    exact List.Forall₂.nil
  | cons r rs ih =>
    unfold learnBranches at h
    split at h
    · cases h
    · rename_i t ht
      split at h
      · cases h
      · rename_i ts' hts
        cases h
        exact List.Forall₂.cons ⟨_, ht⟩ (ih scripts.tail ts' hts)

theorem learnOn_good (cfg : Cfg) (hf : cfg.front = true) (r : List Nat) (nCols : Nat) (hr : r ≠ [])
    (hc : 0 < nCols) (sc : List Ans) (t : Tree) (h : learnOn cfg r nCols sc = .ok t) :
    t.Good ∧ t.rows = r ∧ t.scope = List.range nCols := by
  unfold learnOn at h
  split at h
  · cases h
  · rename_i s hs
    split at h
    · cases h
    · rename_i hq
      obtain ⟨t', h1, hgood⟩ := run_final cfg hf r (List.range nCols) sc _ s hr
        (by simpa using Nat.ne_of_gt hc) hs (by simpa using hq)
      rw [h1] at h
      cases h
      exact hgood

theorem branches_rows (cfg : Cfg) (hf : cfg.front = true) (nCols : Nat) (hc : 0 < nCols)
    (ts : List Tree) (sl : List (List Nat))
    (hF : List.Forall₂ (fun c r => ∃ sc, learnOn cfg r nCols sc = .ok c) ts sl) (hne : ∀ r ∈ sl, r ≠ []) :
    ts.map Tree.rows = sl := by
  induction hF with
  | nil => rfl
  | cons hab _ ih =>
    obtain ⟨sc, hsc⟩ := hab
    rw [map_cons, (learnOn_good cfg hf _ nCols (hne _ (mem_cons_self ..)) hc sc _ hsc).2.1,
      ih (fun r hr => hne r (mem_cons_of_mem _ hr))]

/-- `learn_classifier` (without the final `prune`) returns a sum whose
children are, in `np.unique(classes)` order, the `learn_spn` results on the class slices
`data[classes == c]`, and whose weights are the class frequencies `|class slice| / n` in the same order;
with `cfg.front = true` child `i` was learned on exactly the rows of class `i`, so the root weights are
the row proportions of the attached children. -/
theorem classifier_root_weights (cfg : Cfg) (classes : List Int) (nCols : Nat) (scripts : List (List Ans))
    (t : Tree) (h : learnClassifier cfg classes nCols scripts = .ok t) :
    ∃ ch, t = .sum (List.range classes.length) (List.range nCols)
              (weightsOf (slicesOf classes (List.range classes.length)) classes.length) ch ∧
      List.Forall₂ (fun c r => ∃ sc, learnOn cfg r nCols sc = .ok c) ch
        (slicesOf classes (List.range classes.length)) ∧
      (cfg.front = true → 0 < nCols →
        ch.map Tree.rows = slicesOf classes (List.range classes.length) ∧
        weightsOf (slicesOf classes (List.range classes.length)) classes.length
          = ch.map (fun c => (c.rows.length, classes.length))) := by
  unfold learnClassifier at h
  simp only at h
  split at h
  · cases h
  · rename_i ts hts
    cases h
    have hF := learnBranches_spec cfg nCols _ scripts ts hts
    refine ⟨ts, rfl, hF, ?_⟩
    intro hf hc
    have hlen : classes.length = (List.range classes.length).length := by simp
    have hrows : ts.map Tree.rows = slicesOf classes (List.range classes.length) :=
      branches_rows cfg hf nCols hc ts _ hF (slicesOf_ne_nil hlen)
    refine ⟨hrows, ?_⟩
    rw [← hrows]; unfold weightsOf; rw [map_map]; rfl

/-- non-vacuity: three classes (labels 2, 0, 1 → `np.unique` order 0, 1, 2) on 5 rows, 1 column -/
example : ∃ t, learnClassifier ⟨5, 2, true⟩ [2, 0, 1, 0, 2] 1 [[.zeroVar []], [.zeroVar [0]], [.zeroVar []]] = .ok t :=
  ⟨_, rfl⟩

end Deeprob.Learn
