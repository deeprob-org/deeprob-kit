import DeeprobModel.Props.C08
import DeeprobModel.Lemmas.CheckLemmas
/-
C08 corollaries for children-first tables: the hypothesis `ReachOK` of the layering theorems is discharged
from `WellOrdered` with the BFS lemmas of `Lemmas/CheckLemmas.lean`.
-/
namespace Deeprob.Sched
open List
variable {α : Type} [CommSemiring α]

theorem reachOK_of_wellOrdered (n : Net α) (root : Nat) (hw : WellOrdered n) :
    ReachOK n root (Net.collect n root) :=
  Net.reachOK_collect n root (Net.inRange_of_wellOrdered n hw)

/-- `layers_partition` on well-ordered (children-first, hence acyclic) tables -/
theorem layers_partition_wo (n : Net α) (root : Nat) (hw : WellOrdered n) (L : List (List Nat))
    (h : layers n root = some L) : L.flatten.Nodup ∧ ∀ v, v ∈ L.flatten ↔ v ∈ Net.collect n root :=
  layers_partition n root L h (reachOK_of_wellOrdered n root hw)

/-- `layers_edge_lt` on well-ordered tables -/
theorem layers_edge_lt_wo (n : Net α) (root : Nat) (hw : WellOrdered n) (L : List (List Nat))
    (h : layers n root = some L) (p c : Nat) (hp : p ∈ Net.collect n root) (hc : c ∈ Net.chOf n p) :
    layerIndex L p < layerIndex L c :=
  layers_edge_lt n root L h (reachOK_of_wellOrdered n root hw) p c hp hc

/-- `bottomup_schedule_indep` on well-ordered tables -/
theorem bottomup_schedule_indep_wo (n : Net α) (root : Nat) (hw : WellOrdered n) (L : List (List Nat))
    (h : layers n root = some L) (f : Nat → List (List Int) → List Int) (A : List Nat) (hA : A ∈ L)
    (σ : List Act) (hi : Interleaving (A.map (fun i => [buTask n f i])) σ) (s : SState) :
    run s σ = run s (A.map (buTask n f)) :=
  bottomup_schedule_indep n root L h (reachOK_of_wellOrdered n root hw) f A hA σ hi s

end Deeprob.Sched
