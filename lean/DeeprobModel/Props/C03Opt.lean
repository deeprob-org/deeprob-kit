import DeeprobModel.Props.C03
/-
C03, extension — `None` ids and missing sum weights (deeprob/spn/utils/validity.py as coded).

The table of `Model/Net.lean` has `Nat` ids and weight lists. The Python objects allow more:
`node.id` may be `None` (nothing in `Node.__init__` forbids assigning it; `is_labeled` has a branch
for it) and `Sum(children=..., weights=None)` is accepted by the constructor (`self.weights = None`).
This file models the node table with `Option` in both places (`ONode`, `ONet`), mirrors the three tests
and `check_spn` on it as they are coded, and relates the result to `Net.checkSpn` on the
`Nat`-id table `ONet.toNet` (absent id ↦ 0, absent weights ↦ `[]`).

What the code does with the two `None`s (read off validity.py, confirmed by `harness/demos/demo_c03opt.py`):
* `is_labeled`: `ids = set(map(lambda n: n.id, nodes)); if None in ids: return "Some nodes have missing ids"`
  — the very first test, before uniqueness / min / max (so `min` is never applied to a set with `None`).
  With `labeled=False` ids are only formatted into messages (`#None`), never compared.
* `is_smooth`, per sum node in BFS order: `len(node.children) == 0` first (a childless sum is reported as
  "has no children" whatever its weights are), then `len(node.children) != len(node.weights)`: with
  `weights = None` this is `len(None)` — a **`TypeError`**, not the `ValueError` the docstring of `check_spn`
  promises. The circuit is still not accepted, but the exception class differs; modelled as `OVerdict.typeError`.
* `is_decomposable` reads neither ids (except for messages) nor weights.
-/
namespace Deeprob
open Net
variable {α : Type}

/-- a node as the Python object may be: `id : Optional[int]`, `weights : Optional[array]` -/
structure ONode (α : Type) where
  id : Option Nat
  kind : Kind
  scope : List Nat
  ch : List Nat
  ws : Option (List α)
  leaf : LeafP α
deriving Inhabited

abbrev ONet (α : Type) := List (ONode α)

/-- the `Nat`-id node: absent id ↦ 0, absent weights ↦ `[]` -/
def ONode.toNNode (x : ONode α) : NNode α := ⟨x.id.getD 0, x.kind, x.scope, x.ch, x.ws.getD [], x.leaf⟩

/-- the `Nat`-id table of `Model/Net.lean` -/
def ONet.toNet (n : ONet α) : Net α := n.map ONode.toNNode

/-- embedding of the tables of `Model/Net.lean` (every id and every weight list present) -/
def ONode.ofNNode (x : NNode α) : ONode α := ⟨some x.id, x.kind, x.scope, x.ch, some x.ws, x.leaf⟩
def ONet.ofNet (n : Net α) : ONet α := n.map ONode.ofNNode

theorem ONet.toNet_ofNet (n : Net α) : (ONet.ofNet n).toNet = n := by
  unfold ONet.ofNet ONet.toNet
  rw [List.map_map]
  exact List.map_id'' (fun _ => rfl) n

/-- `node.id` of entry `i` (`some 0` outside the table, as `idOf`) -/
def oIdOf (n : ONet α) (i : Nat) : Option Nat := match n[i]? with | some x => x.id | none => some 0
def oScopeOf (n : ONet α) (c : Nat) : List Nat := match n[c]? with | some y => y.scope | none => []

/-- `collect_nodes(root)`: BFS reads only the child lists, which `toNet` keeps -/
def oCollect (n : ONet α) (root : Nat) : List Nat := Net.collect n.toNet root

/-- `is_labeled` as coded: `None in ids` is the first test; the other three are those of `Net.isLabeled`,
on the ids (all present at that point) -/
def isLabeledOpt (n : ONet α) (nodes : List Nat) : Option String :=
  let ids := nodes.map (oIdOf n)
  if ids.contains none then some "missing"
  else
    let ids' := ids.filterMap id
    if !nodupB ids' then some "repeated"
    else if minL ids' != 0 then some "min"
    else if maxL ids' != ids'.length - 1 then some "max"
    else none

/-- what one run of `is_smooth` can produce besides `None`: a reason string, or the `TypeError` of `len(None)` -/
inductive SmoothRes where
  | err (why : String)
  | typeError
deriving DecidableEq, Repr

/-- the reason `Net.isSmooth` gives on `toNet` where the code crashes: "weights" (length mismatch with `[]`) -/
def SmoothRes.forget : SmoothRes → String
  | .err w => w
  | .typeError => "weights"

/-- the per-node body of the loop of `is_smooth` as coded: children count first, then `len(node.weights)` -/
def smoothNodeOpt (n : ONet α) (i : Nat) : Option SmoothRes :=
  match n[i]? with
  | some x => if x.kind = .sum then
      (if x.ch.length == 0 then some (.err "nochildren")
       else match x.ws with
        | none => some .typeError
        | some ws =>
          if x.ch.length != ws.length then some (.err "weights")
          else if x.ch.any (fun c => !scopeEqB (oScopeOf n c) x.scope) then some (.err "scopes")
          else none) else none
  | none => none

/-- `is_smooth` as coded: first sum node in BFS order for which the body returns / raises -/
def isSmoothOpt (n : ONet α) (nodes : List Nat) : Option SmoothRes := nodes.findSome? (smoothNodeOpt n)

/-- `is_decomposable` as coded after the fix of finding F2 of DESIGN.md §7 (the test of `Net.isDecomposable`): reads no id and no weight -/
def isDecomposableOpt (n : ONet α) (nodes : List Nat) : Option String :=
  nodes.findSome? (fun i => match n[i]? with
    | some x => if x.kind = .prod then
        (if x.ch.length == 0 then some "nochildren"
         else if !nodupB (x.ch.map (oScopeOf n)).flatten || !scopeEqB x.scope (x.ch.map (oScopeOf n)).flatten
           then some "scopes"
         else none) else none
    | none => none)

/-- outcome of `check_spn` on the optional table: a verdict of the `Nat` model (returned, or `ValueError` of one
of the three classes) or the `TypeError` raised by `len(node.weights)` -/
inductive OVerdict where
  | ok (v : Verdict)
  | typeError
deriving DecidableEq, Repr

/-- `TypeError` seen through `toNet`: the smooth test's "weights" rejection -/
def OVerdict.forget : OVerdict → Verdict
  | .ok v => v
  | .typeError => .smooth "weights"

def OVerdict.toString : OVerdict → String
  | .ok v => v.toString
  | .typeError => "typeerror"

/-- `check_spn(root, labeled, smooth, decomposable)` on the optional table, as coded -/
def checkSpnOpt (n : ONet α) (root : Nat) (labeled smooth decomposable : Bool) : OVerdict :=
  let nodes := oCollect n root
  match (if labeled then isLabeledOpt n nodes else none) with
  | some w => .ok (.labeled w)
  | none => match (if smooth then isSmoothOpt n nodes else none) with
    | some (.err w) => .ok (.smooth w)
    | some .typeError => .typeError
    | none => match (if decomposable then isDecomposableOpt n nodes else none) with
      | some w => .ok (.decomposable w)
      | none => .ok .accept

/-- every listed node has an id -/
def IdsPresent (n : ONet α) (nodes : List Nat) : Prop := ∀ i ∈ nodes, ∀ x, n[i]? = some x → x.id ≠ none

/-- every listed sum node that has children has weights (childless sums are rejected before their weights are read) -/
def WeightsPresent (n : ONet α) (nodes : List Nat) : Prop :=
  ∀ i ∈ nodes, ∀ x, n[i]? = some x → x.kind = .sum → x.ch ≠ [] → x.ws ≠ none

theorem toNet_getElem? (n : ONet α) (i : Nat) : n.toNet[i]? = (n[i]?).map ONode.toNNode := by
  unfold ONet.toNet; rw [List.getElem?_map]

theorem idOf_toNet (n : ONet α) (i : Nat) : idOf n.toNet i = (oIdOf n i).getD 0 := by
  unfold idOf oIdOf; rw [toNet_getElem?]
  cases n[i]? <;> rfl

theorem scopeOf_toNet (n : ONet α) : scopeOf n.toNet = oScopeOf n := by
  funext c
  unfold scopeOf oScopeOf; rw [toNet_getElem?]
  cases n[c]? <;> rfl

theorem idsPresent_iff_oIdOf (n : ONet α) (nodes : List Nat) :
    IdsPresent n nodes ↔ ∀ i ∈ nodes, oIdOf n i ≠ none := by
  unfold IdsPresent oIdOf
  refine forall₂_congr fun i _ => ?_
  cases n[i]? with
  | none => exact ⟨fun _ => nofun, fun _ _ => nofun⟩
  | some x => exact ⟨fun h => h x rfl, fun h y hy => Option.some.inj hy ▸ h⟩

theorem idsPresent_iff (n : ONet α) (nodes : List Nat) :
    IdsPresent n nodes ↔ (nodes.map (oIdOf n)).contains none = false := by
  rw [idsPresent_iff_oIdOf, ← Bool.not_eq_true, List.contains_iff_mem, List.mem_map]
  exact ⟨fun h ⟨i, hi, he⟩ => h i hi he, fun h i hi he => h ⟨i, hi, he⟩⟩

theorem filterMap_ids (n : ONet α) (nodes : List Nat) (h : IdsPresent n nodes) :
    (nodes.map (oIdOf n)).filterMap id = nodes.map (idOf n.toNet) := by
  rw [List.filterMap_map, ← List.filterMap_eq_map]
  refine List.filterMap_congr fun i hi => ?_
  show oIdOf n i = some (idOf n.toNet i)
  rw [idOf_toNet]
  cases ho : oIdOf n i with
  | none => exact absurd ho ((idsPresent_iff_oIdOf n nodes).1 h i hi)
  | some k => rfl

/-- `is_labeled` with every listed id present: exactly what `Net.isLabeled` says on `toNet` -/
theorem isLabeledOpt_of_idsPresent (n : ONet α) (nodes : List Nat) (h : IdsPresent n nodes) :
    isLabeledOpt n nodes = Net.isLabeled n.toNet nodes := by
  unfold isLabeledOpt
  simp only [(idsPresent_iff n nodes).1 h, Bool.false_eq_true, if_false, filterMap_ids n nodes h]
  rw [isLabeled_unfold]

/-- `is_labeled` with some listed id `None` -/
theorem isLabeledOpt_of_not_idsPresent (n : ONet α) (nodes : List Nat) (h : ¬ IdsPresent n nodes) :
    isLabeledOpt n nodes = some "missing" := by
  have hc : (nodes.map (oIdOf n)).contains none = true := by
    rw [← Bool.not_eq_false]; exact fun hc => h ((idsPresent_iff n nodes).2 hc)
  unfold isLabeledOpt
  simp only [hc, if_true]

theorem isLabeledOpt_none_iff (n : ONet α) (nodes : List Nat) :
    isLabeledOpt n nodes = none ↔ IdsPresent n nodes ∧ Net.isLabeled n.toNet nodes = none := by
  by_cases h : IdsPresent n nodes
  · rw [isLabeledOpt_of_idsPresent n nodes h]; exact (and_iff_right h).symm
  · rw [isLabeledOpt_of_not_idsPresent n nodes h]; exact iff_of_false nofun (fun h' => h h'.1)

private theorem ite_ne {A : Type} {c : Prop} [Decidable c] {a b w : A} (ha : a ≠ w) (hb : b ≠ w) :
    (if c then a else b) ≠ w := by
  split
  exacts [ha, hb]

theorem isLabeled_ne_missing (n : Net α) (nodes : List Nat) : Net.isLabeled n nodes ≠ some "missing" := by
  rw [isLabeled_unfold]
  exact ite_ne (by simp) (ite_ne (by simp) (ite_ne (by simp) nofun))

theorem isLabeledOpt_missing_iff (n : ONet α) (nodes : List Nat) :
    isLabeledOpt n nodes = some "missing" ↔ ¬ IdsPresent n nodes := by
  by_cases h : IdsPresent n nodes
  · rw [isLabeledOpt_of_idsPresent n nodes h]; exact iff_of_false (isLabeled_ne_missing _ _) (not_not.2 h)
  · exact iff_of_true (isLabeledOpt_of_not_idsPresent n nodes h) h

/-- one node of `is_smooth`: forgetting the exception class gives the body of `Net.isSmooth` on `toNet` -/
theorem smoothNodeOpt_forget (n : ONet α) (i : Nat) :
    (smoothNodeOpt n i).map SmoothRes.forget = (match n.toNet[i]? with
      | some x => if x.kind = .sum then
          (if x.ch.length == 0 then some "nochildren"
           else if x.ch.length != x.ws.length then some "weights"
           else if x.ch.any (fun c => !scopeEqB (scopeOf n.toNet c) x.scope) then some "scopes"
           else none) else none
      | none => none) := by
  unfold smoothNodeOpt
  rw [toNet_getElem?, scopeOf_toNet]
  cases n[i]? with
  | none => rfl
  | some x =>
    obtain ⟨xid, xk, xs, xch, xws, xl⟩ := x
    simp only [Option.map_some, ONode.toNNode]
    by_cases hk : xk = .sum
    · rw [if_pos hk, if_pos hk]
      by_cases h0 : (xch.length == 0) = true
      · rw [if_pos h0, if_pos h0]; rfl
      · rw [if_neg h0, if_neg h0]
        cases xws with
        | none =>
          -- `len(None)`: on `toNet` the empty weight list has the wrong length
          have : (xch.length != ([] : List α).length) = true := by simpa using h0
          rw [Option.getD_none, if_pos this]; rfl
        | some ws =>
          rw [Option.getD_some]
          simp only [apply_ite (Option.map SmoothRes.forget)]; rfl
    · rw [if_neg hk, if_neg hk]; rfl

/-- `is_smooth`: forgetting the exception class gives `Net.isSmooth` on `toNet`, node for node (same first
offending sum); in particular the two accept the same node lists -/
theorem isSmoothOpt_forget (n : ONet α) (nodes : List Nat) :
    (isSmoothOpt n nodes).map SmoothRes.forget = Net.isSmooth n.toNet nodes := by
  rw [isSmooth_unfold, isSmoothOpt, List.map_findSome?]
  exact congrArg (List.findSome? · nodes) (funext (smoothNodeOpt_forget n))

theorem isSmoothOpt_none_iff (n : ONet α) (nodes : List Nat) :
    isSmoothOpt n nodes = none ↔ Net.isSmooth n.toNet nodes = none := by
  rw [← isSmoothOpt_forget]; cases isSmoothOpt n nodes <;> simp

theorem smoothNodeOpt_typeError_iff (n : ONet α) (i : Nat) :
    smoothNodeOpt n i = some .typeError ↔ ∃ x, n[i]? = some x ∧ x.kind = .sum ∧ x.ch ≠ [] ∧ x.ws = none := by
  unfold smoothNodeOpt
  cases n[i]? with
  | none => exact iff_of_false nofun (fun ⟨x, h, _⟩ => by cases h)
  | some x =>
    simp only [Option.some.injEq, exists_eq_left']
    by_cases hk : x.kind = .sum
    · rw [if_pos hk]
      by_cases h0 : (x.ch.length == 0) = true
      · rw [if_pos h0]; exact iff_of_false nofun (fun h => (length_beq_zero _).2 h.2.1 h0)
      · rw [if_neg h0]
        cases hws : x.ws with
        | none => exact iff_of_true rfl ⟨hk, (length_beq_zero _).1 h0, rfl⟩
        | some ws => exact iff_of_false (ite_ne nofun (ite_ne nofun nofun)) (fun h => by cases h.2.2)
    · rw [if_neg hk]; exact iff_of_false nofun (fun h => hk h.1)

/-- `is_smooth` raises `TypeError` iff the **first** sum node (BFS order) that does not pass is one with
children and `weights = None` -/
theorem isSmoothOpt_typeError_iff (n : ONet α) (nodes : List Nat) :
    isSmoothOpt n nodes = some .typeError ↔
      ∃ pre i post x, nodes = pre ++ i :: post ∧ n[i]? = some x ∧ x.kind = .sum ∧ x.ch ≠ [] ∧ x.ws = none ∧
        Net.isSmooth n.toNet pre = none := by
  unfold isSmoothOpt
  rw [List.findSome?_eq_some_iff]
  constructor
  · rintro ⟨pre, i, post, hn, hi, hpre⟩
    obtain ⟨x, hx, hk, hch, hws⟩ := (smoothNodeOpt_typeError_iff n i).1 hi
    exact ⟨pre, i, post, x, hn, hx, hk, hch, hws,
      (isSmoothOpt_none_iff n pre).1 (List.findSome?_eq_none_iff.2 hpre)⟩
  · rintro ⟨pre, i, post, x, hn, hx, hk, hch, hws, hpre⟩
    exact ⟨pre, i, post, hn, (smoothNodeOpt_typeError_iff n i).2 ⟨x, hx, hk, hch, hws⟩,
      List.findSome?_eq_none_iff.1 ((isSmoothOpt_none_iff n pre).2 hpre)⟩

/-- with every needed weight list present `is_smooth` cannot crash: it is `Net.isSmooth` on `toNet` -/
theorem isSmoothOpt_eq_of_weights (n : ONet α) (nodes : List Nat) (hw : WeightsPresent n nodes) :
    isSmoothOpt n nodes = (Net.isSmooth n.toNet nodes).map .err := by
  rw [← isSmoothOpt_forget]
  cases h : isSmoothOpt n nodes with
  | none => rfl
  | some r =>
    cases r with
    | err w => rfl
    | typeError =>
      obtain ⟨pre, i, post, x, hn, hx, hk, hch, hws, _⟩ := (isSmoothOpt_typeError_iff n nodes).1 h
      exact absurd hws (hw i (by rw [hn]; simp) x hx hk hch)

theorem isDecomposableOpt_eq (n : ONet α) (nodes : List Nat) :
    isDecomposableOpt n nodes = Net.isDecomposable n.toNet nodes := by
  rw [isDecomposable_unfold, scopeOf_toNet]
  unfold isDecomposableOpt
  congr 1
  funext i
  rw [toNet_getElem?]
  cases n[i]? <;> rfl

/-- `check_spn` on the optional table reports the first of its three tests that fails; the smooth test fails
with a reason or with the `TypeError` -/
def firstFailureOpt (a : Option String) (b : Option SmoothRes) (c : Option String) : OVerdict :=
  match a with
  | some w => .ok (.labeled w)
  | none => match b with
    | some (.err w) => .ok (.smooth w)
    | some .typeError => .typeError
    | none => match c with
      | some w => .ok (.decomposable w)
      | none => .ok .accept

theorem checkSpnOpt_def (n : ONet α) (root : Nat) (l s d : Bool) :
    checkSpnOpt n root l s d = firstFailureOpt (if l then isLabeledOpt n (oCollect n root) else none)
      (if s then isSmoothOpt n (oCollect n root) else none)
      (if d then isDecomposableOpt n (oCollect n root) else none) := rfl

theorem firstFailureOpt_forget (a : Option String) (b : Option SmoothRes) (c : Option String) :
    (firstFailureOpt a b c).forget = firstFailure a (b.map SmoothRes.forget) c := by
  rcases a with _ | a <;> rcases b with _ | _ | _ <;> rcases c with _ | c <;> rfl

section firstFailureOpt
variable (a : Option String) (b : Option SmoothRes) (c : Option String) (w : String)

theorem firstFailureOpt_accept_iff : firstFailureOpt a b c = .ok .accept ↔ a = none ∧ b = none ∧ c = none := by
  rcases a with _ | a
  · rcases b with _ | _ | _
    · cases c <;> simp [firstFailureOpt]
    all_goals simp [firstFailureOpt]
  · simp [firstFailureOpt]

theorem firstFailureOpt_labeled_iff : firstFailureOpt a b c = .ok (.labeled w) ↔ a = some w := by
  rcases a with _ | a
  · rcases b with _ | _ | _
    · cases c <;> simp [firstFailureOpt]
    all_goals simp [firstFailureOpt]
  · simp [firstFailureOpt]

theorem firstFailureOpt_typeError_iff : firstFailureOpt a b c = .typeError ↔ a = none ∧ b = some .typeError := by
  rcases a with _ | a
  · rcases b with _ | _ | _
    · cases c <;> simp [firstFailureOpt]
    all_goals simp [firstFailureOpt]
  · simp [firstFailureOpt]

/-- the smooth test is the first to fail, either way -/
theorem firstFailureOpt_smooth_iff :
    (∃ w, firstFailureOpt a b c = .ok (.smooth w)) ∨ firstFailureOpt a b c = .typeError ↔ a = none ∧ b ≠ none := by
  rcases a with _ | a
  · rcases b with _ | _ | _
    · cases c <;> simp [firstFailureOpt]
    all_goals simp [firstFailureOpt]
  · simp [firstFailureOpt]

theorem firstFailureOpt_decomposable_iff :
    firstFailureOpt a b c = .ok (.decomposable w) ↔ a = none ∧ b = none ∧ c = some w := by
  rcases a with _ | a
  · rcases b with _ | _ | _
    · cases c <;> simp [firstFailureOpt]
    all_goals simp [firstFailureOpt]
  · simp [firstFailureOpt]

end firstFailureOpt

/-- **complete description of the outcome**: if the labeled test is on and some collected id is `None` the
outcome is the labeled rejection "missing"; otherwise the outcome, with `TypeError` read as the smooth
rejection "weights", is exactly the verdict of `Net.checkSpn` on the `Nat`-id table -/
theorem checkSpnOpt_eq (n : ONet α) (root : Nat) (l s d : Bool) :
    (l = true ∧ ¬ IdsPresent n (oCollect n root) → checkSpnOpt n root l s d = .ok (.labeled "missing")) ∧
    (¬ (l = true ∧ ¬ IdsPresent n (oCollect n root)) →
      (checkSpnOpt n root l s d).forget = Net.checkSpn n.toNet root l s d) := by
  rw [checkSpnOpt_def]
  constructor
  · rintro ⟨hl, hm⟩
    rw [if_pos hl, (isLabeledOpt_missing_iff n _).2 hm]; rfl
  · intro hn
    have ha : (if l then isLabeledOpt n (oCollect n root) else none)
        = if l then Net.isLabeled n.toNet (Net.collect n.toNet root) else none := by
      by_cases hl : l = true
      · rw [if_pos hl, if_pos hl, isLabeledOpt_of_idsPresent n _ (not_not.1 fun hc => hn ⟨hl, hc⟩)]; rfl
      · rw [if_neg hl, if_neg hl]
    rw [firstFailureOpt_forget, checkSpn_eq, ha, apply_ite (Option.map SmoothRes.forget), isSmoothOpt_forget,
      isDecomposableOpt_eq]
    rfl

/-- any combination of flags: accepted iff (with the labeled test on) every collected id is present, and the
`Nat`-id table is accepted by `Net.checkSpn` with the same flags -/
theorem checkSpnOpt_flags_accept_iff (n : ONet α) (root : Nat) (l s d : Bool) :
    checkSpnOpt n root l s d = .ok .accept ↔
      (l = true → IdsPresent n (oCollect n root)) ∧ Net.checkSpn n.toNet root l s d = .accept := by
  rw [checkSpnOpt_def, firstFailureOpt_accept_iff, checkSpn_accept_iff_flags]
  simp only [ite_eq_right_iff, isLabeledOpt_none_iff, isSmoothOpt_none_iff, isDecomposableOpt_eq, oCollect,
    imp_and, and_assoc]

/-- C03 on the optional table: `check_spn(root, labeled=True, smooth=True, decomposable=True)`
raises nothing iff every collected node has an id and the `Nat`-id table (absent id ↦ 0, absent weights ↦ `[]`)
is accepted by `Net.checkSpn`. No hypotheses. -/
theorem checkSpnOpt_accept_iff (n : ONet α) (root : Nat) :
    checkSpnOpt n root true true true = .ok .accept ↔
      IdsPresent n (oCollect n root) ∧ Net.checkSpn n.toNet root true true true = .accept := by
  rw [checkSpnOpt_flags_accept_iff, imp_iff_right rfl]

/-- … hence iff ids are present and the `Nat`-id table satisfies the specification `ValidSpec` of C03 -/
theorem checkSpnOpt_accept_iff_valid (n : ONet α) (root : Nat) :
    checkSpnOpt n root true true true = .ok .accept ↔ IdsPresent n (oCollect n root) ∧ ValidSpec n.toNet root := by
  rw [checkSpnOpt_accept_iff, checkSpn_accept_iff]

/-- acceptance with the smooth test on implies that every collected sum node carries a weight list, one weight per
child: nothing that is accepted has `weights = None` -/
theorem checkSpnOpt_accept_weights (n : ONet α) (root : Nat) (l d : Bool)
    (h : checkSpnOpt n root l true d = .ok .accept) :
    ∀ i ∈ oCollect n root, ∀ x, n[i]? = some x → x.kind = .sum →
      x.ch ≠ [] ∧ ∃ ws, x.ws = some ws ∧ ws.length = x.ch.length := by
  have h2 := ((checkSpnOpt_flags_accept_iff n root l true d).1 h).2
  have h3 := ((checkSpn_flags_accept_iff n.toNet root l true d).1 h2).2.1 rfl
  intro i hi x hx hk
  have hx' : n.toNet[i]? = some x.toNNode := by rw [toNet_getElem?, hx]; rfl
  obtain ⟨hch, hlen, _⟩ := h3 i hi x.toNNode hx' hk
  refine ⟨hch, ?_⟩
  have hws : x.toNNode.ws = x.ws.getD [] := rfl
  rw [hws] at hlen
  cases hw : x.ws with
  | none => rw [hw] at hlen; exact absurd (List.length_eq_zero_iff.1 hlen.symm) hch
  | some ws => rw [hw] at hlen; exact ⟨ws, rfl, hlen⟩

/-- the `TypeError` outcome, exactly: the labeled test (if on) passes, the smooth test is on, and the first sum
node in BFS order that does not pass is one with children and `weights = None` -/
theorem checkSpnOpt_typeError_iff (n : ONet α) (root : Nat) (l s d : Bool) :
    checkSpnOpt n root l s d = .typeError ↔
      (l = true → IdsPresent n (oCollect n root) ∧ LabeledSpec n.toNet root) ∧ s = true ∧
      ∃ pre i post x, oCollect n root = pre ++ i :: post ∧ n[i]? = some x ∧ x.kind = .sum ∧ x.ch ≠ [] ∧
        x.ws = none ∧ ∀ j ∈ pre, ∀ y, n.toNet[j]? = some y → y.kind = .sum → SumOK n.toNet y := by
  rw [checkSpnOpt_def, firstFailureOpt_typeError_iff, ite_eq_right_iff, Option.ite_none_right_eq_some,
    isLabeledOpt_none_iff, isLabeled_iff_perm, isSmoothOpt_typeError_iff]
  simp only [isSmooth_eq_none_iff]
  rfl

/-- with every id and every needed weight list present, `check_spn` on the optional table *is* `checkSpn` on
the `Nat`-id table (every verdict, every flag combination) -/
theorem checkSpnOpt_eq_of_present (n : ONet α) (root : Nat) (l s d : Bool)
    (hi : IdsPresent n (oCollect n root)) (hw : WeightsPresent n (oCollect n root)) :
    checkSpnOpt n root l s d = .ok (Net.checkSpn n.toNet root l s d) := by
  have h := (checkSpnOpt_eq n root l s d).2 (fun h => h.2 hi)
  cases hc : checkSpnOpt n root l s d with
  | ok v => rw [hc] at h; exact congrArg _ h
  | typeError =>
    obtain ⟨_, _, pre, i, post, x, hn, hx, hk, hch, hws, _⟩ := (checkSpnOpt_typeError_iff n root l s d).1 hc
    exact absurd hws (hw i (by rw [hn]; simp) x hx hk hch)

/-- on the tables of `Model/Net.lean` nothing changes -/
theorem checkSpnOpt_ofNet (n : Net α) (root : Nat) (l s d : Bool) :
    checkSpnOpt (ONet.ofNet n) root l s d = .ok (Net.checkSpn n root l s d) := by
  have hget : ∀ (i : Nat) (x : ONode α), (ONet.ofNet n)[i]? = some x → ∃ y, ONode.ofNNode y = x :=
    fun i x hx => (List.mem_map.1 (List.mem_of_getElem? hx)).imp fun _ h => h.2
  have h := checkSpnOpt_eq_of_present (ONet.ofNet n) root l s d
    (fun i _ x hx => by obtain ⟨y, rfl⟩ := hget i x hx; nofun)
    (fun i _ x hx _ _ => by obtain ⟨y, rfl⟩ := hget i x hx; nofun)
  rwa [ONet.toNet_ofNet] at h

/-- **error class = first failing check** on the optional table (all three flags on): the five outcomes are
exclusive and determined by ids present / the three parts of the specification on `toNet` / which sum fails first -/
theorem checkSpnOpt_reject_first (n : ONet α) (root : Nat) :
    ((∃ w, checkSpnOpt n root true true true = .ok (.labeled w)) ↔
        ¬ (IdsPresent n (oCollect n root) ∧ LabeledSpec n.toNet root)) ∧
    (checkSpnOpt n root true true true = .ok (.labeled "missing") ↔ ¬ IdsPresent n (oCollect n root)) ∧
    ((∃ w, checkSpnOpt n root true true true = .ok (.smooth w)) ∨ checkSpnOpt n root true true true = .typeError ↔
        IdsPresent n (oCollect n root) ∧ LabeledSpec n.toNet root ∧ ¬ SmoothSpec n.toNet root) ∧
    ((∃ w, checkSpnOpt n root true true true = .ok (.decomposable w)) ↔
        IdsPresent n (oCollect n root) ∧ LabeledSpec n.toNet root ∧ SmoothSpec n.toNet root ∧
          ¬ DecompSpec n.toNet root) := by
  have hL : isLabeledOpt n (oCollect n root) = none ↔ IdsPresent n (oCollect n root) ∧ LabeledSpec n.toNet root := by
    rw [isLabeledOpt_none_iff, isLabeled_iff_perm]; rfl
  have hS : isSmoothOpt n (oCollect n root) = none ↔ SmoothSpec n.toNet root := by
    rw [isSmoothOpt_none_iff, isSmooth_eq_none_iff]; rfl
  have hD : isDecomposableOpt n (oCollect n root) = none ↔ DecompSpec n.toNet root := by
    rw [isDecomposableOpt_eq, isDecomposable_eq_none_iff]; rfl
  rw [checkSpnOpt_def, if_pos rfl, if_pos rfl, if_pos rfl]
  refine ⟨?_, ?_, ?_, ?_⟩
  · simp only [firstFailureOpt_labeled_iff, ← Option.ne_none_iff_exists', ne_eq, hL]
  · rw [firstFailureOpt_labeled_iff, isLabeledOpt_missing_iff]
  · rw [firstFailureOpt_smooth_iff, hL, ne_eq, hS, and_assoc]
  · simp only [firstFailureOpt_decomposable_iff, exists_and_left, ← Option.ne_none_iff_exists', ne_eq, hL, hS,
      hD, and_assoc]

namespace C03Opt

/-- leaf with optional id -/
def lf (id : Option Nat) (v : Nat) (tbl : List Rat) : ONode Rat := ⟨id, .leaf, [v], [], none, .cat v tbl⟩

/-- `C03.exNet` (shared child, ids in BFS order) as an optional table: everything present -/
def exO : ONet Rat :=
  [ lf (some 3) 0 [1/2, 1/2], lf (some 4) 1 [1/3, 2/3], lf (some 5) 1 [1/2, 1/2],
    ⟨some 1, .prod, [0, 1], [0, 1], none, .absent⟩,
    ⟨some 2, .prod, [1, 0], [0, 2], none, .absent⟩,
    ⟨some 0, .sum, [0, 1], [3, 4], some [1/4, 3/4], .absent⟩ ]

/-- the shared leaf has `id = None` -/
def noIdO : ONet Rat :=
  [ lf none 0 [1/2, 1/2], lf (some 4) 1 [1/3, 2/3], lf (some 5) 1 [1/2, 1/2],
    ⟨some 1, .prod, [0, 1], [0, 1], none, .absent⟩,
    ⟨some 2, .prod, [1, 0], [0, 2], none, .absent⟩,
    ⟨some 0, .sum, [0, 1], [3, 4], some [1/4, 3/4], .absent⟩ ]

/-- the root sum was built with `weights=None` -/
def noWsO : ONet Rat :=
  [ lf (some 3) 0 [1/2, 1/2], lf (some 4) 1 [1/3, 2/3], lf (some 5) 1 [1/2, 1/2],
    ⟨some 1, .prod, [0, 1], [0, 1], none, .absent⟩,
    ⟨some 2, .prod, [1, 0], [0, 2], none, .absent⟩,
    ⟨some 0, .sum, [0, 1], [3, 4], none, .absent⟩ ]

/-- both: an id is `None` *and* the root has no weights — the labeled test comes first -/
def noIdNoWsO : ONet Rat :=
  [ lf none 0 [1/2, 1/2], lf (some 4) 1 [1/3, 2/3], lf (some 5) 1 [1/2, 1/2],
    ⟨some 1, .prod, [0, 1], [0, 1], none, .absent⟩,
    ⟨some 2, .prod, [1, 0], [0, 2], none, .absent⟩,
    ⟨some 0, .sum, [0, 1], [3, 4], none, .absent⟩ ]

/-- a childless sum without weights under a sum with weights: "no children" is reported, `len(None)` never runs;
an unreachable entry (index 0) without id does not matter -/
def childlessO : ONet Rat :=
  [ lf none 0 [1/2, 1/2],
    ⟨some 1, .sum, [0], [], none, .absent⟩,
    ⟨some 0, .sum, [0], [1], some [1], .absent⟩ ]

/-- two sums fail: the first in BFS order (index 2, a weight-count mismatch) decides, not the `None` below it -/
def firstWinsO : ONet Rat :=
  [ lf (some 2) 0 [1/2, 1/2],
    ⟨some 1, .sum, [0], [0], none, .absent⟩,
    ⟨some 0, .sum, [0], [1], some [1/2, 1/2], .absent⟩ ]

theorem exO_accept : checkSpnOpt exO 5 true true true = .ok .accept :=
  (checkSpnOpt_accept_iff _ _).2 ⟨(idsPresent_iff _ _).2 (by decide +kernel), C03.exNet_accept⟩

theorem noWsO_typeError : checkSpnOpt noWsO 5 true true true = .typeError := by decide +kernel

end C03Opt

example : C03Opt.exO.toNet = C03.exNet := rfl

/-- non-vacuity of `checkSpnOpt_accept_iff`, both directions, on the shared-child table -/
example : checkSpnOpt C03Opt.exO 5 true true true = .ok .accept ∧
    IdsPresent C03Opt.exO (oCollect C03Opt.exO 5) ∧ ValidSpec C03Opt.exO.toNet 5 :=
  ⟨C03Opt.exO_accept, (checkSpnOpt_accept_iff_valid _ _).1 C03Opt.exO_accept⟩

example : checkSpnOpt C03Opt.exO 5 true true true = .ok .accept :=
  C03Opt.exO_accept

/-- a `None` id: rejected as "missing", ids are not present; with the labeled test off the same table is accepted -/
example : checkSpnOpt C03Opt.noIdO 5 true true true = .ok (.labeled "missing") ∧
    ¬ IdsPresent C03Opt.noIdO (oCollect C03Opt.noIdO 5) ∧
    checkSpnOpt C03Opt.noIdO 5 false true true = .ok .accept ∧
    Net.checkSpn C03Opt.noIdO.toNet 5 true true true = .labeled "repeated" := by
  have h : checkSpnOpt C03Opt.noIdO 5 true true true = .ok (.labeled "missing") := by decide +kernel
  exact ⟨h, ((checkSpnOpt_reject_first _ _).2.1).1 h, by decide +kernel, by decide +kernel⟩

/-- `weights = None` on a sum with children: `TypeError`; seen through `toNet` it is the "weights" rejection;
the characterisation names the node (root, first in BFS order) -/
example : checkSpnOpt C03Opt.noWsO 5 true true true = .typeError ∧
    Net.checkSpn C03Opt.noWsO.toNet 5 true true true = .smooth "weights" ∧
    checkSpnOpt C03Opt.noWsO 5 true false true = .ok .accept ∧
    ¬ WeightsPresent C03Opt.noWsO (oCollect C03Opt.noWsO 5) := by
  refine ⟨C03Opt.noWsO_typeError, by decide +kernel, by decide +kernel, fun hw => ?_⟩
  have := checkSpnOpt_eq_of_present C03Opt.noWsO 5 true true true ((idsPresent_iff _ _).2 (by decide +kernel)) hw
  rw [C03Opt.noWsO_typeError] at this; cases this

example : ∃ pre i post x, oCollect C03Opt.noWsO 5 = pre ++ i :: post ∧ C03Opt.noWsO[i]? = some x ∧ x.kind = .sum ∧
    x.ch ≠ [] ∧ x.ws = none ∧
    ∀ j ∈ pre, ∀ y, C03Opt.noWsO.toNet[j]? = some y → y.kind = .sum → SumOK C03Opt.noWsO.toNet y :=
  ((checkSpnOpt_typeError_iff C03Opt.noWsO 5 true true true).1 C03Opt.noWsO_typeError).2.2

/-- both defects: the labeled test runs first; with it off, the crash shows -/
example : checkSpnOpt C03Opt.noIdNoWsO 5 true true true = .ok (.labeled "missing") ∧
    checkSpnOpt C03Opt.noIdNoWsO 5 false true true = .typeError := by decide +kernel

/-- childless sum with `weights = None`: a `ValueError` ("no children"), not a crash; the id-less entry 0 is not
collected from root 2 and is ignored -/
example : checkSpnOpt C03Opt.childlessO 2 true true true = .ok (.smooth "nochildren") ∧
    oCollect C03Opt.childlessO 2 = [2, 1] ∧ IdsPresent C03Opt.childlessO (oCollect C03Opt.childlessO 2) ∧
    WeightsPresent C03Opt.childlessO (oCollect C03Opt.childlessO 2) := by
  have hc : oCollect C03Opt.childlessO 2 = [2, 1] := by decide +kernel
  refine ⟨by decide +kernel, hc, (idsPresent_iff _ _).2 (by decide +kernel), ?_⟩
  intro i hi x hx hk hch
  rw [hc] at hi
  simp only [List.mem_cons, List.not_mem_nil, or_false] at hi
  rcases hi with rfl | rfl
  · obtain rfl := Option.some.inj hx; nofun
  · obtain rfl := Option.some.inj hx; exact absurd rfl hch

/-- the first failing sum decides: a length mismatch above a `None` is a `ValueError` -/
example : checkSpnOpt C03Opt.firstWinsO 2 true true true = .ok (.smooth "weights") ∧
    checkSpnOpt C03Opt.firstWinsO 1 false true true = .typeError := by decide +kernel

/-- on tables without `None` the optional validator is `Net.checkSpn` (`checkSpnOpt_ofNet`), all example tables of C03 -/
example : checkSpnOpt (ONet.ofNet C03.exNet) 5 true true true = .ok .accept ∧
    checkSpnOpt (ONet.ofNet C03.badIdNet) 5 true true true = .ok (.labeled "repeated") ∧
    checkSpnOpt (ONet.ofNet C03.badSmoothNet) 5 true true true = .ok (.smooth "weights") ∧
    checkSpnOpt (ONet.ofNet C03.witnessNet) 3 true true true = .ok (.decomposable "scopes") := by
  simp only [checkSpnOpt_ofNet]
  refine ⟨?_, ?_, ?_, ?_⟩ <;> decide +kernel

end Deeprob
