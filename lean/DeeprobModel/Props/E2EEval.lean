import DeeprobModel.Oblig.Struct5Eval
import DeeprobModel.Props.RealWitnesses
/-
End-to-end corollaries about the loops of the serial evaluation passes as the translator extracts them: the
theorems of `Props/E2ECirc.lean` about `eval_forward` (C01, C02), `log_likelihood` (C01) and `moment` (C19) restated with
the GENERATED loop (`Gen.S5evalUpLoop` around `Gen.S5evalUpTask`, `Gen.S5evalUp`, `Gen.S5momentLoop`: `Struct5E.upLoop`,
`genEvalUp`, `genMoment`) in place of the hand-written `genTable` / `llTable` / `moGenTable`, by composing them with the
obligations `Struct5E.…_as_coded` of `Oblig/Struct5Eval.lean`; and the top-down MPE pass (C06) about the generated loop
`Gen.S5evalDownLoop`.

Explicit hypotheses that no theorem produces here: `hord` — the reverse of the visiting order is the storage order of the
table (the harness exports the table as `reversed(topological_order(root))`; that the generated `topological_order` is a
topological order is `E2ETopo.e2e_topo_eq` + `Topo.kahn_topological`); `ht` — the initial table (`np.empty`) has one row
per node; its CONTENT is arbitrary.
-/
namespace Deeprob.E2EEval
open Deeprob Deeprob.E2E Deeprob.Struct5E

section
variable {F : Type} [Field F] [LinearOrder F] [IsStrictOrderedRing F]

/-- C01: the table the GENERATED serial loop of `eval_bottom_up` fills (from any initial
content) holds, at every node of a children-first table with table leaves, the mixture / product semantics of that node's
sub-circuit, for every evidence row -/
theorem e2e_eval_forward_loop (net : Net F) (leaves : Nat → SrcLeaf F) (dens : List F) (e : Ev)
    (hw : WellOrdered net) (hl : TableLeaves net leaves)
    (ordering : List Nat) (hord : ordering.reverse = List.range net.length) (t0 : List F) (ht : t0.length = net.length)
    (i : Nat) (hi : i < net.length) :
    (upLoop net (likLeaf e leaves) (genNodeFunc net) ordering t0).getD i 0 = Circ.eval e (toTree net dens (i+1) i) := by
  rw [genTable_as_coded e net leaves hw ordering hord t0 ht]
  exact e2e_eval_forward net leaves dens e hw hl i hi

/-- C01: the GENERATED serial path of `eval_bottom_up` as a whole (`Gen.S5evalUp`: ordering,
allocation, loop, returned entry) returns the semantic value of the root's sub-circuit -/
theorem e2e_eval_bottom_up (net : Net F) (leaves : Nat → SrcLeaf F) (dens : List F) (e : Ev)
    (hw : WellOrdered net) (hl : TableLeaves net leaves)
    (topo : Nat → Option (List Nat)) (empty : Nat → List F) (hempty : ∀ k, (empty k).length = k)
    (root : Nat) (hr : root < net.length) (ordering : List Nat) (ho : topo root = some ordering)
    (hord : ordering.reverse = List.range net.length) :
    (genEvalUp net (likLeaf e leaves) (genNodeFunc net) topo empty root).map Prod.fst
      = some (Circ.eval e (toTree net dens (root+1) root)) := by
  rw [evalUp_as_coded net hw _ _ topo empty hempty root ordering ho hord]
  simp only [Option.map_some]
  congr 1
  exact e2e_eval_forward net leaves dens e hw hl root hr

/-- C02: at the root of a valid table, on a row with missing entries, the value the
GENERATED loop stores is the sum, over every completion of the missing entries of the root scope, of the values the
GENERATED loop stores on the completed rows -/
theorem e2e_eval_forward_marginal_loop (dom : Nat → Nat) (net : Net F) (leaves : Nat → SrcLeaf F) (dens : List F)
    (hw : WellOrdered net) (hl : TableLeaves net leaves)
    (hok : ∀ i (x : NNode F), net[i]? = some x → NodeOK dom net dens i x)
    (ordering : List Nat) (hord : ordering.reverse = List.range net.length) (t0 : List F) (ht : t0.length = net.length)
    (root : Nat) (hr : root < net.length) (e : Ev) :
    (upLoop net (likLeaf e leaves) (genNodeFunc net) ordering t0).getD root 0
      = sumOver dom (scopeOf net root) e
          (fun e' => (upLoop net (likLeaf e' leaves) (genNodeFunc net) ordering t0).getD root 0) := by
  rw [genTable_as_coded e net leaves hw ordering hord t0 ht,
    e2e_eval_forward_marginal dom net leaves dens hw hl hok root hr e]
  apply sumOver_congr; intro e' _
  rw [genTable_as_coded e' net leaves hw ordering hord t0 ht]

/-- C02: with nothing observed the GENERATED loop stores 1 at the root -/
theorem e2e_eval_forward_all_missing_loop (dom : Nat → Nat) (net : Net F) (leaves : Nat → SrcLeaf F) (dens : List F)
    (hw : WellOrdered net) (hl : TableLeaves net leaves)
    (hok : ∀ i (x : NNode F), net[i]? = some x → NodeOK dom net dens i x)
    (hnw : NetNormW net) (hln : NetLeafNorm net dens)
    (ordering : List Nat) (hord : ordering.reverse = List.range net.length) (t0 : List F) (ht : t0.length = net.length)
    (root : Nat) (hr : root < net.length) :
    (upLoop net (likLeaf (fun _ => none) leaves) (genNodeFunc net) ordering t0).getD root 0 = 1 := by
  rw [genTable_as_coded _ net leaves hw ordering hord t0 ht]
  exact e2e_eval_forward_all_missing dom net leaves dens hw hl hok hnw hln root hr

/-- C01: the complete-evidence values the GENERATED loop stores at the root sum to
one over the domain of the root scope -/
theorem e2e_eval_forward_normalised_loop (dom : Nat → Nat) (net : Net F) (leaves : Nat → SrcLeaf F) (dens : List F)
    (hw : WellOrdered net) (hl : TableLeaves net leaves)
    (hok : ∀ i (x : NNode F), net[i]? = some x → NodeOK dom net dens i x)
    (hnw : NetNormW net) (hln : NetLeafNorm net dens)
    (ordering : List Nat) (hord : ordering.reverse = List.range net.length) (t0 : List F) (ht : t0.length = net.length)
    (root : Nat) (hr : root < net.length) :
    sumOver dom (scopeOf net root) (fun _ => none)
      (fun x => (upLoop net (likLeaf x leaves) (genNodeFunc net) ordering t0).getD root 0) = 1 := by
  rw [← e2e_eval_forward_normalised dom net leaves dens hw hl hok hnw hln root hr]
  apply sumOver_congr; intro e' _
  rw [genTable_as_coded e' net leaves hw ordering hord t0 ht]

/-- C01, log domain: under the hypotheses of `e2e_log_likelihood_log` (positive node values,
inactive floor) the GENERATED loop run with the generated log-domain leaf / node functions stores the logarithm of the
semantic value of every node, and `exp` of it is that value -/
theorem e2e_log_likelihood_loop (E : ExpLog F) (net : Net F) (leaves : Nat → SrcLeaf F) (dens : List F) (e : Ev)
    (hw : WellOrdered net) (hl : TableLeaves net leaves)
    (hpos : ∀ i, i < net.length → 0 < Circ.eval e (toTree net dens (i+1) i))
    (hfloor : ∀ i, i < net.length → (-1000000 : F) ≤ E.log (Circ.eval e (toTree net dens (i+1) i)))
    (ordering : List Nat) (hord : ordering.reverse = List.range net.length) (t0 : List F) (ht : t0.length = net.length)
    (i : Nat) (hi : i < net.length) :
    (upLoop net (llLeaf E e leaves) (llNodeFunc E net) ordering t0).getD i 0 = E.log (Circ.eval e (toTree net dens (i+1) i)) ∧
    E.exp ((upLoop net (llLeaf E e leaves) (llNodeFunc E net) ordering t0).getD i 0) = Circ.eval e (toTree net dens (i+1) i) := by
  rw [llTable_as_coded E e net leaves hw ordering hord t0 ht]
  exact ⟨e2e_log_likelihood_log E net leaves dens e hw hl hpos hfloor i hi,
    e2e_log_likelihood E net leaves dens e hw hl hpos hfloor i hi⟩

/-- C19: the GENERATED pass of `moments.moment` (`Gen.S5momentLoop`: the generated serial path of
`eval_bottom_up` with `leaf_func = leaf_moment`, `node_func = node_likelihood`) returns, for a variable `v` of the root
scope and an order `k ≥ 0`, the exact raw moment `E[X_v^k]` — under the node-by-node hypotheses of `e2e_moment_table` -/
theorem e2e_moment_loop (dom : Nat → Nat) (k : Nat) (v : Nat) (dens : List F) (moms : Nat → List F) (net : Net F)
    (hw : WellOrdered net) (hok : ∀ i (x : NNode F), net[i]? = some x → NodeOK dom net dens i x)
    (hnw : NetNormW net) (hln : NetLeafNorm net dens) (hm : MoLeafExact dom k v net dens moms)
    (topo : Nat → Option (List Nat)) (empty : Nat → List F) (hempty : ∀ j, (empty j).length = j)
    (root : Nat) (hr : root < net.length) (hin : v ∈ scopeOf net root)
    (ordering : List Nat) (ho : topo root = some ordering) (hord : ordering.reverse = List.range net.length) :
    (genMoment v net moms topo empty root (k : Int)).map Prod.fst
      = some (momentSpec dom k v (toTree net dens (root+1) root)) := by
  rw [moment_as_coded v net hw moms topo empty hempty root (k : Int) ordering ho hord]
  simp only [Option.map_some, Int.toNat_natCast]
  congr 1
  exact e2e_moment_table dom k v dens moms net hw hok hnw hln hm root hr hin

end

/-! ### non-vacuity -/

/-- the shared-leaf DAG `exNet`, visiting order `5, 4, 3, 2, 1, 0`, initial table full of `7`s: the marginal on the row
`(1, NaN)` is the sum of the two complete rows -/
example : (upLoop E2E.exNet (likLeaf (Ev.ofList [some 1, none]) E2E.exLeaves) (genNodeFunc E2E.exNet) [5, 4, 3, 2, 1, 0] [7, 7, 7, 7, 7, 7]).getD 5 0
    = sumOver (fun _ => 2) (scopeOf E2E.exNet 5) (Ev.ofList [some 1, none])
        (fun e' => (upLoop E2E.exNet (likLeaf e' E2E.exLeaves) (genNodeFunc E2E.exNet) [5, 4, 3, 2, 1, 0] [7, 7, 7, 7, 7, 7]).getD 5 0) :=
  e2e_eval_forward_marginal_loop (fun _ => 2) E2E.exNet E2E.exLeaves [] E2E.exNet_wellOrdered E2E.exNet_tableLeaves E2E.exNet_ok _ (by decide) _ rfl
    5 (by decide) _

example (e : Ev) : (upLoop E2E.exNet (likLeaf e E2E.exLeaves) (genNodeFunc E2E.exNet) [5, 4, 3, 2, 1, 0] [7, 7, 7, 7, 7, 7]).getD 5 0
    = Circ.eval e (toTree E2E.exNet [] 6 5) :=
  e2e_eval_forward_loop E2E.exNet E2E.exLeaves [] e E2E.exNet_wellOrdered E2E.exNet_tableLeaves _ (by decide) _ rfl 5 (by decide)

example : (genEvalUp E2E.exNet (likLeaf (Ev.ofList [some 1, none]) E2E.exLeaves) (genNodeFunc E2E.exNet) (fun _ => some [5, 4, 3, 2, 1, 0])
    (fun k => List.replicate k 7) 5).map Prod.fst = some (3/4) := by decide +kernel

example : (upLoop E2E.exNet (likLeaf (fun _ => none) E2E.exLeaves) (genNodeFunc E2E.exNet) [5, 4, 3, 2, 1, 0] [7, 7, 7, 7, 7, 7]).getD 5 0 = 1 :=
  e2e_eval_forward_all_missing_loop (fun _ => 2) E2E.exNet E2E.exLeaves [] E2E.exNet_wellOrdered E2E.exNet_tableLeaves E2E.exNet_ok E2E.exNet_normW
    E2E.exNet_leafNorm _ (by decide) _ rfl 5 (by decide)

/-- log domain, over ℝ with the usual `exp` / `log` (there is no `ExpLog ℚ`): all hypotheses hold on `exNetR` and the row
`(1, 1)`; the generated loop stores `log (23/40)` at the root -/
example : (upLoop RealWitnesses.exNetR (llLeaf realExpLog RealWitnesses.exRow RealWitnesses.exLeavesR)
    (llNodeFunc realExpLog RealWitnesses.exNetR) [5, 4, 3, 2, 1, 0] [7, 7, 7, 7, 7, 7]).getD 5 0 = Real.log (23/40) := by
  rw [llTable_as_coded realExpLog _ _ _ RealWitnesses.exNetR_wellOrdered _ (by decide) _ rfl]
  exact RealWitnesses.e2e_log_likelihood_real.1

example : realExpLog.exp ((upLoop RealWitnesses.exNetR (llLeaf realExpLog RealWitnesses.exRow RealWitnesses.exLeavesR)
    (llNodeFunc realExpLog RealWitnesses.exNetR) [5, 4, 3, 2, 1, 0] [7, 7, 7, 7, 7, 7]).getD 5 0)
    = Circ.eval RealWitnesses.exRow (toTree RealWitnesses.exNetR [] 6 5) :=
  (e2e_log_likelihood_loop realExpLog RealWitnesses.exNetR RealWitnesses.exLeavesR [] RealWitnesses.exRow
    RealWitnesses.exNetR_wellOrdered RealWitnesses.exNetR_tableLeaves
    (fun i hi => lt_of_lt_of_le (by norm_num) (RealWitnesses.ll_exNetR_values i hi))
    (fun i hi => RealWitnesses.real_log_floor _ (RealWitnesses.ll_exNetR_values i hi))
    _ (by decide) _ rfl 5 (by decide)).2

/-- the moment pass on the mixture of two products of `Props/C19.lean`: every order `k`, variable 1 -/
example (k : Nat) : (genMoment 1 C19.exNet (fun _ => []) (fun _ => some [5, 4, 3, 2, 1, 0]) (fun j => List.replicate j 7) 5 (k : Int)).map
    Prod.fst = some (momentSpec C19.exDom k 1 (toTree C19.exNet [] 6 5)) :=
  e2e_moment_loop C19.exDom k 1 [] (fun _ => []) C19.exNet C19.exNet_wellOrdered moExNet_ok moExNet_normW moExNet_leafNorm
    (moExNet_leafExact k 1) _ _ (by simp) 5 (by decide) (by decide) _ rfl (by decide)

/-! ### the top-down contract (C06) about the GENERATED serial path of `eval_top_down` -/

section down
variable {α : Type} [CommSemiring α] [LinearOrder α]
open TCirc

/-- C06: on a children-first table whose nodes satisfy the local validity conditions, run in ANY
topological visiting order that lists the root (`TopoOrd`: what `topological_order(root)` returns), the GENERATED serial path
of `eval_top_down` (`Gen.S5evalDown`: ordering, masks with the root's row set, loop of `eval_backward`, returned rows) with
`leaf_func = leaf_mpe`, `sum_func = sum_mpe` returns the tree-level descent `mpeDescent` of the unfolding of the root (shared
nodes visited once). -/
theorem e2e_eval_top_down (dom : Nat → Nat) (net : Net α) (dens : List α) (isBern : Nat → Bool) (hw : WellOrdered net)
    (hok : ∀ i (x : NNode α), net[i]? = some x → NodeOK dom net dens i x)
    (topo : Nat → Option (List Nat)) (root : Nat) (ordering : List Nat) (ho : topo root = some ordering)
    (hord : TopoOrd net ordering) (hroot : root ∈ ordering) (e : Ev) :
    genEvalDown e dens net isBern topo root = some (mpeDescent e (toTTree net dens isBern (root+1) root)) := by
  rw [evalDown_as_coded e dens net isBern topo root ordering ho,
    C06.mpeNetOrd_refines dom net dens isBern hw hok ordering hord root hroot e]

/-- C06: whatever the table, the order and the root, the row the GENERATED path
returns keeps every observed entry -/
theorem e2e_eval_top_down_keeps_observed (net : Net α) (dens : List α) (isBern : Nat → Bool)
    (topo : Nat → Option (List Nat)) (root : Nat) (e : Ev) (x : Ev)
    (hx : genEvalDown e dens net isBern topo root = some x) : ∀ v, e v ≠ none → x v = e v := by
  cases ho : topo root with
  | none => rw [evalDown_raises e dens net isBern topo root ho] at hx; cases hx
  | some ordering =>
    rw [evalDown_as_coded e dens net isBern topo root ordering ho] at hx
    cases hx
    exact C06.mpeNetOrd_keeps_observed ordering e dens net root isBern

end down

/-- non-vacuity: the 9-node DAG of `Props/C06Net.lean` (node 4 shared by two products), visited `8, 7, …, 0` -/
example (e : Ev) : genEvalDown e [] C06.exNet C06.exBern (fun _ => some [8, 7, 6, 5, 4, 3, 2, 1, 0]) 8
    = some (TCirc.mpeDescent e (toTTree C06.exNet [] C06.exBern 9 8)) :=
  e2e_eval_top_down _ C06.exNet [] C06.exBern C06.exNet_wo C06.exNet_ok _ 8 _ rfl
    (topoOrd_range_reverse C06.exNet C06.exNet_wo 9 (by decide)) (by decide) e

end Deeprob.E2EEval
