import DeeprobModel.Lemmas.PosteriorLemmas
import DeeprobModel.Spec.RealExpLog
import Mathlib.Algebra.Order.Field.Basic
import Mathlib.Algebra.Order.Field.Rat
import Mathlib.Tactic.NormNum
set_option linter.unusedSimpArgs false
set_option linter.unusedVariables false
set_option linter.unusedSectionVars false
/-
C20 — the scikit-learn facade (`SPNClassifier`) agrees with the wrapped circuit.
-/
namespace Deeprob.C20
open Deeprob

section field
variable {F : Type} [Field F]

/-- every row of `predict_proba` sums to one (whenever the row has positive —
indeed non-zero — evidence `Σ_j w_j L_j(x_r)`), any number of classes. -/
theorem posterior_rows_normalised (w : List F) (L : List (List F)) (r : Nat) (h : evidenceOf w L r ≠ 0) :
    tsum (posteriorRow w L r) = 1 := by
  unfold posteriorRow
  rw [tsum_map_div, tsum_classScores, div_self h]

/-- entry `[r, k]` is `w_k · L_k(x_r) / Σ_j w_j · L_j(x_r)` -/
theorem posterior_def (w : List F) (L : List (List F)) (r k : Nat) (hw : k < w.length) (hL : k < L.length) :
    posterior w L r k = w[k] * (L[k]).getD r 0 / evidenceOf w L r := by
  unfold posterior posteriorRow classScores colOf
  rw [List.getD_eq_getElem?_getD, List.getElem?_map, List.getElem?_zipWith, List.getElem?_map,
    List.getElem?_eq_getElem hw, List.getElem?_eq_getElem hL]
  rfl

end field

section ordered
variable {F : Type} [Field F] [LinearOrder F] [IsStrictOrderedRing F]

/-- with positive priors and positive class likelihoods, `exp` of the
log-soft-max over classes of `log w_k + log L_k(x_r)` — what `predict_log_proba` /
`predict_proba` of today's library compute — is the posterior row of the model. For every field with `exp`/`log` obeying the
`ExpLog` laws. -/
theorem softmax_is_posterior (E : ExpLog F) (w : List F) (L : List (List F)) (r : Nat)
    (hw : ∀ x ∈ w, 0 < x) (hl : ∀ x ∈ colOf L r, 0 < x) :
    (logSoftmax E (classLL E w ((colOf L r).map E.log))).map E.exp = posteriorRow w L r := by
  rw [exp_logSoftmax, classLL_exp E w _ hw hl]
  unfold posteriorRow
  rw [← tsum_classScores]
  rfl

/-- **linear domain**: the arg-max of row `r` of `predict_proba` is the arg-max of
`w_k·L_k(x_r)`, i.e. the root branch `sum_mpe` selects in `predict` (`mpe` with the label missing) —
same tie-breaking (first maximal index). -/
theorem predict_is_argmax (w : List F) (L : List (List F)) (r : Nat) (h : 0 < evidenceOf w L r) :
    predictFromProba w L r = predictBranch w L r := by
  unfold predictFromProba predictBranch posteriorRow
  apply argmaxL_map
  intro a b
  exact (div_lt_div_iff_of_pos_right h).symm

/-- **log domain, as coded**: `np.argmax(lls + log w)` at the root equals the arg-max of
the posterior row; needs `exp` strictly increasing (`ExpLogMono`). -/
theorem predict_is_argmax_log (E : ExpLogMono F) (w : List F) (L : List (List F)) (r : Nat)
    (hw : ∀ x ∈ w, 0 < x) (hl : ∀ x ∈ colOf L r, 0 < x) (h : 0 < evidenceOf w L r) :
    argmaxL (classLL E.toExpLog w ((colOf L r).map E.log)) = predictFromProba w L r := by
  rw [predict_is_argmax w L r h]
  unfold predictBranch classScores
  rw [← classLL_exp E.toExpLog w _ hw hl]
  exact (argmaxL_map E.exp (exp_lt_iff E) _).symm

end ordered

/-! ### non-vacuity and the witness of finding F13: 2 classes, 2 rows, w = (1/4, 3/4), L_0 = (1/2, 1/2), L_1 = (1/8, 7/8) -/

def exW : List ℚ := [1/4, 3/4]
def exL : List (List ℚ) := [[1/2, 1/2], [1/8, 7/8]]

example : evidenceOf exW exL 0 ≠ 0 ∧ tsum (posteriorRow exW exL 0) = 1 := by
  have h : evidenceOf exW exL 0 ≠ 0 := by decide +kernel
  exact ⟨h, posterior_rows_normalised exW exL 0 h⟩

example : posteriorTable exW exL 2 = [[4/7, 3/7], [4/25, 21/25]] := by
  decide +kernel

example : posterior exW exL 1 1 = (3/4) * (7/8) / evidenceOf exW exL 1 :=
  posterior_def exW exL 1 1 (by simp [exW]) (by simp [exL])

example : predictFromProba exW exL 0 = predictBranch exW exL 0 ∧ predictBranch exW exL 0 = 0
    ∧ predictBranch exW exL 1 = 1 := by
  exact ⟨predict_is_argmax exW exL 0 (by decide +kernel), by decide +kernel, by decide +kernel⟩

/-! the log-domain statements instantiated at ℝ with the usual `exp` / `log` (all `ExpLog` laws hold there) -/

noncomputable def exWR : List ℝ := [1/4, 3/4]
noncomputable def exLR : List (List ℝ) := [[1/2, 1/2], [1/8, 7/8]]

theorem exWR_pos : ∀ x ∈ exWR, 0 < x := by
  intro x hx; simp [exWR] at hx; rcases hx with rfl | rfl <;> norm_num

theorem exLR_pos (r : Nat) (hr : r < 2) : ∀ x ∈ colOf exLR r, 0 < x := by
  intro x hx
  rcases r with _ | _ | r
  · simp [exLR, colOf] at hx; rcases hx with rfl | rfl <;> norm_num
  · simp [exLR, colOf] at hx; rcases hx with rfl | rfl <;> norm_num
  · omega

example : (logSoftmax realExpLog (classLL realExpLog exWR ((colOf exLR 0).map realExpLog.log))).map realExpLog.exp
    = posteriorRow exWR exLR 0 :=
  softmax_is_posterior realExpLog exWR exLR 0 exWR_pos (exLR_pos 0 (by norm_num))

example : argmaxL (classLL realExpLog exWR ((colOf exLR 1).map realExpLogMono.log)) = predictFromProba exWR exLR 1 :=
  predict_is_argmax_log realExpLogMono exWR exLR 1 exWR_pos (exLR_pos 1 (by norm_num))
    (by norm_num [evidenceOf, exWR, exLR, colOf, wsum])

/-- finding F13 of DESIGN.md: in the library as received the 2×2 table is normalised along the data rows
of the class-major table. What comes back is `[[1/4, 3/4], [1/22, 21/22]]`: the class probabilities it holds
for data row 0 (`[k][0]`, k = 0, 1) sum to 13/44, not to one, and the table is not the posterior table
`[[4/7, 3/7], [4/25, 21/25]]` under either reading of its axes. -/
theorem old_predict_proba_wrong :
    pinnedTable exW exL = [[1/4, 3/4], [1/22, 21/22]] ∧
    (1/4 : ℚ) + 1/22 ≠ 1 ∧
    pinnedTable exW exL ≠ posteriorTable exW exL 2 ∧
    pinnedTable exW exL ≠ [[4/7, 4/25], [3/7, 21/25]] := by
  decide +kernel

end Deeprob.C20
