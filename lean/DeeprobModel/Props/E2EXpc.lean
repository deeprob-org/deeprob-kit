import DeeprobModel.Props.C04Xpc
import DeeprobModel.Oblig.Struct5Xpc
set_option linter.unusedSectionVars false
/-
End-to-end corollaries for `build_xpc` (C04): the property stated about the LOOP EXTRACTED from the source
(`Gen.S5buildXpcStep`, iterated from `([part_root], None, [])` on the `Partition` objects of the tree), closing the chain

    source --(tools/listprog.py, every run)--> Gen.S5buildXpcStep --(Struct5X.buildXpcStep_as_coded: simulation)--> PostOrder.stepR
      --(PostOrderRLemmas.runR_eq_foldR: the explicit-stack walk with reversed pushes computes the recursive fold in child order,
         distinct objects)--> foldR --(Struct5X.fold_buildXpc)--> buildXpc
      --(Props/C04Xpc.lean: buildXpc_valid, buildXpc_scope, buildXpc_normW, buildXpc_normalised, xpc_sd_laminar)--> specification.

What stays outside: `assign_ids` (relabels ids, semantics unchanged — `Model/AssignIds.lean`); `build_leaf` (opaque in the extracted
loop; instantiated by the model's `buildLeaf` on the exported leaf parameters — tied by the C04 correspondence, exact text);
`generate_random_partitioning` (an oracle: `PartInv`, `sdInvB` are decided on every exported tree); the objects of the tree are
pairwise distinct (`Part.number`: one object per node, which is how `Partition.__init__` builds the tree).
-/
namespace Deeprob.E2EXpc
open Deeprob Deeprob.PostOrder Deeprob.Oblig.Struct5X Deeprob.XC

section loop
variable {α : Type} [Zero α] [One α] [Div α] [NatCast α]

/-- on EVERY partition tree (tagged as the code would tag it or not) the loop of `build_xpc` AS EXTRACTED ends with an empty
`partitions_stack` and returns the recursive fold of the extracted combine over the objects of the tree -/
theorem genBuildXpc_eq_fold (useClt det : Bool) (p : Part α) :
    genBuildXpc useClt det p = some (foldR (xcComb useClt det) (Part.number p 0)) ∧
    (genXpcState useClt det p (2 * sizeR (Part.number p 0))).1 = [] := by
  obtain ⟨l, hl⟩ := buildXpcLoop_as_coded isHorizP rowIdsP XC.children XC.isProduct XC.isSum (fun a b => (a : α) / (b : α))
    XC.mkSum XC.mkProd (buildLeafP useClt det) (Part.number p 0) (ids_number_nodup p 0)
  simp only [genBuildXpc, genXpcState, hl, List.head?_cons, xcComb, and_self]

/-- C04: on every partition tree whose inner nodes have sub-partitions and carry the kind
`is_horizontally_partitioned()` answers for them, the loop of `build_xpc` AS EXTRACTED FROM THE SOURCE ends with an empty
`partitions_stack` and returns (`pc_nodes_stack[0]`) exactly the circuit `buildXpc` of the model. -/
theorem e2e_build_xpc_loop (useClt det : Bool) (p : Part α) (hw : Part.wellTaggedB p = true) :
    genBuildXpc useClt det p = some (buildXpc useClt det p) ∧
    (genXpcState useClt det p (2 * sizeR (Part.number p 0))).1 = [] := by
  obtain ⟨h1, h2⟩ := genBuildXpc_eq_fold useClt det p
  exact ⟨by rw [h1, fold_buildXpc useClt det p hw 0], h2⟩

end loop

section tags
variable {α : Type}

theorem isHorizB_of_ofNode_horiz {rows cols : List Nat} {subs : List (Part α)}
    (h : Part.ofNode rows cols subs = .horiz rows cols subs) : Part.isHorizB rows subs = true := by
  unfold Part.ofNode at h
  split at h
  · assumption
  · cases h

theorem isHorizB_of_ofNode_vert {rows cols : List Nat} {subs : List (Part α)}
    (h : Part.ofNode rows cols subs = .vert rows cols subs) : Part.isHorizB rows subs = false := by
  unfold Part.ofNode at h
  split at h
  · cases h
  · exact Bool.eq_false_iff.2 ‹_›

end tags

section spec
variable {α : Type} [Field α] [LinearOrder α] [IsStrictOrderedRing α]

/-- C04: everything the C04 theorems state about the hand-written model holds for the circuit computed by the
EXTRACTED loop.  For a well-tagged partition tree satisfying the partition invariant, with admissible leaf parameters: the loop
returns a circuit that is smooth and decomposable with every leaf a distribution over its scope, stores duplicate-free scopes, has
the root partition's columns as its scope, positive sum weights summing to one, total mass one — and, when the partitioning follows
the sd discipline of a block list with rooted spanning trees (`learn_xpc(sd=True)`), a laminar family of product / Chow-Liu scopes
(structured decomposability). -/
theorem e2e_build_xpc (dom : Nat → Nat) (hdom : ∀ v, dom v = 2) (useClt det : Bool) (p : Part α)
    (hw : Part.wellTaggedB p = true) (hi : PartInv useClt det p) (hp : ParOK useClt det p) :
    ∃ c, genBuildXpc useClt det p = some c ∧
      Circ.Valid dom c.toCirc ∧ ScopesNodup c ∧
      scopeEq c.scope p.cols ∧ c.scope.Nodup ∧
      Normalised c ∧
      sumOver dom c.scope (fun _ => none) (fun x => Circ.eval x c.toCirc) = 1 ∧
      (∀ (trees : List (List Int)) (scopes : List (List Nat)), Xpc.blocksOkB trees scopes = true →
        Xpc.sdInvB useClt trees scopes p = true → Laminar c.sdScopes) := by
  refine ⟨buildXpc useClt det p, (e2e_build_xpc_loop useClt det p hw).1, (buildXpc_valid dom hdom useClt det p hi hp).1,
    (buildXpc_valid dom hdom useClt det p hi hp).2, (buildXpc_scope useClt det p hi hp).1, (buildXpc_scope useClt det p hi hp).2,
    buildXpc_normW useClt det p hi hp, buildXpc_normalised dom hdom useClt det p hi hp, ?_⟩
  intro trees scopes hb hsd
  exact xpc_sd_laminar useClt det trees scopes p hb hi hp hsd

/-- every horizontal split of the tree has at least two sub-partitions -/
def HorizTwo : Part α → Prop
  | .leaf .. => True
  | .horiz _ _ subs => 2 ≤ subs.length ∧ ∀ s ∈ subs, HorizTwo s
  | .vert _ _ subs => ∀ s ∈ subs, HorizTwo s

/-- the kind recorded at a vertical split is the one `is_horizontally_partitioned()` answers, under the partition invariant;
at a horizontal split it is, as soon as the split has two sub-partitions (a "horizontal" split that found all rows in one
assignment has ONE sub-partition over the same rows: `build_xpc` treats it as vertical, and so does `Part.ofNode`) -/
theorem wellTagged_of_partInv (useClt det : Bool) : (p : Part α) → PartInv useClt det p → HorizTwo p → Part.wellTaggedB p = true := by
  intro p
  induction p using Part.inductOn with
  | leaf => intro _ _; rw [Part.wellTaggedB]
  | horiz rows cols subs ih =>
    intro hi h2
    rw [HorizTwo] at h2
    have hh := isHorizB_of_ofNode_horiz (ofNode_horiz useClt det rows cols subs hi h2.1)
    rw [PartInv] at hi
    obtain ⟨_, _, _, _, hne, _, hsub⟩ := hi
    rw [Part.wellTaggedB, hh, List.isEmpty_eq_false_iff.2 hne,
      (wellTaggedBL_iff subs).2 (fun s hs => ih s hs (hsub s hs).2.2 (h2.2 s hs))]
    rfl
  | vert rows cols subs ih =>
    intro hi h2
    rw [HorizTwo] at h2
    have hh := isHorizB_of_ofNode_vert (ofNode_vert useClt det rows cols subs hi)
    rw [PartInv] at hi
    obtain ⟨_, _, hc, _, hperm, hsub⟩ := hi
    have hne : subs ≠ [] := by
      rintro rfl
      exact hc hperm.symm.eq_nil
    rw [Part.wellTaggedB, hh, List.isEmpty_eq_false_iff.2 hne,
      (wellTaggedBL_iff subs).2 (fun s hs => ih s hs (hsub s hs).2 (h2 s hs))]
    rfl

end spec

/-! non-vacuity on the two example trees of `Props/C04Xpc.lean` (every kind of node; the sd discipline) -/
example : genBuildXpc true true XpcEx.tree = some (buildXpc true true XpcEx.tree) :=
  (e2e_build_xpc_loop true true XpcEx.tree (by decide +kernel)).1

example : ∃ c, genBuildXpc true true XpcEx.tree = some c ∧ Circ.Valid (fun _ => 2) c.toCirc ∧
    sumOver (fun _ => 2) c.scope (fun _ => none) (fun x => Circ.eval x c.toCirc) = 1 ∧
    c.prodScopes = [[0, 2, 1], [0, 1, 2]] := by
  obtain ⟨c, h1, h2, _, _, _, _, h7, _⟩ := e2e_build_xpc (fun _ => 2) (fun _ => rfl) true true XpcEx.tree
    (wellTagged_of_partInv true true _ XpcEx.tree_inv (by
      simp only [XpcEx.tree, HorizTwo, List.forall_mem_cons, List.length_cons, List.length_nil, List.not_mem_nil,
        false_imp_iff, implies_true, and_self, Nat.le_refl, Nat.reduceAdd])) XpcEx.tree_inv XpcEx.tree_par
  have hc : c = buildXpc true true XpcEx.tree := by
    have := (e2e_build_xpc_loop true true XpcEx.tree (by decide +kernel)).1
    rw [this] at h1; exact (Option.some.inj h1).symm
  exact ⟨c, h1, h2, h7, by rw [hc]; decide +kernel⟩

example : ∃ c, genBuildXpc true false XpcSdEx.tree = some c ∧ Laminar c.sdScopes := by
  obtain ⟨c, h1, _, _, _, _, _, _, h8⟩ := e2e_build_xpc (fun _ => 2) (fun _ => rfl) true false XpcSdEx.tree
    (by decide +kernel) XpcSdEx.tree_inv XpcSdEx.tree_par
  exact ⟨c, h1, h8 XpcSdEx.trees XpcSdEx.scopes XpcSdEx.blocks_ok XpcSdEx.tree_sd⟩

/-- the tag hypothesis is needed: a node recorded as a HORIZONTAL split with ONE sub-partition over the same rows is answered
`False` by `is_horizontally_partitioned()` (`len(row_ids) > len(sub_partitions[0].row_ids)` fails), so the code's loop builds a
product where `buildXpc` follows the recorded kind and builds a sum.  (The driver's parser classifies with `Part.ofNode`, so such a
tree never reaches the model from an exported partitioning.) -/
def untagged : Part Rat := .horiz [0, 1] [0] [.leaf [0, 1] [0] true true [] { row0 := [1] }]

theorem wellTagged_needed : Part.wellTaggedB untagged = false ∧
    genBuildXpc true false untagged = some (XC.mkProd [XC.bern 0 0 1]) ∧
    buildXpc true false untagged = XC.mkSum [(2 : Rat) / 2] [XC.mkProd [XC.bern 0 0 1]] := by
  refine ⟨by decide +kernel, ?_, ?_⟩
  · -- the loop returns the fold of the extracted combine over the two objects of the tree; at the root
    -- `is_horizontally_partitioned()` compares 2 rows with 2 rows, so the product branch is taken
    rw [(genBuildXpc_eq_fold true false untagged).1]
    show some (foldR (xcComb true false)
      (.node 0 untagged [.node 1 (.leaf [0, 1] [0] true true [] { row0 := [1] }) []])) = _
    rw [foldR, List.map_cons, foldR]
    rfl
  · rfl

end Deeprob.E2EXpc
