import DeeprobModel.Lemmas.MargLemmas
import DeeprobModel.Props.C09
set_option linter.unusedSectionVars false
set_option linter.unusedSimpArgs false
/-
C10 — structural marginalisation equals marginal inference (tree level).
Model: `Circ.margStep` / `Circ.marginalize` / `margGuard` (Model/Rewrite.lean) mirror structure.py
`marginalize`. Leaves over several variables (Chow-Liu trees in the code, which are converted with
`to_pc()` and marginalised recursively) enter through the parameter `margLeaf` together with the
hypothesis `MargLeafOK` that it is exact on the leaves of the circuit at hand.
The DAG-level model is `marginalizeNet` (Model/RewriteNet.lean).
-/
namespace Deeprob

/-- the evidence `x` with every variable outside `keep` marked missing -/
def Ev.restrict (x : Ev) (keep : List Nat) : Ev := fun v => if v ∈ keep then x v else none

theorem Ev.restrict_out (x : Ev) (keep : List Nat) : ∀ v, v ∉ keep → x.restrict keep v = none := by
  intro v hv; simp only [restrict, hv, ↓reduceIte]

/-- **guards**: the three checks at the top of `marginalize` accept exactly the non-empty,
duplicate-free kept sets that lie inside the root scope -/
theorem marginalize_guards (keep scope : List Nat) :
    margGuard keep scope = none ↔ keep ≠ [] ∧ keep.Nodup ∧ ∀ v ∈ keep, v ∈ scope := by
  rcases margGuard_cases keep scope with ⟨h1, e⟩ | ⟨h1, h2, e⟩ | ⟨h1, h2, h3, e⟩ | ⟨h1, h2, h3, e⟩ <;> rw [e]
  · exact ⟨fun h => (nomatch h), fun h => absurd h1 h.1⟩
  · exact ⟨fun h => (nomatch h), fun h => absurd h.2.1 h2⟩
  · exact ⟨fun h => (nomatch h), fun h => absurd h.2.2 h3⟩
  · exact ⟨fun _ => ⟨h1, h2, h3⟩, fun _ => rfl⟩

/-- which `ValueError` is raised (the checks are made in this order) -/
theorem marginalize_guard_reasons (keep scope : List Nat) :
    (margGuard keep scope = some "empty" ↔ keep = []) ∧
    (margGuard keep scope = some "duplicates" ↔ keep ≠ [] ∧ ¬ keep.Nodup) ∧
    (margGuard keep scope = some "subset" ↔ keep ≠ [] ∧ keep.Nodup ∧ ¬ ∀ v ∈ keep, v ∈ scope) := by
  rcases margGuard_cases keep scope with ⟨h1, e⟩ | ⟨h1, h2, e⟩ | ⟨h1, h2, h3, e⟩ | ⟨h1, h2, h3, e⟩ <;> rw [e]
  · simp [h1]
  · simp [h1, h2]
  · simp [h1, h2, h3]
  · simpa [h1, h2] using h3

example : margGuard [1] [0, 1] = none ∧ margGuard [] [0, 1] = some "empty" ∧
    margGuard [1, 1] [0, 1] = some "duplicates" ∧ margGuard [1, 2] [0, 1] = some "subset" := by decide

namespace Circ
variable {α : Type} [CommSemiring α]

/-- what the theorems assume about the input: a valid normalised circuit with duplicate-free scope
lists, and an exact `margLeaf` on its multi-variable leaves -/
structure MargInput (dom : Nat → Nat) (keep : List Nat)
    (margLeaf : List Nat → (Ev → α) → List Nat → Option (Circ α)) (c : Circ α) : Prop where
  valid : Valid dom c
  normW : NormW c
  leafNorm : LeafNorm dom c
  nodup : ScopesNodup c
  leafOK : MargLeafOK dom keep margLeaf c

variable {dom : Nat → Nat} {keep : List Nat} {margLeaf : List Nat → (Ev → α) → List Nat → Option (Circ α)}
  {c c' : Circ α}

theorem marginalize_some (h : marginalize margLeaf keep c = some c') :
    ∃ r, margStep margLeaf keep c = some r ∧ c' = prune r := by
  unfold marginalize at h
  cases hs : margStep margLeaf keep c with
  | none => rw [hs] at h; simp only [Option.map_none, reduceCtorEq] at h
  | some r => rw [hs] at h; simp only [Option.map_some, Option.some.injEq] at h; exact ⟨r, rfl, h.symm⟩

/-- everything at once: the result of `marginalize` is an exact structural marginal -/
theorem marginalize_res (H : MargInput dom keep margLeaf c) (h : marginalize margLeaf keep c = some c') :
    MargRes dom keep c c' := by
  obtain ⟨r, hr, rfl⟩ := marginalize_some h
  have R := (margStep_ok dom keep margLeaf c H.valid H.normW H.leafNorm H.nodup H.leafOK).2 r hr
  have P := prune_ok dom r R.valid R.nodup
  have N := prune_normalised dom r R.valid R.normW R.leafNorm
  exact { valid := P.1, normW := N.1, leafNorm := N.2, nodup := P.2.1,
          scope_iff := fun v => (P.2.2 v).trans (R.scope_iff v), hit := R.hit,
          eval_eq := fun e he => by
            rw [prune_preserves_eval_valid dom r R.valid R.normW e]; exact R.eval_eq e he }

/-- **C10, value**: whenever every variable outside the kept set is missing, the marginalised circuit
and the original circuit report the same value -/
theorem marginalize_eval (H : MargInput dom keep margLeaf c) (h : marginalize margLeaf keep c = some c')
    (e : Ev) (he : ∀ v, v ∉ keep → e v = none) : eval e c' = eval e c :=
  (marginalize_res H h).eval_eq e he

/-- **C10, value, as stated in the property**: for *every* input `x` the likelihood of the result
equals the original circuit's likelihood with all other variables marked missing -/
theorem marginalize_eval_restrict (H : MargInput dom keep margLeaf c)
    (h : marginalize margLeaf keep c = some c') (x : Ev) :
    eval x c' = eval (x.restrict keep) c := by
  have R := marginalize_res H h
  rw [← R.eval_eq (x.restrict keep) (Ev.restrict_out x keep)]
  apply eval_congr dom c' R.valid
  intro v hv
  have := ((R.scope_iff v).1 hv).2
  simp only [Ev.restrict, this, ↓reduceIte]

/-- … which is the explicit sum of the original circuit over all completions of the other variables -/
theorem marginalize_is_marginal (H : MargInput dom keep margLeaf c)
    (h : marginalize margLeaf keep c = some c') (x : Ev) :
    eval x c' = sumOver dom (scope c) (x.restrict keep) (fun e' => eval e' c) := by
  rw [marginalize_eval_restrict H h x]; exact marg dom c H.valid _

/-- **C10, scope**: the result is a circuit over exactly the kept variables of the original scope -/
theorem marginalize_scope (H : MargInput dom keep margLeaf c) (h : marginalize margLeaf keep c = some c') :
    ∀ v, v ∈ scope c' ↔ v ∈ scope c ∧ v ∈ keep :=
  (marginalize_res H h).scope_iff

theorem marginalize_scope_eq (H : MargInput dom keep margLeaf c) (h : marginalize margLeaf keep c = some c')
    (hsub : ∀ v ∈ keep, v ∈ scope c) : scopeEq (scope c') keep := by
  intro v; rw [marginalize_scope H h v]
  exact ⟨fun h => h.2, fun h => ⟨hsub v h, h⟩⟩

/-- **C10, validity**: the result is valid, its weights and leaves are normalised, scopes duplicate-free -/
theorem marginalize_valid (H : MargInput dom keep margLeaf c) (h : marginalize margLeaf keep c = some c') :
    Valid dom c' ∧ NormW c' ∧ LeafNorm dom c' ∧ ScopesNodup c' :=
  have R := marginalize_res H h
  ⟨R.valid, R.normW, R.leafNorm, R.nodup⟩

/-- **`None` iff no kept variable is in scope** (what `nodes_map[node.id] = None` means) -/
theorem marginalize_none_iff (H : MargInput dom keep margLeaf c) :
    marginalize margLeaf keep c = none ↔ ∀ v ∈ scope c, v ∉ keep := by
  have S := margStep_ok dom keep margLeaf c H.valid H.normW H.leafNorm H.nodup H.leafOK
  unfold marginalize
  cases hs : margStep margLeaf keep c with
  | none => simp only [Option.map_none, true_iff]; exact S.1 hs
  | some r =>
    simp only [Option.map_some]
    constructor
    · intro h; cases h
    · intro h
      obtain ⟨v, hv, hk⟩ := (S.2 r hs).hit
      exact absurd hk (h v hv)

/-- an accepted kept set always yields a circuit -/
theorem marginalize_accepts (H : MargInput dom keep margLeaf c) (hg : margGuard keep (scope c) = none) :
    ∃ c', marginalize margLeaf keep c = some c' := by
  obtain ⟨hne, _, hsub⟩ := (marginalize_guards keep (scope c)).1 hg
  cases hm : marginalize margLeaf keep c with
  | some c' => exact ⟨c', rfl⟩
  | none =>
    obtain ⟨v, hv⟩ := List.exists_mem_of_ne_nil keep hne
    exact absurd hv ((marginalize_none_iff H).1 hm v (hsub v hv))

/-! ### non-vacuity: the circuit of C09 (single-variable leaves only, any `margLeaf`) -/

theorem C09ex.margInput (keep : List Nat) : MargInput C09ex.dom keep (fun _ _ _ => none) C09ex.c :=
  { valid := C09ex.valid_c, normW := C09ex.normW_c, leafNorm := C09ex.leafNorm_c, nodup := C09ex.scopesNodup_c,
    leafOK := by
      simp only [c, MargLeafOK, List.forall_mem_cons, List.not_mem_nil, false_imp_iff, implies_true, and_true, l0, l0',
        l1, margLeafOK_catLeaf] }

theorem C09ex.marg1 : marginalize (fun _ _ _ => none) [1] C09ex.c = some C09ex.l1 := by
  simp only [marginalize, c, one_div, l0, catLeaf, l0', l1, margStep, margProd, margSum, List.filterMap_cons,
    List.contains_eq_mem, List.mem_cons, zero_ne_one, List.not_mem_nil, or_self, decide_false, Bool.false_eq_true,
    ↓reduceIte, List.filterMap_nil, List.filterMap_cons_none, or_false, decide_true, Option.some.injEq,
    List.filterMap_cons_some, Option.map_some, prune]

theorem C09ex.marg0 : marginalize (fun _ _ _ => none) [0] C09ex.c
    = some (.sum [0] [1/2, 1/2] [C09ex.l0, C09ex.l0']) := by
  simp only [marginalize, c, one_div, l0, catLeaf, l0', l1, margStep, margProd, margSum, List.filterMap_cons,
    List.contains_eq_mem, List.mem_cons, List.not_mem_nil, or_false, decide_true, ↓reduceIte, List.filterMap_nil,
    Option.some.injEq, List.filterMap_cons_some, scope_leaf, one_ne_zero, or_self, decide_false, Bool.false_eq_true,
    List.filterMap_cons_none, Option.map_some, prune, rwSum, List.map_cons, List.map_nil, absorbSum, sumKids,
    List.zip_cons_cons, List.zip_nil_right, List.flatten_cons, List.flatten_nil, List.append_nil, List.cons_append,
    List.nil_append]

example : ∀ x : Ev, eval x C09ex.l1 = eval (x.restrict [1]) C09ex.c :=
  marginalize_eval_restrict (C09ex.margInput [1]) C09ex.marg1
example : ∀ x : Ev, eval x (.sum [0] [1/2, 1/2] [C09ex.l0, C09ex.l0'])
    = sumOver C09ex.dom [0, 1] (x.restrict [0]) (fun e' => eval e' C09ex.c) :=
  marginalize_is_marginal (C09ex.margInput [0]) C09ex.marg0
example : scopeEq (scope C09ex.l1) [1] :=
  marginalize_scope_eq (C09ex.margInput [1]) C09ex.marg1 (by simp only [List.mem_cons, List.not_mem_nil, or_false,
    C09ex.c, one_div, scope_prod, forall_eq, one_ne_zero, or_true])
example : Valid C09ex.dom C09ex.l1 ∧ NormW C09ex.l1 ∧ LeafNorm C09ex.dom C09ex.l1 ∧ ScopesNodup C09ex.l1 :=
  marginalize_valid (C09ex.margInput [1]) C09ex.marg1
example : marginalize (fun _ _ _ => none) [7] C09ex.c = none :=
  (marginalize_none_iff (C09ex.margInput [7])).2 (by simp only [C09ex.c, one_div, scope_prod, List.mem_cons,
    List.not_mem_nil, or_false, forall_eq_or_imp, OfNat.zero_ne_ofNat, not_false_eq_true, forall_eq,
    OfNat.one_ne_ofNat, and_self])
example : ∃ c', marginalize (fun _ _ _ => none) [1, 0] C09ex.c = some c' :=
  marginalize_accepts (C09ex.margInput [1, 0]) (by decide)

/-! ### non-vacuity with a genuinely multi-variable leaf (the role Chow-Liu-tree leaves play in the code)
`S{½,½}( L[0,1], P(B₀', B₁) )` where the leaf `L` is the joint distribution `B₀ ⊗ B₁` given as a black-box
function, and `margLeaf` answers `B₀` for the kept set `[0]`. -/
namespace C10ex
open C09ex
def joint : Circ Rat := .prod [0, 1] [l0, l1]
theorem valid_joint : Valid C09ex.dom joint := by simp only [joint, Valid, List.map_cons, scope_l0, scope_l1,
  List.map_nil, List.flatten_cons, List.flatten_nil, List.append_nil, List.cons_append, List.nil_append,
  List.nodup_cons, List.mem_cons, zero_ne_one, List.not_mem_nil, or_self, not_false_eq_true, List.nodup_nil, and_self,
  scopeEq, or_false, implies_true, forall_eq_or_imp, valid_l0, forall_eq, valid_l1]
def L : Circ Rat := .leaf [0, 1] (fun e => eval e joint)
def jc : Circ Rat := .sum [0, 1] [1/2, 1/2] [L, .prod [0, 1] [l0', l1]]
def jMargLeaf : List Nat → (Ev → Rat) → List Nat → Option (Circ Rat) := fun _ _ keep => if keep = [0] then some l0 else none

theorem leafOK_L : LeafOK C09ex.dom [0, 1] (fun e => eval e joint) :=
  { local_ := fun a b h => eval_congr C09ex.dom joint valid_joint a b h,
    marg := fun e => (marg C09ex.dom joint valid_joint e).symm }

theorem margInput : MargInput C09ex.dom [0] jMargLeaf jc :=
  { valid := by simp only [jc, one_div, L, Valid, ne_eq, reduceCtorEq, not_false_eq_true, List.length_cons,
    List.length_nil, zero_add, Nat.reduceAdd, List.mem_cons, List.not_mem_nil, or_false, scopeEq, forall_eq_or_imp,
    scope_leaf, implies_true, forall_eq, scope_prod, and_self, leafOK_L, List.map_cons, scope_l0', scope_l1,
    List.map_nil, List.flatten_cons, List.flatten_nil, List.append_nil, List.cons_append, List.nil_append,
    List.nodup_cons, zero_ne_one, or_self, List.nodup_nil, valid_l0', valid_l1]
    normW := by
      simp only [jc, L, NormW, List.forall_mem_cons, List.not_mem_nil, false_imp_iff, implies_true, and_true, l0', l1,
        normW_catLeaf]
      norm_num [tsum]
    leafNorm := by
      simp only [jc, L, LeafNorm, List.forall_mem_cons, List.not_mem_nil, false_imp_iff, implies_true, and_true, l0',
        l1, leafNorm_catLeaf]
      simp only [joint, eval, l0, l1, catLeaf, catLeafFn, List.map_cons, List.map_nil, lprod, mul_one]
    nodup := by
      simp only [jc, L, ScopesNodup, List.forall_mem_cons, List.not_mem_nil, false_imp_iff, implies_true, and_true, l0',
        l1, scopesNodup_catLeaf]
      decide
    leafOK := by
      simp only [jc, L, MargLeafOK, List.forall_mem_cons, List.not_mem_nil, false_imp_iff, implies_true, and_true, l0',
        l1, margLeafOK_catLeaf]
      refine fun _ => ⟨fun h => (nomatch h), fun c' hc' => ?_⟩
      obtain rfl : l0 = c' := Option.some.inj hc'
      exact { valid := valid_l0, normW := normW_catLeaf _ _, leafNorm := leafNorm_catLeaf _ _ _,
              nodup := scopesNodup_catLeaf _ _,
              scope_iff := fun v => ⟨fun h => ⟨List.mem_cons.2 (Or.inl (List.mem_singleton.1 h)), h⟩, fun h => h.2⟩
              hit := ⟨0, List.mem_cons_self, List.mem_singleton_self 0⟩
              eval_eq := fun e he => by
                have h1 : e 1 = none := he 1 (by decide)
                simp only [l0, catLeaf, eval, catLeafFn, joint, l1, List.map_cons, List.map_nil, lprod, mul_one, h1] } }

theorem marg0 : marginalize jMargLeaf [0] jc = some (.sum [0] [1/2, 1/2] [l0, l0']) := by
  simp only [marginalize, jc, one_div, L, l0', catLeaf, l1, margStep, margSum, jMargLeaf, ↓reduceIte, l0,
    Option.some.injEq, List.filterMap_cons_some, margProd, List.contains_eq_mem, List.mem_cons, List.not_mem_nil,
    or_false, decide_true, one_ne_zero, or_self, decide_false, Bool.false_eq_true, List.filterMap_cons_none,
    List.filterMap_nil, scope_leaf, Option.map_some, prune, rwSum, List.map_cons, List.map_nil, absorbSum, sumKids,
    List.zip_cons_cons, List.zip_nil_right, List.flatten_cons, List.flatten_nil, List.append_nil, List.cons_append,
    List.nil_append]

example : ∀ x : Ev, eval x (.sum [0] [1/2, 1/2] [l0, l0']) = eval (x.restrict [0]) jc :=
  marginalize_eval_restrict margInput marg0
end C10ex

end Circ
end Deeprob
