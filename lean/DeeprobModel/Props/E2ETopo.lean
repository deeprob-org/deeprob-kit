import DeeprobModel.Oblig.Struct5Topo
import DeeprobModel.Props.Topo
import DeeprobModel.Props.C08
/-
End-to-end corollaries for `topological_order` and `topological_order_layered` (structure/node.py; C08, C06, C09, C01): the
property stated about the functions AS EXTRACTED from the source (`genTopo`, `genLayers` of Model/TopoLoop.lean: the extracted
counting prologue, root test, loop iterated, cycle test — `Gen.S5topo…`, `Gen.S5layered…`), closing the chain

    source --(tools/listprog.py, every run)--> Gen.S5topoStep / Gen.S5layeredStep
      --(Struct5T.topoStep_as_coded / layeredStep_as_coded: simulation)--> the modelled Kahn machine (`Net.kahnLoop`, `Sched.layersGo`)
      --(Props/Topo.lean, Props/C08.lean: kahn_sound, kahn_topological, layers_partition, layers_edge_lt)--> specification.

`dfs_post_order` is extracted too (`Gen.S5dfsStep` = the hand-written machine `dfsStepM`: `Struct5T.dfsStep_as_coded`); no order
property is claimed for it: on a DAG with sharing it yields a parent BEFORE a child that an ancestor pushed earlier (witness in
`Oblig/Struct5Topo.lean`); no function of the library calls it.
What stays outside: the identification of node objects with table rows (the exporter), Python's `dict` / `deque` / `set` (read as a
total table / a list / a list queried by membership).
-/
namespace Deeprob.E2ETopo
open Deeprob Deeprob.Net Deeprob.Sched List Deeprob.Oblig.Struct5T

section general
variable {α : Type}

theorem inRange_of_all (t : Net α) (h : t.all (fun x => x.ch.all (fun c => c < t.length)) = true) : InRange t := by
  intro a c hc
  unfold chOf at hc
  cases hx : t[a]? with
  | none => rw [hx] at hc; cases hc
  | some x =>
    rw [hx] at hc
    exact of_decide_eq_true (all_eq_true.1 (all_eq_true.1 h x (mem_of_getElem? hx)) c hc)

/-- the final state of the extracted loop against the final state of the model's loop: same ordering, and every integer counter
of the code equals the (natural) counter of the model — in particular it is not negative. -/
theorem final_state (t : Net α) (root : Nat) (h : InRange t) (h0 : count root (edgesOf t (collect t root)) = 0) :
    (genTopoState t root).1 = [] ∧
    (genTopoState t root).2.2 = (kahnLoop t (t.length + 1) [root] (kahnCounts t root) []).2 ∧
    ∀ v, (genTopoState t root).2.1 v = ((kahnLoop t (t.length + 1) [root] (kahnCounts t root) []).1.getD v 0 : Nat) := by
  obtain ⟨cI', e, r⟩ := topoRun_sim t (t.length + 1) [root] (genTopoCounts t root) (kahnCounts t root) [] (rel_init t root h)
  have hfin := kahn_final t root h h0
  have hloop := kahnLoop_eq_run t (t.length + 1) [root] (kahnCounts t root) []
  have hq := kahnRunM_queue_nil t root (collect t root) (reachOK_of_inRange t root h).closed (t.length + 1) [root]
    (kahnCounts t root) [] (kahn_init t root h h0) (by have := collect_length_le t root h; simp; omega)
  have hcnt := topoRun_counts t (t.length + 1) [root] (genTopoCounts t root) []
  unfold genTopoState
  rw [hloop] at hfin ⊢
  rw [e] at hcnt ⊢
  refine ⟨hq, rfl, fun v => ?_⟩
  -- conservation: code counter + edges into `v` from the ordering = initial counter = edges into `v` from the reachable nodes
  have hcap := capacity t _ _ (by simpa using hfin.nodup) (fun w hw => hfin.sub w (by simpa using hw)) v
  have h1 := hcnt v
  rw [topoInit_as_coded] at h1
  rw [hfin.cnt_eq v, Int.ofNat_sub hcap]
  exact eq_sub_of_add_eq (h1.trans (add_zero _))

/-- C08, C06, C09: on every table whose children reference table rows — acyclic or not — `topological_order` AS
EXTRACTED from the source (counting prologue, root test, `while queue:` loop, cycle test on the sum of the counters) returns exactly
what the model `Net.kahn` returns: the same ordering, or `None` for the same tables. -/
theorem e2e_topo_eq (t : Net α) (root : Nat) (h : InRange t) : genTopo t root = kahn t root := by
  have hk := (kahnCounts_spec t root h).2 root
  have hi : getC (genTopoCounts t root) root = (count root (edgesOf t (collect t root)) : Nat) := by
    rw [topoInit_as_coded]; rfl
  unfold genTopo kahn Gen.S5topoRootGuard Gen.S5topoResult
  simp only [hi, hk]
  by_cases h0 : count root (edgesOf t (collect t root)) = 0
  · obtain ⟨_, hord, hc⟩ := final_state t root h h0
    have hfin := kahn_final t root h h0
    -- the two cycle tests agree: the code's counters are the model's, hence non-negative, and those vanish outside the
    -- reachable nodes
    have htest : sumC (collect t root) (genTopoState t root).2.1 = 0 ↔
        (kahnLoop t (t.length + 1) [root] (kahnCounts t root) []).1.all (fun k => k == 0) = true := by
      rw [all_zero_iff]
      refine ⟨fun hs v => ?_, fun hz => sum_eq_zero (forall_mem_map.2 (fun v _ => by rw [hc v, hz v]; rfl))⟩
      by_cases hv : v ∈ collect t root
      · have := sum_zero_of_nonneg _ (fun x hx => by
          obtain ⟨w, _, rfl⟩ := mem_map.1 hx
          rw [hc w]; exact Int.natCast_nonneg _) hs _ (mem_map.2 ⟨v, hv, rfl⟩)
        rw [hc v] at this
        exact_mod_cast this
      · rw [hfin.cnt_eq v, count_eq_zero.2 (fun hm => ?_), Nat.zero_sub]
        obtain ⟨p, hp, hcp⟩ := mem_flatMap.1 hm
        exact hv ((reachOK_of_inRange t root h).closed p hp v hcp)
    simp only [h0, Nat.cast_zero, bne_self_eq_false, Bool.false_eq_true, if_false, hord, bne_iff_ne, ne_eq, htest, ite_not]
  · have hg : (((count root (edgesOf t (collect t root)) : Nat) : Int) != 0) = true :=
      bne_iff_ne.2 (fun hh => h0 (Int.ofNat_eq_zero.1 hh))
    rw [hg, bne_iff_ne.2 h0, if_pos rfl, if_pos rfl]

/-- C08, no acyclicity assumption: whatever ordering the EXTRACTED `topological_order` returns is duplicate-free,
lists exactly the nodes of `bfs(root)`, starts with the root, and lists every child strictly after each of its parents. -/
theorem e2e_topo_sound (t : Net α) (root : Nat) (h : InRange t) (ord : List Nat) (hg : genTopo t root = some ord) :
    ord.Nodup ∧ (∀ v, v ∈ ord ↔ v ∈ collect t root) ∧ ord.head? = some root ∧
      ∀ p ∈ ord, ∀ c ∈ chOf t p, c ∈ ord ∧ ord.idxOf p < ord.idxOf c :=
  Topo.kahn_sound t root h ord (by rw [← e2e_topo_eq t root h]; exact hg)

/-- C08: `topological_order_layered` AS EXTRACTED is the model `Sched.layers`, on every table and root. -/
theorem e2e_layers_eq (t : Net α) (root : Nat) : genLayers t root = layers t root := genLayers_eq t root

/-- C01, C03 (the node list every traversal starts from): on every table with children in range the generator `bfs` AS
EXTRACTED from the source yields exactly the model's node list `Net.collect` (discovery order, every reachable node once), and its
`while queue:` loop has ended within `length + 1` iterations. -/
theorem e2e_bfs (t : Net α) (root : Nat) (h : InRange t) (hr : root < t.length) :
    genBfs t root = collect t root ∧ (genBfsState t root).1 = [] := by
  obtain ⟨i1, i2, i3, i4⟩ := bfsRun_inv t h (t.length + 1) [root] [root] [] rfl (by simp) (by simpa using hr)
  have hs := bfsRun_seen t (t.length + 1) [root] [root] []
  have hlen := nodup_length_le _ _ i3 i4
  have hq : (genBfsRun t (t.length + 1) ([root], [root], [])).1 = [] := by
    rcases i2 with i2 | i2
    · exact i2
    · exfalso
      rw [i1, length_append] at hlen
      simp at i2
      omega
  unfold genBfs genBfsState
  refine ⟨?_, hq⟩
  rw [hq, append_nil] at i1
  rw [← i1, hs]; rfl

/-- the prologue calls `bfs` on the root only, so it is enough that the root is a row of the table -/
theorem topoInit_genBfs (t : Net α) (root : Nat) (h : InRange t) (hr : root < t.length) :
    Gen.S5topoInit (chOf t) getC setF emptyC (genBfs t) root = indeg t root := by
  unfold Gen.S5topoInit
  rw [(e2e_bfs t root h hr).1]
  exact topoInit_as_coded t root

/-- the counting prologue of `topological_order` with the EXTRACTED `bfs` in the place of its parameter `bfs` computes the model's
in-degree table (composition of `e2e_bfs` with `topoInit_as_coded`) -/
theorem e2e_topo_init_bfs (t : Net α) (root : Nat) (h : InRange t) (hr : ∀ r, r < t.length) :
    Gen.S5topoInit (chOf t) getC setF emptyC (genBfs t) root = indeg t root :=
  topoInit_genBfs t root h (hr root)

end general

section wo
variable {α : Type} [CommSemiring α]

/-- C08, C06, C09, C01: on every well-formed children-first table the EXTRACTED `topological_order` returns an
ordering (never `None`), it is the model's ordering, a permutation of the reachable nodes starting with the root, and every child
of a listed node is listed at a strictly larger position (a topological order). -/
theorem e2e_topo (net : Net α) (root : Nat) (hw : WellOrdered net) (hr : root < net.length) :
    ∃ ord, genTopo net root = some ord ∧ kahn net root = some ord ∧
      ord.Perm (collect net root) ∧ ord.Nodup ∧ ord.head? = some root ∧
      ∀ p ∈ ord, ∀ c ∈ chOf net p, c ∈ ord ∧ ord.idxOf p < ord.idxOf c := by
  obtain ⟨ord, hk⟩ := Topo.kahn_some net root hw hr
  have hin := inRange_of_chLt net (chLt_of_wellOrdered net hw)
  obtain ⟨hp, hnd, hh⟩ := Topo.kahn_perm_collect net root hw hr ord hk
  exact ⟨ord, by rw [e2e_topo_eq net root hin]; exact hk, hk, hp, hnd, hh, Topo.kahn_topological net root hw hr ord hk⟩

/-- on a children-first table the state reached by the iterated extracted step has an empty queue — the
`while queue:` loop of the code has ended there (the iteration count `length + 1` of `genTopoState` is not a truncation). -/
theorem e2e_topo_queue_empty (net : Net α) (root : Nat) (hw : WellOrdered net) : (genTopoState net root).1 = [] := by
  have hwo := chLt_of_wellOrdered net hw
  exact (final_state net root (inRange_of_chLt net hwo) (root_count_zero net root hwo)).1

/-- C06: the top-down MPE pass run in the order the EXTRACTED `topological_order` returns is the tree-level
descent of the unfolding (composition with `Topo.mpeNet_kahn_refines`). -/
theorem e2e_topo_mpe [LinearOrder α] (dom : Nat → Nat) (net : Net α) (dens : List α) (isBern : Nat → Bool)
    (hw : WellOrdered net) (hok : ∀ i (x : NNode α), net[i]? = some x → NodeOK dom net dens i x)
    (root : Nat) (hr : root < net.length) (e : Ev) :
    ∃ ord, genTopo net root = some ord ∧
      (mpeNetOrd ord e dens net root isBern).row = TCirc.mpeDescent e (toTTree net dens isBern (root+1) root) := by
  obtain ⟨ord, hk, hm⟩ := Topo.mpeNet_kahn_refines dom net dens isBern hw hok root hr e
  exact ⟨ord, by rw [e2e_topo_eq net root (inRange_of_chLt net (chLt_of_wellOrdered net hw))]; exact hk, hm⟩

/-- C08: on every well-formed children-first table the EXTRACTED `topological_order_layered` returns layers (never
`None`), they are the model's layers, together they list every reachable node exactly once, and every edge of the reachable graph
leads to a strictly later layer. -/
theorem e2e_layers (net : Net α) (root : Nat) (hw : WellOrdered net) :
    ∃ L, genLayers net root = some L ∧ layers net root = some L ∧
      L.flatten.Nodup ∧ (∀ v, v ∈ L.flatten ↔ v ∈ collect net root) ∧
      ∀ p ∈ collect net root, ∀ c ∈ chOf net p, layerIndex L p < layerIndex L c := by
  obtain ⟨L, hL⟩ := Topo.layers_some' net root hw
  have hR := reachOK_of_wellOrdered net root hw
  obtain ⟨h1, h2⟩ := layers_partition net root L hL hR
  exact ⟨L, by rw [e2e_layers_eq]; exact hL, hL, h1, h2, fun p hp c hc => layers_edge_lt net root L hL hR p c hp hc⟩

end wo

/-! non-vacuity: `C06.exNet` (9 nodes, root 8; the leaves 1 and 2 are children of node 7 at depth 1 AND of the shared node 4 at
depth 2, so a layering by depth would put them one layer too early; the Kahn order differs from the BFS order) -/

example : genTopo C06.exNet 8 = some [8, 5, 6, 7, 3, 4, 0, 1, 2] := by
  rw [e2e_topo_eq C06.exNet 8 (inRange_of_chLt _ (chLt_of_wellOrdered _ C06.exNet_wo))]; decide +kernel

example : ∃ ord, genTopo C06.exNet 8 = some ord ∧ ord.Perm (collect C06.exNet 8) ∧
    ∀ p ∈ ord, ∀ c ∈ chOf C06.exNet p, c ∈ ord ∧ ord.idxOf p < ord.idxOf c := by
  obtain ⟨ord, h1, _, h3, _, _, h6⟩ := e2e_topo C06.exNet 8 C06.exNet_wo (by simp [C06.exNet])
  exact ⟨ord, h1, h3, h6⟩

example : (genTopoState C06.exNet 8).1 = [] := e2e_topo_queue_empty C06.exNet 8 C06.exNet_wo

example : genBfs C06.exNet 8 = collect C06.exNet 8 ∧ genBfs C06.exNet 8 = [8, 5, 6, 7, 0, 4, 3, 1, 2] :=
  ⟨(e2e_bfs C06.exNet 8 (inRange_of_chLt _ (chLt_of_wellOrdered _ C06.exNet_wo)) (by simp [C06.exNet])).1, by decide +kernel⟩

/-- the extracted functions evaluated directly (no theorem in between) -/
example : genTopo C06.exNet 8 = some [8, 5, 6, 7, 3, 4, 0, 1, 2] ∧
    genLayers C06.exNet 8 = some [[8], [5, 6, 7], [3, 4, 0], [1, 2]] := ⟨by decide +kernel, by decide +kernel⟩

/-- the shared leaves 1, 2 come in the LAST layer, after their deeper parent 4 (depth layering would give `[3, 4, 0, 1, 2]`) -/
example : ∃ L, genLayers C06.exNet 8 = some L ∧ layerIndex L 4 < layerIndex L 1 ∧ layerIndex L 7 < layerIndex L 1 := by
  obtain ⟨L, h1, _, _, _, h5⟩ := e2e_layers C06.exNet 8 C06.exNet_wo
  have hc : ∀ v ∈ [4, 7], v ∈ collect C06.exNet 8 := by decide +kernel
  exact ⟨L, h1, h5 4 (hc 4 (by decide)) 1 (by decide), h5 7 (hc 7 (by decide)) 1 (by decide)⟩

/-- the rejection branches of the extracted code are reached: a two-node cycle below the root (cycle test on the sum), and a
cycle through the root (root test) — in both cases the extracted function and the model return `None` -/
example : genTopo ([⟨0, .leaf, [0], [], [], .absent⟩, ⟨1, .prod, [0], [2], [], .absent⟩, ⟨2, .prod, [0], [1, 0], [], .absent⟩,
      ⟨3, .prod, [0], [2], [], .absent⟩] : Net Nat) 3 = none ∧
    genLayers ([⟨0, .leaf, [0], [], [], .absent⟩, ⟨1, .prod, [0], [2], [], .absent⟩, ⟨2, .prod, [0], [1, 0], [], .absent⟩,
      ⟨3, .prod, [0], [2], [], .absent⟩] : Net Nat) 3 = none ∧
    genTopo ([⟨0, .prod, [0], [1], [], .absent⟩, ⟨1, .prod, [0], [0], [], .absent⟩] : Net Nat) 1 = none :=
  ⟨by decide +kernel, by decide +kernel, by decide +kernel⟩

example : genTopo ([⟨0, .leaf, [0], [], [], .absent⟩, ⟨1, .prod, [0], [2], [], .absent⟩, ⟨2, .prod, [0], [1, 0], [], .absent⟩,
      ⟨3, .prod, [0], [2], [], .absent⟩] : Net Nat) 3 =
    kahn ([⟨0, .leaf, [0], [], [], .absent⟩, ⟨1, .prod, [0], [2], [], .absent⟩, ⟨2, .prod, [0], [1, 0], [], .absent⟩,
      ⟨3, .prod, [0], [2], [], .absent⟩] : Net Nat) 3 :=
  e2e_topo_eq _ 3 (inRange_of_all _ (by decide))

end Deeprob.E2ETopo
