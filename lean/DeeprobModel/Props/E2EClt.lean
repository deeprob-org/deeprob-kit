import DeeprobModel.Lemmas.E2ECltLemmas
import DeeprobModel.Props.C13Clt
/-
End-to-end corollaries for binary Chow-Liu trees (C02, C06, C12, C13): the property theorems of `Props/Clt.lean`,
`Props/CltOrder.lean` stated directly about the definitions extracted from the source by the translator, by composing them
with the "as coded" obligations of `Oblig/Struct4Clt*.lean`, `Oblig/StructClt.lean`:

    source --(py2lean)--> Gen.*  --(Oblig: … _as_coded)--> model  --(Props)--> specification.

The generated objects (`genBfs`, `genMessages`, `genValue`, `genMpe`, `genLogLikelihood`, `genToPc`) are defined in
`Lemmas/E2ECltLemmas.lean`, in the linear-domain reading `+ ↦ *`, `0 ↦ 1`, `logsumexp ↦ Σ`, `np.max ↦ max`.  Rows:
`rowList scope n e` is the row of the evidence `e` (column `i` = variable `scope[i]`); every row of length `n` is one
(`rowList_evOfRow`).  All theorems quantify over `WellFormedPred tree` (what `fit`, the learners and `load` produce); each is
followed by a non-vacuity example on the regression tree `[3, 4, 1, -1, 0]` of `Props/CltOrder.lean`.
The loops of `message_passing`, `mpe`, `sample` and `to_pc` as the translator extracts them whole (`Gen.S5clt…`, `Gen.S5toPcStep`)
are the subject of `Props/E2ECltLoop.lean`, `Props/E2ECltSample.lean` and `Props/E2EToPc.lean`, which restate these theorems for them.
-/
namespace Deeprob.E2EClt
open Deeprob Deeprob.Clt
open Deeprob.GraphIo (exTree exCpt exScope exEv exTree_wf exCpt_nonneg)

/-- for every well-formed predecessor vector the GENERATED breadth-first loop (`Gen.S4bfsStep` iterated from
the root, `Struct4.bfsRun`) returns a permutation of the positions that starts with the root and lists every position
after its parent; `reversed(bfs[1:])` — the list `message_passing` walks — is a permutation of the non-root positions with
every child before its parent; the list is THE breadth-first order (concatenation of the levels); and the result does not
depend on the bound put on the `while` loop (any fuel `≥ n`). -/
theorem e2e_bfs (tree : List Int) (hwf : GraphIo.WellFormedPred tree) :
    ∃ r, GraphIo.rootIdx tree = some r ∧
      (genBfs tree r).Perm (List.range tree.length) ∧
      (genBfs tree r).head? = some r ∧
      (∀ i p, i < tree.length → CltFit.parent tree i = some p → (genBfs tree r).idxOf p < (genBfs tree r).idxOf i) ∧
      (genBfs tree r).tail.reverse.Perm ((List.range tree.length).erase r) ∧
      GraphIo.childFirst tree (genBfs tree r).tail.reverse = true ∧
      genBfs tree r = (List.range tree.length).flatMap (GraphIo.level tree r) ∧
      (∀ f, tree.length ≤ f → Struct4.bfsRun tree f [r] [] = genBfs tree r) := by
  obtain ⟨r, h⟩ := GraphIo.WF.of_wf hwf
  exact ⟨r, h.root, genBfs_facts h⟩

example : genBfs exTree 3 = [3, 0, 4, 1, 2] ∧ Struct4.bfsRun exTree 9 [3] [] = [3, 0, 4, 1, 2] ∧
    ∃ r, GraphIo.rootIdx exTree = some r ∧ (genBfs exTree r).Perm (List.range exTree.length) := by
  obtain ⟨r, h1, h2, _⟩ := e2e_bfs exTree exTree_wf
  exact ⟨by decide, by decide, r, h1, h2⟩

section semiring
variable {α : Type} [CommSemiring α]

/-- on every row (binary observed entries) of a well-formed tree the GENERATED
`message_passing` — the extracted upward loop over the reversed GENERATED breadth-first order, then the extracted root step —
writes the row's entry (`some`) and the value is the model's `Clt.value` of the row's evidence. -/
theorem e2e_message_passing_value (tree : List Int) (hwf : GraphIo.WellFormedPred tree) (scope : List Nat)
    (cpt : List (List (List α))) (e : Ev) (hbin : ∀ j, j < tree.length → ∀ o, e (scope.getD j 0) = some o → o < 2)
    (mx : List α → α) :
    ∃ r, GraphIo.rootIdx tree = some r ∧
      genValue cpt tree r Struct4.sumL mx (rowList scope tree.length e)
          ((rowList scope tree.length e).map (fun o => !o.isNone)) "mar" =
        some (Clt.value scope tree cpt e) := by
  obtain ⟨r, h⟩ := GraphIo.WF.of_wf hwf
  exact ⟨r, h.root, genValue_mar h scope cpt e mx hbin⟩

theorem exEv_bin : ∀ v ∈ exScope, ∀ o, exEv v = some o → o < 2 := by
  intro v _ o h
  unfold exEv at h
  split at h
  · cases h; exact Nat.one_lt_two
  · cases h

example : ∃ r, GraphIo.rootIdx exTree = some r ∧
    genValue exCpt exTree r Struct4.sumL Struct4.maxL (rowList exScope exTree.length exEv)
      ((rowList exScope exTree.length exEv).map (fun o => !o.isNone)) "mar" = some (Clt.value exScope exTree exCpt exEv) :=
  e2e_message_passing_value exTree exTree_wf exScope exCpt exEv (bin_at rfl exEv_bin) _

/-- C02 for Chow-Liu trees, about the extracted code: the value the GENERATED
`message_passing` returns for a row with missing entries is the sum, over all completions of the missing variables of the
scope, of the tree's values at the completed rows. -/
theorem e2e_message_passing_marginal (dom : Nat → Nat) (tree : List Int) (hwf : GraphIo.WellFormedPred tree)
    (scope : List Nat) (cpt : List (List (List α))) (hlen : scope.length = tree.length) (hnd : scope.Nodup)
    (hdom : ∀ v ∈ scope, dom v = 2) (e : Ev) (hbin : ∀ v ∈ scope, ∀ o, e v = some o → o < 2) (mx : List α → α) :
    ∃ r, GraphIo.rootIdx tree = some r ∧
      genValue cpt tree r Struct4.sumL mx (rowList scope tree.length e)
          ((rowList scope tree.length e).map (fun o => !o.isNone)) "mar" =
        some (sumOver dom scope e (fun e' => Clt.value scope tree cpt e')) := by
  obtain ⟨r, h⟩ := GraphIo.WF.of_wf hwf
  refine ⟨r, h.root, ?_⟩
  rw [genValue_mar h scope cpt e mx (bin_at hlen hbin), ← Clt.value_marg dom scope tree cpt h.isTree hlen hnd hdom e]

example : genValue exCpt exTree 3 Struct4.sumL Struct4.maxL (rowList exScope exTree.length exEv)
      ((rowList exScope exTree.length exEv).map (fun o => !o.isNone)) "mar" =
        some (sumOver (fun _ => 2) exScope exEv (fun e' => Clt.value exScope exTree exCpt e')) ∧
    rowList exScope exTree.length exEv = [none, none, some 1, none, none] := by
  obtain ⟨r, hr, h⟩ := e2e_message_passing_marginal (fun _ => 2) exTree exTree_wf exScope exCpt rfl (by decide)
    (fun _ _ => rfl) exEv exEv_bin Struct4.maxL
  have : r = 3 := Option.some.inj (hr.symm.trans (by decide))
  subst this
  exact ⟨h, by decide⟩

/-- … and the number the extracted code computes on that row (evaluated by the kernel) -/
example : genValue exCpt exTree 3 Struct4.sumL Struct4.maxL [none, none, some 1, none, none]
    ([none, none, some 1, none, none].map (fun o => !o.isNone)) "mar" = some (3319 / 5000) := by decide +kernel

/-- the same statement for an arbitrary ROW `x` (a list with `none` = NaN) of the right length with binary entries: the
evidence is the one the row stands for -/
theorem e2e_message_passing_marginal_row (dom : Nat → Nat) (tree : List Int) (hwf : GraphIo.WellFormedPred tree)
    (scope : List Nat) (cpt : List (List (List α))) (hlen : scope.length = tree.length) (hnd : scope.Nodup)
    (hdom : ∀ v ∈ scope, dom v = 2) (x : List (Option Nat)) (hx : x.length = tree.length)
    (hbin : ∀ j o, x.getD j none = some o → o < 2) (mx : List α → α) :
    ∃ r, GraphIo.rootIdx tree = some r ∧
      genValue cpt tree r Struct4.sumL mx x (x.map (fun o => !o.isNone)) "mar" =
        some (sumOver dom scope (evOfRow scope x) (fun e' => Clt.value scope tree cpt e')) := by
  have hrow : rowList scope tree.length (evOfRow scope x) = x := by
    rw [← hlen]; exact rowList_evOfRow scope hnd x (by rw [hx, hlen])
  have := e2e_message_passing_marginal dom tree hwf scope cpt hlen hnd hdom (evOfRow scope x)
    (by intro v hv o ho; unfold evOfRow at ho; rw [if_pos hv] at ho; exact hbin _ o ho) mx
  rw [hrow] at this
  exact this

example : ∃ r, GraphIo.rootIdx exTree = some r ∧
    genValue exCpt exTree r Struct4.sumL Struct4.maxL [none, some 0, some 1, none, none]
        ([none, some 0, some 1, none, none].map (fun o => !o.isNone)) "mar" =
      some (sumOver (fun _ => 2) exScope (evOfRow exScope [none, some 0, some 1, none, none])
        (fun e' => Clt.value exScope exTree exCpt e')) :=
  e2e_message_passing_marginal_row (fun _ => 2) exTree exTree_wf exScope exCpt rfl (by decide) (fun _ _ => rfl)
    [none, some 0, some 1, none, none] rfl
    (by intro j o h
        rcases j with _ | _ | _ | _ | _ | j <;> cases h <;> decide) _

end semiring

section maxprod
variable {α : Type} [CommSemiring α] [LinearOrder α] [IsStrictOrderedRing α]

/-- the `reduce='mpe'` instance: the `messages` array the GENERATED upward loop returns with
`np.max` as the reduction holds, at every position `j` and for both values `k` of `j`, the product over the children of `j`
of the max-product messages `upMax` (each of which is the maximum over the completions of the child's sub-tree:
`up_max_eq_maxOver`); in the form `mpe_loop_is_decode` asks for (`Struct4.MsgsOK`): at every node `j` with children `cs` of
the unfolded tree it is `[msgMax … cs 0 e, msgMax … cs 1 e]`. -/
theorem e2e_message_passing_max (tree : List Int) (hwf : GraphIo.WellFormedPred tree) (scope : List Nat)
    (cpt : List (List (List α))) (hc : ∀ i l k, 0 ≤ cptAt cpt i l k) (e : Ev)
    (hbin : ∀ j, j < tree.length → ∀ o, e (scope.getD j 0) = some o → o < 2) (lse : List α → α) :
    ∃ r, GraphIo.rootIdx tree = some r ∧
      (∀ j, j < tree.length →
        (genMessages cpt tree r lse Struct4.maxL (rowList scope tree.length e)
            ((rowList scope tree.length e).map (fun o => !o.isNone)) "mpe").getD j [] =
          [lprod ((Clt.childrenOf tree j).map (fun d => upMax scope cpt (build tree tree.length d) 0 e)),
           lprod ((Clt.childrenOf tree j).map (fun d => upMax scope cpt (build tree tree.length d) 1 e))]) ∧
      Struct4.MsgsOK scope cpt e (build tree tree.length r)
        (genMp cpt tree r lse Struct4.maxL (rowList scope tree.length e)
          ((rowList scope tree.length e).map (fun o => !o.isNone)) false "mpe") := by
  obtain ⟨r, h⟩ := GraphIo.WF.of_wf hwf
  exact ⟨r, h.root, genMessages_mpe_slots h scope cpt hc e lse hbin, genMp_msgsOK h scope cpt hc e lse hbin⟩

example : ∃ r, GraphIo.rootIdx exTree = some r ∧
    Struct4.MsgsOK exScope exCpt exEv (build exTree exTree.length r)
      (genMp exCpt exTree r Struct4.sumL Struct4.maxL (rowList exScope exTree.length exEv)
        ((rowList exScope exTree.length exEv).map (fun o => !o.isNone)) false "mpe") := by
  obtain ⟨r, hr, _, h⟩ := e2e_message_passing_max exTree exTree_wf exScope exCpt exCpt_nonneg exEv
    (bin_at rfl exEv_bin) Struct4.sumL
  exact ⟨r, hr, h⟩

example : genMessages exCpt exTree 3 Struct4.sumL Struct4.maxL [none, none, some 1, none, none]
    ([none, none, some 1, none, none].map (fun o => !o.isNone)) "mpe" =
      [[27 / 100, 297 / 1000], [9 / 10, 1 / 2], [1, 1], [2079 / 10000, 81 / 500], [2 / 5, 27 / 50]] := by decide +kernel

/-- C06 for Chow-Liu trees, about the extracted code: for every well-formed tree, scope without
duplicates, non-negative tables and every row with binary observed entries, the row `y` the GENERATED `mpe` returns
(extracted decoding loop over the generated breadth-first order, fed with the generated max-product messages)
(i) has the length of the input, (ii) keeps every observed entry, (iii) holds a value `< 2` at every position,
(iv) is the model's `Clt.mpe` entry by entry, and (v) ATTAINS THE MAXIMUM of the tree's value over all binary completions
of the evidence. -/
theorem e2e_mpe_is_argmax (tree : List Int) (hwf : GraphIo.WellFormedPred tree) (scope : List Nat)
    (cpt : List (List (List α))) (hc : ∀ i l k, 0 ≤ cptAt cpt i l k)
    (hlen : scope.length = tree.length) (hnd : scope.Nodup) (e : Ev)
    (hbin : ∀ v ∈ scope, ∀ o, e v = some o → o < 2) (lse : List α → α) :
    ∃ r, GraphIo.rootIdx tree = some r ∧
      (genMpe cpt tree r lse Struct4.maxL (rowList scope tree.length e)).length = tree.length ∧
      (∀ j, j < tree.length → ∀ o, (rowList scope tree.length e).getD j none = some o →
        (genMpe cpt tree r lse Struct4.maxL (rowList scope tree.length e)).getD j none = some o) ∧
      (∀ j, j < tree.length → ∃ k, k < 2 ∧
        (genMpe cpt tree r lse Struct4.maxL (rowList scope tree.length e)).getD j none = some k) ∧
      (∀ j, j < tree.length →
        (genMpe cpt tree r lse Struct4.maxL (rowList scope tree.length e)).getD j none =
          Clt.mpe scope tree cpt e (scope.getD j 0)) ∧
      (∀ X : Ev, (∀ v ∈ scope, e v ≠ none → X v = e v) → (∀ v ∈ scope, e v = none → ∃ k, k < 2 ∧ X v = some k) →
        Clt.value scope tree cpt X ≤
          Clt.value scope tree cpt (evOfRow scope (genMpe cpt tree r lse Struct4.maxL (rowList scope tree.length e)))) := by
  obtain ⟨r, h⟩ := GraphIo.WF.of_wf hwf
  obtain ⟨hl, hdec⟩ := genMpe_is_decode h scope cpt hc hlen hnd e lse (bin_at hlen hbin)
  have hmpe : Clt.mpe scope tree cpt e = Clt.decode scope cpt (build tree tree.length r) 0 e := by
    simp only [Clt.mpe, h.rootOf]
  have hlab := lab_perm_scope h scope hlen
  refine ⟨r, h.root, hl, ?_, ?_, fun j hj => by rw [hdec j hj, hmpe], ?_⟩
  · intro j hj o ho
    rw [hdec j hj]
    rw [rowList_getD scope _ e j hj] at ho
    exact decode_keeps_observed scope cpt _ 0 e _ o ho
  · intro j hj
    rw [hdec j hj]
    obtain ⟨k, hk, hlt⟩ := (decode_fills_all scope cpt (build tree tree.length r) 0 e).1 _
      (hlab.mem_iff.2 (getD_mem (hlen ▸ hj) 0))
    exact ⟨k, hlt (fun v hv o ho => hbin v (hlab.mem_iff.1 hv) o ho), hk⟩
  · intro X hobs hmis
    -- the row returned stands for the evidence `Clt.mpe` on the scope, which attains the maximum
    refine le_of_le_of_eq (mpe_attains_max scope tree cpt hc h.isTree hlen hnd e X hobs hmis)
      (value_congr h scope hlen cpt _ _ (fun v hv => ?_))
    rw [evOfRow, if_pos hv, hdec _ (hlen ▸ List.idxOf_lt_length_iff.2 hv), getD_idxOf hv 0, hmpe]

example : ∃ r, GraphIo.rootIdx exTree = some r ∧
    (∀ j, j < exTree.length → (genMpe exCpt exTree r Struct4.sumL Struct4.maxL (rowList exScope exTree.length exEv)).getD j none =
        Clt.mpe exScope exTree exCpt exEv (exScope.getD j 0)) ∧
    (genMpe exCpt exTree r Struct4.sumL Struct4.maxL (rowList exScope exTree.length exEv)).getD 2 none = some 1 := by
  obtain ⟨r, hr, _, hk, _, hd, _⟩ := e2e_mpe_is_argmax exTree exTree_wf exScope exCpt exCpt_nonneg rfl (by decide) exEv
    exEv_bin Struct4.sumL
  exact ⟨r, hr, hd, hk 2 (by decide) 1 (by decide)⟩

/-- the completion the extracted code returns for that row (evaluated by the kernel): column 2 keeps its observed 1 -/
example : genMpe exCpt exTree 3 Struct4.sumL Struct4.maxL [none, none, some 1, none, none] =
    [some 0, some 0, some 1, some 1, some 1] := by decide +kernel

end maxprod

section loglik
variable {α : Type} [CommSemiring α]

/-- the GENERATED `log_likelihood` (the NaN-mask split as extracted, with the generated
`message_passing` plugged in) on ONE row of a batch, whatever the rest of the batch is (`batchAny` = "some row of the batch has
a missing entry", necessarily true when this row has one):
(a) always writes the row's entry, and the value is the tree's value `Clt.value` of the row's evidence — the same function of
    the row on the vectorised path and on the message-passing path, so a batch mixing both kinds of rows is consistent;
(b) that value is the sum over the completions of the missing variables (on a complete row: the value itself);
(c) on a row without missing entries it is the vectorised product `Clt.joint` (root row selected by the LAST column).
Hypothesis kept explicit: the two rows of the root's table are equal (`hroot`; `Clt.root_rows_needed` shows it is needed for
(a) on complete rows). -/
theorem e2e_complete_evidence (dom : Nat → Nat) (tree : List Int) (hwf : GraphIo.WellFormedPred tree)
    (scope : List Nat) (cpt : List (List (List α))) (hlen : scope.length = tree.length) (hnd : scope.Nodup)
    (hdom : ∀ v ∈ scope, dom v = 2)
    (hroot : ∀ r, rootOf tree = some r → ∀ k, cptAt cpt r 0 k = cptAt cpt r 1 k)
    (e : Ev) (hbin : ∀ v ∈ scope, ∀ o, e v = some o → o < 2) (mx : List α → α) (batchAny : Bool) (nRows : Nat)
    (hb : (rowList scope tree.length e).any Option.isNone = true → batchAny = true) :
    ∃ r, GraphIo.rootIdx tree = some r ∧
      genLogLikelihood cpt tree r Struct4.sumL mx batchAny nRows (rowList scope tree.length e) =
        some (Clt.value scope tree cpt e) ∧
      Clt.value scope tree cpt e = sumOver dom scope e (fun e' => Clt.value scope tree cpt e') ∧
      ((rowList scope tree.length e).any Option.isNone = false →
        genLogLikelihood cpt tree r Struct4.sumL mx batchAny nRows (rowList scope tree.length e) =
          some (Clt.joint scope tree cpt (fun v => (e v).getD 0))) := by
  obtain ⟨r, h⟩ := GraphIo.WF.of_wf hwf
  have hjoint := eviSum_complete h scope hlen cpt hroot e (bin_at hlen hbin)
  have hmain : genLogLikelihood cpt tree r Struct4.sumL mx batchAny nRows (rowList scope tree.length e) =
      some (Clt.value scope tree cpt e) := by
    unfold genLogLikelihood
    rw [@Struct4.logLikelihood_as_coded α ⟨1⟩ ⟨(· * ·)⟩ _ _ _ _ _ _ hb]
    cases hm : (rowList scope tree.length e).any Option.isNone with
    | true =>
      -- the message-passing path
      rw [if_pos rfl]
      unfold genMessagePassing
      rw [genValue_mar h scope cpt e mx (bin_at hlen hbin)]; rfl
    | false =>
      -- the vectorised path
      rw [if_neg Bool.false_ne_true, (hjoint hm).1, (hjoint hm).2]
  exact ⟨r, h.root, hmain, Clt.value_marg dom scope tree cpt h.isTree hlen hnd hdom e,
    fun hno => by rw [hmain, (hjoint hno).2]⟩

/-- a complete row of the regression tree -/
def exFull : Ev := fun v => if v = 9 ∨ v = 7 then some 1 else some 0

theorem exRoot : ∀ r, rootOf exTree = some r → ∀ k, cptAt exCpt r 0 k = cptAt exCpt r 1 k := by
  intro r hr k
  have : r = 3 := Option.some.inj (hr.symm.trans (by decide))
  subst this
  unfold cptAt exCpt
  rfl

/-- non-vacuity: one batch holding the row of `exEv` (missing entries: through the generated message passing) and the
complete row `exFull` (vectorised path, in a batch where ANOTHER row has a missing entry, and in a batch without any) -/
example : ∃ r, GraphIo.rootIdx exTree = some r ∧
    genLogLikelihood exCpt exTree r Struct4.sumL Struct4.maxL true 2 (rowList exScope exTree.length exEv) =
      some (Clt.value exScope exTree exCpt exEv) ∧
    genLogLikelihood exCpt exTree r Struct4.sumL Struct4.maxL true 2 (rowList exScope exTree.length exFull) =
      some (Clt.value exScope exTree exCpt exFull) ∧
    genLogLikelihood exCpt exTree r Struct4.sumL Struct4.maxL false 1 (rowList exScope exTree.length exFull) =
      some (Clt.joint exScope exTree exCpt (fun v => (exFull v).getD 0)) ∧
    rowList exScope exTree.length exFull = [some 1, some 0, some 1, some 0, some 0] := by
  have hfb : ∀ v ∈ exScope, ∀ o, exFull v = some o → o < 2 := by
    intro v _ o h; unfold exFull at h; split at h <;> simp at h <;> omega
  have hrow : rowList exScope exTree.length exFull = [some 1, some 0, some 1, some 0, some 0] := by decide
  obtain ⟨r, hr, h1, _, _⟩ := e2e_complete_evidence (fun _ => 2) exTree exTree_wf exScope exCpt rfl (by decide)
    (fun _ _ => rfl) exRoot exEv exEv_bin Struct4.maxL true 2 (fun _ => rfl)
  obtain ⟨r2, hr2, h2, _, _⟩ := e2e_complete_evidence (fun _ => 2) exTree exTree_wf exScope exCpt rfl (by decide)
    (fun _ _ => rfl) exRoot exFull hfb Struct4.maxL true 2 (fun _ => rfl)
  obtain ⟨r3, hr3, _, _, h3⟩ := e2e_complete_evidence (fun _ => 2) exTree exTree_wf exScope exCpt rfl (by decide)
    (fun _ _ => rfl) exRoot exFull hfb Struct4.maxL false 1 (by rw [hrow]; decide)
  have e2 : r2 = r := Option.some.inj (hr2.symm.trans hr)
  have e3 : r3 = r := Option.some.inj (hr3.symm.trans hr)
  subst e2 e3
  exact ⟨_, hr, h1, h2, h3 (by rw [hrow]; decide), hrow⟩

example : genLogLikelihood exCpt exTree 3 Struct4.sumL Struct4.maxL false 1 [some 1, some 0, some 1, some 0, some 0] =
      some (567 / 40000) ∧
    genLogLikelihood exCpt exTree 3 Struct4.sumL Struct4.maxL true 2 [some 1, some 0, some 1, some 0, some 0] =
      some (567 / 40000) ∧
    genLogLikelihood exCpt exTree 3 Struct4.sumL Struct4.maxL true 2 [none, none, some 1, none, none] =
      some (3319 / 5000) := by
  refine ⟨by decide +kernel, by decide +kernel, by decide +kernel⟩

end loglik

section topc
variable {α : Type} [CommSemiring α]

/-- C12: the circuit `to_pc` returns — as far as the GENERATED side determines it — evaluates to
the tree's value on every complete and marginal query, is valid (smooth, decomposable, indicator leaves), structured
decomposable (laminar product scopes) and deterministic on complete evidence; and the value the GENERATED `message_passing`
returns for a row is the value of that circuit (the two sides of the C12 comparison, both read off the source).
Partial in this sense: the generated side used HERE is only constants of the body of `to_pc` — which buffer the `return`
statement reads and with which index (`Gen.toPcReturnBuffer`, `Gen.toPcReturnIndex`), which table row each buffer's sums
carry (`Gen.toPcBufferRows`), how products pair leaves with buffers (`Gen.toPcProducts`, `Gen.toPcSumChildren`,
`Gen.toPcLeafP`) — whose values `StructClt.to_pc_as_coded` states; the post-order stack walk is the hand-written unfolding
`Clt.pc`.  `genToPc` is therefore `Clt.pc` applied to the row(s) selected by the generated constants; the theorem shows that
this selection yields exactly one circuit and that it has the properties.  The stack walk as extracted from the source
(`Gen.S5toPcStep`) is shown to compute `Clt.pc` in `Oblig/Struct5ToPc.lean`, and `E2EToPc.e2e_to_pc` (`Props/E2EToPc.lean`)
states the same properties for the circuit the extracted loop returns. -/
theorem e2e_to_pc_partial (dom : Nat → Nat) (tree : List Int) (hwf : GraphIo.WellFormedPred tree)
    (scope : List Nat) (cpt : List (List (List α))) (hlen : scope.length = tree.length) (hnd : scope.Nodup)
    (hdom : ∀ v ∈ scope, dom v = 2)
    (hroot : ∀ r, rootOf tree = some r → ∀ k, cptAt cpt r 0 k = cptAt cpt r 1 k) :
    ∃ r c, GraphIo.rootIdx tree = some r ∧ genToPc scope tree cpt r = [c] ∧ c = toPc scope tree cpt ∧
      (∀ e : Ev, Circ.eval e c = Clt.value scope tree cpt e) ∧
      (∀ e : Ev, Circ.eval e c = sumOver dom scope e (fun e' => Circ.eval e' c)) ∧
      Circ.Valid dom c ∧
      Laminar (Circ.prodScopes c) ∧
      (∀ e : Ev, (∀ v ∈ scope, e v ≠ none) → Circ.DetAt e c) ∧
      (∀ (e : Ev) (mx : List α → α), (∀ v ∈ scope, ∀ o, e v = some o → o < 2) →
        genValue cpt tree r Struct4.sumL mx (rowList scope tree.length e)
          ((rowList scope tree.length e).map (fun o => !o.isNone)) "mar" = some (Circ.eval e c)) := by
  obtain ⟨r, h⟩ := GraphIo.WF.of_wf hwf
  obtain ⟨heval, hvalid⟩ := toPc_eval dom scope tree cpt r h.rootOf (hroot r h.rootOf)
  have hlab := lab_perm_scope h scope hlen
  refine ⟨r, toPc scope tree cpt, h.root, Oblig.StructClt.toPc_row scope tree cpt r h.rootOf, rfl, heval, ?_,
    hvalid h.isTree hlen hnd hdom, ?_, ?_, ?_⟩
  · intro e
    rw [heval e, Clt.value_marg dom scope tree cpt h.isTree hlen hnd hdom e]
    exact congrArg _ (funext (fun e' => (heval e').symm))
  · rw [toPc_build h]
    exact (pc_structured scope cpt _ 1).2.2 (hlab.nodup_iff.2 hnd)
  · intro e hcomp
    rw [toPc_build h]
    exact pc_deterministic scope cpt e _ 1 (fun v hv => hcomp v (hlab.mem_iff.1 hv))
  · intro e mx hbin
    rw [genValue_mar h scope cpt e mx (bin_at hlen hbin), heval e]

example : ∃ r c, GraphIo.rootIdx exTree = some r ∧ genToPc exScope exTree exCpt r = [c] ∧
    Circ.Valid (fun _ => 2) c ∧ Laminar (Circ.prodScopes c) ∧
    Circ.eval exEv c = Clt.value exScope exTree exCpt exEv ∧ Clt.value exScope exTree exCpt exEv = 3319 / 5000 := by
  obtain ⟨r, c, h1, h2, _, h4, _, h6, h7, _, _⟩ := e2e_to_pc_partial (fun _ => 2) exTree exTree_wf exScope exCpt rfl
    (by decide) (fun _ _ => rfl) exRoot
  exact ⟨r, c, h1, h2, h6, h7, h4 exEv, GraphIo.exValue⟩

end topc

/-- C13: saving an admissible Chow-Liu object and loading the document gives an object with the
same scope, predecessor vector and root whose `bfs` — recomputed by the constructor with `compute_bfs_ordering` — is the list
the GENERATED breadth-first loop returns on the ORIGINAL vector; hence (by `e2e_bfs`) a parent-first permutation, and all
passes of the reloaded object walk the same order as those of the original. -/
theorem e2e_clt_roundtrip_bfs (o : GraphIo.CltObj) (ha : GraphIo.Admissible o) :
    ∃ d o' r, GraphIo.cltEncode o = some d ∧ GraphIo.cltDecode d = some o' ∧
      o'.scope = o.scope ∧ o'.tree = o.tree ∧ o'.root = some r ∧ o.root = some r ∧
      o'.bfs = some (genBfs o.tree r) ∧ o.bfs = some (genBfs o.tree r) ∧
      (genBfs o.tree r).Perm (List.range o.tree.length) := by
  obtain ⟨d, o', h1, h2, h3, h4, h5, _, h7, _⟩ := GraphIo.cltDecode_encode o ha
  obtain ⟨r, h⟩ := GraphIo.WF.of_wf ha.wf
  have hg := genBfs_eq h
  exact ⟨d, o', r, h1, h2, h3, h4, h5.trans h.root, h.root, h7.trans hg, hg, (genBfs_facts h).1⟩

example : ∃ d o', GraphIo.cltEncode GraphIo.exObj = some d ∧ GraphIo.cltDecode d = some o' ∧
    o'.bfs = some (genBfs GraphIo.exObj.tree 3) ∧ genBfs GraphIo.exObj.tree 3 = [3, 0, 4, 1, 2] := by
  obtain ⟨d, o', r, h1, h2, _, _, _, hr, h7, _⟩ := e2e_clt_roundtrip_bfs GraphIo.exObj GraphIo.exObj_admissible
  have : r = 3 := Option.some.inj (hr.symm.trans (by decide))
  subst this
  exact ⟨d, o', h1, h2, h7, by decide⟩

end Deeprob.E2EClt
