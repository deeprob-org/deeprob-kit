import DeeprobModel.Lemmas.TopDownExample
set_option linter.unusedSectionVars false
/-
C06 (circuit part) — "An MPE query returns its input with every missing entry replaced by a value of
that variable's domain and every observed entry unchanged … for a general circuit it is the
completion reached by following, at each sum node, the child with the largest weighted evidence
likelihood and filling leaves with their modes, and it has positive probability whenever the
evidence has."

`mpeDescent e c` (Model/TopDown.lean) is that completion, defined as the code computes it
(`eval_top_down` with `sum_mpe` / `leaf_mpe`).  Witness of every example: `TCirc.exT`
(3 variables, domains 2,3,2, root = 3-child sum), evidence `exE = [·, 0, ·]`.
-/
namespace Deeprob
open TD
namespace C06
open TCirc

section general
variable {α : Type} [CommSemiring α] [LinearOrder α] [IsStrictOrderedRing α]

/-- every entry of the MPE row is the input entry, or the input entry was missing and now holds a
value of the variable's domain (needs only that each leaf's `mode` obeys the leaf contract). -/
theorem mpe_entrywise (dom : Nat → Nat) (c : TCirc α) (hm : ModeOK dom c) (e : Ev) (v : Nat) :
    FillsVar dom e (mpeDescent e c) v :=
  pass_step (mpeBr e) mpeFill dom v c hm [] e

example : ∀ v, FillsVar exDom exE (mpeDescent exE exT) v := mpe_entrywise exDom exT exT_ok.2.1 exE

/-- **observed entries are unchanged** -/
theorem mpe_keeps_observed (dom : Nat → Nat) (c : TCirc α) (hm : ModeOK dom c) (e : Ev) :
    ∀ v, e v ≠ none → mpeDescent e c v = e v :=
  fun v h => (mpe_entrywise dom c hm e v).keeps h

example : mpeDescent exE exT 1 = some 0 :=
  mpe_keeps_observed exDom exT exT_ok.2.1 exE 1 (by decide)

/-- **missing entries are replaced by domain values only** -/
theorem mpe_in_domain (dom : Nat → Nat) (c : TCirc α) (hm : ModeOK dom c) (e : Ev) :
    ∀ v k, mpeDescent e c v = some k → e v = some k ∨ (e v = none ∧ k < dom v) := by
  intro v k h
  rcases mpe_entrywise dom c hm e v with h1 | ⟨h1, k', hk', h2⟩
  · exact Or.inl (h1 ▸ h)
  · rw [h2] at h; cases h; exact Or.inr ⟨h1, hk'⟩

example : ∀ v k, mpeDescent exE exT v = some k → exE v = some k ∨ (exE v = none ∧ k < exDom v) :=
  mpe_in_domain exDom exT exT_ok.2.1 exE

/-- **every variable of the root scope gets a value** -/
theorem mpe_fills_scope (dom : Nat → Nat) (c : TCirc α) (hv : Circ.Valid dom c.toCirc) (hm : ModeOK dom c) (e : Ev) :
    ∀ v ∈ c.scope, mpeDescent e c v ≠ none :=
  fun v h => pass_fills (mpeBr e) mpeFill dom v c hv (mpeBr_ok dom e c hv) hm [] e h

example : ∀ v ∈ [0, 1, 2], mpeDescent exE exT v ≠ none :=
  mpe_fills_scope exDom exT exT_ok.1 exT_ok.2.1 exE

/-- **nothing outside the root scope is touched** -/
theorem mpe_outside_scope_unchanged (dom : Nat → Nat) (c : TCirc α) (hv : Circ.Valid dom c.toCirc) (e : Ev) :
    ∀ v, v ∉ c.scope → mpeDescent e c v = e v :=
  fun v h => pass_outside (mpeBr e) mpeFill dom v c hv [] e h

example : mpeDescent exE exT 7 = exE 7 :=
  mpe_outside_scope_unchanged exDom exT exT_ok.1 exE 7 (by decide)

/-- the MPE row is a completion of the evidence on the root scope -/
theorem mpe_completes (dom : Nat → Nat) (c : TCirc α) (hv : Circ.Valid dom c.toCirc) (hm : ModeOK dom c) (e : Ev) :
    Completes c.scope e (mpeDescent e c) :=
  ⟨mpe_keeps_observed dom c hm e, mpe_fills_scope dom c hv hm e⟩

example : Completes exT.scope exE (mpeDescent exE exT) := mpe_completes exDom exT exT_ok.1 exT_ok.2.1 exE

/-- **one leaf per variable.** In the sub-circuit induced by ANY choice `br` of one child per sum node
(for every path `p` from which the visit is started) the scopes of the reached leaves are pairwise
disjoint and their union is the scope of the root: the leaf writes of one pass never overlap and
cover the whole scope. -/
theorem topdown_one_leaf_per_var (dom : Nat → Nat) (c : TCirc α) (hv : Circ.Valid dom c.toCirc)
    (br : List Nat → List α → List (TCirc α) → Nat) (hb : BrOK br c) (p : List Nat) :
    (reached br p c).Pairwise List.Disjoint ∧ scopeEq (reached br p c).flatten c.scope :=
  reached_partition br dom c hv hb p

example : (reached (mpeBr exE) [] exT).Pairwise List.Disjoint ∧ scopeEq (reached (mpeBr exE) [] exT).flatten exT.scope :=
  topdown_one_leaf_per_var exDom exT exT_ok.1 (mpeBr exE) (mpeBr_ok exDom exE exT exT_ok.1) []

/-- the same with `∃!`: every variable of the root scope lies in the scope of exactly one reached leaf
(`i` = position of that leaf in visiting order) -/
theorem topdown_one_leaf_per_var_unique (dom : Nat → Nat) (c : TCirc α) (hv : Circ.Valid dom c.toCirc)
    (br : List Nat → List α → List (TCirc α) → Nat) (hb : BrOK br c) (p : List Nat) :
    ∀ v ∈ c.scope, ∃! i : Nat, ∃ s : List Nat, (reached br p c)[i]? = some s ∧ v ∈ s := by
  intro v hvs
  obtain ⟨hpw, heq⟩ := reached_partition br dom c hv hb p
  obtain ⟨s, hs, hvs'⟩ := List.mem_flatten.1 ((heq v).2 hvs)
  obtain ⟨i, hi⟩ := List.getElem?_of_mem hs
  refine ⟨i, ⟨s, hi, hvs'⟩, ?_⟩
  rintro j ⟨t, hj, hvt⟩
  -- two different positions would hold disjoint scopes, both containing `v`
  by_contra hne
  obtain ⟨hil, rfl⟩ := List.getElem?_eq_some_iff.1 hi
  obtain ⟨hjl, rfl⟩ := List.getElem?_eq_some_iff.1 hj
  rw [List.pairwise_iff_getElem] at hpw
  rcases Nat.lt_or_gt_of_ne hne with h | h
  · exact hpw j i hjl hil h hvt hvs'
  · exact hpw i j hil hjl h hvs' hvt

example : ∀ v ∈ exT.scope, ∃! i : Nat, ∃ s : List Nat, (reached (mpeBr exE) [] exT)[i]? = some s ∧ v ∈ s :=
  topdown_one_leaf_per_var_unique exDom exT exT_ok.1 (mpeBr exE) (mpeBr_ok exDom exE exT exT_ok.1) []

/-- the arg-max rule of `sum_mpe` is a legal choice on every valid circuit -/
theorem mpe_choice_legal (dom : Nat → Nat) (c : TCirc α) (hv : Circ.Valid dom c.toCirc) (e : Ev) : BrOK (mpeBr e) c :=
  mpeBr_ok dom e c hv

example : BrOK (mpeBr exE) exT := mpe_choice_legal exDom exT exT_ok.1 exE

/-- **the MPE completion has positive value whenever the evidence has** (weights and leaf values
non-negative; each leaf's mode positive whenever the leaf's evidence value is) -/
theorem mpe_positive (dom : Nat → Nat) (c : TCirc α) (hv : Circ.Valid dom c.toCirc) (hn : NonNeg c) (hl : LeafPos c)
    (e : Ev) (h : 0 < eval e c) : 0 < eval (mpeDescent e c) c :=
  pass_mpe_pos dom e c hv hn hl [] e (fun _ _ => rfl) h

example : 0 < eval (mpeDescent exE exT) exT :=
  mpe_positive exDom exT exT_ok.1 exT_ok.2.2.1 exT_ok.2.2.2.1 exE (by rw [exT_eval_e]; norm_num)

end general

section leaves
variable {α : Type} [CommSemiring α] [LinearOrder α] [IsStrictOrderedRing α]

/-- Categorical leaf (`mode` = first arg-max of the table, `Categorical.mpe`) -/
theorem cat_leaf_ok (dom : Nat → Nat) (v : Nat) (tbl : List α) (hl : tbl.length = dom v) (hs : tsum tbl = 1)
    (h0 : ∀ x ∈ tbl, 0 ≤ x) :
    Circ.Valid dom (catT v tbl).toCirc ∧ ModeOK dom (catT v tbl) ∧ NonNeg (catT v tbl) ∧ LeafPos (catT v tbl) ∧
      LeafExact (catT v tbl) := catT_ok dom v tbl hl hs h0

example : ModeOK exDom (catT 1 [(1:Rat)/3, 1/3, 1/3]) :=
  (cat_leaf_ok exDom 1 [(1:Rat)/3, 1/3, 1/3] rfl (by decide +kernel) (by decide +kernel)).2.1

/-- Bernoulli leaf (`mode` = `0 if p < 0.5 else 1`, `Bernoulli.mpe`) -/
theorem bern_leaf_ok (dom : Nat → Nat) (v : Nat) (tbl : List α) (hl : tbl.length = 2) (hd : dom v = 2)
    (hs : tsum tbl = 1) (h0 : ∀ x ∈ tbl, 0 ≤ x) :
    Circ.Valid dom (bernT v tbl).toCirc ∧ ModeOK dom (bernT v tbl) ∧ NonNeg (bernT v tbl) ∧ LeafPos (bernT v tbl) ∧
      LeafExact (bernT v tbl) := bernT_ok dom v tbl hl hd hs h0

example : ModeOK exDom (bernT 0 [(1:Rat)/2, 1/2]) :=
  (bern_leaf_ok exDom 0 [(1:Rat)/2, 1/2] rfl rfl (by decide +kernel) (by decide +kernel)).2.1

/-- a tie of a Categorical table goes to the first category … -/
example : catMode 0 [(1:Rat)/2, 1/2] (fun _ => none) 0 = some 0 := by decide +kernel
/-- … a tied Bernoulli (`p = 1/2`) goes to 1, as coded -/
example : bernMode 0 [(1:Rat)/2, 1/2] (fun _ => none) 0 = some 1 := by decide +kernel

end leaves

/-- the concrete MPE row of the witness: `[·,0,·] ↦ [1,0,1]` -/
example : (List.range 4).map (mpeDescent exE exT) = [some 1, some 0, some 1, none] := exT_mpe

end C06
end Deeprob
