import DeeprobModel.Lemmas.ExpandClt
import DeeprobModel.Lemmas.CltExample
import DeeprobModel.Props.C10Net
set_option linter.unusedSectionVars false
set_option linter.unusedSimpArgs false
set_option linter.unusedVariables false
/-
C10 at DAG level with Chow-Liu-tree leaves (`marginalizeNetClt`, Model/RewriteNetClt.lean): the code's
`nodes_map[node.id] = marginalize(node.to_pc(), clt_scope, copy=False)` for `BinaryCLT` leaves, modelled by converting
every Chow-Liu leaf to the table of its `to_pc()` (`Clt.pcNet`, with the sharing the code creates) before the pass.
-/
namespace Deeprob
open Net Clt

/-! ### example: `P( CLT over {7,2,9,4}, Bernoulli(1) )`, the Chow-Liu tree of `Lemmas/CltExample.lean` -/
namespace C10c
def net : Net Rat :=
  [ { id := 1, kind := .leaf, scope := Ex.scope, ch := [], ws := [], leaf := .clt Ex.pred Ex.cpt },
    { id := 2, kind := .leaf, scope := [1], ch := [], ws := [], leaf := .cat 1 [1/3, 2/3] },
    { id := 0, kind := .prod, scope := [7, 2, 9, 4, 1], ch := [0, 1], ws := [], leaf := .absent } ]

def view (r : Except String (Net Rat × List Nat)) : List (Kind × List Nat × List Nat × List Rat) :=
  match r with
  | .ok p => p.1.map (fun x => (x.kind, x.scope, x.ch, x.ws))
  | .error _ => []

theorem cltOK : CltOK Ex.scope Ex.pred Ex.cpt :=
  { tree := Ex.isTree_eq, len := Ex.scope_len, rootRows := Ex.root_rows
    rows := by
      intro r hr j hj l hl
      rw [Ex.root_eq] at hr
      have : r = 0 := by simpa using hr.symm
      subst this
      rw [Ex.build_eq] at hj
      exact Ex.rows j hj l hl }

theorem wellOrdered : WellOrdered net := (wellOrderedB_iff net).1 (by decide +kernel)
theorem sumOK : NetSumOK net := netSumOK_of_forall_mem net (by decide +kernel)
theorem nodeOK : ∀ (i : Nat) (x : NNode Rat), net[i]? = some x → XNodeOK net x := by
  have key : ∀ x ∈ net, XNodeOK net x := by
    unfold net
    simp only [List.forall_mem_cons, List.not_mem_nil, false_imp_iff, implies_true, and_true]
    exact ⟨Or.inr ⟨_, _, rfl, cltOK⟩, Or.inl ⟨1, rfl, Or.inl ⟨_, rfl⟩⟩, scopeEq.rfl'⟩
  exact fun _ x hx => key x (List.mem_of_getElem? hx)

/-- the result for `keep = [2, 9, 1]`: what the code returns (kinds, scopes, child order, weights, sharing of the four
indicator leaves between the two rows) — `P( S{.3,.7}( P(S₉⁰, S₂⁰), P(S₉¹, S₂¹) ), Bernoulli(1) )`; and for
`keep = [4]`: `S{229/500, 271/500}` over the two indicator leaves of variable 4 -/
theorem results :
    view (marginalizeNetClt [2, 9, 1] net 2) =
      [(.leaf, [9], [], []), (.leaf, [9], [], []), (.sum, [9], [0, 1], [1/2, 1/2]),
       (.leaf, [2], [], []), (.leaf, [2], [], []), (.sum, [2], [3, 4], [1/5, 4/5]),
       (.prod, [9, 2], [2, 5], []),
       (.sum, [9], [0, 1], [9/10, 1/10]), (.sum, [2], [3, 4], [3/5, 2/5]), (.prod, [9, 2], [7, 8], []),
       (.sum, [9, 2], [6, 9], [3/10, 7/10]), (.leaf, [1], [], []), (.prod, [9, 2, 1], [10, 11], [])] ∧
    view (marginalizeNetClt [4] net 2) =
      [(.leaf, [4], [], []), (.leaf, [4], [], []), (.sum, [4], [0, 1], [229/500, 271/500])] := by
  -- `pcNet` is compiled by well-founded recursion: unfold it with its equation before the kernel evaluates
  constructor <;>
  · unfold marginalizeNetClt expandWith net
    simp only [List.foldl_cons, List.foldl_nil, expandStep, toPcNet, Ex.root_eq, Ex.build_eq]
    unfold Ex.tree
    simp only [pcNet_node, List.map_cons, List.map_nil, List.isEmpty_cons, List.isEmpty_nil, if_true, if_false,
      pcScope, Bool.false_eq_true]
    decide +kernel
end C10c

variable {α : Type} [CommSemiring α]

/-- **C10 at DAG level with Chow-Liu leaves, value**: whenever `marginalizeNetClt` returns a table, its root (last
entry) has, under every evidence in which all variables outside the kept set are missing, the value the original table
— Chow-Liu leaves evaluated by message passing (`Clt.value`) — has at `root`. The densities of continuous leaves are
read at the indices of the expanded table (`(expandWith dens net).2.2`).
Hypotheses: children-first storage; every sum has one weight per child and weights summing to one; sums non-empty and
smooth, product scopes = union of the child scopes; leaves are single-variable table / density leaves or well-formed
Chow-Liu leaves (`CltOK`: rooted spanning tree, equal root rows, normalised rows). -/
theorem marginalizeNetClt_eval (keep : List Nat) (net : Net α) (root : Nat)
    (hw : WellOrdered net) (hs : NetSumOK net)
    (hn : ∀ (i : Nat) (x : NNode α), net[i]? = some x → XNodeOK net x)
    (hr : root < net.length) (out : Net α) (order : List Nat)
    (h : marginalizeNetClt keep net root = .ok (out, order))
    (e : Ev) (he : ∀ v, v ∉ keep → e v = none) (dens : List α) :
    out ≠ [] ∧
    nval e (order.map (fun i => (expandWith dens net).2.2.getD i 0)) out (out.length - 1) = nval e dens net root := by
  have I := xinv_final net dens e hw hs hn
  obtain ⟨i1, i2⟩ := expandWith_indep [] dens net
  unfold marginalizeNetClt at h
  simp only [i1, i2] at h
  generalize expandWith dens net = X at h I
  have hroot : X.2.1.getD root 0 < X.1.length := I.map_lt root hr
  have key := marginalizeNetWith_eval true keep X.1 (X.2.1.getD root 0) I.ok.wo I.ok.sumOK I.ok.nodeOK hroot
    out order h e he X.2.2
  refine ⟨key.1, ?_⟩
  rw [key.2, I.val root hr, List.take_length]

example : ∃ out order, marginalizeNetClt [2, 9, 1] C10c.net 2 = .ok (out, order) ∧
    ∀ (e : Ev) (dens : List Rat), (∀ v, v ∉ [2, 9, 1] → e v = none) →
      nval e (order.map (fun i => (expandWith dens C10c.net).2.2.getD i 0)) out (out.length - 1)
        = nval e dens C10c.net 2 := by
  cases h : marginalizeNetClt [2, 9, 1] C10c.net 2 with
  | error s =>
    have := C10c.results.1
    rw [h] at this; simp [C10c.view] at this
  | ok r =>
    exact ⟨r.1, r.2, rfl, fun e dens he =>
      (marginalizeNetClt_eval [2, 9, 1] C10c.net 2 C10c.wellOrdered C10c.sumOK C10c.nodeOK (by decide) r.1 r.2 h e he
        dens).2⟩

/-- the expansion alone: every node of the expanded table has the value of the node it stands for, for every
evidence (no restriction to the kept variables), and the expanded table satisfies the hypotheses of
`marginalizeNetWith_eval` / `pruneNetWith_eval` -/
theorem expandWith_eval (net : Net α) (hw : WellOrdered net) (hs : NetSumOK net)
    (hn : ∀ (i : Nat) (x : NNode α), net[i]? = some x → XNodeOK net x) (e : Ev) (dens : List α) (i : Nat)
    (hi : i < net.length) :
    nval e (expandWith dens net).2.2 (expandWith dens net).1 ((expandWith dens net).2.1.getD i 0) = nval e dens net i ∧
    TableOK (expandWith dens net).1 := by
  have I := xinv_final net dens e hw hs hn
  refine ⟨?_, I.ok⟩
  rw [I.val i hi, List.take_length]

example : ∀ (e : Ev) (dens : List Rat),
    nval e (expandWith dens C10c.net).2.2 (expandWith dens C10c.net).1 ((expandWith dens C10c.net).2.1.getD 2 0)
      = nval e dens C10c.net 2 :=
  fun e dens => (expandWith_eval C10c.net C10c.wellOrdered C10c.sumOK C10c.nodeOK e dens 2 (by decide)).1

end Deeprob
