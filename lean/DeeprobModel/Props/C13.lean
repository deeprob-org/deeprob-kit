import DeeprobModel.Spec.Io
set_option linter.unusedSimpArgs false
set_option linter.unusedVariables false
/-
C13 — the JSON round trip preserves structure and parameters (`deeprob/spn/structure/io.py`).
Guards vs. fit/EM clamps (`fit_loadable_*`, `weights_loadable`) are obligations on generated code: `Oblig/C13.lean`.
-/
namespace Deeprob.C13
open Deeprob

/-- rounding to 8 decimals moves a number by at most ½·10⁻⁸ (ties included) -/
theorem round8_err (q : ℚ) : |round8 q - q| ≤ 1 / (2 * 10 ^ 8) := Deeprob.round8_err q

example : round8 (1/3) = 33333333 / 100000000 ∧ round8 (1/512) = 195312 / 100000000 ∧ round8 (3/512) = 585938 / 100000000 := by
  refine ⟨?_, ?_, ?_⟩ <;> decide +kernel

/-- a rounded number is a fixed point of the writer -/
theorem round8_idem (q : ℚ) : round8 (round8 q) = round8 q := Deeprob.round8_idem q

example : round8 (round8 (2/3)) = round8 (2/3) := round8_idem _

/-- for every model with distinct ids in which no node lists the same child twice, loading
what was saved — the links taken in *any* order, as `graph.edges` / the JSON file may list them — succeeds and
yields exactly the model with rounded float parameters: same ids, kinds, scopes, children in the same order,
every weight / parameter within ½·10⁻⁸. Any number of nodes, any arity, DAGs with sharing included. -/
theorem decode_encode (m : Model) (h : NoRepeat m) (es : List Edge) (hp : es.Perm (encode m).edges) :
    ∃ m', decode { nodes := (encode m).nodes, edges := es } = some m' ∧
      m'.map shape = m.map shape ∧ Close8 m m' := by
  refine ⟨m.map roundNode, decode_perm_encode m h es hp, ?_, close8_round m⟩
  rw [List.map_map]; exact List.map_congr_left fun n _ => rfl

/-- the document as written, links in insertion order -/
theorem decode_encode_id (m : Model) (h : NoRepeat m) : decode (encode m) = some (m.map roundNode) :=
  decode_perm_encode m h _ (List.Perm.refl _)

/-- a DAG: sum over two products sharing the leaf with id 3 -/
def exM : Model :=
  [⟨0, "Sum", [0, 1], [1/3, 2/3], [], [1, 2]⟩,
   ⟨1, "Product", [0, 1], [], [], [3, 4]⟩,
   ⟨2, "Product", [0, 1], [], [], [5, 3]⟩,
   ⟨3, "Bernoulli", [0], [], [1/7], []⟩,
   ⟨4, "Gaussian", [1], [], [1/3, 1/100000], []⟩,
   ⟨5, "Bernoulli", [1], [], [5/8], []⟩]

theorem exM_noRepeat : NoRepeat exM := ⟨by decide, by decide⟩

example : ∃ m', decode (encode exM) = some m' ∧ m'.map shape = exM.map shape ∧ Close8 exM m' :=
  decode_encode exM exM_noRepeat (encode exM).edges (List.Perm.refl _)

/-- links re-ordered as a digraph iterates them (grouped by child) still load to the same model -/
def exEdgesByChild : List Edge := [⟨1, 0, 0⟩, ⟨2, 0, 1⟩, ⟨3, 1, 0⟩, ⟨3, 2, 1⟩, ⟨4, 1, 1⟩, ⟨5, 2, 0⟩]

example : decode { nodes := (encode exM).nodes, edges := exEdgesByChild } = some (exM.map roundNode) := by
  apply decode_perm_encode exM exM_noRepeat
  decide +kernel

/-- a reloaded model is a fixed point of save ∘ load, at the level of exact rationals.
Gap: the reload stores sum weights and array parameters as float32 and the next save rounds those floats again
(`f32 ∘ round8` on the float grid) — float storage is not modelled here; `Io32.gen_stable` (`Props/C13Gen.lean`)
is the statement with float storage. -/
theorem gen_idempotent_partial (m : Model) (h : NoRepeat m) :
    decode (encode (m.map roundNode)) = some (m.map roundNode) := by
  rw [decode_encode_id _ (h.map roundNode (fun _ => rfl) (fun _ => rfl)), List.map_map]
  exact congrArg some (List.map_congr_left fun n _ => roundNode_idem n)

example : decode (encode (exM.map roundNode)) = some (exM.map roundNode) := gen_idempotent_partial exM exM_noRepeat

/-- the witness of `repeated_child_loses_edge` (finding F15 of DESIGN.md §7, recorded as known):
a sum node that lists the same child object twice — accepted
by the constructors and by `check_spn` — is written to a simple digraph that keeps one link for the pair
(child 1, parent 0), carrying the last `idx`; loading leaves slot 0 empty (`None`). -/
def exRepeated : Model :=
  [⟨0, "Sum", [0], [1/2, 1/2], [], [1, 1]⟩, ⟨1, "Bernoulli", [0], [], [1/3], []⟩]

theorem repeated_child_loses_edge :
    (insertedEdges exRepeated).length = 2 ∧ (encode exRepeated).edges = [⟨1, 0, 1⟩] ∧
    childrenOf (encode exRepeated).edges 0 = [none, some 1] ∧ decode (encode exRepeated) = none := by
  refine ⟨by decide, by decide, by decide, ?_⟩
  decide +kernel

end Deeprob.C13
