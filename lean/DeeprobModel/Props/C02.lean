import DeeprobModel.Props.C01
/-
C02 — NaN marginals equal the sum over all completions. Property theorems only.
-/
namespace Deeprob
variable {α : Type} [CommSemiring α]

/-- the value the bottom-up pass returns for a row with missing entries equals the explicit sum,
over every completion of the missing entries of the root scope, of the complete-evidence values —
row by row, any missing pattern, trees and DAGs, any leaf that is a distribution (`LeafOK`:
Bernoulli, Categorical, Chow-Liu-tree leaves by `Clt.clt_leafOK`) -/
theorem C02_marginal (dom : Nat → Nat) (net : Net α) (dens : List α) (hw : WellOrdered net)
    (hok : ∀ i (x : NNode α), net[i]? = some x → NodeOK dom net dens i x)
    (root : Nat) (hr : root < net.length) (e : Ev) :
    (evalNet e dens net).getD root 0
      = sumOver dom (scopeOf net root) e (fun e' => (evalNet e' dens net).getD root 0) := by
  have hv := valid_toTree dom net dens hw hok root hr
  rw [evalNet_refines e dens net hw root hr, Circ.marg dom _ hv e, scope_toTree net dens root root hr]
  apply sumOver_congr; intro e' _
  exact (evalNet_refines e' dens net hw root hr).symm

/-- a row with every variable missing has likelihood one (log-likelihood zero) -/
theorem C02_all_missing (dom : Nat → Nat) (net : Net α) (dens : List α) (hw : WellOrdered net)
    (hok : ∀ i (x : NNode α), net[i]? = some x → NodeOK dom net dens i x)
    (hnw : NetNormW net) (hln : NetLeafNorm net dens) (root : Nat) (hr : root < net.length) :
    (evalNet (fun _ => none) dens net).getD root 0 = 1 := by
  rw [evalNet_refines _ dens net hw root hr]
  exact Circ.all_missing_one dom _ (valid_toTree dom net dens hw hok root hr)
    (normW_toTree net dens hw hnw root hr) (leafNorm_toTree dom net dens hw hln root hr)

/-- the equation of `C02_marginal`, computed on the shared-leaf DAG of C01: the marginal over variable 2 with variable 0 observed -/
example : (evalNet (Ev.ofList [some 1, none, none]) [] exNet).getD 5 0
    = sumOver (fun v => if v = 1 then 0 else 2) [0, 2] (Ev.ofList [some 1, none, none])
        (fun e' => (evalNet e' [] exNet).getD 5 0) := by decide +kernel

end Deeprob
