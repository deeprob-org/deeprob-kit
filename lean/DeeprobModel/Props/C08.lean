import DeeprobModel.Model.Sched
import DeeprobModel.Lemmas.SchedLemmas
import DeeprobModel.Lemmas.LayersLemmas
import Mathlib.Data.List.Perm.Basic
/-
C08 — parallel evaluation equals sequential evaluation under every schedule.

Model: `Model/Sched.lean`. A layer is a list of tasks, a task a list of atomic actions; joblib may run the
tasks of one layer concurrently, i.e. execute any `Interleaving` of their action lists.
-/
namespace Deeprob.Sched
open List

/-- C08, top-down pass, with `masks[row] |= …` as one atomic action (the library holds a lock around it since the
fix of finding F6 of DESIGN.md §7; `nonatomic_lost_update` is what happens without the lock).
For every interleaving `σ` of the tasks' action lists, the final
tables equal those of the sequential execution, provided every pair of actions of different tasks is
`compat`: they touch different arrays / rows / cells, or both are atomic OR-updates `masks[row] |= …`
(commutative, associative, idempotent) that do not read a row the other one writes. -/
theorem topdown_atomic_schedule_indep (ts : List (List Act)) (σ : List Act) (hi : Interleaving ts σ)
    (hc : ts.Pairwise (fun t u => ∀ a ∈ t, ∀ b ∈ u, compat a b = true)) (s : SState) :
    run s σ = run s ts.flatten :=
  run_interleaving ts σ hi (hc.imp (fun h a ha b hb => compat_comm a b (h a ha b hb))) s

/-- idempotence: a duplicated OR-update (a parent listing the same child twice) changes nothing -/
theorem orInto_idem (s : SState) (r : Nat) (v : Mask) :
    apply (apply s (.orInto r v)) (.orInto r v) = apply s (.orInto r v) := by
  simp only [apply, setF_same, setF_setF, orMask_idem]

/-- two parents (tasks 1, 2 = nodes 1, 2) of one shared child (row 3), each also writing an own cell -/
def exTasks : List (List Act) :=
  [[.orFrom 3 1 (some [true, false]), .setCell 0 0 5], [.orFrom 3 2 none, .orInto 4 [true, true]]]

/-- non-vacuity: a two-parent / one-child layer, and a genuinely interleaved schedule of it -/
example : ∃ σ, Interleaving exTasks σ ∧ σ ≠ exTasks.flatten ∧
    exTasks.Pairwise (fun t u => ∀ a ∈ t, ∀ b ∈ u, compat a b = true) := by
  refine ⟨[.orFrom 3 2 none, .orFrom 3 1 (some [true, false]), .orInto 4 [true, true], .setCell 0 0 5], ?_, ?_, ?_⟩
  · refine Interleaving.step [[.orFrom 3 1 (some [true, false]), .setCell 0 0 5]] _ [.orInto 4 [true, true]] []
      rfl rfl ?_
    refine Interleaving.step [] _ [.setCell 0 0 5] [[.orInto 4 [true, true]]] rfl rfl ?_
    refine Interleaving.step [[.setCell 0 0 5]] _ [] [] rfl rfl ?_
    refine Interleaving.step [] _ [] [[]] rfl rfl ?_
    exact Interleaving.nil _ (by simp)
  · exact fun h => by injection h with h _; injection h with _ h _; cases h
  · decide

/-- When the modelled `topological_order_layered` returns `some L`: the layers are
duplicate-free and pairwise disjoint (`L.flatten.Nodup`) and contain exactly the nodes of
`collect n root` — every reachable node lies in exactly one layer, exactly once. -/
theorem layers_partition {α : Type} (n : Net α) (root : Nat) (L : List (List Nat))
    (h : layers n root = some L) (hR : ReachOK n root (Net.collect n root)) :
    L.flatten.Nodup ∧ ∀ v, v ∈ L.flatten ↔ v ∈ Net.collect n root :=
  ⟨(layers_spec n root L h hR).1, (layers_spec n root L h hR).2.1⟩

theorem mem_layerIndex {L : List (List Nat)} {v : Nat} (hv : v ∈ L.flatten) :
    ∃ h : layerIndex L v < L.length, v ∈ L[layerIndex L v] := by
  obtain ⟨A, hA, hvA⟩ := mem_flatten.1 hv
  have hi : layerIndex L v < L.length :=
    findIdx_lt_length_of_exists ⟨A, hA, by simpa using hvA⟩
  exact ⟨hi, by simpa [layerIndex] using findIdx_getElem (w := hi)⟩

/-- Every edge `p → c` of the reachable graph leads to a strictly later layer. -/
theorem layers_edge_lt {α : Type} (n : Net α) (root : Nat) (L : List (List Nat))
    (h : layers n root = some L) (hR : ReachOK n root (Net.collect n root))
    (p c : Nat) (hp : p ∈ Net.collect n root) (hc : c ∈ Net.chOf n p) :
    layerIndex L p < layerIndex L c := by
  obtain ⟨_, hmem, hpw, hself⟩ := layers_spec n root L h hR
  obtain ⟨hi, hpi⟩ := mem_layerIndex ((hmem p).2 hp)
  obtain ⟨hj, hcj⟩ := mem_layerIndex ((hmem c).2 (hR.closed p hp c hc))
  refine Nat.lt_of_le_of_ne (Nat.le_of_not_lt fun hlt => ?_) (fun heq => ?_)
  · exact pairwise_iff_getElem.1 hpw _ _ hj hi hlt p hpi c hc hcj
  · simp only [← heq] at hcj
    exact hself _ (getElem_mem hi) p hpi c hc hcj

/-- a diamond with a shared leaf: node 3 (root) → 1, 2 → 0, children-first table -/
def exNet : Net Nat :=
  [{ id := 3, kind := .leaf, scope := [0], ch := [], ws := [], leaf := .absent },
   { id := 1, kind := .prod, scope := [0], ch := [0], ws := [], leaf := .absent },
   { id := 2, kind := .prod, scope := [0], ch := [0], ws := [], leaf := .absent },
   { id := 0, kind := .sum, scope := [0], ch := [1, 2], ws := [1, 1], leaf := .absent }]

theorem exNet_layers : layers exNet 3 = some [[3], [1, 2], [0]] := by decide +kernel
theorem exNet_reachOK : ReachOK exNet 3 (Net.collect exNet 3) := (reachOKB_iff exNet 3 _).1 (by decide +kernel)

example : layers exNet 3 = some [[3], [1, 2], [0]] := exNet_layers
example : ReachOK exNet 3 (Net.collect exNet 3) := exNet_reachOK

/-- the `eval_forward` task of node `i`: `ls[i] = f_i(ls[c] for c in children)` -/
def buTask {α : Type} (n : Net α) (f : Nat → List (List Int) → List Int) (i : Nat) : Act :=
  .evalRow i (Net.chOf n i) (f i)

/-- the tasks of one layer write pairwise distinct rows and read no row written in the layer -/
theorem bu_compat {α : Type} (n : Net α) (root : Nat) (L : List (List Nat))
    (h : layers n root = some L) (hR : ReachOK n root (Net.collect n root))
    (f : Nat → List (List Int) → List Int) (A : List Nat) (hA : A ∈ L) (i j : Nat) (hi : i ∈ A) (hj : j ∈ A)
    (hij : i ≠ j) : compat (buTask n f i) (buTask n f j) = true := by
  obtain ⟨_, _, _, hself⟩ := layers_spec n root L h hR
  exact (compat_evalRow_evalRow ..).2 ⟨hij, fun hc => hself A hA i hi j hc hj, fun hc => hself A hA j hj i hc hi⟩

/-- **C08 (bottom-up).** Writes go to pairwise distinct rows and no task of a layer reads a row written in
that layer (`layers_edge_lt`), hence every interleaving of the tasks of a layer of
`topological_order_layered` yields the tables of the sequential execution. -/
theorem bottomup_schedule_indep {α : Type} (n : Net α) (root : Nat) (L : List (List Nat))
    (h : layers n root = some L) (hR : ReachOK n root (Net.collect n root))
    (f : Nat → List (List Int) → List Int) (A : List Nat) (hA : A ∈ L)
    (σ : List Act) (hi : Interleaving (A.map (fun i => [buTask n f i])) σ) (s : SState) :
    run s σ = run s (A.map (buTask n f)) := by
  have hnd : A.Nodup := (nodup_flatten.1 (layers_spec n root L h hR).1).1 A hA
  have hpw : (A.map (fun i => [buTask n f i])).Pairwise (fun t u => ∀ a ∈ t, ∀ b ∈ u, compat a b = true) := by
    rw [pairwise_map]
    refine Pairwise.imp_of_mem ?_ hnd
    intro i j hi hj hij a ha b hb
    rw [mem_singleton] at ha hb; subst ha; subst hb
    exact bu_compat n root L h hR f A hA i j hi hj hij
  have hflat : (A.map (fun i => [buTask n f i])).flatten = A.map (buTask n f) := by
    rw [← flatMap_def, ← map_eq_flatMap]
  rw [topdown_atomic_schedule_indep _ σ hi hpw s, hflat]

/-- the same for schedules given as permutations (each task is a single action) -/
theorem bottomup_schedule_indep_perm {α : Type} (n : Net α) (root : Nat) (L : List (List Nat))
    (h : layers n root = some L) (hR : ReachOK n root (Net.collect n root))
    (f : Nat → List (List Int) → List Int) (A : List Nat) (hA : A ∈ L)
    (σ : List Act) (hσ : σ.Perm (A.map (buTask n f))) (s : SState) :
    run s σ = run s (A.map (buTask n f)) := by
  unfold run
  refine hσ.foldl_eq' ?_ s
  intro a ha b hb s
  rw [hσ.mem_iff] at ha hb
  obtain ⟨i, hi, rfl⟩ := mem_map.1 ha
  obtain ⟨j, hj, rfl⟩ := mem_map.1 hb
  by_cases hij : i = j
  · subst hij; rfl
  · exact compat_comm _ _ (bu_compat n root L h hR f A hA i j hi hj hij) s

/-- non-vacuity: the middle layer `[1, 2]` of the diamond, executed in the other order -/
example (s : SState) (f : Nat → List (List Int) → List Int) :
    run s [buTask exNet f 2, buTask exNet f 1] = run s ([1, 2].map (buTask exNet f)) :=
  bottomup_schedule_indep_perm exNet 3 [[3], [1, 2], [0]] exNet_layers exNet_reachOK f [1, 2]
    (mem_cons_of_mem _ (mem_cons_self ..)) _ (Perm.swap _ _ _) s

/-- two parents (tasks 1 and 2), one shared child (row 3), batch of two samples; parent 1 routes sample 0,
parent 2 routes sample 1 -/
def lostInit : NState := { masks := fun _ => [false, false], reg := fun _ => [] }
def lostSchedule : List NAct := [.read 1 3, .read 2 3, .write 1 3 [true, false], .write 2 3 [false, true]]
def lostSeq : List NAct := splitOr 1 3 [true, false] ++ splitOr 2 3 [false, true]

/-- With `masks[c.id] |= …` split into its read and its write, there is an
interleaving of the two parents' actions whose final table differs from the sequential one: the update of
parent 1 is lost (sample 0 never reaches the child). -/
theorem nonatomic_lost_update :
    Interleaving [splitOr 1 3 [true, false], splitOr 2 3 [false, true]] lostSchedule ∧
    (nrun lostInit lostSchedule).masks 3 = [false, true] ∧
    (nrun lostInit lostSeq).masks 3 = [true, true] ∧
    (nrun lostInit lostSchedule).masks ≠ (nrun lostInit lostSeq).masks := by
  refine ⟨?_, by decide, by decide, ?_⟩
  · refine Interleaving.step [] _ [.write 1 3 [true, false]] [[.read 2 3, .write 2 3 [false, true]]] rfl rfl ?_
    refine Interleaving.step [[.write 1 3 [true, false]]] _ [.write 2 3 [false, true]] [] rfl rfl ?_
    refine Interleaving.step [] _ [] [[.write 2 3 [false, true]]] rfl rfl ?_
    refine Interleaving.step [[]] _ [] [] rfl rfl ?_
    exact Interleaving.nil _ (by simp)
  · intro h
    have := congrFun h 3
    revert this; decide

/-- the atomic model on the same layer: both orders give `[true, true]` -/
example : (run ⟨fun _ => [false, false], fun _ _ => 0, fun _ => []⟩
    [.orInto 3 [false, true], .orInto 3 [true, false]]).masks 3 = [true, true] := by decide

theorem okPair_iff (a b : Access) :
    okPair a b = true ↔
      (conflict a b = true → a.kind = .or ∧ b.kind = .or ∧ a.locked = true ∧ b.locked = true) := by
  unfold okPair
  cases conflict a b <;> simp [and_assoc]

/-- what `disciplinedB` decides: whenever accesses of two different tasks of the layer conflict (same array, a common
cell, not both reads), both are OR-updates made under the lock -/
theorem disciplinedB_iff (layer : List TaskTrace) :
    disciplinedB layer = true ↔
      ∀ t ∈ layer, ∀ u ∈ layer, t.task ≠ u.task → ∀ a ∈ t.acts, ∀ b ∈ u.acts,
        conflict a b = true → a.kind = .or ∧ b.kind = .or ∧ a.locked = true ∧ b.locked = true := by
  unfold disciplinedB
  simp only [all_eq_true, Bool.or_eq_true, beq_iff_eq, okPair_iff, or_iff_not_imp_left, ne_eq]

/-- a tolerated pair of accesses to a common cell of one array, not both reads, is a pair of OR-updates -/
theorem okPair_kinds {x y : Access} (h : okPair x y = true) (harr : x.array = y.array) {c : Nat × Nat}
    (hx : c ∈ x.cells) (hy : c ∈ y.cells) (hw : x.kind ≠ .read ∨ y.kind ≠ .read) :
    x.kind = .or ∧ y.kind = .or := by
  have hc : conflict x y = true := by
    simp only [conflict, Access.isWrite, Bool.and_eq_true, Bool.or_eq_true, beq_iff_eq, any_eq_true,
      contains_iff_mem, bne_iff_ne]
    exact ⟨⟨harr, c, hx, hy⟩, hw⟩
  exact ⟨((okPair_iff x y).1 h hc).1, ((okPair_iff x y).1 h hc).2.1⟩

/-- a disciplined pair of model actions is `compat`: were two rows (cells) equal, an access of the one and an
access of the other would meet in that row, one of them a plain read or write -/
theorem compat_of_ok (la lb : Bool) (a b : Act)
    (h : ∀ x ∈ a.accesses la, ∀ y ∈ b.accesses lb, okPair x y = true) : compat a b = true := by
  have fst : ∀ {z : Access} {l : List Access}, z ∈ z :: l := mem_cons_self ..
  have snd : ∀ {z w : Access} {l : List Access}, w ∈ z :: w :: l := mem_cons_of_mem _ (mem_cons_self ..)
  have cell : ∀ {c : Nat × Nat}, c ∈ [c] := mem_singleton_self _
  cases a with
  | orInto r v =>
    cases b with
    | orInto _ _ | setCell _ _ _ | evalRow _ _ _ => rfl
    | orFrom d s sel =>
      rw [compat_orInto_orFrom]
      rintro rfl
      exact nomatch (okPair_kinds (h _ fst _ fst) rfl cell cell (Or.inl nofun)).2
  | orFrom d s sel =>
    cases b with
    | setCell _ _ _ | evalRow _ _ _ => rfl
    | orInto r' v' =>
      rw [compat_orFrom_orInto]
      rintro rfl
      exact nomatch (okPair_kinds (h _ fst _ fst) rfl cell cell (Or.inr nofun)).1
    | orFrom d' s' sel' =>
      rw [compat_orFrom_orFrom]
      refine ⟨?_, ?_⟩ <;> rintro rfl
      · exact nomatch (okPair_kinds (h _ snd _ fst) rfl cell cell (Or.inl nofun)).2
      · exact nomatch (okPair_kinds (h _ fst _ snd) rfl cell cell (Or.inr nofun)).1
  | setCell r c v =>
    cases b with
    | orInto _ _ | orFrom _ _ _ | evalRow _ _ _ => rfl
    | setCell r' c' v' =>
      rw [compat_setCell_setCell]
      rintro ⟨rfl, rfl⟩
      exact nomatch (okPair_kinds (h _ fst _ fst) rfl cell cell (Or.inl nofun)).1
  | evalRow i rs f =>
    cases b with
    | orInto _ _ | orFrom _ _ _ | setCell _ _ _ => rfl
    | evalRow j rs' f' =>
      rw [compat_evalRow_evalRow]
      refine ⟨?_, fun hm => ?_, fun hm => ?_⟩
      · rintro rfl
        exact nomatch (okPair_kinds (h _ snd _ snd) rfl cell cell (Or.inl nofun)).1
      · exact nomatch (okPair_kinds (h _ fst _ snd) rfl (mem_map.2 ⟨j, hm, rfl⟩) cell (Or.inr nofun)).1
      · exact nomatch (okPair_kinds (h _ snd _ fst) rfl cell (mem_map.2 ⟨i, hm, rfl⟩) (Or.inl nofun)).2

/-- If the recorded traces of a layer (= the access lists of the model's
tasks, which the harness compares with the hook's records) pass the discipline check, the hypothesis of
`topdown_atomic_schedule_indep` holds, hence every interleaving equals the sequential execution. -/
theorem disciplined_imp_indep (tasks : List MTask) (hid : (tasks.map (·.task)).Nodup)
    (hd : disciplinedB (tasks.map MTask.trace) = true) :
    (tasks.map (·.acts)).Pairwise (fun t u => ∀ a ∈ t, ∀ b ∈ u, compat a b = true) ∧
    ∀ σ, Interleaving (tasks.map (·.acts)) σ → ∀ s, run s σ = run s (tasks.map (·.acts)).flatten := by
  have hpw : (tasks.map (·.acts)).Pairwise (fun t u => ∀ a ∈ t, ∀ b ∈ u, compat a b = true) := by
    rw [pairwise_map]
    refine Pairwise.imp_of_mem ?_ (pairwise_map.1 hid)
    intro t u ht hu htu a ha b hb
    refine compat_of_ok t.locked u.locked a b fun x hx y hy => (okPair_iff x y).2 ?_
    exact (disciplinedB_iff _).1 hd _ (mem_map.2 ⟨t, ht, rfl⟩) _ (mem_map.2 ⟨u, hu, rfl⟩) htu
      x (mem_flatMap.2 ⟨a, ha, hx⟩) y (mem_flatMap.2 ⟨b, hb, hy⟩)
  exact ⟨hpw, fun σ hi s => topdown_atomic_schedule_indep _ σ hi hpw s⟩

/-- non-vacuity: the two-parent layer with the lock held is disciplined; without the lock it is not -/
def exLayer (locked : Bool) : List MTask :=
  [{ task := 1, locked := locked, acts := [.orFrom 3 1 (some [true, false])] },
   { task := 2, locked := locked, acts := [.orFrom 3 2 none] }]
example : disciplinedB ((exLayer true).map MTask.trace) = true := by decide
example : disciplinedB ((exLayer false).map MTask.trace) = false := by decide
example : ((exLayer true).map (·.task)).Nodup := by decide

end Deeprob.Sched
