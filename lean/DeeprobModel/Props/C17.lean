import DeeprobModel.Lemmas.TensorCirc
import Mathlib.Algebra.Ring.Rat
import Mathlib.Tactic.NormNum
/-
C17 — DGC-SPNs are smooth, decomposable and normalised.

Accepted configurations: `DgcSpn.accepted h w n_pooling` = the shape guards of `DgcSpn.__init__`
(square input `D × D`, `0 ≤ n_pooling ≤ depth` with `depth = ⌈log₂ D⌉ = clog2 D`).  `D ≤ 2^depth` holds
by the definition of `depth` (`dgc_size`, last conjunct) and is what makes the one-sided `final`
padding non-negative and the last product layer cover everything.  "Pooling stages divide the image
side evenly" is the hypothesis `2^p ∣ D`.

1-D scopes: `stage D p dw i` is the list of the 1-D pixel-coordinate scopes of the cells after the
first `i` product layers (the same list for rows and columns; the 2-D scope of cell `(r, c)` is the
rectangle `stage[r] × stage[c]` over all input channels, see `GInv`).
-/
namespace Deeprob
namespace DgcSpn

/-- spatial sizes.  After `i ≤ p` pooling layers: `⌊D/2^i⌋`; after `p` pooling layers
and `k` dilated (`full`) layers: `⌊D/2^p⌋ + 2^k - 1`; after the last (`final`) layer: `2^(depth-p)`;
and `D ≤ 2^depth`. -/
theorem dgc_size (D p : Nat) (dw : Nat → Bool) (hp : p ≤ clog2 D) :
    (∀ i, (stage D p dw i).length = sizeAfter D p dw i) ∧
    (∀ i, i ≤ p → sizeAfter D p dw i = D / 2 ^ i) ∧
    (∀ k, p + k ≤ clog2 D → sizeAfter D p dw (p + k) = D / 2 ^ p + 2 ^ k - 1) ∧
    sizeAfter D p dw (clog2 D + 1) = 2 ^ (clog2 D - p) ∧ D ≤ 2 ^ clog2 D := by
  refine ⟨stage_length D p dw, ?_, ?_, ?_, (clog2_spec D).1⟩
  · intro i hi; rw [← stage_length]; exact (stage_pool D p dw i hi).1
  · intro k hk; rw [← stage_length]; exact (stage_full D p dw k hk).1
  · rw [← stage_length]; exact (stage_final_layer D p dw hp).1

/-- non-vacuity: a 6×6 image, one pooling stage: sizes 6 → 3 → 4 → 6 → 4 -/
example : accepted 6 6 1 = true ∧ clog2 6 = 3 ∧
    (List.range 5).map (sizeAfter 6 1 (fun _ => true)) = [6, 3, 4, 6, 4] := by decide +kernel

/-- after `p` pooling layers and `k` dilated layers (dilations `1, 2, …, 2^(k-1)`)
cell `j` covers exactly the pixel coordinates `x` whose pooled coordinate `c = ⌊x/2^p⌋` satisfies
`0 ≤ c < ⌊D/2^p⌋` and `j - 2^k + 1 ≤ c ≤ j`; each of them once.  (Holds for every `j`, also beyond the
grid, where the scope is empty.) -/
theorem dgc_scope_1d (D p : Nat) (dw : Nat → Bool) (hp : p ≤ clog2 D) (k : Nat) (hk : p + k ≤ clog2 D) (j : Nat) :
    (∀ x, x ∈ (stage D p dw (p + k)).getD j [] ↔
      (x / 2 ^ p < D / 2 ^ p ∧ x / 2 ^ p ≤ j ∧ j < x / 2 ^ p + 2 ^ k)) ∧
    ((stage D p dw (p + k)).getD j []).Nodup :=
  ⟨(stage_full D p dw k hk).2 j, stage_nodup D p dw hp (p + k) (by omega) j⟩

/-- without pooling: cell `j` after `k` layers covers `[j - 2^k + 1, j] ∩ [0, D)` -/
theorem dgc_scope_1d_nopool (D : Nat) (dw : Nat → Bool) (k : Nat) (hk : k ≤ clog2 D) (j x : Nat) :
    x ∈ (stage D 0 dw k).getD j [] ↔ (x < D ∧ x ≤ j ∧ j < x + 2 ^ k) := by
  have := (stage_full D 0 dw k (by omega)).2 j x
  rwa [Nat.zero_add, Nat.pow_zero, Nat.div_one, Nat.div_one] at this

example : stage 6 1 (fun _ => true) 3 = [[0, 1], [0, 1, 2, 3], [0, 1, 2, 3, 4, 5], [0, 1, 2, 3, 4, 5], [2, 3, 4, 5], [4, 5]] ∧
    stage 5 0 (fun _ => true) 2 = [[0], [0, 1], [0, 1, 2], [0, 1, 2, 3], [1, 2, 3, 4], [2, 3, 4], [3, 4], [4]] := by
  decide +kernel

/-- after `i ≤ p` pooling layers cell `j < ⌊D/2^i⌋` covers exactly the block
`{x | ⌊x/2^i⌋ = j}`, each pixel once; and if `2^i ∣ D` every pixel `x < D` lies in exactly one cell
(without divisibility the last `D mod 2^i` pixels are in no cell, see the example). -/
theorem dgc_pool_scope (D p : Nat) (dw : Nat → Bool) (i : Nat) (hi : i ≤ p) :
    (∀ j x, x ∈ (stage D p dw i).getD j [] ↔ (j < D / 2 ^ i ∧ x / 2 ^ i = j)) ∧
    (∀ j, ((stage D p dw i).getD j []).Nodup) ∧
    (2 ^ i ∣ D → ∀ x, x < D → x ∈ (stage D p dw i).getD (x / 2 ^ i) [] ∧
      ∀ j, x ∈ (stage D p dw i).getD j [] → j = x / 2 ^ i) := by
  have hm := (stage_pool D p dw i hi).2
  refine ⟨hm, stage_pool_nodup D p dw i hi, ?_⟩
  intro hdiv x hx
  refine ⟨?_, ?_⟩
  · rw [hm]; exact ⟨(div_lt_div_iff_of_dvd hdiv).2 hx, rfl⟩
  · intro j hj; rw [hm] at hj; exact hj.2.symm

/-- 6 = 2·3: the pooled cells partition the pixels; 5 is odd: pixel 4 is dropped by the pooling layer -/
example : stage 6 1 (fun _ => true) 1 = [[0, 1], [2, 3], [4, 5]] ∧
    stage 5 1 (fun _ => true) 1 = [[0, 1], [2, 3]] := by decide +kernel

/-- in every product layer `i ≤ depth` the two 1-D kernel taps of an output
cell have disjoint scopes, hence the four cells multiplied by one product cell `(r, c)` have pairwise
disjoint pixel rectangles (decomposability), and (inside the grid) their union is the rectangle of the
output cell. -/
theorem dgc_product_disjoint (C D p : Nat) (dw : Nat → Bool) (hp : p ≤ clog2 D) (i : Nat) (hi : i ≤ clog2 D)
    (r c : Nat) :
    let T0 := tap0 (cfgAt D p dw i) (stage D p dw i)
    let T1 := tap1 (cfgAt D p dw i) (stage D p dw i)
    (∀ x, x ∈ T0 r → x ∉ T1 r) ∧
    (∀ v, v ∈ pixels C D (T0 r) (T0 c) → v ∉ pixels C D (T0 r) (T1 c)) ∧
    (∀ v, v ∈ pixels C D (T0 r) (T0 c) → v ∉ pixels C D (T1 r) (T0 c)) ∧
    (∀ v, v ∈ pixels C D (T0 r) (T0 c) → v ∉ pixels C D (T1 r) (T1 c)) ∧
    (∀ v, v ∈ pixels C D (T0 r) (T1 c) → v ∉ pixels C D (T1 r) (T0 c)) ∧
    (∀ v, v ∈ pixels C D (T0 r) (T1 c) → v ∉ pixels C D (T1 r) (T1 c)) ∧
    (∀ v, v ∈ pixels C D (T1 r) (T0 c) → v ∉ pixels C D (T1 r) (T1 c)) ∧
    (r < sizeAfter D p dw (i + 1) → c < sizeAfter D p dw (i + 1) → ∀ v,
      v ∈ pixels C D ((stage D p dw (i + 1)).getD r []) ((stage D p dw (i + 1)).getD c []) ↔
        (v ∈ pixels C D (T0 r) (T0 c) ∨ v ∈ pixels C D (T0 r) (T1 c) ∨
         v ∈ pixels C D (T1 r) (T0 c) ∨ v ∈ pixels C D (T1 r) (T1 c))) := by
  have h := layer_ok D p dw hp i hi
  have hlt := h.lt (stage_lt D p dw i hi)
  obtain ⟨d01, d02, d03, d12, d13, d23⟩ := pixels_quad C (fun x h => hlt r x (Or.inl h)) (fun x h => hlt r x (Or.inr h))
    (fun x h => hlt c x (Or.inl h)) (fun x h => hlt c x (Or.inr h)) (h.disj r) (h.disj c)
  refine ⟨h.disj r, d01, d02, d03, d12, d13, d23, ?_⟩
  intro hr hc v
  rw [← stage_length, stage, prodScopes_length] at hr hc
  rw [stage, prodScopes_getD, if_pos hr, prodScopes_getD, if_pos hc, mem_pixels_append]

/-- the taps of cell 1 of the second layer of the 6×6 / one-pooling network: pooled cells 0 and 1 -/
example : tap0 (cfgAt 6 1 (fun _ => true) 1) (stage 6 1 (fun _ => true) 1) 1 = [0, 1] ∧
    tap1 (cfgAt 6 1 (fun _ => true) 1) (stage 6 1 (fun _ => true) 1) 1 = [2, 3] := by decide +kernel

/-- every cell entering the root layer (there are `2^(depth-p)` per axis) covers
all pooled coordinates; if `2^p ∣ D` it covers exactly all pixel coordinates `0..D-1`, each once.
The relation the constructor guarantees and the proof uses is `⌊D/2^p⌋ ≤ 2^(depth-p)`, from
`D ≤ 2^depth`, `depth = ⌈log₂ D⌉`. -/
theorem dgc_final_full (D p : Nat) (dw : Nat → Bool) (hp : p ≤ clog2 D) :
    (stage D p dw (clog2 D + 1)).length = 2 ^ (clog2 D - p) ∧
    (∀ j x, j < 2 ^ (clog2 D - p) → (x ∈ (stage D p dw (clog2 D + 1)).getD j [] ↔ x / 2 ^ p < D / 2 ^ p)) ∧
    (2 ^ p ∣ D → ∀ j x, j < 2 ^ (clog2 D - p) → (x ∈ (stage D p dw (clog2 D + 1)).getD j [] ↔ x < D)) ∧
    (∀ j, ((stage D p dw (clog2 D + 1)).getD j []).Nodup) ∧
    finalScopes D p = stage D p (fun _ => true) (clog2 D + 1) := by
  obtain ⟨hl, hm, _⟩ := stage_final_layer D p dw hp
  refine ⟨hl, hm, ?_, stage_nodup D p dw hp _ (Nat.le_refl _), finalScopes_eq D p⟩
  intro hdiv j x hj
  rw [hm j x hj, div_lt_div_iff_of_dvd hdiv]

example : finalScopes 6 1 = [[0, 1, 2, 3, 4, 5], [0, 1, 2, 3, 4, 5], [0, 1, 2, 3, 4, 5], [0, 1, 2, 3, 4, 5]] ∧
    finalScopes 5 1 = [[0, 1, 2, 3], [0, 1, 2, 3], [0, 1, 2, 3], [0, 1, 2, 3]] := by decide +kernel

section circuit
variable {α : Type} [CommSemiring α]

/-- a spatial sum layer mixes, per cell, the channels of the *same* cell: if
every cell `(ch, r, c)` of the input grid is a valid circuit over the rectangle `S[r] × S[c]`, so is
every cell of the output grid (smoothness), with unchanged scopes. -/
theorem dgc_sum_same_scope (dom : Nat → Nat) (C D : Nat) (S : List (List Nat)) (G : Grid α)
    (hG : GInv dom C D S G) (w : Nat → Nat → Nat → List α) (hw : ∀ o r c, (w o r c).length = G.ch)
    (outCh : Nat) (ho : 0 < outCh) :
    GInv dom C D S (sumGrid w outCh G) ∧
    ∀ o r c, ((sumGrid w outCh G).at_ o r c).scope = (G.at_ 0 r c).scope :=
  ⟨sumGrid_inv dom C D S G hG w hw outCh ho, fun _ _ _ => rfl⟩

/-- for every accepted configuration (`p ≤ depth`) whose pooling stages divide the side
evenly (`2^p ∣ D`), any channel counts, depth-wise flags, univariate leaf distributions and weights of
the shapes the constructor allocates, the unrolled DGC-SPN is a smooth and decomposable circuit over all
`C·D·D` pixel variables: every product multiplies four cells with pairwise disjoint rectangles, every
sum mixes channels of one cell, every cell entering the root covers all pixels. -/
theorem dgc_valid (dom : Nat → Nat) (C D p : Nat) (dw : Nat → Bool) (batch sumCh : Nat)
    (hacc : accepted D D p = true) (hb : 0 < batch) (hs : 0 < sumCh) (hdiv : 2 ^ p ∣ D)
    (lf : Nat → Nat → Nat → Nat → Ev → α)
    (hleaf : ∀ b ch r c, r < D → c < D → LeafOK dom [pix D ch r c] (lf b ch r c))
    (w : Nat → Nat → Nat → Nat → List α)
    (hw : ∀ i o r c, (w i o r c).length = outChannels (cfgAt D p dw i) (if i = 0 then batch else sumCh))
    (wroot : List α)
    (hroot : wroot.length = lastCh D p dw batch sumCh * (2 ^ (clog2 D - p) * 2 ^ (clog2 D - p))) :
    Circ.Valid dom (unroll C D p batch sumCh dw lf w wroot) ∧
    (unroll C D p batch sumCh dw lf w wroot).scope = pixels C D (List.range D) (List.range D) := by
  have hp : p ≤ clog2 D := by simpa [accepted] using hacc
  refine ⟨?_, rfl⟩
  unfold unroll schedule
  rw [List.range_eq_range']
  have hbase := baseGrid_inv dom C D batch hb lf hleaf
  obtain ⟨hG, hch⟩ := inner_ginv dom C D p dw batch sumCh hs hp w hw (clog2 D + 1) 0 _ (by omega) hbase rfl
  rw [Nat.zero_add] at hG hch
  obtain ⟨hl, hm, _⟩ := stage_final_layer D p dw hp
  refine dgc_root_valid dom C D _ _ hG (by rw [hl]; exact Nat.two_pow_pos _) ?_ wroot ?_
  · intro j hj x
    rw [hl] at hj
    rw [hm j x hj, div_lt_div_iff_of_dvd hdiv]
  · rw [hch (by omega), hG.1, hl, hroot]
    rfl

/-- exact NaN-marginalisation for DGC-SPNs -/
theorem dgc_marg (dom : Nat → Nat) (C D p : Nat) (dw : Nat → Bool) (batch sumCh : Nat)
    (hacc : accepted D D p = true) (hb : 0 < batch) (hs : 0 < sumCh) (hdiv : 2 ^ p ∣ D)
    (lf : Nat → Nat → Nat → Nat → Ev → α)
    (hleaf : ∀ b ch r c, r < D → c < D → LeafOK dom [pix D ch r c] (lf b ch r c))
    (w : Nat → Nat → Nat → Nat → List α)
    (hw : ∀ i o r c, (w i o r c).length = outChannels (cfgAt D p dw i) (if i = 0 then batch else sumCh))
    (wroot : List α)
    (hroot : wroot.length = lastCh D p dw batch sumCh * (2 ^ (clog2 D - p) * 2 ^ (clog2 D - p))) (e : Ev) :
    Circ.eval e (unroll C D p batch sumCh dw lf w wroot) =
      sumOver dom (pixels C D (List.range D) (List.range D)) e
        (fun e' => Circ.eval e' (unroll C D p batch sumCh dw lf w wroot)) := by
  obtain ⟨hv, hsc⟩ := dgc_valid dom C D p dw batch sumCh hacc hb hs hdiv lf hleaf w hw wroot hroot
  have := Circ.marg dom _ hv e
  rwa [hsc] at this

/-- **normalised / all_missing_zero**: with normalised mixture weights and leaves of total mass one, a
fully missing input has probability one (log-probability zero) and the values sum to one over all
completions: each class output is a normalised density. -/
theorem dgc_normalised (dom : Nat → Nat) (C D p : Nat) (dw : Nat → Bool) (batch sumCh : Nat)
    (hacc : accepted D D p = true) (hb : 0 < batch) (hs : 0 < sumCh) (hdiv : 2 ^ p ∣ D)
    (lf : Nat → Nat → Nat → Nat → Ev → α)
    (hleaf : ∀ b ch r c, r < D → c < D → LeafOK dom [pix D ch r c] (lf b ch r c))
    (hl1 : ∀ b ch r c, lf b ch r c (fun _ => none) = 1)
    (w : Nat → Nat → Nat → Nat → List α)
    (hw : ∀ i o r c, (w i o r c).length = outChannels (cfgAt D p dw i) (if i = 0 then batch else sumCh))
    (hw1 : ∀ i o r c, tsum (w i o r c) = 1)
    (wroot : List α)
    (hroot : wroot.length = lastCh D p dw batch sumCh * (2 ^ (clog2 D - p) * 2 ^ (clog2 D - p)))
    (hroot1 : tsum wroot = 1) :
    Circ.eval (fun _ => none) (unroll C D p batch sumCh dw lf w wroot) = 1 ∧
    sumOver dom (pixels C D (List.range D) (List.range D)) (fun _ => none)
      (fun x => Circ.eval x (unroll C D p batch sumCh dw lf w wroot)) = 1 := by
  obtain ⟨hv, hsc⟩ := dgc_valid dom C D p dw batch sumCh hacc hb hs hdiv lf hleaf w hw wroot hroot
  have hn : Circ.NormW (unroll C D p batch sumCh dw lf w wroot) :=
    unroll_all Circ.NormW (fun _ _ h => Circ.normW_prod_iff.2 h) Circ.normW_leaf
      (fun i o r c _ _ h => Circ.normW_sum_iff.2 ⟨hw1 i o r c, h⟩) (fun _ _ h => Circ.normW_sum_iff.2 ⟨hroot1, h⟩)
      (fun _ _ _ _ _ => Circ.normW_leaf)
  have hl : Circ.LeafNorm dom (unroll C D p batch sumCh dw lf w wroot) :=
    unroll_all (Circ.LeafNorm dom) (fun _ _ h => Circ.leafNorm_prod_iff.2 h) (Circ.leafNorm_leaf_iff.2 rfl)
      (fun _ _ _ _ _ _ h => Circ.leafNorm_sum_iff.2 h) (fun _ _ h => Circ.leafNorm_sum_iff.2 h)
      (fun b ch r c _ => Circ.leafNorm_leaf_iff.2 (hl1 b ch r c))
  refine ⟨Circ.all_missing_one dom _ hv hn hl, ?_⟩
  have := Circ.normalised dom _ hv hn hl
  rwa [hsc] at this

end circuit

/-- `torch.where(torch.isnan(x), estimates, x)` keeps every observed pixel -/
theorem dgc_mpe_keeps_observed {β : Type} (x : List (Option β)) (estimates : List β)
    (h : estimates.length = x.length) :
    (RatSpn.completeRow x estimates).length = x.length ∧
    ∀ (i : Nat) (v : β), x[i]? = some (some v) → (RatSpn.completeRow x estimates)[i]? = some v :=
  RatSpn.completeRow_spec x estimates h

/-! non-vacuity: a 6×6 single-channel DGC-SPN with one pooling stage, 2 base channels, 2 sum channels,
depth-wise products, fair Bernoulli pixels -/

def exLeaf : Nat → Nat → Nat → Nat → Ev → Rat := fun _ ch r c => Circ.catLeafFn (pix 6 ch r c) [1/2, 1/2]
def exW : Nat → Nat → Nat → Nat → List Rat := fun _ _ _ _ => [1/2, 1/2]
def exRoot : List Rat := List.replicate 32 (1/32)

theorem exLeaf_ok : ∀ b ch r c, r < 6 → c < 6 → LeafOK (fun _ => 2) [pix 6 ch r c] (exLeaf b ch r c) := by
  intro b ch r c _ _
  exact Circ.catLeaf_ok _ _ _ rfl (by norm_num [tsum])

theorem exRoot_sum : tsum exRoot = 1 := by decide +kernel

example : Circ.Valid (fun _ => 2) (unroll 1 6 1 2 2 (fun _ => true) exLeaf exW exRoot) :=
  (dgc_valid (fun _ => 2) 1 6 1 (fun _ => true) 2 2 (by decide) (by omega) (by omega) (by decide)
    exLeaf exLeaf_ok exW (by intro i o r c; simp [outChannels, cfgAt, exW]; split <;> rfl) exRoot (by decide)).1

example : Circ.eval (fun _ => none) (unroll 1 6 1 2 2 (fun _ => true) exLeaf exW exRoot) = 1 :=
  (dgc_normalised (fun _ => 2) 1 6 1 (fun _ => true) 2 2 (by decide) (by omega) (by omega) (by decide)
    exLeaf exLeaf_ok (by intro b ch r c; rfl) exW
    (by intro i o r c; simp [outChannels, cfgAt, exW]; split <;> rfl)
    (by intro i o r c; norm_num [exW, tsum]) exRoot (by decide) exRoot_sum).1

end DgcSpn
end Deeprob
