import DeeprobModel.Lemmas.MargNetLemmas
import DeeprobModel.Props.C09Net
set_option linter.unusedSectionVars false
set_option linter.unusedSimpArgs false
set_option linter.unusedVariables false
/-
C10 at the level the code works on: the node table with sharing (`marginalizeNet`, Model/RewriteNet.lean).
`marginalizeNet` answers `unsupported:clt` on Chow-Liu-tree leaves; these are covered by `marginalizeNetClt`
(Props/C10NetClt.lean) and, at tree level, through the `margLeaf` parameter (Props/C10.lean).
-/
namespace Deeprob
open Net Circ

/-! ### a circuit with a shared leaf: `S{½,½}( P(A₀, B₁), P(A₀, B₁') )`, `A₀` shared -/
namespace C10w
def net : Net Rat :=
  [ { id := 3, kind := .leaf, scope := [0], ch := [], ws := [], leaf := .cat 0 [1/2, 1/2] },
    { id := 4, kind := .leaf, scope := [1], ch := [], ws := [], leaf := .cat 1 [1/3, 2/3] },
    { id := 1, kind := .prod, scope := [0, 1], ch := [0, 1], ws := [], leaf := .absent },
    { id := 5, kind := .leaf, scope := [1], ch := [], ws := [], leaf := .cat 1 [1/4, 3/4] },
    { id := 2, kind := .prod, scope := [1, 0], ch := [0, 3], ws := [], leaf := .absent },
    { id := 0, kind := .sum, scope := [0, 1], ch := [2, 4], ws := [1/2, 1/2], leaf := .absent } ]

def view (r : Except String (Net Rat × List Nat)) : List (Kind × Nat × List Nat × List Nat × List Rat) :=
  match r with
  | .ok p => p.1.map (fun x => (x.kind, x.id, x.scope, x.ch, x.ws))
  | .error _ => []
def origin (r : Except String (Net Rat × List Nat)) : List Nat := match r with | .ok p => p.2 | .error _ => []

theorem wellOrdered : WellOrdered net := (wellOrderedB_iff net).1 (by decide +kernel)

theorem sumOK : NetSumOK net := netSumOK_of_forall_mem net (by decide +kernel)

theorem nodeOK : ∀ (i : Nat) (x : NNode Rat), net[i]? = some x → MargNodeOK net x := by
  have hs : ∀ a b : Nat, scopeEq [a, b] [b, a] := fun a b v => by
    rw [List.mem_cons, List.mem_singleton, List.mem_cons, List.mem_singleton]; exact or_comm
  have key : ∀ x ∈ net, MargNodeOK net x := by
    unfold net
    simp only [List.forall_mem_cons, List.not_mem_nil, false_imp_iff, implies_true, and_true]
    exact ⟨⟨0, rfl, Or.inl ⟨_, rfl⟩⟩, ⟨1, rfl, Or.inl ⟨_, rfl⟩⟩, scopeEq.rfl', ⟨1, rfl, Or.inl ⟨_, rfl⟩⟩, hs 0 1,
      List.cons_ne_nil _ _, fun c hc => by
        rcases List.mem_cons.1 hc with rfl | hc
        · exact scopeEq.rfl'
        · rw [List.mem_singleton.1 hc]; exact hs 1 0⟩
  exact fun _ x hx => key x (List.mem_of_getElem? hx)

/-- keeping variable 0: both products lose their second child and are replaced by the shared leaf, the root's
two children coincide, are merged with weight ½+½ and (`prune` after the fix of finding F7 of DESIGN.md §7) the root is
replaced by the leaf;
keeping variable 1: a two-child sum over the two leaves of variable 1 -/
theorem results :
    view (marginalizeNet [0] net 5) = [(.leaf, 0, [0], [], [])] ∧ origin (marginalizeNet [0] net 5) = [0] ∧
    view (marginalizeNetWith false [0] net 5) = [(.leaf, 1, [0], [], []), (.sum, 0, [0], [0], [1])] ∧
    view (marginalizeNet [1] net 5) = [(.leaf, 1, [1], [], []), (.leaf, 2, [1], [], []), (.sum, 0, [1], [0, 1], [1/2, 1/2])] ∧
    origin (marginalizeNet [1] net 5) = [1, 3, 5] := by
  refine ⟨?_, ?_, ?_, ?_, ?_⟩ <;> decide +kernel
end C10w

variable {α : Type} [CommSemiring α]

/-- **C10 at DAG level, value**: whenever `marginalize` (with `prune` after or before the fix of F7, `b`) returns a table,
its root (last entry) has, under every evidence in which all variables outside the kept set are missing, the value
the original table has at `root` — shared sub-circuits and merged coinciding children included.
Hypotheses on the table: children-first storage, every sum has one weight per child and weights summing to
one, sums are non-empty and smooth, product scopes are the union of the child scopes, leaves are
single-variable table / density leaves. (Decomposability is not needed for this equality.) -/
theorem marginalizeNetWith_eval (b : Bool) (keep : List Nat) (net : Net α) (root : Nat)
    (hw : WellOrdered net) (hs : NetSumOK net)
    (hn : ∀ (i : Nat) (x : NNode α), net[i]? = some x → MargNodeOK net x)
    (hr : root < net.length) (out : Net α) (order : List Nat)
    (h : marginalizeNetWith b keep net root = .ok (out, order))
    (e : Ev) (he : ∀ v, v ∉ keep → e v = none) (dens : List α) :
    out ≠ [] ∧ nval e (order.map (fun i => dens.getD i 0)) out (out.length - 1) = nval e dens net root := by
  obtain ⟨_, _, r1, hr1, hres⟩ := (marginalizeNetWith_eq_ok_iff b keep net root (out, order)).1 h
  have S := margPass_sol keep net hw
  have V := msol_val keep net _ _ S hw hs hn e he dens
  have P := pruneNetWith_eval b _ r1 (S.wellOrdered hw)
    (fun i y hy => (V i (S.lt ▸ (List.getElem?_eq_some_iff.1 hy).1)).sum_ok y hy)
    (S.lt ▸ Nat.lt_of_le_of_lt (S.some_le root r1 hr hr1) hr) out order hres e dens
  exact ⟨P.2.1, P.2.2.trans ((V root hr).val_some r1 hr1)⟩

/-- with complete evidence on the kept variables: the marginalised table evaluated on `x` equals the original
table evaluated on `x` with every other variable marked missing -/
theorem marginalizeNet_eval (keep : List Nat) (net : Net α) (root : Nat)
    (hw : WellOrdered net) (hs : NetSumOK net)
    (hn : ∀ (i : Nat) (x : NNode α), net[i]? = some x → MargNodeOK net x)
    (hr : root < net.length) (out : Net α) (order : List Nat)
    (h : marginalizeNet keep net root = .ok (out, order)) (x : Ev) (dens : List α) :
    nval (fun v => if v ∈ keep then x v else none) (order.map (fun i => dens.getD i 0)) out (out.length - 1)
      = nval (fun v => if v ∈ keep then x v else none) dens net root :=
  (marginalizeNetWith_eval true keep net root hw hs hn hr out order h _
    (by intro v hv; simp [hv]) dens).2

example : ∀ (x : Ev) (dens : List Rat), ∃ out order, marginalizeNet [1] C10w.net 5 = .ok (out, order) ∧
    nval (fun v => if v ∈ [1] then x v else none) (order.map (fun i => dens.getD i 0)) out (out.length - 1)
      = nval (fun v => if v ∈ [1] then x v else none) dens C10w.net 5 := by
  intro x dens
  cases h : marginalizeNet [1] C10w.net 5 with
  | error s =>
    have := C10w.results.2.2.2.1
    rw [h] at this; simp [C10w.view] at this
  | ok r =>
    exact ⟨r.1, r.2, rfl, marginalizeNet_eval [1] C10w.net 5 C10w.wellOrdered C10w.sumOK C10w.nodeOK (by decide)
      r.1 r.2 h x dens⟩

end Deeprob
