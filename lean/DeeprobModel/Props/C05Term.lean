import DeeprobModel.Model.Learn
import DeeprobModel.Model.LearnTerm
import DeeprobModel.Lemmas.LearnTermLemmas
import DeeprobModel.Props.C04
import DeeprobModel.Props.C05
/-
C04/C05, total correctness — the `while tasks:` loop of `learn_spn`
(/repo/deeprob/spn/learning/learnspn.py) halts under every splitter behaviour, after at most
`B nRows nCols cfg = 5·max(nRows,1)·max(nCols,1) − 3` iterations, and what it returns satisfies the C04/C05
conclusions. No hypothesis of the form "if `run` returned": the only assumption is that the oracle answers
have the shape the code itself insists on (`ProperAns`: zero-variance positions inside the slice, one label per
row / per column) — and `proper_of_step` shows this is exactly the condition under which an iteration does
not raise.

No guard on the hyper-parameters is needed: the loop halts for every `Cfg` (including `min_rows_slice`,
`min_cols_slice` ∈ {0, 1}, which `learn_spn` partly rejects with `ValueError`) and for both re-queue
disciplines (`appendleft` / `append`). The reason is the flag protocol: a failed `SPLIT_COLS` sets
`no_cols_split`, which forces `SPLIT_ROWS`; a failed `SPLIT_ROWS` sets `no_rows_split`, which forces
`CREATE_LEAF` (or `REM_FEATURES`/`SPLIT_NAIVE`, which shrink the slice); so a slice is retried at most twice.
-/
namespace Deeprob.LearnTerm
open Deeprob.Learn List

/-- `step_ok_of_proper` + `step_decreases`: from a state with a non-empty deque,
on every proper answer to the questions the iteration asks, the iteration succeeds and the measure
`Σ_{pending tasks} (5·area − 4 + phase)` strictly decreases. (`step_decreases` itself needs no properness:
every successful iteration decreases the measure.) -/
theorem step_proper_decreases (cfg : Cfg) (s : St) (t : Task) (q : List Task) (hq : s.queue = t :: q)
    (hp : ProperHead cfg t s.script) : ∃ s', step cfg s = .ok s' ∧ measure s' < measure s := by
  obtain ⟨s', h, _⟩ := step_ok_of_proper cfg s t q hq hp
  exact ⟨s', h, step_decreases cfg s s' (by rw [hq]; simp) h⟩

/-- non-vacuity: the root task of a 6 × 3 data set (`is_first`, phase 1, weight 5·18 − 3 = 87); a successful
row split into 4 + 2 rows leaves two fresh tasks of weight 5·12 − 2 and 5·6 − 2 -/
example : ∃ s', step ⟨2, 2, true⟩ (init 6 3 [.zeroVar [], .rows [0, 0, 1, 0, 1, 0]]) = .ok s' ∧
    (measure (init 6 3 [.zeroVar [], .rows [0, 0, 1, 0, 1, 0]]) = 87 ∧ measure s' = 86) :=
  exists_ok_of_check _ _ (by decide +kernel)

/-- a failed split decreases the measure by exactly one (the phase) -/
example : ∃ s', step ⟨2, 2, true⟩ (init 6 3 [.zeroVar [], .rows [4, 4, 4, 4, 4, 4]]) = .ok s' ∧
    (measure s' = 86 ∧ s'.queue.map phase = [0]) :=
  exists_ok_of_check _ _ (by decide +kernel)

/-- If the first `B` iterations find their questions answered properly in the script,
then with any fuel `≥ B` the run returns `.ok s` with an empty deque after `k ≤ B` iterations: it neither
exhausts the script, nor raises, nor is cut off by the fuel. Holds for every `Cfg` and both re-queue
disciplines. -/
theorem learn_terminates (cfg : Cfg) (nRows nCols : Nat) (script : List Ans) (fuel : Nat)
    (hp : ProperRun cfg (B nRows nCols cfg) (init nRows nCols script)) (hfuel : B nRows nCols cfg ≤ fuel) :
    ∃ s k, runCount cfg fuel (init nRows nCols script) = .ok (s, k) ∧
      run cfg fuel (init nRows nCols script) = .ok s ∧ s.queue = [] ∧ k ≤ B nRows nCols cfg := by
  have hm := measure_init nRows nCols script cfg
  obtain ⟨s, k, hS, hq, hk⟩ := steps_of_properRun cfg _ _ hp (Nat.le_of_eq hm)
  rw [hm] at hk
  obtain ⟨h1, h2⟩ := hS.run hq (Nat.le_trans hk hfuel)
  exact ⟨s, k, h1, h2, hq, hk⟩

/-- non-vacuity, and the bound is attained: on a 4 × 1 data set the adversarial oracle `tightScript 4` (peel
one row per row split; every other split fails) makes the loop run exactly `B 4 1 = 17` iterations -/
theorem tightScript_four_run : ProperRun ⟨1, 1, true⟩ (B 4 1 ⟨1, 1, true⟩) (init 4 1 (tightScript 4)) ∧
    B 4 1 ⟨1, 1, true⟩ = 17 ∧
    ∃ p, runCount ⟨1, 1, true⟩ 17 (init 4 1 (tightScript 4)) = .ok p ∧ (p.2 = 17 ∧ p.1.queue = []) :=
  ⟨by decide +kernel, by decide +kernel, exists_ok_of_check _ _ (by decide +kernel)⟩

example : ProperRun ⟨1, 1, true⟩ (B 4 1 ⟨1, 1, true⟩) (init 4 1 (tightScript 4)) ∧
    B 4 1 ⟨1, 1, true⟩ = 17 ∧
    ∃ p, runCount ⟨1, 1, true⟩ 17 (init 4 1 (tightScript 4)) = .ok p ∧ (p.2 = 17 ∧ p.1.queue = []) :=
  tightScript_four_run

/-- `learn_terminates` in terms of the script alone: every entry that gets consulted
has the kind asked for and is proper for the task at hand (`ProperRunE`, which does not blame a script for
being short), and the script has at least `2·B` entries (an iteration consults at most two). -/
theorem learn_terminates_script (cfg : Cfg) (nRows nCols : Nat) (script : List Ans) (fuel : Nat)
    (hp : ProperRunE cfg (B nRows nCols cfg) (init nRows nCols script))
    (hlen : 2 * B nRows nCols cfg ≤ script.length) (hfuel : B nRows nCols cfg ≤ fuel) :
    ∃ s k, runCount cfg fuel (init nRows nCols script) = .ok (s, k) ∧
      run cfg fuel (init nRows nCols script) = .ok s ∧ s.queue = [] ∧ k ≤ B nRows nCols cfg :=
  learn_terminates cfg nRows nCols script fuel
    (properRun_of_E cfg _ _ hp (by simpa [init, initOn] using hlen)) hfuel

/-- non-vacuity: 2 × 1, `B = 7`, a 14-entry script (the last 7 entries are never read) -/
example : ProperRunE ⟨1, 1, true⟩ (B 2 1 ⟨1, 1, true⟩) (init 2 1 (tightScript 2 ++ List.replicate 7 (Ans.zeroVar []))) ∧
    2 * B 2 1 ⟨1, 1, true⟩ ≤ (tightScript 2 ++ List.replicate 7 (Ans.zeroVar [])).length := by
  refine ⟨properRunE_of_properRun _ _ _ ?_, by decide +kernel⟩
  decide +kernel

/-- the C04 + C05 conclusions about a final state (`learn_final_valid`, `learn_final_proportions`,
`learn_leaf_rows`) -/
def FinalSpec (nRows nCols : Nat) (s : St) : Prop :=
  s.queue = [] ∧
  ∃ t, result s = some t ∧ t.Valid ∧ t.scope = List.range nCols ∧ t.rows = List.range nRows ∧
    t.Proportions ∧ t.Routed ∧
    ∀ r sc ws ch, Tree.sum r sc ws ch ∈ t.subtrees →
      ws = ch.map (fun c => (c.rows.length, r.length)) ∧
      (∀ w ∈ ws, (0 : ℚ) < (w.1 : ℚ) / (w.2 : ℚ)) ∧
      (ws.map (fun w => (w.1 : ℚ) / (w.2 : ℚ))).sum = 1

theorem finalSpec_of_steps (cfg : Cfg) (hf : cfg.front = true) (nRows nCols : Nat) (hr : 0 < nRows)
    (hc : 0 < nCols) (script : List Ans) (k : Nat) (s : St)
    (hS : Steps cfg k (init nRows nCols script) s) (hq : s.queue = []) :
    learn cfg nRows nCols script = .ok s ∧ FinalSpec nRows nCols s := by
  -- every iteration consumes a script entry, so the fuel of `learn` suffices
  have hk : k ≤ script.length + 1 := Nat.le_succ_of_le (Nat.le_of_add_right_le hS.script_le)
  have hl : learn cfg nRows nCols script = .ok s := (hS.run hq hk).2
  obtain ⟨t, h1, h2, h3, h4, h5, h6⟩ := learn_final_valid cfg hf nRows nCols hr hc script s hl hq
  obtain ⟨t', h1', h7⟩ := learn_final_proportions cfg hf nRows nCols hr hc script s hl hq
  rw [h1] at h1'
  cases h1'
  exact ⟨hl, hq, t, h1, h2, h3, h4, h5, h6, h7⟩

/-- total correctness of LearnSPN against every splitter behaviour. Let `O` be any
splitter-level oracle (what `np.var`, `split_rows_func`, `split_cols_func` return in iteration `k` on the slice
of task `t`) whose answers merely have the right shape (`O.Proper`). Then the machine with re-queue at the front (`cfg.front = true`), fed by `O`,
halts: with fuel `B` (or any larger fuel, or the fuel of `learn`) it returns a state with an empty deque, having
consumed the oracle's transcript exactly, after `k ≤ B` iterations, and the returned structure is a valid
circuit over all columns, learned on all rows, whose sum weights are the row proportions of the children
they are attached to, positive and summing to one, with all rows routed. -/
theorem learn_total (cfg : Cfg) (hf : cfg.front = true) (nRows nCols : Nat) (hr : 0 < nRows) (hc : 0 < nCols)
    (O : Oracle) (hO : O.Proper) :
    ∃ script s k, script = O.transcript cfg (B nRows nCols cfg) 0 (init nRows nCols []) ∧
      runCount cfg (B nRows nCols cfg) (init nRows nCols script) = .ok (s, k) ∧ k ≤ B nRows nCols cfg ∧
      (∀ fuel, B nRows nCols cfg ≤ fuel → run cfg fuel (init nRows nCols script) = .ok s) ∧
      learn cfg nRows nCols script = .ok s ∧ s.script = [] ∧ FinalSpec nRows nCols s := by
  have hm := measure_init nRows nCols [] cfg
  obtain ⟨s, k, hS, hq, hsc, hk⟩ :=
    O.transcript_steps cfg hO (B nRows nCols cfg) 0 (init nRows nCols []) (Nat.le_of_eq hm)
  rw [hm] at hk
  obtain ⟨hl, hspec⟩ := finalSpec_of_steps cfg hf nRows nCols hr hc _ k s hS hq
  exact ⟨_, s, k, rfl, (hS.run hq hk).1, hk, fun fuel hfu => (hS.run hq (Nat.le_trans hk hfu)).2, hl, hsc,
    hspec⟩

/-- a splitter behaviour on a 6 × 3 data set: the first row split separates rows {0,1,2} from {3,4,5}; on
the slice {0,1,2} the row splitter fails (single cluster) while on its sibling {3,4,5} it succeeds (by
parity); the column splitter fails on slices of ≥ 3 rows and separates column 0 from the others on smaller
ones; no constant columns. -/
def exOracle : Oracle where
  zv := fun _ _ => []
  rows := fun _ t =>
    if t.rows.length = 6 then t.rows.map (fun r => if r < 3 then 0 else 1)
    else if t.rows = [0, 1, 2] then t.rows.map (fun _ => 7)
    else t.rows.map (fun r => ((r % 2 : Nat) : Int))
  cols := fun _ t =>
    if 3 ≤ t.rows.length then t.scope.map (fun _ => 0) else t.scope.map (fun c => if c = 0 then 0 else 1)

theorem exOracle_proper : exOracle.Proper := by
  intro k t
  refine ⟨fun i hi => absurd hi not_mem_nil, ?_, ?_⟩
  · show (exOracle.rows k t).length = t.rows.length
    simp only [exOracle]
    split
    · exact length_map _
    · split <;> exact length_map _
  · show (exOracle.cols k t).length = t.scope.length
    simp only [exOracle]
    split <;> exact length_map _

theorem exOracle_run :
    ∃ p, runCount ⟨2, 2, true⟩ (B 6 3 ⟨2, 2, true⟩)
          (init 6 3 (exOracle.transcript ⟨2, 2, true⟩ (B 6 3 ⟨2, 2, true⟩) 0 (init 6 3 []))) = .ok p ∧
      (p.1.queue = [] ∧ p.1.script = [] ∧ p.2 = 12 ∧
       p.1.nodes.map (·.kind) = [.prod, .sum, .leaf, .sum, .leaf, .prod, .leaf, .leaf] ∧
       sumView p.1 1 = [((3, 6), [0, 1, 2]), ((3, 6), [3, 4, 5])] ∧
       sumView p.1 3 = [((1, 3), [4]), ((2, 3), [3, 5])] ∧ (p.1.node 5).children = [6, 7]) :=
  exists_ok_of_check _ _ (by decide +kernel)

/-- non-vacuity of `learn_total`: the oracle is proper; its transcript has 20 entries, the loop runs 12 ≤ B =
87 iterations, and the result is
`S[3/6:L(rows=0 1 2), 3/6:S[1/3:L(rows=4), 2/3:P(L(rows=3 5;scope=0), L(rows=3 5;scope=1 2))]]`: the slice on
which the row split failed is a leaf, its sibling is split further -/
example : exOracle.Proper ∧ 0 < 6 ∧ 0 < 3 ∧
    ∃ p, runCount ⟨2, 2, true⟩ (B 6 3 ⟨2, 2, true⟩)
          (init 6 3 (exOracle.transcript ⟨2, 2, true⟩ (B 6 3 ⟨2, 2, true⟩) 0 (init 6 3 []))) = .ok p ∧
      (p.1.queue = [] ∧ p.1.script = [] ∧ p.2 = 12 ∧
       p.1.nodes.map (·.kind) = [.prod, .sum, .leaf, .sum, .leaf, .prod, .leaf, .leaf] ∧
       sumView p.1 1 = [((3, 6), [0, 1, 2]), ((3, 6), [3, 4, 5])] ∧
       sumView p.1 3 = [((1, 3), [4]), ((2, 3), [3, 5])] ∧ (p.1.node 5).children = [6, 7]) :=
  ⟨exOracle_proper, by decide, by decide, exOracle_run⟩

/-- `learn_total` for a flat infinite oracle `o : ℕ → Ans` (the `j`-th consultation,
whatever it is, is answered by `o j`) that is proper at every step it is consulted: `learn` on the first
`2·B` answers, and `run` with any fuel `≥ B`, end with an empty deque and the C04/C05 conclusions hold. -/
theorem learn_total_stream (cfg : Cfg) (hf : cfg.front = true) (nRows nCols : Nat) (hr : 0 < nRows)
    (hc : 0 < nCols) (o : Nat → Ans) (ho : ProperOracle cfg nRows nCols o) :
    ∃ s k, k ≤ B nRows nCols cfg ∧
      (∀ fuel, B nRows nCols cfg ≤ fuel →
        runCount cfg fuel (init nRows nCols (pre o (2 * B nRows nCols cfg))) = .ok (s, k) ∧
        run cfg fuel (init nRows nCols (pre o (2 * B nRows nCols cfg))) = .ok s) ∧
      learn cfg nRows nCols (pre o (2 * B nRows nCols cfg)) = .ok s ∧ FinalSpec nRows nCols s := by
  obtain ⟨s, k, h1, _, hq, hk⟩ := learn_terminates cfg nRows nCols _ _ (ho (B nRows nCols cfg)) (le_refl _)
  obtain ⟨hS, _, _⟩ := runCount_ok_iff.1 h1
  obtain ⟨hl, hspec⟩ := finalSpec_of_steps cfg hf nRows nCols hr hc _ k s hS hq
  exact ⟨s, k, hk, fun fuel hfu => hS.run hq (Nat.le_trans hk hfu), hl, hspec⟩

/-- the flat script of the 6 × 3 scenario above (consultation order of the machine with `front := true`) -/
def exStream : List Ans :=
  [.zeroVar [], .rows [0, 0, 0, 1, 1, 1],      -- root: rows {0,1,2} | {3,4,5}
   .zeroVar [], .cols [0, 0, 0],               -- {0,1,2}: column split fails
   .zeroVar [], .rows [7, 7, 7],               --          row split fails
   .zeroVar [],                                --          leaf
   .zeroVar [], .cols [0, 0, 0],               -- {3,4,5}: column split fails
   .zeroVar [], .rows [1, 0, 1],               --          row split succeeds: {4} | {3,5}
   .zeroVar [],                                -- {4}: 1 row < min_rows_slice ⇒ leaf
   .zeroVar [], .cols [0, 1, 1],               -- {3,5}: columns 0 | 1 2
   .zeroVar [],                                -- {3,5} × {0}: 1 column < min_cols_slice ⇒ leaf
   .zeroVar [], .cols [1, 1],                  -- {3,5} × {1,2}: column split fails
   .zeroVar [], .rows [1, 1],                  --                row split fails
   .zeroVar []]                                --                leaf

example : exStream = exOracle.transcript ⟨2, 2, true⟩ (B 6 3 ⟨2, 2, true⟩) 0 (init 6 3 []) := by
  decide +kernel

/-- non-vacuity of `learn_total_stream`: a proper infinite oracle for the 6 × 3 data set (the finite script
above, padded with `zeroVar []` forever) -/
example : ProperOracle ⟨2, 2, true⟩ 6 3 (fun j => exStream.getD j (.zeroVar [])) ∧ 0 < 6 ∧ 0 < 3 :=
  ⟨by
    obtain ⟨s', h, hq⟩ : ∃ s', run ⟨2, 2, true⟩ 12 (init 6 3 exStream) = .ok s' ∧ s'.queue = [] :=
      exists_ok_of_check _ _ (by decide +kernel)
    exact properOracle_of_run ⟨2, 2, true⟩ 6 3 exStream (.zeroVar []) 12 s' h hq,
   by decide, by decide⟩

end Deeprob.LearnTerm
