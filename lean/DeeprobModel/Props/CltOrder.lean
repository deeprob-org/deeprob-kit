import DeeprobModel.Lemmas.GraphOrderPass
import DeeprobModel.Lemmas.GraphOrderTree
import DeeprobModel.Props.Clt
import Mathlib.Tactic.NormNum
/-
C02 / C06 / C12 for binary Chow-Liu trees, the part the inductive model (`Model/Clt.lean`, `Props/Clt.lean`) took
from the implementation: the order in which `BinaryCLT.message_passing` visits the variables.

* `computeBfsOrdering` (Model/GraphOrder.lean) is `compute_bfs_ordering` of deeprob/utils/graph.py as coded
  (`build_tree_structure`: children lists filled while enumerating the vector; a FIFO queue);
* `arrayPass` / `passValue` / `codeValue` are the loop `for j in reversed(self.bfs[1:])` of
  deeprob/spn/structure/cltree.py `message_passing` with its array `messages[n_features, ·, 2]`.

`WellFormedPred tree` (decidable): exactly one entry `-1`, every other entry an index `< n`, every index climbs
to the root in `≤ n-1` steps.  Every theorem below is followed by a non-vacuity example on the
tree `[3, 4, 1, -1, 0]` (the chain 3 → 0 → 4 → 1 → 2: parents do not have smaller indices; `bfsOrder_levels` also on
a branching tree).
-/
namespace Deeprob.GraphIo
open Deeprob Deeprob.Clt Deeprob.CltFit

/-- the example tree and a table for it (rows sum to one, root rows equal) -/
def exTree : List Int := [3, 4, 1, -1, 0]
def exCpt : List (List (List ℚ)) :=
  [[[3/10, 7/10], [3/5, 2/5]], [[1/5, 4/5], [3/5, 2/5]], [[1/10, 9/10], [1/2, 1/2]],
   [[1/4, 3/4], [1/4, 3/4]], [[1/2, 1/2], [9/20, 11/20]]]
def exScope : List Nat := [7, 3, 9, 2, 5]
/-- variable 9 (column 2) observed with value 1, everything else missing -/
def exEv : Ev := fun v => if v = 9 then some 1 else none

theorem exTree_wf : WellFormedPred exTree := by decide

/-- **`Clt.build` succeeds iff the vector is well formed**: `Clt.isTree` (the unfolding from the root lists every
index exactly once — the hypothesis of all theorems of `Props/Clt.lean`) is equivalent to the decidable
`WellFormedPred`; and the latter says what it should. -/
theorem wellFormedPred_iff_build (tree : List Int) :
    (WellFormedPred tree ↔ Clt.isTree tree = true) ∧
    (WellFormedPred tree ↔ ∃ r, r < tree.length ∧ tree.getD r 0 = -1 ∧
      (∀ c, c < tree.length → tree.getD c 0 = -1 → c = r) ∧
      (∀ i, i < tree.length → i ≠ r → ∃ p, p < tree.length ∧ tree.getD i (-1) = (p : Int)) ∧
      (∀ i, i < tree.length → reaches tree r (tree.length - 1) i = true)) := by
  refine ⟨wellFormedPred_iff_isTree tree, (wf_iff tree).trans (exists_congr fun r => ?_)⟩
  rw [rootIdx_eq_some_iff, isRST_iff_entries]
  exact ⟨fun ⟨⟨h1, h2, h3⟩, _, _, h4, h5⟩ => ⟨h1, h2, h3, h4, h5⟩, fun ⟨h1, h2, h3, h4, h5⟩ => ⟨⟨h1, h2, h3⟩, h1, h2, h4, h5⟩⟩

example : WellFormedPred exTree ∧ Clt.isTree exTree = true ∧ ¬ WellFormedPred [1, 0, -1] ∧
    ¬ WellFormedPred [-1, -1] ∧ ¬ WellFormedPred [-1, 5] :=
  ⟨exTree_wf, (wellFormedPred_iff_build exTree).1.1 exTree_wf, by decide, by decide, by decide⟩

/-- on every well-formed predecessor vector `compute_bfs_ordering` does not raise and returns a
permutation of `0..n-1` whose first element is the root -/
theorem bfsOrder_perm (tree : List Int) (hwf : WellFormedPred tree) :
    ∃ r bfs, rootIdx tree = some r ∧ computeBfsOrdering tree = some bfs ∧
      bfs.Perm (List.range tree.length) ∧ bfs.head? = some r := by
  obtain ⟨r, h⟩ := WF.of_wf hwf
  refine ⟨r, _, h.root, h.bfs_eq, h.levels_perm, ?_⟩
  obtain ⟨rest, hrest⟩ := h.levels_head
  rw [hrest]; rfl

example : computeBfsOrdering exTree = some [3, 0, 4, 1, 2] ∧ rootIdx exTree = some 3 := by decide

/-- the function `Clt.bfsOrder` of the existing model (driver op `clt_tree`) is the same queue: on a well-formed
vector it returns what `compute_bfs_ordering` returns -/
theorem bfsOrder_eq_model (tree : List Int) (hwf : WellFormedPred tree) :
    ∃ r, Clt.rootOf tree = some r ∧ computeBfsOrdering tree = some (Clt.bfsOrder tree tree.length [r]) := by
  obtain ⟨r, h⟩ := WF.of_wf hwf
  refine ⟨r, by rw [← rootIdx_eq_rootOf]; exact h.root, ?_⟩
  unfold computeBfsOrdering buildTreeStructure
  rw [h.root, h.childLists_eq]
  simp only [Option.map_some]
  rw [bfsLoop_eq_cltBfsOrder _ h.getD_children]

example : Clt.bfsOrder exTree exTree.length [3] = [3, 0, 4, 1, 2] := by decide

/-- every non-root node appears after its parent; hence `reversed(bfs[1:])`,
the list `message_passing` walks, contains every non-root variable once and visits every child before its
parent -/
theorem bfsOrder_parent_before_child (tree : List Int) (hwf : WellFormedPred tree) :
    ∃ r bfs, rootIdx tree = some r ∧ computeBfsOrdering tree = some bfs ∧
      (∀ i p, i < tree.length → parent tree i = some p → bfs.idxOf p < bfs.idxOf i) ∧
      bfs.tail.reverse.Perm ((List.range tree.length).erase r) ∧
      childFirst tree bfs.tail.reverse = true := by
  obtain ⟨r, h⟩ := WF.of_wf hwf
  refine ⟨r, _, h.root, h.bfs_eq, ?_, h.code_order_perm, h.code_order_childFirst⟩
  intro i p hi hp
  have hmi := (h.mem_levels i).2 hi
  have hmp := (h.mem_levels p).2 (parent_some hp).2
  rcases Nat.lt_trichotomy (List.idxOf p _) (List.idxOf i _) with hlt | heq | hgt
  · exact hlt
  · have := h.depth_child hi hp
    rw [(List.idxOf_inj hmp).1 heq] at this
    omega
  · exact absurd hp (idxOf_lt_of_pairwise h.levels_parent_first hmi hmp hgt)

example : ([3, 0, 4, 1, 2] : List Nat).tail.reverse = [2, 1, 4, 0] ∧ childFirst exTree [2, 1, 4, 0] = true ∧
    childFirst exTree [4, 2, 1, 0] = false := by decide

/-- the list is the concatenation of the levels `0, 1, …, n-1` of the tree, where level 0 is
the root and level `k+1` lists, for the nodes of level `k` in their order, their children in increasing index
order (`level`); level `k` holds exactly the nodes at distance `k` from the root.  Consequently depths never
decrease along the list, and siblings appear in index order. -/
theorem bfsOrder_levels (tree : List Int) (hwf : WellFormedPred tree) :
    ∃ r bfs, rootIdx tree = some r ∧ computeBfsOrdering tree = some bfs ∧
      bfs = (List.range tree.length).flatMap (level tree r) ∧
      (∀ k x, x ∈ level tree r k ↔ x < tree.length ∧ depthOf tree x = k) ∧
      (depthOf tree r = 0 ∧ ∀ i p, i < tree.length → parent tree i = some p → depthOf tree i = depthOf tree p + 1) ∧
      (∀ j c, c ∈ childrenOf tree j ↔ c < tree.length ∧ parent tree c = some j) ∧
      (∀ j, (childrenOf tree j).Pairwise (· < ·)) ∧
      bfs.Pairwise (fun a b => depthOf tree a ≤ depthOf tree b) ∧
      bfs.Pairwise (fun a b => ∀ p, parent tree a = some p → parent tree b = some p → a < b) := by
  obtain ⟨r, h⟩ := WF.of_wf hwf
  refine ⟨r, _, h.root, h.bfs_eq, rfl, h.mem_level, ⟨h.depth_root, fun i p hi hp => h.depth_child hi hp⟩,
    fun j c => h.mem_children, childrenOf_sorted tree, h.levels_depth_sorted, ?_⟩
  -- siblings: both in the same level `k+1 = (level k).flatMap children`
  rw [List.pairwise_flatMap]
  refine ⟨fun k _ => ?_, ?_⟩
  · cases k with
    | zero => simp [level]
    | succ k =>
      rw [level_succ, List.pairwise_flatMap]
      refine ⟨fun q _ => (childrenOf_sorted tree q).imp (fun hab _ _ _ => hab), ?_⟩
      apply (h.level_nodup k).imp
      intro q q' hne a ha b hb p hpa hpb
      have h1 := (h.mem_children.1 ha).2
      have h2 := (h.mem_children.1 hb).2
      rw [hpa] at h1; rw [hpb] at h2
      exact absurd (by rw [Option.some.inj h1.symm, Option.some.inj h2.symm] : q = q') hne
  · apply List.nodup_range.imp
    intro k k' hne a ha b hb p hpa hpb
    obtain ⟨hal, hda⟩ := (h.mem_level k a).1 ha
    obtain ⟨hbl, hdb⟩ := (h.mem_level k' b).1 hb
    have h1 := h.depth_child hal hpa
    have h2 := h.depth_child hbl hpb
    omega

example : (List.range 6).flatMap (level [-1, 0, 0, 2, 1, 2] 0) = [0, 1, 2, 4, 3, 5] ∧
    computeBfsOrdering [-1, 0, 0, 2, 1, 2] = some [0, 1, 2, 4, 3, 5] ∧
    (List.range 5).map (depthOf exTree) = [1, 3, 4, 0, 2] := by decide

section semiring
variable {α : Type} [CommSemiring α]

/-- for a well-formed vector, the array-based pass of `message_passing` run over any list
that contains every non-root variable once and in which every child precedes its parent
(i) leaves in slot `j` the product of the upward messages `Clt.up` of the children of `j` (for both values of `j`),
(ii) returns, after the root step, `Clt.value` of the existing inductive model — in particular the same value for
all such orders — and (iii) the code's own order `reversed(compute_bfs_ordering(tree)[1:])` is one of them.
Carrier: any commutative semiring (ℚ: 'mar'; max-times: 'mpe'). -/
theorem arrayPass_order_indep (tree : List Int) (hwf : WellFormedPred tree) (scope : List Nat)
    (cpt : List (List (List α))) (e : Ev) :
    ∃ r, rootIdx tree = some r ∧
      (∀ order : List Nat, order.Perm ((List.range tree.length).erase r) → childFirst tree order = true →
        passValue tree cpt (rowOf scope e) r order = Clt.value scope tree cpt e ∧
        ∀ j, j < tree.length → (arrayPass tree cpt (rowOf scope e) order).getD j (1, 1) =
          (lprod ((childrenOf tree j).map (fun d => up scope cpt (build tree tree.length d) 0 e)),
           lprod ((childrenOf tree j).map (fun d => up scope cpt (build tree tree.length d) 1 e)))) ∧
      codeValue tree cpt (rowOf scope e) = some (Clt.value scope tree cpt e) := by
  obtain ⟨r, h⟩ := WF.of_wf hwf
  refine ⟨r, h.root, fun order hperm hcf => ⟨h.passValue_eq scope cpt e order hperm hcf,
    (h.arrayPass_slots scope cpt e order hperm hcf).2⟩, ?_⟩
  unfold codeValue
  rw [h.root, h.bfs_eq]
  simp only
  rw [h.passValue_eq scope cpt e _ h.code_order_perm h.code_order_childFirst]

/-- the value of the example row, obtained through the theorem from the array pass in the code's order -/
theorem exValue : Clt.value exScope exTree exCpt exEv = 3319 / 5000 := by
  obtain ⟨r, hr, hall, _⟩ := arrayPass_order_indep exTree exTree_wf exScope exCpt exEv
  have h3 : rootIdx exTree = some 3 := by decide
  rw [h3] at hr; cases hr
  rw [← (hall [2, 1, 4, 0] (by decide) (by decide)).1]
  decide +kernel

example : passValue exTree exCpt (rowOf exScope exEv) 3 [2, 1, 4, 0] = 3319 / 5000 ∧
    passValue exTree exCpt (rowOf exScope exEv) 3 [2, 1, 0, 4] ≠ 3319 / 5000 ∧
    Clt.value exScope exTree exCpt exEv = 3319 / 5000 ∧
    codeValue exTree exCpt (rowOf exScope exEv) = some (3319 / 5000) := by
  refine ⟨by decide +kernel, by decide +kernel, exValue, by decide +kernel⟩

/-- the theorems of `Props/Clt.lean` therefore apply to the code's pass: e.g. **C02** — what `message_passing`
returns on a row with missing entries is the sum over all completions of the values of the completed rows -/
theorem codeValue_marg (dom : Nat → Nat) (tree : List Int) (hwf : WellFormedPred tree) (scope : List Nat)
    (cpt : List (List (List α))) (hlen : scope.length = tree.length) (hnd : scope.Nodup)
    (hdom : ∀ v ∈ scope, dom v = 2) (e : Ev) :
    codeValue tree cpt (rowOf scope e) =
      some (sumOver dom scope e (fun e' => Clt.value scope tree cpt e')) := by
  obtain ⟨r, _, _, hc⟩ := arrayPass_order_indep tree hwf scope cpt e
  rw [hc, ← Clt.value_marg dom scope tree cpt ((wellFormedPred_iff_build tree).1.1 hwf) hlen hnd hdom e]

example : codeValue exTree exCpt (rowOf exScope exEv) =
    some (sumOver (fun _ => 2) exScope exEv (fun e' => Clt.value exScope exTree exCpt e')) :=
  codeValue_marg (fun _ => 2) exTree exTree_wf exScope exCpt rfl (by decide) (fun _ _ => rfl) exEv

end semiring

/-- **C06**: at the max-times carrier (`reduce='mpe'`) the slots of the code's pass are the products of the
max-product messages `upMax` of `Props/Clt.lean` (`up_max_eq_maxOver`: the maximum over all completions) -/
theorem arrayPass_max_slots {α : Type} [CommSemiring α] [LinearOrder α] [IsStrictOrderedRing α]
    (tree : List Int) (hwf : WellFormedPred tree) (scope : List Nat) (cpt : List (List (List α)))
    (hc : ∀ i l k, 0 ≤ cptAt cpt i l k) (e : Ev) (order : List Nat) (r : Nat) (hr : rootIdx tree = some r)
    (hperm : order.Perm ((List.range tree.length).erase r)) (hcf : childFirst tree order = true)
    (j : Nat) (hj : j < tree.length) (k : Nat) (hk : k < 2) :
    sel ((arrayPass tree (liftCpt cpt) (rowOf scope e) order).getD j (1, 1)) k =
      lprod ((childrenOf tree j).map (fun d => MaxTimes.ofVal (upMax scope cpt (build tree tree.length d) k e))) := by
  obtain ⟨r', hr', hall, _⟩ := arrayPass_order_indep tree hwf scope (liftCpt cpt) e
  rw [hr] at hr'; cases hr'
  rw [(hall order hperm hcf).2 j hj]
  have hval : ∀ d l, up scope (liftCpt cpt) (build tree tree.length d) l e =
      MaxTimes.ofVal (upMax scope cpt (build tree tree.length d) l e) := by
    intro d l
    rw [upMax_eq_val scope cpt hc]
    apply MaxTimes.ext
    simp [MaxTimes.ofVal, MaxTimes.nonneg]
  have : k = 0 ∨ k = 1 := by omega
  rcases this with rfl | rfl
  · simp only [sel_pair, if_true, hval]
  · simp only [sel_pair, hval]; simp

theorem exCpt_nonneg : ∀ i l k, 0 ≤ cptAt exCpt i l k :=
  cptAt_nonneg_of_forall exCpt (by decide +kernel)

example : sel ((arrayPass exTree (liftCpt exCpt) (rowOf exScope exEv) [2, 1, 4, 0]).getD 0 (1, 1)) 1 =
    lprod ((childrenOf exTree 0).map (fun d =>
      MaxTimes.ofVal (upMax exScope exCpt (build exTree exTree.length d) 1 exEv))) ∧ childrenOf exTree 0 = [4] :=
  ⟨arrayPass_max_slots exTree exTree_wf exScope exCpt exCpt_nonneg exEv [2, 1, 4, 0] 3 (by decide) (by decide)
    (by decide) 0 (by decide) 1 (by decide), by decide⟩

/-- tree `[3, 4, 1, -1, 0]`.  A `compute_bfs_ordering` that is only right when parents
have smaller indices returns the permutation `[3, 0, 1, 2, 4]` (root first!); `reversed(bfs[1:]) = [4, 2, 1, 0]` visits
node 4 before its child 1, so node 4 forwards an empty slot and the evidence on column 2 never reaches the root:
the row with column 2 observed (= 1) and the rest missing gets probability `1` instead of `3319/5000`. -/
theorem bad_order_drops_message :
    WellFormedPred exTree ∧ ([3, 0, 1, 2, 4] : List Nat).Perm (List.range 5) ∧
    ([4, 2, 1, 0] : List Nat).Perm ((List.range 5).erase 3) ∧ childFirst exTree [4, 2, 1, 0] = false ∧
    passValue exTree exCpt (rowOf exScope exEv) 3 [4, 2, 1, 0] = 1 ∧
    Clt.value exScope exTree exCpt exEv = 3319 / 5000 ∧
    passValue exTree exCpt (rowOf exScope exEv) 3 [4, 2, 1, 0] ≠ Clt.value exScope exTree exCpt exEv := by
  refine ⟨exTree_wf, by decide, by decide, by decide, by decide +kernel, exValue, ?_⟩
  rw [exValue]; decide +kernel

end Deeprob.GraphIo
