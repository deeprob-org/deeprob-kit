import DeeprobModel.Lemmas.PredTree
import DeeprobModel.Lemmas.MstBrute
import DeeprobModel.Lemmas.CltNorm
import DeeprobModel.Spec.CltFitSpec
import Mathlib.Tactic.NormNum
/-
C11 — Chow-Liu fitting: maximum-MI spanning tree with exact CPTs.

The theorems are followed by non-vacuity `example`s.  Model: `Model/CltFit.lean`; MI weights: `Spec/CltFitSpec.lean`.
-/

namespace Deeprob
namespace C11
open CltFit SpanTree

/-- running example: 4 rows × 3 binary variables -/
def X0 : List (List Nat) := [[1, 0, 1], [1, 1, 0], [0, 0, 1], [1, 1, 1]]

theorem X0_binary : Binary X0 := isBinary_sound (by decide)

/-- `estimate_priors_joints`: for 0/1 data the four vectorised cells
`n − c_j − c_i + c_ij`, `c_j − c_ij`, `c_i − c_ij`, `c_ij` (with `c = XᵀX`) are the true co-occurrence
counts `#{rows : x_i = a ∧ x_j = b}`; any field (any characteristic). -/
theorem counts_incl_excl {α : Type} [Field α] {X : List (List Nat)} (hX : Binary X)
    (i j a b : Nat) (ha : a < 2) (hb : b < 2) :
    (cell X i j a b : α) = (cnt2 X i j a b : α) :=
  cell_eq_cnt2 hX i j a b ha hb

example : (cell X0 0 1 1 0 : ℚ) = 1 ∧ cnt2 X0 0 1 1 0 = 1 :=
  ⟨by rw [counts_incl_excl X0_binary 0 1 1 0 (by omega) (by omega)]; decide +kernel, by decide⟩

/-- `priors[i,0] + priors[i,1] = 1` (no hypothesis at all). -/
theorem priors_sum_one {α : Type} [Field α] (X : List (List Nat)) (al : α) (i : Nat) :
    prior X al i 0 + prior X al i 1 = 1 :=
  prior_sum X al i

example : prior X0 (1/10 : ℚ) 2 0 + prior X0 (1/10 : ℚ) 2 1 = 1 := priors_sum_one _ _ _

/-- The smoothed joints marginalise *exactly* to the smoothed priors, in both
directions, also on the corrected diagonal: `Σ_b joints[i,j,a,b] = priors[i,a]` and
`Σ_a joints[i,j,a,b] = priors[j,b]`, as soon as `n + 4α ≠ 0` — for any counts, binary data or not. -/
theorem joints_marginal {α : Type} [Field α] (X : List (List Nat)) (al : α)
    (hD : (X.length : α) + 4 * al ≠ 0) (i j a : Nat) :
    joint X al i j a 0 + joint X al i j a 1 = prior X al i a ∧
    joint X al i j 0 a + joint X al i j 1 a = prior X al j a := by
  have hD' : denom X al ≠ 0 := by unfold denom; push_cast; exact hD
  exact ⟨joint_row_sum X al hD' i j a, joint_col_sum X al hD' i j a⟩

example : joint X0 (1/10 : ℚ) 0 2 1 0 + joint X0 (1/10 : ℚ) 0 2 1 1 = prior X0 (1/10 : ℚ) 0 1 :=
  (joints_marginal X0 (1/10 : ℚ) (by norm_num [X0]) 0 2 1).1

/-- the joints tensor is symmetric: `joints[i,j,a,b] = joints[j,i,b,a]`
(the check `joints == joints.transpose([1,0,3,2])` of `compute_mutual_information` never fires) -/
theorem joints_symmetric {α : Type} [Field α] (X : List (List Nat)) (al : α) (i j a b : Nat) :
    joint X al i j a b = joint X al j i b a :=
  joint_symm X al i j a b

example : joint X0 (1/10 : ℚ) 0 2 1 0 = joint X0 (1/10 : ℚ) 2 0 0 1 := joints_symmetric _ _ _ _ _ _

section ordered
variable {α : Type} [Field α] [LinearOrder α] [IsStrictOrderedRing α]

/-- smoothed priors and off-diagonal joints in closed form (0/1 data, `α > 0`) -/
theorem priors_joints_closed_form {X : List (List Nat)} (hX : Binary X) {al : α} (hal : 0 < al) :
    (∀ i k, k < 2 → prior X al i k = ((cnt1 X i k : α) + 2 * al) / ((X.length : α) + 4 * al)) ∧
    (∀ i j a b, i ≠ j → a < 2 → b < 2 →
      joint X al i j a b = ((cnt2 X i j a b : α) + al) / ((X.length : α) + 4 * al)) :=
  ⟨fun i k hk => prior_eq hX hal i k hk, fun _ _ a b hij ha hb => joint_eq hX al hij a b ha hb⟩

example : prior X0 (1/10 : ℚ) 0 1 = (3 + 2 * (1/10)) / (4 + 4 * (1/10)) := by
  have := (priors_joints_closed_form X0_binary (al := (1/10 : ℚ)) (by norm_num)).1 0 1 (by omega)
  rw [this]; decide +kernel

/-- `compute_clt_parameters`: for a non-root variable `i` with parent `pa = tree[i] ≠ i`:
`params[i, l, k] = (#{x_i = k ∧ x_pa = l} + α) / (#{x_pa = l} + 2α)`. -/
theorem cpt_is_smoothed_conditional {X : List (List Nat)} (hX : Binary X) {al : α} (hal : 0 < al)
    (pred : List Int) (root : Nat) {i : Nat} (hi : i ≠ root) (hpa : paIdx pred i ≠ i)
    (l k : Nat) (hl : l < 2) (hk : k < 2) :
    cpt X al pred root i l k =
      ((cnt2 X i (paIdx pred i) k l : α) + al) / ((cnt1 X (paIdx pred i) l : α) + 2 * al) := by
  rw [cpt_eq_rawParam hX hal pred root i l k hl]
  unfold rawParam
  rw [if_neg hi, joint_eq hX al (Ne.symm hpa) k l hk hl, prior_eq hX hal _ l hl]
  have h4 : (X.length : α) + 4 * al ≠ 0 := by
    have := denom_pos X hal
    unfold denom at this; push_cast at this; exact this.ne'
  rw [one_div, inv_div, div_mul_div_comm, mul_comm ((X.length : α) + 4 * al), mul_div_mul_right _ _ h4]

/-- the root rows (both `l`) are the smoothed prior `(#{x_root = k} + 2α) / (n + 4α)` -/
theorem cpt_root_is_smoothed_prior {X : List (List Nat)} (hX : Binary X) {al : α} (hal : 0 < al)
    (pred : List Int) (root : Nat) (l k : Nat) (hl : l < 2) (hk : k < 2) :
    cpt X al pred root root l k = ((cnt1 X root k : α) + 2 * al) / ((X.length : α) + 4 * al) := by
  rw [cpt_eq_rawParam hX hal pred root root l k hl]
  unfold rawParam
  rw [if_pos rfl, prior_eq hX hal root k hk]

example : cpt X0 (1/10 : ℚ) [-1, 0, 0] 0 1 1 1 = (2 + 1/10) / (3 + 2 * (1/10)) ∧
    cpt X0 (1/10 : ℚ) [-1, 0, 0] 0 0 1 1 = (3 + 2 * (1/10)) / (4 + 4 * (1/10)) := by
  constructor
  · rw [cpt_is_smoothed_conditional X0_binary (by norm_num) [-1, 0, 0] 0 (i := 1) (by omega)
      (by decide) 1 1 (by omega) (by omega)]
    decide +kernel
  · rw [cpt_root_is_smoothed_prior X0_binary (by norm_num) [-1, 0, 0] 0 1 1 (by omega) (by omega)]
    decide +kernel

/-- Every row of every table sums to one, exactly, for *any* predecessor vector and
root (tree or not), any 0/1 data and any `α > 0`. (In fact the rows already sum to one *before* the
re-normalisation `params /= params.sum(axis=2)`: `rawParam_row_sum`.) -/
theorem cpt_rows_sum_one {X : List (List Nat)} (hX : Binary X) {al : α} (hal : 0 < al)
    (pred : List Int) (root i l : Nat) (hl : l < 2) :
    cpt X al pred root i l 0 + cpt X al pred root i l 1 = 1 := by
  rw [cpt_eq_rawParam hX hal pred root i l 0 hl, cpt_eq_rawParam hX hal pred root i l 1 hl]
  exact rawParam_row_sum hX hal pred root i l hl

example : cpt X0 (1/10 : ℚ) [2, 2, -1] 2 0 1 0 + cpt X0 (1/10 : ℚ) [2, 2, -1] 2 0 1 1 = 1 :=
  cpt_rows_sum_one X0_binary (by norm_num) _ _ _ _ (by omega)

/-- Every table entry is strictly positive (so `np.log(params)` is finite). -/
theorem cpt_pos {X : List (List Nat)} (hX : Binary X) {al : α} (hal : 0 < al)
    (pred : List Int) (root : Nat) (i : Nat) (hpa : i = root ∨ paIdx pred i ≠ i)
    (l k : Nat) (hl : l < 2) (hk : k < 2) : 0 < cpt X al pred root i l k := by
  rw [cpt_eq_rawParam hX hal pred root i l k hl]
  unfold rawParam
  split
  · exact prior_pos hX hal root k hk
  · rename_i hi
    exact mul_pos (joint_pos hX hal (Ne.symm (hpa.resolve_left hi)) k l hk hl)
      (one_div_pos.2 (prior_pos hX hal _ l hl))

example : 0 < cpt X0 (1/10 : ℚ) [2, 2, -1] 2 0 1 0 :=
  cpt_pos X0_binary (by norm_num) _ _ _ (Or.inr (by decide)) _ _ (by omega) (by omega)

/-- on a rooted spanning tree all `n·2·2` entries are positive and every row sums to one -/
theorem cpt_tree_valid {X : List (List Nat)} (hX : Binary X) {al : α} (hal : 0 < al)
    {pred : List Int} {root : Nat} (hT : isRootedSpanningTree pred root = true) :
    ∀ i, i < pred.length → ∀ l, l < 2 →
      (∀ k, k < 2 → 0 < cpt X al pred root i l k) ∧
      cpt X al pred root i l 0 + cpt X al pred root i l 1 = 1 := by
  intro i hi l hl
  refine ⟨fun k hk => cpt_pos hX hal pred root i ?_ l k hl hk, cpt_rows_sum_one hX hal pred root i l hl⟩
  by_cases hir : i = root
  · exact Or.inl hir
  · obtain ⟨p, _, hne, _, hpa⟩ := parent_of_isRST hT hi hir
    exact Or.inr (hpa ▸ hne)

example : isRootedSpanningTree [2, 2, -1] 2 = true := by decide

end ordered

/-- The Boolean check means: `root` is a valid index and is the only `-1`
entry (`Clt.rootOf`), every other vertex has an in-range parent different from itself, and the undirected
edge set `{ {i, pred[i]} : i ≠ root }` is a spanning tree of the `n` vertices (connected, `≤ n-1` edges —
equivalently Mathlib's `SimpleGraph.IsTree`: `SpanTree.IsSpanTree.isTree`, `SpanTree.isSpanTree_of_isTree`). -/
theorem isRootedSpanningTree_sound {pred : List Int} {root : Nat}
    (hT : isRootedSpanningTree pred root = true) :
    root < pred.length ∧ Clt.rootOf pred = some root ∧
    (∀ i, i < pred.length → i ≠ root → ∃ p, parent pred i = some p ∧ p ≠ i ∧ p < pred.length) ∧
    IsSpanTree (predEdges pred.length pred root) := by
  refine ⟨((isRST_iff pred root).mp hT).1, rootOf_of_isRST hT, ?_, predEdges_isSpanTree hT rfl⟩
  intro i hi hir
  obtain ⟨p, h1, h2, h3, _⟩ := parent_of_isRST hT hi hir
  exact ⟨p, h1, h2, h3⟩

example : isRootedSpanningTree [3, 3, 0, -1, 2] 3 = true := by decide

section weights
variable {α : Type} [AddCommMonoid α] [LinearOrder α] [IsOrderedAddMonoid α]

omit [IsOrderedAddMonoid α] in
/-- Prop meaning of the Boolean certificate `cycleOK`: every non-tree edge `{u,v}` is joined
inside the tree by a walk all of whose edges weigh at least `w u v`. -/
theorem cycleOK_sound (w : Nat → Nat → α) (hs : ∀ a b, w a b = w b a) {pred : List Int} {root : Nat}
    (hT : isRootedSpanningTree pred root = true) (hc : cycleOK w pred = true) :
    CycleProp (symW w hs pred.length) (predEdges pred.length pred root) :=
  CltFit.cycleOK_sound w hs hT rfl hc

/-- Maximum spanning tree ⇐ cycle property (exchange argument, unbounded `n`).
If `pred` is a rooted spanning tree passing the `cycleOK` certificate for the symmetric weights `w`, then
**every** spanning tree on the same vertices — every connected edge set `T'` with at most `n-1` edges — has
total weight `≤ treeWeight w pred`; in particular every other predecessor vector that encodes a rooted
spanning tree (any root). -/
theorem cycleOK_max (w : Nat → Nat → α) (hs : ∀ a b, w a b = w b a) {pred : List Int} {root : Nat}
    (hT : isRootedSpanningTree pred root = true) (hc : cycleOK w pred = true) :
    (∀ T' : Finset (Sym2 (Fin pred.length)), IsSpanTree T' →
        ∑ e ∈ T', symW w hs pred.length e ≤ treeWeight w pred) ∧
    (∀ (pred' : List Int) (root' : Nat), pred'.length = pred.length →
        isRootedSpanningTree pred' root' = true → treeWeight w pred' ≤ treeWeight w pred) := by
  -- the computed weight is the weight of the edge set, which has the cycle property
  have hE : ∀ T' : Finset (Sym2 (Fin pred.length)), IsSpanTree T' →
      ∑ e ∈ T', symW w hs pred.length e ≤ treeWeight w pred := fun T' hT' => by
    rw [treeWeight_eq w hs hT rfl]
    exact cycleProp_max (symW w hs _) _ (predEdges_isSpanTree hT rfl) (CltFit.cycleOK_sound w hs hT rfl hc) T' hT'
  exact ⟨hE, fun pred' root' hlen hT' => by
    rw [treeWeight_eq w hs hT' hlen]
    exact hE _ (predEdges_isSpanTree hT' hlen)⟩

/-- what the driver actually runs: the checks on `symMax w` (the undirected weights SciPy's Kruskal sees) need
no symmetry assumption on the shipped matrix at all -/
theorem cycleOK_max_symMax (w : Nat → Nat → α) {pred : List Int} {root : Nat}
    (hT : isRootedSpanningTree pred root = true) (hc : cycleOK (symMax w) pred = true) :
    ∀ (pred' : List Int) (root' : Nat), pred'.length = pred.length →
      isRootedSpanningTree pred' root' = true →
      treeWeight (symMax w) pred' ≤ treeWeight (symMax w) pred :=
  (cycleOK_max (symMax w) (symMax_symm w) hT hc).2

/-- the same bound against every Mathlib tree (`SimpleGraph.IsTree`) on the `n` vertices -/
theorem cycleOK_max_simpleGraph (w : Nat → Nat → α) (hs : ∀ a b, w a b = w b a) {pred : List Int}
    {root : Nat} (hT : isRootedSpanningTree pred root = true) (hc : cycleOK w pred = true)
    (G : SimpleGraph (Fin pred.length)) [DecidableRel G.Adj] (hG : G.IsTree) :
    ∑ e ∈ G.edgeFinset, symW w hs pred.length e ≤ treeWeight w pred :=
  (cycleOK_max w hs hT hc).1 _ (isSpanTree_of_isTree G hG)

/-- example weights on 5 vertices, `w i j = i + j`: the star centred at the largest vertex is maximal
(weight 22), the path 0-1-2-3-4 weighs 16 -/
def w0 : Nat → Nat → ℤ := fun i j => (i + j : Nat)

example : isRootedSpanningTree [4, 4, 4, 4, -1] 4 = true ∧ cycleOK w0 [4, 4, 4, 4, -1] = true ∧
    (∀ a b, w0 a b = w0 b a) ∧ isRootedSpanningTree [1, 2, 3, 4, -1] 4 = true ∧
    treeWeight w0 [1, 2, 3, 4, -1] = 16 ∧ treeWeight w0 [4, 4, 4, 4, -1] = 22 ∧
    cycleOK (symMax w0) [4, 4, 4, 4, -1] = true := by
  refine ⟨by decide, by decide +kernel, fun a b => by simp [w0, Nat.add_comm], by decide,
    by decide +kernel, by decide +kernel, by decide +kernel⟩

/-- Mathlib trees on `Fin 5` exist (a spanning tree of the complete graph), so the quantifier is inhabited -/
example : ∃ (G : SimpleGraph (Fin 5)) (_ : DecidableRel G.Adj), G.IsTree := by
  classical
  obtain ⟨T, _, hT⟩ := (SimpleGraph.connected_top (V := Fin 5)).exists_isTree_le
  exact ⟨T, inferInstance, hT⟩

end weights

/-- The driver's exhaustive cross-check value dominates every predecessor vector rooted
at vertex 0 that encodes a spanning tree (every labelled tree has exactly one such vector). Together with
`cycleOK_max`: when both checks pass, `mstBrute = some (treeWeight w pred')` for the re-rooted optimum
(`CltFit.mstBrute_eq_of_max`). -/
theorem mstBrute_sound {α : Type} [LinearOrder α] [Zero α] [Add α] (w : Nat → Nat → α) {pred : List Int}
    (hT : isRootedSpanningTree pred 0 = true) :
    ∃ b, mstBrute w pred.length = some b ∧ treeWeight w pred ≤ b :=
  mstBrute_ge w hT

example : isRootedSpanningTree [-1, 0, 1, 2, 3] 0 = true ∧ mstBrute w0 5 = some 22 := by
  refine ⟨by decide, ?_⟩
  -- the star centred at 4, re-rooted at 0, passes `cycleOK`: it is what the exhaustive search returns
  have hT : isRootedSpanningTree [-1, 4, 4, 4, 0] 0 = true := by decide
  have h := mstBrute_eq_of_max w0 hT (fun pred' hlen hT' =>
    (cycleOK_max w0 (fun a b => by simp [w0, Nat.add_comm]) hT (by decide +kernel)).2 pred' 0 hlen hT')
  rw [show treeWeight w0 [-1, 4, 4, 4, 0] = 22 by decide +kernel] at h
  exact h

/-- The statement of C11 about the structure: with the mutual-information weights of
`compute_mutual_information` under the smoothed estimates (any field with a `log`), a returned tree that
passes the two checks has maximal total mutual information among all spanning trees. -/
theorem fit_tree_maximal {F : Type} [Field F] [LinearOrder F] [IsStrictOrderedRing F] (E : ExpLog F)
    (X : List (List Nat)) (al : F) {pred : List Int} {root : Nat}
    (hT : isRootedSpanningTree pred root = true) (hc : cycleOK (mutualInfo E X al) pred = true) :
    ∀ (pred' : List Int) (root' : Nat), pred'.length = pred.length →
      isRootedSpanningTree pred' root' = true →
      treeWeight (mutualInfo E X al) pred' ≤ treeWeight (mutualInfo E X al) pred :=
  (cycleOK_max (mutualInfo E X al) (mutualInfo_symm E X al) hT hc).2

example {F : Type} [Field F] [LinearOrder F] [IsStrictOrderedRing F] (E : ExpLog F) (X : List (List Nat))
    (al : F) : isRootedSpanningTree [-1, 0] 0 = true ∧ cycleOK (mutualInfo E X al) [-1, 0] = true :=
  ⟨by decide, by
    have : cyclePairs [-1, 0] = [] := by decide
    simp [cycleOK, this]⟩

/-- Any CLT whose predecessor vector is a rooted spanning tree and whose table rows sum
to one evaluates the all-missing evidence (`message_passing` with every entry NaN) to one — any
commutative semiring. -/
theorem clt_normalised {α : Type} [CommSemiring α] (scope : List Nat) {pred : List Int} {root : Nat}
    (cpt : List (List (List α))) (hT : isRootedSpanningTree pred root = true)
    (hrow : ∀ i, i < pred.length → ∀ l, l < 2 → Clt.cptAt cpt i l 0 + Clt.cptAt cpt i l 1 = 1) :
    Clt.value scope pred cpt (fun _ => none) = 1 :=
  Clt.value_none_one scope pred cpt root (rootOf_of_isRST hT) ((isRST_iff pred root).mp hT).1 hrow

example : Clt.value [0, 1, 2] [-1, 0, 0] [[[(1/2 : ℚ), 1/2], [1/2, 1/2]], [[1/3, 2/3], [1/4, 3/4]],
    [[1, 0], [1/5, 4/5]]] (fun _ => none) = 1 := by
  exact clt_normalised (root := 0) _ _ (by decide) (by decide +kernel)

/-- Whatever the 0/1 data, `α > 0`, the root and the spanning tree found, the fitted
CLT (`cptTable` = exp of the stored `params`) is normalised. -/
theorem fit_normalised {α : Type} [Field α] [LinearOrder α] [IsStrictOrderedRing α]
    {X : List (List Nat)} (hX : Binary X) {al : α} (hal : 0 < al) (scope : List Nat)
    {pred : List Int} {root : Nat} (hT : isRootedSpanningTree pred root = true) :
    Clt.value scope pred (cptTable X al pred root) (fun _ => none) = 1 := by
  apply clt_normalised scope _ hT
  intro i hi l hl
  rw [cptAt_cptTable X al pred root hi hl (by omega), cptAt_cptTable X al pred root hi hl (by omega)]
  exact cpt_rows_sum_one hX hal pred root i l hl

example : Clt.value [5, 3, 8] [2, 2, -1] (cptTable X0 (1/10 : ℚ) [2, 2, -1] 2) (fun _ => none) = 1 :=
  fit_normalised X0_binary (by norm_num) _ (by decide)

end C11
end Deeprob
