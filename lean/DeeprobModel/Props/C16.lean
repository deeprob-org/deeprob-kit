import DeeprobModel.Lemmas.TensorLemmas
import DeeprobModel.Lemmas.TensorCirc
import Mathlib.Algebra.Ring.Rat
import Mathlib.Tactic.NormNum
/-
C16 — RAT-SPNs: region graphs are partitions, the padding buffers index every feature exactly once,
`unpad_samples` (today's library: it selects `~inv_pad_mask`) returns complete rows in the original feature order
(the library as received selected `inv_pad_mask`: witness `old_unpad_keeps_pads`), and the unrolled
network is a valid (smooth, decomposable) circuit, hence normalised with exact NaN-marginalisation.

Accepted architectures: `RatSpn.accepted n depth` = the guards of `RegionGraph.__init__`
(`n > 0`, `depth > 0`, `depth ≤ int(log2 n)`, i.e. `2^depth ≤ n`, see `accepted_iff`); repetitions,
batch, sum and class counts are positive.  The random permutations are an oracle `ρ t r`
(repetition `t`, region `r`) about which only `(ρ t r).Perm r` is assumed.
-/
namespace Deeprob
namespace RatSpn

/-- the oracle used in the non-vacuity examples: every region is reversed -/
def revOracle : Nat → List Nat → List Nat := fun _ r => r.reverse

theorem revOracle_perm : ∀ t r, (revOracle t r).Perm r := fun _ r => List.reverse_perm r

/-- every partition `(p0, p1)` of the region graph splits its parent region
into two non-empty, disjoint, sorted parts covering it, of sizes `⌊|r|/2⌋` and `⌈|r|/2⌉` (the second
half gets the extra element).  Uses the guard `2^depth ≤ n`, which makes every region above the leaf
level have at least two elements. -/
theorem regions_partition (ρ : Nat → List Nat → List Nat) (hρ : ∀ t r, (ρ t r).Perm r)
    (n depth reps k : Nat) (hacc : accepted n depth = true) (hk : k < depth) :
    ∀ p ∈ partitionLayer ρ n reps k, ∃ r ∈ regionLayer ρ n reps k,
      p.1 ≠ [] ∧ p.2 ≠ [] ∧ (∀ v, v ∈ p.1 → v ∉ p.2) ∧ (∀ v, v ∈ r ↔ v ∈ p.1 ∨ v ∈ p.2) ∧
      (p.1 ++ p.2).Perm r ∧ p.1.length = r.length / 2 ∧ p.2.length = (r.length + 1) / 2 ∧
      p.1.Pairwise (· < ·) ∧ p.2.Pairwise (· < ·) := by
  intro p hp
  obtain ⟨_, _, h2⟩ := (accepted_iff n depth).1 hacc
  simp only [partitionLayer, partitionLevel, nextPartitions, List.mem_flatMap, List.mem_range, List.mem_map] at hp
  obtain ⟨t, ht, r, hr, rfl⟩ := hp
  refine ⟨r, ?_, ?_⟩
  · unfold regionLayer
    split
    · rename_i hk0; subst hk0; simpa [regionLevel] using hr
    · exact List.mem_flatMap.2 ⟨t, List.mem_range.2 ht, hr⟩
  · have hperm := split_perm (ρ t) r (hρ t r)
    have hl1 := split_len1 (ρ t) r (hρ t r)
    have hl2 := split_len2 (ρ t) r (hρ t r)
    obtain ⟨p1, p2, e2⟩ := half_split (level_two_le (ρ t) (hρ t) n depth k h2 hk r hr)
    have hnd := level_region_nodup (ρ t) (hρ t) n k r hr
    have hdis := (List.nodup_append.1 (split_nodup (ρ t) r (hρ t r) hnd)).2.2
    obtain ⟨hs1, hs2⟩ := split_strict (ρ t) r (hρ t r) hnd
    refine ⟨?_, ?_, ?_, ?_, hperm, hl1, hl2.trans e2, hs1, hs2⟩
    · exact List.ne_nil_of_length_pos (hl1 ▸ p1)
    · exact List.ne_nil_of_length_pos (hl2 ▸ p2)
    · intro v h1 h2'; exact hdis v h1 v h2' rfl
    · intro v; rw [← hperm.mem_iff, List.mem_append]

/-- non-vacuity: 5 features, depth 2, two repetitions; layer 1 has the partitions `(3,4 | 0,1,2)` twice -/
example : accepted 5 2 = true ∧ partitionLayer revOracle 5 2 0 = [([3, 4], [0, 1, 2]), ([3, 4], [0, 1, 2])] ∧
    partitionLayer revOracle 5 2 1 = [([4], [3]), ([2], [0, 1]), ([4], [3]), ([2], [0, 1])] := by decide +kernel

/-- for each repetition `t`, the `2^depth` leaf regions handed to the base
layer (block `t` of `rg_layers[0]`) are non-empty and partition the feature set `0..n-1`. -/
theorem leaf_regions_partition (ρ : Nat → List Nat → List Nat) (hρ : ∀ t r, (ρ t r).Perm r)
    (n depth reps t : Nat) (hacc : accepted n depth = true) (ht : t < reps) :
    let leaves := ((leafRegions ρ n depth reps).drop (t * 2 ^ depth)).take (2 ^ depth)
    leaves.length = 2 ^ depth ∧ leaves.flatten.Perm (List.range n) ∧ (∀ r ∈ leaves, r ≠ []) ∧
      (leafRegions ρ n depth reps).length = reps * 2 ^ depth := by
  obtain ⟨_, hd, h2⟩ := (accepted_iff n depth).1 hacc
  simp only
  rw [leaf_block ρ n depth reps t hd ht]
  refine ⟨level_length _ _ _, level_flatten_perm (ρ t) (hρ t) n depth, ?_, leafRegions_length ρ n depth reps hd⟩
  exact fun r hr => List.ne_nil_of_length_pos (level_nonempty (ρ t) (hρ t) n depth depth h2 (Nat.le_refl _) r hr)

example : leafRegions revOracle 5 2 2 = [[4], [3], [2], [0, 1], [4], [3], [2], [0, 1]] := by decide +kernel

/-- every leaf region has `⌊n/2^depth⌋` or `⌈n/2^depth⌉` elements (so sizes differ by
at most one), at least one and at most `dimension`. -/
theorem leaf_sizes (ρ : Nat → List Nat → List Nat) (hρ : ∀ t r, (ρ t r).Perm r)
    (n depth reps : Nat) (hacc : accepted n depth = true) :
    ∀ r ∈ leafRegions ρ n depth reps,
      n / 2 ^ depth ≤ r.length ∧ r.length ≤ (n + 2 ^ depth - 1) / 2 ^ depth ∧
      (n + 2 ^ depth - 1) / 2 ^ depth ≤ n / 2 ^ depth + 1 ∧
      1 ≤ r.length ∧ r.length ≤ dimOf n depth ∧ dimOf n depth = (n + 2 ^ depth - 1) / 2 ^ depth := by
  intro r hr
  obtain ⟨_, hd, h2⟩ := (accepted_iff n depth).1 hacc
  obtain ⟨t, _, hr'⟩ := (mem_leafRegions ρ hd).1 hr
  have hs := level_sizes (ρ t) (hρ t) n depth r hr'
  refine ⟨hs.1, hs.2, ?_, level_nonempty (ρ t) (hρ t) n depth depth h2 (Nat.le_refl _) r hr',
    leaf_le_dim (ρ t) (hρ t) n depth r hr', dimOf_eq_ceil n depth⟩
  have hm := Nat.two_pow_pos depth
  have : n + 2 ^ depth - 1 ≤ n + 2 ^ depth := by omega
  calc (n + 2 ^ depth - 1) / 2 ^ depth ≤ (n + 2 ^ depth) / 2 ^ depth := Nat.div_le_div_right this
    _ = n / 2 ^ depth + 1 := Nat.add_div_right n hm

example : accepted 5 2 = true ∧ dimOf 5 2 = 2 ∧ padOf 5 2 = 3 := by decide +kernel

/-- row `t` of the reshaped `pad_mask` has width `n + pad` and marks exactly
`pad = -n mod 2^depth` dummy positions; `n + pad = 2^depth * dimension`. -/
theorem pad_count (ρ : Nat → List Nat → List Nat) (hρ : ∀ t r, (ρ t r).Perm r)
    (n depth reps t : Nat) (hacc : accepted n depth = true) (ht : t < reps) :
    (padFlat n depth (leafRegions ρ n depth reps) t).length = n + padOf n depth ∧
    (padFlat n depth (leafRegions ρ n depth reps) t).count true = padOf n depth ∧
    (padFlat n depth (leafRegions ρ n depth reps) t).count false = n ∧
    2 ^ depth * dimOf n depth = n + padOf n depth ∧ padOf n depth < 2 ^ depth := by
  obtain ⟨_, hd, h2⟩ := (accepted_iff n depth).1 hacc
  have R := leafRows ρ hρ n depth reps hd
  have hlen := R.padFlat_len ht
  have hfalse : (padFlat n depth (leafRegions ρ n depth reps) t).count false = n := by
    have h1 := (R.nonpad_perm ht).length_eq
    rw [List.length_map, List.length_range] at h1
    rw [count_false_zip (maskFlat n depth (leafRegions ρ n depth reps) t) _ ((R.maskFlat_len ht).trans hlen.symm)]
    exact h1
  have htrue := count_true_false (padFlat n depth (leafRegions ρ n depth reps) t)
  rw [hfalse, hlen, Nat.add_comm n] at htrue
  exact ⟨hlen, Nat.add_right_cancel htrue, hfalse, pad_total n depth, pad_lt n depth⟩

example : padFlat 5 2 (leafRegions revOracle 5 2 2) 1 = [false, true, false, true, false, true, false, false] := by
  decide +kernel

/-- **index form**: for every accepted architecture, every permutation oracle and
every repetition `t`, the positions gathered by `unpad_samples` carry the variables
`0, 1, …, n-1` in this order — each feature exactly once, in the original order — none of them is a dummy
position, and no position is read twice.  (The proof uses only that `inv_mask[t]` is a permutation of the
positions listing the mask values in non-decreasing order, so it holds for any tie-breaking of `argsort`.) -/
theorem unpad_each_var_once_idx (ρ : Nat → List Nat → List Nat) (hρ : ∀ t r, (ρ t r).Perm r)
    (n depth reps t : Nat) (hacc : accepted n depth = true) (ht : t < reps) :
    (unpadIdx n depth (leafRegions ρ n depth reps) t).map
        (fun p => (maskFlat n depth (leafRegions ρ n depth reps) t).getD p 0) = List.range n ∧
    (unpadIdx n depth (leafRegions ρ n depth reps) t).length = n ∧
    (unpadIdx n depth (leafRegions ρ n depth reps) t).Nodup ∧
    ∀ p ∈ unpadIdx n depth (leafRegions ρ n depth reps) t,
      p < n + padOf n depth ∧ (padFlat n depth (leafRegions ρ n depth reps) t).getD p false = false := by
  obtain ⟨_, hd, h2⟩ := (accepted_iff n depth).1 hacc
  have R := leafRows ρ hρ n depth reps hd
  refine ⟨R.unpadIdx_keys ht, R.unpadIdx_length ht, ?_, ?_⟩
  · rw [R.unpadIdx_eq_filter ht]
    exact List.Nodup.sublist List.filter_sublist ((argsort_perm _).nodup_iff.2 List.nodup_range)
  · exact fun p hp => ⟨R.unpadIdx_lt ht p hp, ((R.mem_unpadIdx ht p).1 hp).2⟩

example : unpadIdx 5 2 (leafRegions revOracle 5 2 2) 0 = [6, 7, 4, 2, 0] ∧
    maskFlat 5 2 (leafRegions revOracle 5 2 2) 0 = [4, 4, 3, 3, 2, 2, 0, 1] := by decide +kernel

/-- **row form**: let `x` be a row of width `in_features` and `s` a padded row
(width `n + pad`) holding at every non-dummy position `p` the value of the variable `mask[p]` (dummy
positions hold anything, e.g. the samples drawn for the dummy variables).  Then
`unpad_samples` returns exactly `x`: complete, of the input width, in the original order. -/
theorem unpad_each_var_once {β : Type} (ρ : Nat → List Nat → List Nat) (hρ : ∀ t r, (ρ t r).Perm r)
    (n depth reps t : Nat) (hacc : accepted n depth = true) (ht : t < reps)
    (x s : List β) (hx : x.length = n) (hs : s.length = n + padOf n depth)
    (hcompat : ∀ p, p < n + padOf n depth →
      (padFlat n depth (leafRegions ρ n depth reps) t).getD p false = false →
      s[p]? = x[(maskFlat n depth (leafRegions ρ n depth reps) t).getD p 0]?) :
    unpad n depth (leafRegions ρ n depth reps) t s = x := by
  obtain ⟨_, hd, _⟩ := (accepted_iff n depth).1 hacc
  apply List.ext_getElem?
  intro i
  by_cases hi : i < n
  · obtain ⟨p, hp, hnp, hkey, hread⟩ := (leafRows ρ hρ n depth reps hd).unpad_reads ht hs hi
    rw [hread, hcompat p hp hnp, hkey]
  · rw [List.getElem?_eq_none (((leafRows ρ hρ n depth reps hd).unpad_length ht hs).trans_le (Nat.le_of_not_lt hi)),
      List.getElem?_eq_none (hx.trans_le (Nat.le_of_not_lt hi))]

/-- non-vacuity: 5 features, depth 2 (pad 3); the padded row carries junk (99) at the dummy positions -/
example : unpad 5 2 (leafRegions revOracle 5 2 2) 0 [14, 99, 13, 99, 12, 99, 10, 11] = [10, 11, 12, 13, 14] := by
  decide +kernel

/-- witness of the defect of the library as received (finding F10 of DESIGN.md): for 5 features and depth 2
(pad 3) its selection `samples[inv_pad_mask]` keeps exactly the 3 dummy positions and drops all
5 features, so the subsequent `.view(n_samples, in_features)` cannot succeed (3 ≠ 5). -/
theorem old_unpad_keeps_pads :
    accepted 5 2 = true ∧
    unpadOldIdx 5 2 (leafRegions revOracle 5 2 1) 0 = [5, 3, 1] ∧
    (∀ p ∈ unpadOldIdx 5 2 (leafRegions revOracle 5 2 1) 0,
        (padFlat 5 2 (leafRegions revOracle 5 2 1) 0).getD p false = true) ∧
    (unpadOld 5 2 (leafRegions revOracle 5 2 1) 0 [14, 99, 13, 98, 12, 97, 10, 11]) = [97, 98, 99] ∧
    (unpadOld 5 2 (leafRegions revOracle 5 2 1) 0 [14, 99, 13, 98, 12, 97, 10, 11]).length ≠ 5 := by
  decide +kernel

/-- base layer: `torch.where(isnan(x), samples, x)` returns a complete row of
the input width that agrees with `x` on every observed entry. -/
theorem mpe_keeps_observed {β : Type} (x : List (Option β)) (samples : List β) (h : samples.length = x.length) :
    (completeRow x samples).length = x.length ∧
    ∀ (i : Nat) (v : β), x[i]? = some (some v) → (completeRow x samples)[i]? = some v :=
  completeRow_spec x samples h

example : completeRow [some 1, none, some 0] [7, 8, 9] = [1, 8, 0] := by decide +kernel


/-- composing the pad-scatter (`x[:, self.mask]`, flattened per repetition) with the un-pad
gather is the identity on rows of width `in_features` -/
theorem unpad_scatter {β : Type} (ρ : Nat → List Nat → List Nat) (hρ : ∀ t r, (ρ t r).Perm r)
    (n depth reps t : Nat) (hacc : accepted n depth = true) (ht : t < reps) (x : List β) (hx : x.length = n) :
    unpad n depth (leafRegions ρ n depth reps) t (scatter n depth (leafRegions ρ n depth reps) t x) = x := by
  obtain ⟨_, hd, h2⟩ := (accepted_iff n depth).1 hacc
  have hlt : ∀ p ∈ maskFlat n depth (leafRegions ρ n depth reps) t, p < x.length := by
    rw [hx]; exact (leafRows ρ hρ n depth reps hd).mem_maskFlat_lt ht h2
  have hlen := (leafRows ρ hρ n depth reps hd).maskFlat_len ht
  apply unpad_each_var_once ρ hρ n depth reps t hacc ht x _ hx
  · unfold scatter; rw [gatherRow_length x _ hlt, hlen]
  · intro p hp _
    unfold scatter
    rw [gatherRow_getElem? x _ hlt p, List.getElem?_eq_getElem (by omega), List.getD_eq_getElem _ _ (by omega)]
    rfl

example : scatter 5 2 (leafRegions revOracle 5 2 2) 0 [10, 11, 12, 13, 14] = [14, 14, 13, 13, 12, 12, 10, 11] ∧
    unpad 5 2 (leafRegions revOracle 5 2 2) 0 (scatter 5 2 (leafRegions revOracle 5 2 2) 0 [10, 11, 12, 13, 14])
      = [10, 11, 12, 13, 14] := by decide +kernel

/-- **complete in-domain rows**: if every non-dummy position `p` of the padded row holds a value that is
in the domain of the variable `mask[p]` (the mode / a sample of the leaf that owns it),
`unpad_samples` returns a row of the input width whose entry `i` is in the domain of variable `i`. -/
theorem unpad_in_domain {β : Type} (ρ : Nat → List Nat → List Nat) (hρ : ∀ t r, (ρ t r).Perm r)
    (n depth reps t : Nat) (hacc : accepted n depth = true) (ht : t < reps)
    (s : List β) (hs : s.length = n + padOf n depth) (InDom : Nat → β → Prop)
    (hdom : ∀ p v, p < n + padOf n depth →
      (padFlat n depth (leafRegions ρ n depth reps) t).getD p false = false → s[p]? = some v →
      InDom ((maskFlat n depth (leafRegions ρ n depth reps) t).getD p 0) v) :
    (unpad n depth (leafRegions ρ n depth reps) t s).length = n ∧
    ∀ (i : Nat) (v : β), (unpad n depth (leafRegions ρ n depth reps) t s)[i]? = some v → InDom i v := by
  obtain ⟨_, hd, _⟩ := (accepted_iff n depth).1 hacc
  have R := leafRows ρ hρ n depth reps hd
  have hl := R.unpad_length ht hs
  refine ⟨hl, fun i v hv => ?_⟩
  have hi : i < n := hl ▸ (List.getElem?_eq_some_iff.1 hv).1
  obtain ⟨p, hp, hnp, hkey, hread⟩ := R.unpad_reads ht hs hi
  rw [hread] at hv
  exact hkey ▸ hdom p v hp hnp hv

/-- **top-down propagation reaches one repetition**: `ProductLayer.sample / .mpe` map group `g` to
`[2g, 2g+1]`; starting from the top-level partition `g` chosen by the root layer, after `depth` product
layers the reached leaf regions are `g·2^depth + 0, …, g·2^depth + 2^depth - 1` in this order, i.e. exactly
block `g` of the leaf regions — the row `idx_group[:, 0] // 2^depth = g` of `mask` / `inv_mask` /
`inv_pad_mask` that `unpad_samples` uses. -/
theorem topdown_reaches_one_repetition (g depth : Nat) :
    leafGroups g depth = (List.range (2 ^ depth)).map (fun i => g * 2 ^ depth + i) ∧
    (∀ m groups offsets, (prodDown m groups offsets).1 = groups.flatMap (fun g => [2 * g, 2 * g + 1])) ∧
    (leafGroups g depth).head? = some (g * 2 ^ depth) ∧ (g * 2 ^ depth) / 2 ^ depth = g :=
  ⟨leafGroups_eq g depth, fun _ _ _ => rfl, leafGroups_head? g depth, Nat.mul_div_cancel _ (Nat.two_pow_pos depth)⟩

example : leafGroups 1 2 = [4, 5, 6, 7] ∧ prodDown 2 [1] [3] = ([2, 3], [1, 1]) := by decide +kernel



section circuit
variable {α : Type} [CommSemiring α]

/-- for every accepted architecture (any feature count — padded or not —, depth,
repetitions, batch and sum sizes), every permutation oracle, every family of univariate leaf
distributions (`LeafOK`: each looks only at its variable and marginalises itself when it is missing) and
weights of the shapes the constructor allocates, the unrolled RAT-SPN is a smooth and decomposable
circuit over the variables `0..n-1`: product nodes combine the two (disjoint) halves of one parent
region, sum nodes mix nodes over the same region, the root mixes over all repetitions. -/
theorem unroll_valid (dom : Nat → Nat) (ρ : Nat → List Nat → List Nat) (hρ : ∀ t r, (ρ t r).Perm r)
    (n depth reps batch rgSum : Nat) (hacc : accepted n depth = true)
    (hreps : 0 < reps) (hb : 0 < batch) (hs : 0 < rgSum)
    (lf : Nat → Nat → Nat → Ev → α)
    (hleaf : ∀ i c k, k < ((leafRegions ρ n depth reps).getD i []).length →
      LeafOK dom [((leafRegions ρ n depth reps).getD i []).getD k 0] (lf i c k))
    (w : Nat → Nat → Nat → List α)
    (hw : ∀ l j o, (w l j o).length = if l = 0 then batch * batch else rgSum * rgSum)
    (wroot : List α)
    (hroot : wroot.length = reps * (if depth = 1 then batch * batch else rgSum * rgSum)) :
    Circ.Valid dom (unroll ρ n depth reps batch rgSum lf w wroot) ∧
    (unroll ρ n depth reps batch rgSum lf w wroot).scope = List.range n := by
  obtain ⟨_, hd, _⟩ := (accepted_iff n depth).1 hacc
  refine ⟨?_, rfl⟩
  obtain ⟨k, rfl⟩ : ∃ k, depth = k + 1 := ⟨depth - 1, by omega⟩
  unfold unroll
  have hbase := base_inv dom (leafRows ρ hρ n (k + 1) reps hd) batch lf hleaf
  have hregs : leafRegions ρ n (k + 1) reps = (taggedLevel ρ n reps (k + 1)).map Prod.snd := by
    rw [taggedLevel_untag, leafRegions_eq ρ n (k + 1) reps hd]
  rw [hregs] at hbase
  have hin := inner_inv dom ρ hρ n reps rgSum hs w k 0 batch _ hb hbase
    (fun j o => by rw [hw 0 j o, if_pos rfl])
    (fun l' hl' j o => by rw [hw l' j o, if_neg (by omega)])
  obtain ⟨h0a, h0b⟩ := level0_regs ρ n reps
  have hm : 0 < (if k = 0 then batch * batch else rgSum * rgSum) := by
    split
    · exact Nat.mul_pos hb hb
    · exact Nat.mul_pos hs hs
  rw [← hregs] at hin
  refine root_valid dom n reps _ hreps hm _ _ h0a h0b hin wroot ?_
  rw [hroot]
  exact congrArg _ (if_congr (by omega) rfl rfl)

/-- **exact NaN-marginalisation**: the value computed with missing inputs treated as neutral at the
leaves equals the explicit sum of the complete-evidence values over all completions of the missing
features. -/
theorem ratspn_marg (dom : Nat → Nat) (ρ : Nat → List Nat → List Nat) (hρ : ∀ t r, (ρ t r).Perm r)
    (n depth reps batch rgSum : Nat) (hacc : accepted n depth = true)
    (hreps : 0 < reps) (hb : 0 < batch) (hs : 0 < rgSum)
    (lf : Nat → Nat → Nat → Ev → α)
    (hleaf : ∀ i c k, k < ((leafRegions ρ n depth reps).getD i []).length →
      LeafOK dom [((leafRegions ρ n depth reps).getD i []).getD k 0] (lf i c k))
    (w : Nat → Nat → Nat → List α)
    (hw : ∀ l j o, (w l j o).length = if l = 0 then batch * batch else rgSum * rgSum)
    (wroot : List α)
    (hroot : wroot.length = reps * (if depth = 1 then batch * batch else rgSum * rgSum)) (e : Ev) :
    Circ.eval e (unroll ρ n depth reps batch rgSum lf w wroot) =
      sumOver dom (List.range n) e (fun e' => Circ.eval e' (unroll ρ n depth reps batch rgSum lf w wroot)) := by
  obtain ⟨hv, hsc⟩ := unroll_valid dom ρ hρ n depth reps batch rgSum hacc hreps hb hs lf hleaf w hw wroot hroot
  have := Circ.marg dom _ hv e
  rwa [hsc] at this

/-- **normalisation**: with normalised mixture weights (`softmax` rows sum to one) and leaf
distributions of total mass one, each class output is a normalised distribution: a fully missing input
has probability one (log-probability zero) and the complete-evidence values sum to one. -/
theorem ratspn_normalised (dom : Nat → Nat) (ρ : Nat → List Nat → List Nat) (hρ : ∀ t r, (ρ t r).Perm r)
    (n depth reps batch rgSum : Nat) (hacc : accepted n depth = true)
    (hreps : 0 < reps) (hb : 0 < batch) (hs : 0 < rgSum)
    (lf : Nat → Nat → Nat → Ev → α)
    (hleaf : ∀ i c k, k < ((leafRegions ρ n depth reps).getD i []).length →
      LeafOK dom [((leafRegions ρ n depth reps).getD i []).getD k 0] (lf i c k))
    (hl1 : ∀ i c k, lf i c k (fun _ => none) = 1)
    (w : Nat → Nat → Nat → List α)
    (hw : ∀ l j o, (w l j o).length = if l = 0 then batch * batch else rgSum * rgSum)
    (hw1 : ∀ l j o, tsum (w l j o) = 1)
    (wroot : List α)
    (hroot : wroot.length = reps * (if depth = 1 then batch * batch else rgSum * rgSum))
    (hroot1 : tsum wroot = 1) :
    Circ.eval (fun _ => none) (unroll ρ n depth reps batch rgSum lf w wroot) = 1 ∧
    sumOver dom (List.range n) (fun _ => none)
      (fun x => Circ.eval x (unroll ρ n depth reps batch rgSum lf w wroot)) = 1 := by
  obtain ⟨hv, hsc⟩ := unroll_valid dom ρ hρ n depth reps batch rgSum hacc hreps hb hs lf hleaf w hw wroot hroot
  have hn : Circ.NormW (unroll ρ n depth reps batch rgSum lf w wroot) :=
    unroll_all Circ.NormW (fun _ _ h => Circ.normW_prod_iff.2 h)
      (fun l j o _ _ h => Circ.normW_sum_iff.2 ⟨hw1 l j o, h⟩) (fun _ _ h => Circ.normW_sum_iff.2 ⟨hroot1, h⟩)
      Circ.normW_leaf (fun _ _ _ _ => Circ.normW_leaf)
  have hl : Circ.LeafNorm dom (unroll ρ n depth reps batch rgSum lf w wroot) :=
    unroll_all (Circ.LeafNorm dom) (fun _ _ h => Circ.leafNorm_prod_iff.2 h)
      (fun _ _ _ _ _ h => Circ.leafNorm_sum_iff.2 h) (fun _ _ h => Circ.leafNorm_sum_iff.2 h)
      (Circ.leafNorm_leaf_iff.2 rfl) (fun i c k _ => Circ.leafNorm_leaf_iff.2 (hl1 i c k))
  refine ⟨Circ.all_missing_one dom _ hv hn hl, ?_⟩
  have := Circ.normalised dom _ hv hn hl
  rwa [hsc] at this

/-- **padding dummies are neutral**: the value of the base distribution of leaf region `i`, channel `c`
(`RegionGraphLayer.forward`, which zeroes the log-densities at `pad_mask`) is the product of the leaf
values over the real positions of the region only. -/
theorem pad_dummies_neutral (ρ : Nat → List Nat → List Nat) (hρ : ∀ t r, (ρ t r).Perm r)
    (n depth reps batch : Nat) (hacc : accepted n depth = true) (lf : Nat → Nat → Nat → Ev → α)
    (i c : Nat) (hi : i < (leafRegions ρ n depth reps).length) (e : Ev) :
    Circ.eval e ((baseTable lf n depth (leafRegions ρ n depth reps) batch).at_ i c) =
      lprod ((List.range ((leafRegions ρ n depth reps).getD i []).length).map (fun k => lf i c k e)) := by
  obtain ⟨_, hd, _⟩ := (accepted_iff n depth).1 hacc
  simp only [baseTable]
  have R := leafRows ρ hρ n depth reps hd
  rw [R.maskBuf_getD hi, R.padMaskBuf_getD hi]
  exact baseNode_eval lf _ _ (R.le_dim _ (getD_mem hi [])) i c e

end circuit

/-! non-vacuity: a Bernoulli RAT-SPN with 5 features (pad 3), depth 2, 2 repetitions, batch 2, 2 sums -/

/-- fair Bernoulli leaves on the variable sitting at position `k` of leaf region `i` -/
def exLeaf : Nat → Nat → Nat → Ev → Rat := fun i _ k =>
  Circ.catLeafFn (((leafRegions revOracle 5 2 2).getD i []).getD k 0) [1/2, 1/2]

def exW : Nat → Nat → Nat → List Rat := fun _ _ _ => [1/4, 1/4, 1/4, 1/4]
def exRoot : List Rat := [1/8, 1/8, 1/8, 1/8, 1/8, 1/8, 1/8, 1/8]

theorem exLeaf_ok : ∀ i c k, k < ((leafRegions revOracle 5 2 2).getD i []).length →
    LeafOK (fun _ => 2) [((leafRegions revOracle 5 2 2).getD i []).getD k 0] (exLeaf i c k) := by
  intro i c k _
  exact Circ.catLeaf_ok _ _ _ rfl (by norm_num [tsum])

example : Circ.Valid (fun _ => 2) (unroll revOracle 5 2 2 2 2 exLeaf exW exRoot) :=
  (unroll_valid (fun _ => 2) revOracle revOracle_perm 5 2 2 2 2 (by decide) (by omega) (by omega) (by omega)
    exLeaf exLeaf_ok exW (by intro l j o; split <;> rfl) exRoot (by decide)).1

example : Circ.eval (fun _ => none) (unroll revOracle 5 2 2 2 2 exLeaf exW exRoot) = 1 :=
  (ratspn_normalised (fun _ => 2) revOracle revOracle_perm 5 2 2 2 2 (by decide) (by omega) (by omega) (by omega)
    exLeaf exLeaf_ok (by intro i c k; rfl) exW (by intro l j o; split <;> rfl)
    (by intro l j o; norm_num [exW, tsum]) exRoot (by decide) (by norm_num [exRoot, tsum])).1

end RatSpn
end Deeprob
