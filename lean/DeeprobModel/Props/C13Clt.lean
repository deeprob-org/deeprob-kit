import DeeprobModel.Lemmas.CltIoDecode
import DeeprobModel.Props.CltOrder
import DeeprobModel.Props.C13Gen
set_option linter.unusedSimpArgs false
set_option linter.unusedVariables false
/-
C13 ("… and all Chow-Liu trees × repeated save/load generations") for `save_binary_clt_json` /
`load_binary_clt_json` of deeprob/spn/structure/io.py, on the model of Model/CltIo.lean
(`binary_clt_to_digraph`, `node_link_data`, `node_link_graph`, `is_arborescence`, `in_degree`,
`bfs_predecessors`, `digraph_to_binary_clt`, the `BinaryCLT` constructor).

An object is *admissible* when it is what a constructed / fitted `BinaryCLT` holds: a well-formed predecessor
vector (`WellFormedPred`), a duplicate-free scope of the same length, parameters of shape `(n, 2, 2)`.
Non-vacuity: the regression tree `[3, 4, 1, -1, 0]` of Props/CltOrder.lean with variable ids `[7, 3, 9, 2, 5]`.
-/
namespace Deeprob.GraphIo
open Deeprob Deeprob.Clt Deeprob.CltFit

/-- what a `BinaryCLT` that went through its constructor (or `fit`) satisfies -/
structure Admissible (o : CltObj) : Prop where
  wf : WellFormedPred o.tree
  scope_len : o.scope.length = o.tree.length
  scope_nodup : o.scope.Nodup
  shape : shapeOK o.tree.length o.params = true

/-- the example object: log-domain parameters that are not on the 10⁻⁸ grid -/
def exObj : CltObj :=
  { scope := exScope, tree := exTree,
    params := [[[-12039728043/10000000000, -1/3], [-1/2, -9162907319/10000000000]],
               [[-16094379124/10000000000, -2231435513/10000000000], [-1/2, -1/2]],
               [[-23025850930/10000000000, -1053605157/10000000000], [-2/3, -7/10]],
               [[-13862943611/10000000000, -2876820724/10000000000], [-13862943611/10000000000, -2876820724/10000000000]],
               [[-1/7, -2/7], [-3/7, -4/7]]] }

theorem exObj_admissible : Admissible exObj := ⟨exTree_wf, rfl, by decide, by decide⟩

/-- the document of an admissible object is `node_link_data` of its canonical graph -/
theorem Admissible.cltEncode_eq {o : CltObj} (ha : Admissible o) : cltEncode o = some (docOfGraph (canon o)) := by
  obtain ⟨r, h⟩ := WF.of_wf ha.wf
  unfold cltEncode
  rw [cltToDigraph_eq h.entriesOK ha.scope_len (shapeOK_length ha.shape)]
  rfl

/-- reading that document back, with any cast `store` of the numbers, gives the reloaded object -/
theorem Admissible.load_encode {o : CltObj} (ha : Admissible o) (store : Rat → Rat) :
    digraphToClt store (graphOfDoc (docOfGraph (canon o))) = some (reloadWith store o) := by
  obtain ⟨r, h⟩ := WF.of_wf ha.wf
  rw [graphOfDoc_canon, digraphToClt_canon store h ha.scope_len ha.scope_nodup ha.shape]

/-- **the document form**: for an admissible object `save_binary_clt_json` writes the nodes `0, …, n-1` in this order,
node `i` carrying `scope[i]` and the table `params[i]` with every entry rounded to 8 decimals (`round8`), and
the edges `(tree[i], i)` for `tree[i] ≠ -1` — listed grouped by source, sources and targets increasing. -/
theorem cltEncode_form (o : CltObj) (ha : Admissible o) :
    ∃ d, cltEncode o = some d ∧
      d.nodes = (List.range o.tree.length).map (fun i =>
        (i, some { scope := o.scope.getD i 0, weight := (o.params.getD i []).map (fun row => row.map round8) })) ∧
      d.edges = (List.range o.tree.length).flatMap (fun p => (Clt.childrenOf o.tree p).map (fun c => (p, c))) ∧
      (∀ p c, (p, c) ∈ d.edges ↔ c < o.tree.length ∧ o.tree.getD c (-1) = (p : Int)) ∧ d.edges.Nodup := by
  obtain ⟨r, h⟩ := WF.of_wf ha.wf
  refine ⟨docOfGraph (canon o), ha.cltEncode_eq, ?_, edgesOf_Gn _ _ _, ?_, ?_⟩
  · unfold docOfGraph canon Gn; simp only [List.map_map]; rfl
  · intro p c
    show (p, c) ∈ edgesOf (canon o) ↔ _
    rw [mem_edgesOf_canon]
    refine ⟨fun hm => hm.2, fun ⟨hc, he⟩ => ⟨?_, hc, he⟩⟩
    -- the entry `tree[c] = p` of a well-formed vector is an index
    rcases h.entriesOK.getD_cases hc with h1 | ⟨p', hp', h1⟩ <;> rw [h1] at he <;> omega
  · exact edgesOf_Gn_nodup _ _ (fun i _ => childrenOf_nodup _ i)

example : ∃ d, cltEncode exObj = some d ∧ d.edges = [(0, 4), (1, 2), (3, 0), (4, 1)] ∧
    d.nodes.map (·.1) = [0, 1, 2, 3, 4] ∧
    d.nodes.head? = some (0, some { scope := 7, weight := [[-120397280/100000000, -33333333/100000000],
                                                         [-1/2, -91629073/100000000]] }) := by
  refine ⟨_, rfl, ?_, ?_, ?_⟩ <;> decide +kernel

/-- loading the document of an admissible object does not raise and returns the same scope
list, the same predecessor vector (hence the same root), the parameters rounded to 8 decimals — and the `bfs` the
loaded object holds is `compute_bfs_ordering` of that vector, i.e. the breadth-first order of
`bfsOrder_levels`. -/
theorem cltDecode_encode (o : CltObj) (ha : Admissible o) :
    ∃ d o', cltEncode o = some d ∧ cltDecode d = some o' ∧
      o'.scope = o.scope ∧ o'.tree = o.tree ∧ o'.root = o.root ∧
      o'.params = o.params.map (fun t => t.map (fun row => row.map round8)) ∧
      o'.bfs = computeBfsOrdering o.tree ∧
      (∃ r, o'.root = some r ∧ o'.bfs = some ((List.range o.tree.length).flatMap (level o.tree r))) := by
  obtain ⟨r, h⟩ := WF.of_wf ha.wf
  exact ⟨docOfGraph (canon o), reloadWith id o, ha.cltEncode_eq, ha.load_encode id, rfl, rfl, rfl, rfl, rfl, r, h.root,
    h.bfs_eq⟩

example : ∃ d o', cltEncode exObj = some d ∧ cltDecode d = some o' ∧ o'.scope = [7, 3, 9, 2, 5] ∧
    o'.tree = [3, 4, 1, -1, 0] ∧ o'.root = some 3 ∧ o'.bfs = some [3, 0, 4, 1, 2] := by
  obtain ⟨d, o', h1, h2, h3, h4, h5, _, h7, _⟩ := cltDecode_encode exObj exObj_admissible
  refine ⟨d, o', h1, h2, h3, h4, ?_, ?_⟩
  · rw [h5]; decide
  · rw [h7]; decide

/-- `is_arborescence` is modelled by the decidable `isArborescence` — non-empty,
`n - 1` edges, weakly connected (component of the first node), maximum in-degree ≤ 1 — which is sound for
`IsArborescence` (the undirected graph of the edges connects every node to the first one, `n - 1` edges, no two
edges into one node).  A document whose graph is not such an arborescence is rejected by `load_binary_clt_json`
(`ValueError("The graph is not a tree")`), whatever its attributes are, with or without float32 storage. -/
theorem cltDecode_rejects_non_tree (d : CDoc) (h : ¬ IsArborescence (graphOfDoc d)) :
    cltDecode d = none ∧ cltLoad32 d = none := by
  have hb : isArborescence (graphOfDoc d) = false := Bool.eq_false_iff.2 fun hh => h (isArborescence_sound hh)
  constructor
  · unfold cltDecode digraphToClt; rw [hb]; rfl
  · unfold cltLoad32 digraphToClt; rw [hb]; rfl

/-- a directed 3-cycle with a pendant node (4 nodes, 4 edges), two roots into one node (in-degree 2), two
components, and the empty document: none is an arborescence, all are rejected -/
example :
    let a : Option CAttr := some { scope := 0, weight := [[0, 0], [0, 0]] }
    cltDecode { nodes := [(0, a), (1, a), (2, a), (3, a)], edges := [(0, 1), (1, 2), (2, 0), (0, 3)] } = none ∧
    cltDecode { nodes := [(0, a), (1, a), (2, a)], edges := [(0, 1), (2, 1)] } = none ∧
    cltDecode { nodes := [(0, a), (1, a), (2, a), (3, a)], edges := [(0, 1), (2, 3)] } = none ∧
    cltDecode { nodes := [], edges := [] } = none ∧
    ¬ IsArborescence (graphOfDoc { nodes := [(0, a), (1, a), (2, a)], edges := [(0, 1), (2, 1)] }) := by
  intro a
  refine ⟨by decide +kernel, by decide +kernel, by decide +kernel, by decide +kernel, ?_⟩
  intro h
  have := h.indeg 1 (by decide)
  revert this
  decide

/-- conversely every accepted document is an arborescence, and the object it yields went through the constructor:
duplicate-free scope, as many predecessors as variables, exactly one root, and its `bfs` is
`compute_bfs_ordering(tree)` (the loaded object computes it) -/
theorem cltDecode_accepts_only_trees (d : CDoc) (o' : CltObj) (h : cltDecode d = some o') :
    IsArborescence (graphOfDoc d) ∧ o'.scope.Nodup ∧ o'.tree.length = o'.scope.length ∧
    ∃ r bfs, o'.root = some r ∧ o'.bfs = some bfs ∧ computeBfsOrdering o'.tree = some bfs := by
  obtain ⟨harb, scope, tree, params, hmk⟩ := digraphToClt_some h
  obtain ⟨h1, h2, r, bfs, h3, h4⟩ := mkClt_some hmk
  exact ⟨isArborescence_sound harb, h1, h2, r, bfs, h3, h4, h4⟩

example : ∃ o', cltDecode { nodes := [(2, some ⟨5, [[0, 0], [0, 0]]⟩), (0, some ⟨6, [[0, 0], [0, 0]]⟩),
    (1, some ⟨4, [[0, 0], [0, 0]]⟩)], edges := [(2, 1), (2, 0)] } = some o' ∧ o'.tree = [2, 2, -1] ∧
    o'.scope = [6, 4, 5] ∧ o'.bfs = some [2, 0, 1] :=
  ⟨{ scope := [6, 4, 5], tree := [2, 2, -1], params := [[[0, 0], [0, 0]], [[0, 0], [0, 0]], [[0, 0], [0, 0]]] },
    by decide +kernel, rfl, rfl, by decide⟩

/-- what the object reloaded with float32 storage holds -/
def reload32 (o : CltObj) : CltObj := reloadWith Io32.load32 o

theorem reload32_admissible {o : CltObj} (ha : Admissible o) : Admissible (reload32 o) :=
  ⟨ha.wf, ha.scope_len, ha.scope_nodup, (shapeOK_map3 _ _ _).trans ha.shape⟩

theorem cltLoad32_encode (o : CltObj) (ha : Admissible o) :
    ∃ d, cltEncode o = some d ∧ cltLoad32 d = some (reload32 o) :=
  ⟨docOfGraph (canon o), ha.cltEncode_eq, ha.load_encode Io32.load32⟩

example : ∃ d, cltEncode exObj = some d ∧ cltLoad32 d = some (reload32 exObj) ∧
    ((reload32 exObj).params.head?.map (fun t => t.head?)) = some (some [-1262457/1048576, -11184811/33554432]) := by
  obtain ⟨d, h1, h2⟩ := cltLoad32_encode exObj exObj_admissible
  exact ⟨d, h1, h2, by decide +kernel⟩

theorem reload32_idem (o : CltObj) : reload32 (reload32 o) = reload32 o := by
  unfold reload32 reloadWith
  rw [map3_map3]
  exact congrArg _ (map3_congr fun _ _ _ _ x _ => Io32.load32_twoRegime.gen2 x)

/-- for every admissible object — whatever rationals its parameters are (float32,
float64, anything) — three save/load generations through the float32 storage of the constructor succeed; scope,
tree, root and bfs never change; the in-memory object is stable from the first reload on (`o₂ = o₁`) and the
document from the second generation on (`d₃ = d₂`). -/
theorem cltDocs_stable_from_gen2 (o : CltObj) (ha : Admissible o) :
    ∃ d1 o1 d2 o2 d3, cltEncode o = some d1 ∧ cltLoad32 d1 = some o1 ∧ cltEncode o1 = some d2 ∧
      cltLoad32 d2 = some o2 ∧ cltEncode o2 = some d3 ∧
      d3 = d2 ∧ o2 = o1 ∧ o1.scope = o.scope ∧ o1.tree = o.tree ∧ o1.root = o.root ∧ o1.bfs = o.bfs ∧
      o1.params = o.params.map (fun t => t.map (fun row => row.map (fun x => Io32.load32 (round8 x)))) := by
  obtain ⟨d1, h1, h1'⟩ := cltLoad32_encode o ha
  obtain ⟨d2, h2, h2'⟩ := cltLoad32_encode (reload32 o) (reload32_admissible ha)
  rw [reload32_idem] at h2'
  refine ⟨d1, reload32 o, d2, reload32 o, d2, h1, h1', h2, h2', h2, rfl, rfl, rfl, rfl, rfl, rfl, rfl⟩

example : ∃ d1 o1 d2 o2 d3, cltEncode exObj = some d1 ∧ cltLoad32 d1 = some o1 ∧ cltEncode o1 = some d2 ∧
    cltLoad32 d2 = some o2 ∧ cltEncode o2 = some d3 ∧ d3 = d2 ∧ o2 = o1 ∧ d2 ≠ d1 := by
  obtain ⟨d1, o1, d2, o2, d3, h1, h2, h3, h4, h5, h6, h7, _⟩ := cltDocs_stable_from_gen2 exObj exObj_admissible
  refine ⟨d1, o1, d2, o2, d3, h1, h2, h3, h4, h5, h6, h7, ?_⟩
  -- the first document differs from the second: -1/3 ↦ -0.33333333 ↦ float32 ↦ -0.33333334
  obtain rfl : docOfGraph (canon exObj) = d1 := Option.some.inj (exObj_admissible.cltEncode_eq.symm.trans h1)
  obtain rfl : reload32 exObj = o1 := Option.some.inj ((exObj_admissible.load_encode _).symm.trans h2)
  obtain rfl : docOfGraph (canon (reload32 exObj)) = d2 :=
    Option.some.inj ((reload32_admissible exObj_admissible).cltEncode_eq.symm.trans h3)
  decide +kernel

/-- when every stored parameter already is a float32 (constructor from a list,
`fit`, `em_step`, any reloaded object) the document is stable from the first generation on -/
theorem cltDocs_stable_from_gen1_of_f32 (o : CltObj) (ha : Admissible o)
    (hf : ∀ t ∈ o.params, ∀ row ∈ t, ∀ x ∈ row, Io32.f32 x = x) :
    ∃ d1 o1, cltEncode o = some d1 ∧ cltLoad32 d1 = some o1 ∧ cltEncode o1 = some d1 := by
  refine ⟨docOfGraph (canon o), reload32 o, ha.cltEncode_eq, ha.load_encode Io32.load32, ?_⟩
  -- the reloaded object has the same canonical graph: `round8 ∘ load32 ∘ round8 = round8` on float32 values
  have hc : canon (reload32 o) = canon o := canon_congr rfl rfl (by
    show map3 round8 (map3 _ o.params) = _
    rw [map3_map3]
    exact map3_congr fun t ht row hrow x hx => Io32.load32_twoRegime.gen1 (hf t ht row hrow x hx))
  rw [(reload32_admissible ha).cltEncode_eq, hc]

example : ∃ d1 o1, cltEncode (reload32 exObj) = some d1 ∧ cltLoad32 d1 = some o1 ∧ cltEncode o1 = some d1 :=
  cltDocs_stable_from_gen1_of_f32 _ (reload32_admissible exObj_admissible)
    (forall_mem_map3 (P := fun x => Io32.f32 x = x) (f := fun x => Io32.load32 (round8 x)) (fun _ => Io32.f32_idem _) _)

end Deeprob.GraphIo
