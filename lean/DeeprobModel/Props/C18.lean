import DeeprobModel.Lemmas.CnetLemmas
import Mathlib.Algebra.Order.Field.Rat
import Mathlib.Data.List.Nodup
import Mathlib.Tactic.Ring
import Mathlib.Tactic.Linarith
import Mathlib.Tactic.NormNum
set_option linter.unusedSectionVars false
/-
C18 — cutset networks: OR-tree semantics and normalisation (`deeprob/spn/structure/cnet.py`).
-/
namespace Deeprob.C18
open Deeprob

section semiring
variable {α : Type} [CommSemiring α]

/-- for every OR tree, batch and row index `r < n`, entry `r` of what the breadth-first queue loop of
`BinaryCNet.log_likelihood` accumulates is the recursive semantics — the product of the branch weights selected
by the row at the cut variables times the value of the leaf reached. -/
theorem cnet_eval (rows : Nat → Ev) (n : Nat) (c : CNet α) (r : Nat) (hr : r < n) :
    (cnetBatch rows n c)[r]? = some (cnetEval (rows r) c) := by
  unfold cnetBatch
  rw [cnetRun_spec rows c.size [(c, List.range n)] _ (by simp) r,
    List.getElem?_replicate, if_pos hr]
  simp [contrib, lprod, hr]

/-- the values of a well-formed cutset network over all complete rows of its scope sum to
one (`w0 + w1 = 1` at every OR node, every leaf normalised over its own scope = parent scope minus the cut
variable). Stated for any evidence that is missing on the scope; `fun _ => none` is the instance of interest. -/
theorem cnet_normalised (dom : Nat → Nat) : (c : CNet α) → CNet.WF dom c → ∀ e : Ev, Missing c.scope e →
    sumOver dom c.scope e (fun x => cnetEval x c) = 1 := by
  intro c
  induction c with
  | leaf s f =>
    intro h e hm
    rw [CNet.WF] at h
    simp only [CNet.scope, cnetEval] at hm ⊢
    rw [sumOver_ev_congr dom s e (fun _ => none) f s h.1 (fun _ hu => hu) (fun u hu => hm u hu)]
    exact h.2
  | or s v w0 w1 c0 c1 ih0 ih1 =>
    intro h e hm
    rw [CNet.WF] at h
    obtain ⟨hv, hd, hw, hs0, hs1, h0, h1⟩ := h
    simp only [CNet.scope] at hm ⊢
    have hse : scopeEq s (v :: c0.scope) := by
      intro u
      rw [List.mem_cons, hs0 u]
      by_cases huv : u = v <;> simp [huv, hv]
    have hvn : v ∉ c0.scope := fun hc => ((hs0 v).1 hc).2 rfl
    have hs01 : scopeEq c0.scope c1.scope := fun u => by rw [hs0 u, hs1 u]
    have hm0 : ∀ k, Missing c0.scope (e.set v k) := by
      intro k u hu
      rw [Ev.set_ne _ _ ((hs0 u).1 hu).2]
      exact hm u ((hs0 u).1 hu).1
    -- split the sum at the cut variable: the two halves are the two weights
    rw [sumOver_set_eq dom hse]
    simp only [sumOver, hm v hv, hd]
    rw [sumVar_two,
      sumOver_branch dom hvn e 0 w0 c0 _ (fun x hx => by simp only [cnetEval, hx]) (fun _ => Iff.rfl) (ih0 h0 _ (hm0 0)),
      sumOver_branch dom hvn e 1 w1 c1 _ (fun x hx => by simp only [cnetEval, hx]) hs01
        (ih1 h1 _ (fun u hu => hm0 1 u ((hs01 u).2 hu))),
      hw]

end semiring

section validator
variable {α : Type} [Field α] [LinearOrder α] [IsStrictOrderedRing α] [DecidableEq α]

/-- what the Boolean validator accepts (run on whatever a learner returns), together with
normalised leaves, is a well-formed cutset network: hence `cnet_normalised` applies, and the weights are in (0,1). -/
theorem cnetWellFormed_sound (dom : Nat → Nat) : (c : CNet α) → cnetWellFormedB dom c = true → CNet.LeavesOK dom c →
    CNet.WF dom c := by
  intro c
  induction c with
  | leaf s f => exact fun _ hl => hl
  | or s v w0 w1 c0 c1 ih0 ih1 =>
    intro h hl
    obtain ⟨hnd, hv, hd, e0, e1, hw, _, _, r0, r1⟩ := (cnetWellFormedB_or dom s v w0 w1 c0 c1).1 h
    exact CNet.WF.or hnd hv hd hw e0 e1 (ih0 r0 hl.1) (ih1 r1 hl.2)

/-- accepted weights are proper probabilities -/
theorem cnetWellFormed_weights (dom : Nat → Nat) (s : List Nat) (v : Nat) (w0 w1 : α) (c0 c1 : CNet α)
    (h : cnetWellFormedB dom (.or s v w0 w1 c0 c1) = true) : 0 < w0 ∧ w0 < 1 ∧ w1 = 1 - w0 := by
  obtain ⟨_, _, _, _, _, hw, p0, p1, _, _⟩ := (cnetWellFormedB_or dom s v w0 w1 c0 c1).1 h
  exact ⟨p0, by rw [← hw]; exact lt_add_of_pos_right w0 p1, eq_sub_of_add_eq' hw⟩

end validator

/-! ### non-vacuity: cut on X0, then on X2 in the left branch; leaves are product tables over the remaining
binary variables -/

def tbl2 (v : Nat) (p : ℚ) : Ev → ℚ := Circ.catLeafFn v [1 - p, p]

def exNet : CNet ℚ :=
  .or [0, 1, 2] 0 (1/4) (3/4)
    (.or [1, 2] 2 (2/5) (3/5) (.leaf [1] (tbl2 1 (1/3))) (.leaf [1] (tbl2 1 (1/2))))
    (.leaf [1, 2] (fun x => tbl2 1 (1/5) x * tbl2 2 (7/10) x))

def exRows : Nat → Ev
  | 0 => Ev.ofList [some 0, some 1, some 0]
  | 1 => Ev.ofList [some 1, some 0, some 1]
  | _ => Ev.ofList [some 0, some 0, some 1]

example : cnetBatch exRows 3 exNet = [1/4 * (2/5) * (1/3), 3/4 * (4/5 * (7/10)), 1/4 * (3/5) * (1/2)] := by
  decide +kernel

example : (cnetBatch exRows 3 exNet)[1]? = some (cnetEval (exRows 1) exNet) := cnet_eval exRows 3 exNet 1 (by norm_num)

def exDom : Nat → Nat := fun _ => 2

theorem exNet_wellFormedB : cnetWellFormedB exDom exNet = true := by decide +kernel

theorem tbl2_congr (v : Nat) (p : ℚ) {a b : Ev} (h : a v = b v) : tbl2 v p a = tbl2 v p b := by
  simp only [tbl2, Circ.catLeafFn, h]

theorem tbl2_sumVar (v : Nat) (p : ℚ) (e : Ev) : sumVar 2 (fun k => tbl2 v p (e.set v k)) = 1 := by
  rw [sumVar_two]
  simp [tbl2, Circ.catLeafFn]

/-- a Bernoulli table is a distribution over its variable -/
theorem tbl2_dist (dom : Nat → Nat) (v : Nat) (hv : dom v = 2) (p : ℚ) : CNet.LeavesOK dom (.leaf [v] (tbl2 v p)) := by
  refine ⟨fun a b h => tbl2_congr v p (h v (List.mem_singleton_self v)), ?_⟩
  simp only [sumOver, hv]
  exact tbl2_sumVar v p _

/-- so is the product of two Bernoulli tables over different variables -/
theorem tbl2_mul_dist (dom : Nat → Nat) (u v : Nat) (hu : dom u = 2) (hv : dom v = 2) (huv : u ≠ v) (p q : ℚ) :
    CNet.LeavesOK dom (.leaf [u, v] (fun x => tbl2 u p x * tbl2 v q x)) := by
  constructor
  · intro a b h
    exact congrArg₂ (· * ·) (tbl2_congr u p (h u (by simp))) (tbl2_congr v q (h v (by simp)))
  · have hfix : ∀ (e : Ev) (k : Nat), tbl2 u p (e.set v k) = tbl2 u p e :=
      fun e k => tbl2_congr u p (Ev.set_ne e k huv)
    simp only [sumOver, hu, hv, Ev.set_ne _ _ huv.symm, hfix, sumVar_mul, tbl2_sumVar, mul_one]

theorem exNet_leavesOK : CNet.LeavesOK exDom exNet :=
  ⟨⟨tbl2_dist exDom 1 rfl _, tbl2_dist exDom 1 rfl _⟩, tbl2_mul_dist exDom 1 2 rfl rfl (by decide) _ _⟩

example : sumOver exDom [0, 1, 2] (fun _ => none) (fun x => cnetEval x exNet) = 1 :=
  cnet_normalised exDom exNet (cnetWellFormed_sound exDom exNet exNet_wellFormedB exNet_leavesOK)
    (fun _ => none) (fun _ _ => rfl)

end Deeprob.C18
