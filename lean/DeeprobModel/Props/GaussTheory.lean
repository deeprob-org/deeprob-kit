import DeeprobModel.Model.GaussQ
import Mathlib.Probability.Distributions.Gaussian.Real
import Mathlib.Probability.Moments.MGFAnalytic
import Mathlib.Analysis.Calculus.IteratedDeriv.Lemmas
import Mathlib.Analysis.SpecialFunctions.ExpDeriv
set_option linter.unusedSimpArgs false
set_option linter.unusedVariables false
/-
Exact theory of the Gaussian leaf of `deeprob/spn/structure/leaf.py` (`class Gaussian`: `likelihood` = `scipy.stats.norm.pdf`,
`log_likelihood` = `scipy.stats.norm.logpdf`, `mpe` fills the mean, `moment(k)` = `scipy.stats.norm.moment`).  The closed forms
that C01 / C02 / C06 / C19 rely on are proved here over ℝ with Mathlib's `gaussianReal`:
the density as SciPy evaluates it integrates to one, `exp ∘ logpdf = pdf`, the mean is the (unique) mode, and the raw moment of
every order is the polynomial `GaussQ.gaussRawMoment` that the driver evaluates at ℚ.
Hypothesis throughout: `0 < σ` (the constructor and every producer — `fit`, `em_step` — guarantee `σ ≥ 1e-5`).
-/
namespace Deeprob.GaussTheory
open MeasureTheory ProbabilityTheory Real
open scoped NNReal

/-- `scipy.stats.norm.pdf(x, loc=μ, scale=σ)` = `_norm_pdf((x - μ) / σ) / σ`, `_norm_pdf(y) = exp(-y²/2) / √(2π)` -/
noncomputable def gaussPdf (μ σ x : ℝ) : ℝ := Real.exp (-((x - μ) / σ) ^ 2 / 2) / Real.sqrt (2 * π) / σ

/-- `scipy.stats.norm.logpdf(x, loc=μ, scale=σ)` = `-y²/2 - log √(2π) - log σ`, `y = (x - μ) / σ` -/
noncomputable def gaussLogPdf (μ σ x : ℝ) : ℝ := -((x - μ) / σ) ^ 2 / 2 - Real.log (Real.sqrt (2 * π)) - Real.log σ

/-- the variance as Mathlib wants it -/
def var (σ : ℝ) : ℝ≥0 := ⟨σ ^ 2, sq_nonneg σ⟩

@[simp] theorem var_coe (σ : ℝ) : ((var σ : ℝ≥0) : ℝ) = σ ^ 2 := rfl

theorem var_ne_zero {σ : ℝ} (hσ : 0 < σ) : var σ ≠ 0 := by
  intro h
  have : ((var σ : ℝ≥0) : ℝ) = 0 := by rw [h]; rfl
  rw [var_coe] at this
  exact (pow_ne_zero 2 hσ.ne') this

theorem sqrt_two_pi_pos : 0 < Real.sqrt (2 * π) := Real.sqrt_pos.2 (by positivity)

/-- **C01**: `likelihood` and `log_likelihood` of a Gaussian leaf agree. -/
theorem gauss_exp_logpdf (μ σ x : ℝ) (hσ : 0 < σ) : Real.exp (gaussLogPdf μ σ x) = gaussPdf μ σ x := by
  unfold gaussLogPdf gaussPdf
  rw [Real.exp_sub, Real.exp_sub, Real.exp_log sqrt_two_pi_pos, Real.exp_log hσ]

theorem gaussPdf_eq_mathlib (μ σ x : ℝ) (hσ : 0 < σ) : gaussPdf μ σ x = gaussianPDFReal μ (var σ) x := by
  unfold gaussPdf gaussianPDFReal
  rw [var_coe]
  have h1 : Real.sqrt (2 * π * σ ^ 2) = Real.sqrt (2 * π) * σ := by
    rw [Real.sqrt_mul (by positivity), Real.sqrt_sq hσ.le]
  have h2 : -((x - μ) / σ) ^ 2 / 2 = -(x - μ) ^ 2 / (2 * σ ^ 2) := by
    rw [div_pow, ← neg_div, div_div, mul_comm]
  rw [h1, h2, mul_inv, div_div, div_eq_mul_inv, mul_comm, mul_inv]

theorem gaussPdf_pos (μ σ x : ℝ) (hσ : 0 < σ) : 0 < gaussPdf μ σ x := by
  unfold gaussPdf
  have := sqrt_two_pi_pos
  positivity

/-- **C01, C02**: the density integrates to one over ℝ. -/
theorem gauss_integral_one (μ σ : ℝ) (hσ : 0 < σ) : ∫ x, gaussPdf μ σ x = 1 := by
  have : (fun x => gaussPdf μ σ x) = gaussianPDFReal μ (var σ) := by
    funext x; exact gaussPdf_eq_mathlib μ σ x hσ
  rw [this]
  exact integral_gaussianPDFReal_eq_one μ (var_ne_zero hσ)

/-- the density is its value at the mean times a factor `exp(-y²/2) ≤ 1` -/
theorem gaussPdf_eq_mul (μ σ x : ℝ) :
    gaussPdf μ σ x = gaussPdf μ σ μ * Real.exp (-((x - μ) / σ) ^ 2 / 2) := by
  simp only [gaussPdf, sub_self, zero_div, ne_eq, OfNat.ofNat_ne_zero, not_false_eq_true, zero_pow, neg_zero,
    Real.exp_zero]
  ring

/-- **C06**: `Gaussian.mpe` fills NaN entries with the mean, which maximises the density … -/
theorem gauss_mode (μ σ x : ℝ) (hσ : 0 < σ) : gaussPdf μ σ x ≤ gaussPdf μ σ μ := by
  rw [gaussPdf_eq_mul μ σ x]
  refine mul_le_of_le_one_right (gaussPdf_pos μ σ μ hσ).le (Real.exp_le_one_iff.2 ?_)
  exact div_nonpos_of_nonpos_of_nonneg (neg_nonpos.2 (sq_nonneg _)) zero_le_two

/-- … and is the only maximiser. -/
theorem gauss_mode_strict (μ σ x : ℝ) (hσ : 0 < σ) (hx : x ≠ μ) : gaussPdf μ σ x < gaussPdf μ σ μ := by
  rw [gaussPdf_eq_mul μ σ x]
  refine mul_lt_of_lt_one_right (gaussPdf_pos μ σ μ hσ) (Real.exp_lt_one_iff.2 ?_)
  exact div_neg_of_neg_of_pos (neg_neg_of_pos (sq_pos_iff.2 (div_ne_zero (sub_ne_zero.2 hx) hσ.ne'))) zero_lt_two

/-- the moment generating function of `N(μ, v)` -/
noncomputable def M (μ v : ℝ) (t : ℝ) : ℝ := Real.exp (μ * t + v * t ^ 2 / 2)

theorem M_contDiff (μ v : ℝ) : ContDiff ℝ ⊤ (M μ v) := by
  unfold M
  fun_prop

theorem D_differentiable (μ v : ℝ) (n : ℕ) : Differentiable ℝ (iteratedDeriv n (M μ v)) :=
  (M_contDiff μ v).differentiable_iteratedDeriv n (by exact_mod_cast WithTop.coe_lt_top _)

theorem M_deriv (μ v : ℝ) : deriv (M μ v) = fun t => (μ + v * t) * M μ v t := by
  funext t
  have h : HasDerivAt (fun t => μ * t + v * t ^ 2 / 2) (μ + v * t) t :=
    (((hasDerivAt_id t).const_mul μ).add (((hasDerivAt_pow 2 t).const_mul v).div_const 2)).congr_deriv
      (by norm_num; ring)
  have := h.exp
  unfold M
  rw [this.deriv, mul_comm]

/-- Leibniz for the linear factor `μ + v·t` in front of a derivative of the mgf -/
theorem hasDerivAt_lin_mul_D (μ v : ℝ) (n : ℕ) (t : ℝ) :
    HasDerivAt (fun t => (μ + v * t) * iteratedDeriv n (M μ v) t)
      (v * iteratedDeriv n (M μ v) t + (μ + v * t) * deriv (iteratedDeriv n (M μ v)) t) t :=
  HasDerivAt.mul (by simpa using ((hasDerivAt_id t).const_mul v).const_add μ)
    (D_differentiable μ v n t).hasDerivAt

/-- the recurrence of the derivatives of the mgf, at every `t` -/
theorem D_rec (μ v : ℝ) : ∀ n : ℕ, iteratedDeriv (n + 2) (M μ v) =
    fun t => (μ + v * t) * iteratedDeriv (n + 1) (M μ v) t + ((n : ℝ) + 1) * v * iteratedDeriv n (M μ v) t := by
  intro n
  induction n with
  | zero =>
    funext t
    have hd : HasDerivAt (iteratedDeriv 1 (M μ v))
        (v * iteratedDeriv 0 (M μ v) t + (μ + v * t) * deriv (iteratedDeriv 0 (M μ v)) t) t := by
      rw [iteratedDeriv_one, M_deriv]
      exact hasDerivAt_lin_mul_D μ v 0 t
    rw [iteratedDeriv_succ, hd.deriv, ← iteratedDeriv_succ]
    push_cast
    ring
  | succ n ih =>
    funext t
    have hd : HasDerivAt (iteratedDeriv (n + 2) (M μ v))
        ((v * iteratedDeriv (n + 1) (M μ v) t + (μ + v * t) * deriv (iteratedDeriv (n + 1) (M μ v)) t)
          + ((n : ℝ) + 1) * v * deriv (iteratedDeriv n (M μ v)) t) t := by
      rw [ih]
      exact (hasDerivAt_lin_mul_D μ v (n + 1) t).add ((D_differentiable μ v n t).hasDerivAt.const_mul _)
    rw [iteratedDeriv_succ (n := n + 2), hd.deriv, ← iteratedDeriv_succ, ← iteratedDeriv_succ]
    push_cast
    ring

open Deeprob.GaussQ in
/-- the derivatives of the mgf at 0 are the pairs of the polynomial recurrence -/
theorem D_zero_eq (μ σ : ℝ) : ∀ n : ℕ,
    (iteratedDeriv n (M μ (σ ^ 2)) 0, iteratedDeriv (n + 1) (M μ (σ ^ 2)) 0) = momPair μ σ n := by
  intro n
  induction n with
  | zero =>
    have h : deriv (M μ (σ ^ 2)) 0 = μ := by rw [M_deriv]; simp [M]
    simp [momPair, h, M]
  | succ n ih =>
    have h := congrFun (D_rec μ (σ ^ 2) n) 0
    simp only [momPair]
    rw [← ih]
    simp only [Prod.mk.injEq, true_and]
    rw [h]
    push_cast
    ring

/-- **C19**: for every order `k`, `∫ x^k · pdf(x) dx` is the polynomial `gaussRawMoment k μ σ`
(`Gaussian.moment(k)`; k ≤ 4 is what `variance`, `skewness`, `kurtosis` of `moments.py` consume). -/
theorem gauss_moment_is_integral (μ σ : ℝ) (hσ : 0 < σ) (k : ℕ) :
    ∫ x, x ^ k * gaussPdf μ σ x = Deeprob.GaussQ.gaussRawMoment k μ σ := by
  have hv := var_ne_zero hσ
  have h0 : (0 : ℝ) ∈ interior (integrableExpSet id (gaussianReal μ (var σ))) := by
    rw [integrableExpSet_id_gaussianReal]; simp
  have h1 := iteratedDeriv_mgf_zero h0 k
  rw [mgf_id_gaussianReal] at h1
  have h2 : (fun t => Real.exp (μ * t + (var σ : ℝ) * t ^ 2 / 2)) = M μ (σ ^ 2) := by
    funext t; simp [M]
  rw [h2] at h1
  have h3 : ∫ x, x ^ k * gaussPdf μ σ x = ∫ x, (id ^ k) x ∂(gaussianReal μ (var σ)) := by
    rw [integral_gaussianReal_eq_integral_smul hv]
    congr 1
    funext x
    rw [← gaussPdf_eq_mathlib μ σ x hσ]
    simp [mul_comm]
  rw [h3, ← h1]
  have := D_zero_eq μ σ k
  unfold Deeprob.GaussQ.gaussRawMoment
  rw [← this]

/-- integrability of `x^k · pdf` (so that the integrals above are not junk values) -/
theorem gauss_moment_integrable (μ σ : ℝ) (hσ : 0 < σ) (k : ℕ) :
    Integrable (fun x => x ^ k * gaussPdf μ σ x) := by
  have hv := var_ne_zero hσ
  have hm : MemLp id (k : ℝ≥0) (gaussianReal μ (var σ)) := memLp_id_gaussianReal (k : ℝ≥0)
  have hi : Integrable (fun x : ℝ => x ^ k) (gaussianReal μ (var σ)) := by
    by_cases hk : k = 0
    · subst hk; simp
    · have := hm.integrable_norm_pow (by exact_mod_cast hk)
      have h2 : Integrable (fun x : ℝ => ‖x‖ ^ k) (gaussianReal μ (var σ)) := by
        simpa using this
      refine h2.mono' (by fun_prop) (ae_of_all _ fun x => ?_)
      simp [norm_pow]
  have hd : gaussianReal μ (var σ) = volume.withDensity (gaussianPDF μ (var σ)) := gaussianReal_of_var_ne_zero μ hv
  rw [hd] at hi
  have := (integrable_withDensity_iff_integrable_smul' (measurable_gaussianPDF μ (var σ))
    (ae_of_all _ fun _ => gaussianPDF_lt_top)).1 hi
  refine this.congr (ae_of_all _ fun x => ?_)
  simp [toReal_gaussianPDF, ← gaussPdf_eq_mathlib μ σ x hσ, mul_comm]

theorem gauss_moment_closed (μ σ : ℝ) (hσ : 0 < σ) :
    (∫ x, x ^ 1 * gaussPdf μ σ x = μ) ∧
    (∫ x, x ^ 2 * gaussPdf μ σ x = μ ^ 2 + σ ^ 2) ∧
    (∫ x, x ^ 3 * gaussPdf μ σ x = μ ^ 3 + 3 * μ * σ ^ 2) ∧
    (∫ x, x ^ 4 * gaussPdf μ σ x = μ ^ 4 + 6 * μ ^ 2 * σ ^ 2 + 3 * σ ^ 4) := by
  simp only [gauss_moment_is_integral μ σ hσ, Deeprob.GaussQ.gaussRawMoment, Deeprob.GaussQ.momPair, Nat.cast_one,
    zero_add]
  refine ⟨trivial, ?_, ?_, ?_⟩ <;> ring

/-- a plausible slip — `σ` instead of `σ²` in the second moment — is wrong: at μ = 1, σ = 2 the second moment is 5, not 3 -/
theorem sigma_for_variance_is_wrong : ∫ x, x ^ 2 * gaussPdf 1 2 x ≠ 1 ^ 2 + (2 : ℝ) := by
  rw [(gauss_moment_closed 1 2 (by norm_num)).2.1]; norm_num

example : (∫ x, x ^ 2 * gaussPdf 1 2 x = 5) ∧ (∫ x, x ^ 3 * gaussPdf 1 2 x = 13) ∧ (∫ x, x ^ 4 * gaussPdf 1 2 x = 73) := by
  obtain ⟨_, h2, h3, h4⟩ := gauss_moment_closed 1 2 (by norm_num)
  refine ⟨by rw [h2]; norm_num, by rw [h3]; norm_num, by rw [h4]; norm_num⟩

example : ∫ x, gaussPdf 1 2 x = 1 := gauss_integral_one 1 2 (by norm_num)
example : gaussPdf 1 2 3 < gaussPdf 1 2 1 := gauss_mode_strict 1 2 3 (by norm_num) (by norm_num)
example : Deeprob.GaussQ.gaussRawMoment 6 (1 : ℚ) 2 = 1741 := by decide +kernel

end Deeprob.GaussTheory
