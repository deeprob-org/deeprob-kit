import DeeprobModel.Lemmas.LeafCdf
import DeeprobModel.Lemmas.LeafIntegral
import DeeprobModel.Lemmas.LeafCast
import DeeprobModel.Lemmas.LeafDiscrete
import DeeprobModel.Props.C19
import Mathlib.MeasureTheory.Measure.Lebesgue.Basic
import Mathlib.Algebra.Order.Field.Rat
import Mathlib.Tactic.NormNum
set_option linter.unusedSimpArgs false
set_option linter.unusedVariables false
set_option linter.unusedSectionVars false
/-
Exact theory of the univariate leaf families of `deeprob/spn/structure/leaf.py` (`Model/LeafQ.lean`):
the histogram leaf `Isotonic` (density, cdf, inverse cdf, raw moments as coded by `scipy.stats.rv_histogram`),
`Uniform` as its one-bin case, `Bernoulli`, `Categorical`. The densities / cdfs / raw moments that C01, C07, C19
take from Python reference formulas are here Lean functions (run by the driver at `ℚ`) with their defining
integrals proved in Mathlib over `ℝ`.

Hypotheses used throughout: `Incr b` (breaks strictly increasing), `NonNeg hs` / `AllPos hs` (heights), and
`histZ hs b ≠ 0` (`> 0`): at least one bin carries mass.  `hs` are the heights `rv_histogram` works with
(`isoHeights`: the `densities` parameter itself when the widths vary, divided by the widths otherwise).
-/
namespace Deeprob.LeafTheory
open MeasureTheory intervalIntegral Set

section OrderedField
variable {α : Type} [Field α] [LinearOrder α] [IsStrictOrderedRing α]

/-- the realised density `distribution.pdf` and `Isotonic.likelihood` (with a non-negative
out-of-support constant) are non-negative everywhere. -/
theorem isoPdf_nonneg (ood : α) (hs b : List α) (x : α) (hn : NonNeg hs) (hb : Incr b) (ho : 0 ≤ ood) :
    0 ≤ histPdf hs b x ∧ 0 ≤ isoLik ood hs b x := by
  have h1 := histPdf_nonneg x hn hb
  refine ⟨h1, ?_⟩
  cases b with
  | nil => exact ho
  | cons b0 bs =>
    simp only [isoLik]
    split_ifs
    exacts [h1, ho]

/-- the heights `rv_histogram` derives from non-negative `densities` are non-negative under either reading
(heights / counts), whatever `np.allclose` decides -/
theorem isoHeights_nonNeg (atol rtol : α) : ∀ (d b : List α), NonNeg d → Incr b → NonNeg (isoHeights atol rtol d b) := by
  intro d b hd hb
  unfold isoHeights
  split_ifs with hv
  · exact hd
  · clear hv
    cases b with
    | nil => cases d <;> exact fun _ h => absurd h List.not_mem_nil
    | cons lo bs =>
      induction d, lo, bs using hist_induction with
      | nil | single => exact fun _ h => absurd h List.not_mem_nil
      | bin x d lo hi bs ih =>
        exact List.forall_mem_cons.2 ⟨div_nonneg hd.head (sub_nonneg.2 hb.1.le), ih hd.tail hb.tail⟩

/-- `cdf(ppf(u)) = u` for every `u ∈ [0,1]` — the exact guard is: breaks strictly increasing,
heights `≥ 0`, total mass `Z > 0`; zero-height bins are allowed (positivity of all heights is not needed for this
direction; it is needed for `ppf(cdf(t)) = t`, see `isoPpf_cdf_inv`). The end points use the wrapper of
`rv_continuous.ppf` (`ppf(0) = a`, `ppf(1) = b`). -/
theorem isoPpf_cdf (bad : α) (hs : List α) (b0 : α) (bs : List α) (u : α) (hn : NonNeg hs)
    (hb : Incr (b0 :: bs)) (hz : 0 < histZ hs (b0 :: bs)) (h0 : 0 ≤ u) (h1 : u ≤ 1) :
    isoCdf hs (b0 :: bs) (isoPpf bad hs (b0 :: bs) u) = u := by
  rcases h0.eq_or_lt with rfl | h0'
  · rw [isoPpf_zero, isoCdf_lo]
  rcases h1.eq_or_lt with rfl | h1'
  · rw [isoPpf_one, isoCdf_of_last_le hs (lt_lastB hb hz.ne') le_rfl]
  · rw [isoPpf_of_mem bad hs b0 bs h0' h1', isoCdf_eq_histCdf _ hb hz.ne']
    exact histCdf_histPpf hn hb hz h0 h1

/-- `ppf(cdf(t)) = t` on the support `[b₀, bₙ]` when all heights are positive (with a zero-height bin the
left-hand side is the right end of the flat piece of the cdf through `t`). -/
theorem isoPpf_cdf_inv (bad : α) (hs : List α) (b0 : α) (bs : List α) (t : α) (hp : AllPos hs)
    (hb : Incr (b0 :: bs)) (hne : hs ≠ []) (hl : hs.length = bs.length) (h0 : b0 ≤ t) (h1 : t ≤ lastB b0 bs) :
    isoPpf bad hs (b0 :: bs) (isoCdf hs (b0 :: bs) t) = t := by
  have hz := histZ_pos hp hb hne hl
  have hlast := incr_le_lastB hb
  -- the end points `0`, `1` of the wrapper are the cdf values of the end points of the support
  have inj := fun {s : α} hs0 hs1 => isoCdf_injOn hp hb hz hl (s := s) (t := t) hs0 hs1 h0 h1
  obtain ⟨hnn, hle⟩ := (isoCdf_eq_histCdf t hb hz.ne').symm ▸ histCdf_mem t hp.nonNeg hb hz
  rcases hnn.eq_or_lt with h | h0'
  · rw [← h, isoPpf_zero]
    exact inj le_rfl hlast ((isoCdf_lo hs b0 bs).trans h)
  rcases hle.eq_or_lt with h | h1'
  · rw [h, isoPpf_one]
    exact inj hlast le_rfl ((isoCdf_of_last_le hs (lt_lastB hb hz.ne') le_rfl).trans h.symm)
  · rw [isoPpf_of_mem bad hs b0 bs h0' h1', isoCdf_eq_histCdf t hb hz.ne']
    exact histPpf_histCdf hp hb hz hl h0 h1

/-- **closed form of the cdf** (`np.interp` on the cumulated masses): `0` left of `b₀`, otherwise the mass of
the full bins left of `x` plus `h·(x − bᵢ)` of the bin containing `x`, over `Z`. -/
theorem isoCdf_closed_form (hs : List α) (b0 : α) (bs : List α) (x : α) (hb : Incr (b0 :: bs))
    (hz : histZ hs (b0 :: bs) ≠ 0) :
    isoCdf hs (b0 :: bs) x = if x < b0 then 0 else histCdfRaw x hs (b0 :: bs) / histZ hs (b0 :: bs) :=
  isoCdf_closed hs x hb hz

/-- the cdf is monotone with values in `[0,1]` -/
theorem isoCdf_monotone (hs : List α) (b0 : α) (bs : List α) (hn : NonNeg hs) (hb : Incr (b0 :: bs))
    (hz : 0 < histZ hs (b0 :: bs)) :
    (∀ x y, x ≤ y → isoCdf hs (b0 :: bs) x ≤ isoCdf hs (b0 :: bs) y) ∧
    ∀ x, 0 ≤ isoCdf hs (b0 :: bs) x ∧ isoCdf hs (b0 :: bs) x ≤ 1 := by
  simp only [isoCdf_eq_histCdf _ hb hz.ne']
  exact ⟨fun _ _ hxy => histCdf_mono hxy hn hb hz, fun x => histCdf_mem x hn hb hz⟩

/-- **general heights**: for `U` uniform on `[0,1]` the event `ppf(U) ≤ t` is `[0, cdf t]`
up to the single point `cdf t` — for every `t`, heights `≥ 0`, `Z > 0`. (With zero-height bins `np.interp` on the
repeated knot returns the right end of the flat piece, so the point `u = cdf t` may be missing; for `t < b₀` the set
is empty and `[0, cdf t] = {0}`.) -/
theorem inverse_transform_sandwich (bad : α) (hs : List α) (b0 : α) (bs : List α) (t : α) (hn : NonNeg hs)
    (hb : Incr (b0 :: bs)) (hz : 0 < histZ hs (b0 :: bs)) :
    Ico 0 (isoCdf hs (b0 :: bs) t) ⊆ {u | u ∈ Icc (0 : α) 1 ∧ isoPpf bad hs (b0 :: bs) u ≤ t} ∧
    {u | u ∈ Icc (0 : α) 1 ∧ isoPpf bad hs (b0 :: bs) u ≤ t} ⊆ Icc 0 (isoCdf hs (b0 :: bs) t) := by
  obtain ⟨hmono, hrange⟩ := isoCdf_monotone hs b0 bs hn hb hz
  constructor
  · intro u hu
    have hle1 : u ≤ 1 := hu.2.le.trans (hrange t).2
    refine ⟨⟨hu.1, hle1⟩, not_lt.1 fun hlt => hu.2.not_ge ?_⟩
    exact isoPpf_cdf bad hs b0 bs u hn hb hz hu.1 hle1 ▸ hmono _ _ hlt.le
  · rintro u ⟨⟨h0, h1⟩, hq⟩
    exact ⟨h0, isoPpf_cdf bad hs b0 bs u hn hb hz h0 h1 ▸ hmono _ _ hq⟩

/-- with all heights positive and `t ≥ b₀`,
`{u ∈ [0,1] : ppf u ≤ t} = [0, cdf t]` exactly. Hence `ppf` of a uniform draw — `Isotonic.sample` as coded:
`self.distribution.ppf(q=np.random.rand(n))` — has cdf `isoCdf`. -/
theorem inverse_transform_law (bad : α) (hs : List α) (b0 : α) (bs : List α) (t : α) (hp : AllPos hs)
    (hb : Incr (b0 :: bs)) (hne : hs ≠ []) (hl : hs.length = bs.length) (ht : b0 ≤ t) :
    {u | u ∈ Icc (0 : α) 1 ∧ isoPpf bad hs (b0 :: bs) u ≤ t} = Icc 0 (isoCdf hs (b0 :: bs) t) := by
  have hz := histZ_pos hp hb hne hl
  obtain ⟨s1, s2⟩ := inverse_transform_sandwich bad hs b0 bs t hp.nonNeg hb hz
  refine Subset.antisymm s2 fun u hu => ?_
  rcases hu.2.lt_or_eq with hlt | rfl
  · exact s1 ⟨hu.1, hlt⟩
  -- the point `u = cdf t` itself: `ppf (cdf t) = t` inside the support, `ppf 1 = bₙ < t` beyond it
  refine ⟨⟨hu.1, ((isoCdf_monotone hs b0 bs hp.nonNeg hb hz).2 t).2⟩, ?_⟩
  rcases le_or_gt t (lastB b0 bs) with hlast | hlast
  · rw [isoPpf_cdf_inv bad hs b0 bs t hp hb hne hl ht hlast]
  · rw [isoCdf_of_last_le hs ((lt_lastB hb hz.ne').trans hlast) hlast.le, isoPpf_one]
    exact hlast.le

end OrderedField

/-! ### non-vacuity at `ℚ`: four bins of unequal widths, one of them of height zero (the object of the
differential run: `Isotonic(0, [0.2, 0.0, 0.5, 0.3], [0, 1, 1.5, 3.5, 4])`) -/

def exD : List ℚ := [1/5, 0, 1/2, 3/10]
def exB : List ℚ := [0, 1, 3/2, 7/2, 4]
/-- three bins, all heights positive, unequal widths -/
def exDp : List ℚ := [1/5, 1/2, 3/10]
def exBp : List ℚ := [0, 1, 3, 4]

theorem exB_incr : Incr exB := by norm_num [exB, Incr]
theorem exBp_incr : Incr exBp := by norm_num [exBp, Incr]
theorem exD_nonNeg : NonNeg exD := by
  unfold NonNeg exD; decide +kernel
theorem exDp_pos : AllPos exDp := by
  unfold AllPos exDp; decide +kernel
theorem exZ : histZ exD exB = 27/20 := by norm_num [histZ, exD, exB]
theorem exZ_pos : 0 < histZ exD exB := exZ ▸ by norm_num

/-- as coded: the widths vary, so SciPy reads the `densities` as heights -/
example : isoHs exD exB = exD := by decide +kernel

example (x : ℚ) : 0 ≤ histPdf exD exB x ∧ 0 ≤ isoLik oodDefault exD exB x :=
  isoPdf_nonneg _ _ _ x exD_nonNeg exB_incr (by norm_num [oodDefault])

/-- break points belong to the bin on their right; both end points answer the out-of-support constant -/
example : isoLik oodDefault exD exB 1 = 0 ∧ isoLik oodDefault exD exB (3/2) = 10/27 ∧
    isoLik oodDefault exD exB 0 = 1/8388608 ∧ isoLik oodDefault exD exB 4 = 1/8388608 ∧
    histPdf exD exB 0 = 4/27 ∧ histPdf exD exB 4 = 0 := by decide +kernel

example (u : ℚ) (h0 : 0 ≤ u) (h1 : u ≤ 1) : isoCdf exD exB (isoPpf (-1) exD exB u) = u :=
  isoPpf_cdf (-1) exD 0 _ u exD_nonNeg exB_incr exZ_pos h0 h1

/-- on the flat piece of the cdf (the zero-height bin `[1, 3/2)`) `np.interp` returns its right end -/
example : isoCdf exD exB 1 = 4/27 ∧ isoPpf (-1) exD exB (4/27) = 3/2 ∧ isoCdf exD exB (6/5) = 4/27 := by
  decide +kernel

example (t : ℚ) (h0 : 0 ≤ t) (h1 : t ≤ 4) : isoPpf (-1) exDp exBp (isoCdf exDp exBp t) = t :=
  isoPpf_cdf_inv (-1) exDp 0 _ t exDp_pos exBp_incr (by simp [exDp]) (by simp [exDp]) h0 (by simpa [lastB] using h1)

example (t : ℚ) :
    Ico 0 (isoCdf exD exB t) ⊆ {u | u ∈ Icc (0 : ℚ) 1 ∧ isoPpf (-1) exD exB u ≤ t} ∧
    {u | u ∈ Icc (0 : ℚ) 1 ∧ isoPpf (-1) exD exB u ≤ t} ⊆ Icc 0 (isoCdf exD exB t) :=
  inverse_transform_sandwich (-1) exD 0 _ t exD_nonNeg exB_incr exZ_pos

example (t : ℚ) (ht : 0 ≤ t) :
    {u | u ∈ Icc (0 : ℚ) 1 ∧ isoPpf (-1) exDp exBp u ≤ t} = Icc 0 (isoCdf exDp exBp t) :=
  inverse_transform_law (-1) exDp 0 _ t exDp_pos exBp_incr (by simp [exDp]) (by simp [exDp]) ht

/-- the point `u = cdf t` really can be missing: `t = 1` lies at the left end of the zero-height bin -/
example : isoCdf exD exB 1 = 4/27 ∧ ¬ isoPpf (-1) exD exB (4/27) ≤ 1 := by decide +kernel


/-- the piecewise-constant density integrates to one over `[b₀, bₙ]`; the integral is the
finite sum of interval integrals `Σ hᵢ·∫_{bᵢ}^{bᵢ₊₁} 1` over `Z`. Any number of bins, any heights with `Z ≠ 0`. -/
theorem iso_integral_one (hs : List ℝ) (b0 : ℝ) (bs : List ℝ) (hb : Incr (b0 :: bs))
    (hz : histZ hs (b0 :: bs) ≠ 0) :
    (∫ t in b0..lastB b0 bs, histPdf hs (b0 :: bs) t =
      histInt (fun a b => ∫ _ in a..b, (1 : ℝ)) (lastB b0 bs) hs (b0 :: bs) / histZ hs (b0 :: bs)) ∧
    ∫ t in b0..lastB b0 bs, histPdf hs (b0 :: bs) t = 1 := by
  have h := (integral_mul_histPdf (g := fun _ => 1) continuous_const hs hb (incr_le_lastB hb)).2
  simp only [one_mul] at h
  refine ⟨h, ?_⟩
  rw [h, histInt_sub, histCdfRaw_ge_last hb le_rfl, div_self hz]

/-- `distribution.cdf(x) = ∫_{b₀}^{x} pdf`, for every real `x` (left of `b₀` both sides
are `0`, right of `bₙ` both are `1`). -/
theorem isoCdf_is_integral (hs : List ℝ) (b0 : ℝ) (bs : List ℝ) (x : ℝ) (hb : Incr (b0 :: bs))
    (hz : histZ hs (b0 :: bs) ≠ 0) :
    isoCdf hs (b0 :: bs) x = ∫ t in b0..x, histPdf hs (b0 :: bs) t := by
  rw [isoCdf_closed hs x hb hz]
  split_ifs with hx
  · rw [integral_histPdf_left hs b0 bs x hx]
  · have h := (integral_mul_histPdf (g := fun _ => 1) continuous_const hs hb (not_lt.1 hx)).2
    simp only [one_mul] at h
    rw [h, histInt_sub]

/-- `rv_histogram._munp(k)` — the closed form
`Σ hᵢ·(bᵢ₊₁^{k+1} − bᵢ^{k+1}) / ((k+1)·Z)` — is `∫ tᵏ·pdf(t) dt` over the support, every order `k`; and
`Isotonic.moment(k)` (which answers `1` for `k = 0` without computing) is the same integral. -/
theorem isoMoment_is_integral (k : ℕ) (hs : List ℝ) (b0 : ℝ) (bs : List ℝ) (hb : Incr (b0 :: bs))
    (hz : histZ hs (b0 :: bs) ≠ 0) :
    histMoment k hs (b0 :: bs) = ∫ t in b0..lastB b0 bs, t ^ k * histPdf hs (b0 :: bs) t ∧
    isoMoment k hs (b0 :: bs) = ∫ t in b0..lastB b0 bs, t ^ k * histPdf hs (b0 :: bs) t := by
  have h1 : histMoment k hs (b0 :: bs) = ∫ t in b0..lastB b0 bs, t ^ k * histPdf hs (b0 :: bs) t := by
    rw [(integral_mul_histPdf (continuous_pow k) hs hb (incr_le_lastB hb)).2, histInt_pow_last _ k hb le_rfl]
    rfl
  refine ⟨h1, ?_⟩
  unfold isoMoment
  split_ifs with hk
  · subst hk
    simp only [pow_zero, one_mul]
    exact (iso_integral_one hs b0 bs hb hz).2.symm
  · exact h1

/-- the integrand of the moment integral is interval integrable (so the integral above is a genuine one) -/
theorem isoMoment_integrable (k : ℕ) (hs : List ℝ) (b0 : ℝ) (bs : List ℝ) (hb : Incr (b0 :: bs)) :
    IntervalIntegrable (fun t => t ^ k * histPdf hs (b0 :: bs) t) volume b0 (lastB b0 bs) :=
  (integral_mul_histPdf (continuous_pow k) hs hb (incr_le_lastB hb)).1

/-- **law of `Isotonic.sample`** in measure form: for `U` uniform on `[0,1]` (Lebesgue measure) the event
`ppf(U) ≤ t` has probability `cdf(t) = ∫_{b₀}^{t} pdf` — every `t`, heights `≥ 0` (zero bins allowed), `Z > 0`. -/
theorem inverse_transform_measure (bad : ℝ) (hs : List ℝ) (b0 : ℝ) (bs : List ℝ) (t : ℝ) (hn : NonNeg hs)
    (hb : Incr (b0 :: bs)) (hz : 0 < histZ hs (b0 :: bs)) :
    volume {u : ℝ | u ∈ Icc (0 : ℝ) 1 ∧ isoPpf bad hs (b0 :: bs) u ≤ t} = ENNReal.ofReal (isoCdf hs (b0 :: bs) t) ∧
    isoCdf hs (b0 :: bs) t = ∫ x in b0..t, histPdf hs (b0 :: bs) x := by
  obtain ⟨s1, s2⟩ := inverse_transform_sandwich bad hs b0 bs t hn hb hz
  refine ⟨le_antisymm ?_ ?_, isoCdf_is_integral hs b0 bs t hb hz.ne'⟩
  · calc volume {u : ℝ | u ∈ Icc (0 : ℝ) 1 ∧ isoPpf bad hs (b0 :: bs) u ≤ t}
        ≤ volume (Icc 0 (isoCdf hs (b0 :: bs) t)) := measure_mono s2
      _ = ENNReal.ofReal (isoCdf hs (b0 :: bs) t) := by rw [Real.volume_Icc, sub_zero]
  · calc ENNReal.ofReal (isoCdf hs (b0 :: bs) t)
        = volume (Ico 0 (isoCdf hs (b0 :: bs) t)) := by rw [Real.volume_Ico, sub_zero]
      _ ≤ volume {u : ℝ | u ∈ Icc (0 : ℝ) 1 ∧ isoPpf bad hs (b0 :: bs) u ≤ t} := measure_mono s1

/-- for rational `densities`-heights and breaks the real density integrates to one, the rational cdf value the
driver prints is the real integral up to the rational point `x`, and the rational moment is the real moment
integral -/
theorem iso_rat_is_integral (hs : List ℚ) (b0 : ℚ) (bs : List ℚ) (hb : Incr (b0 :: bs))
    (hz : histZ hs (b0 :: bs) ≠ 0) :
    (∫ t in (b0 : ℝ)..((lastB b0 bs : ℚ) : ℝ), histPdf (castL hs) (castL (b0 :: bs)) t = 1) ∧
    (∀ x : ℚ, ((isoCdf hs (b0 :: bs) x : ℚ) : ℝ) = ∫ t in (b0 : ℝ)..(x : ℝ), histPdf (castL hs) (castL (b0 :: bs)) t) ∧
    (∀ k : ℕ, ((isoMoment k hs (b0 :: bs) : ℚ) : ℝ) =
      ∫ t in (b0 : ℝ)..((lastB b0 bs : ℚ) : ℝ), t ^ k * histPdf (castL hs) (castL (b0 :: bs)) t) ∧
    (∀ x : ℚ, ((histPdf hs (b0 :: bs) x : ℚ) : ℝ) = histPdf (castL hs) (castL (b0 :: bs)) (x : ℝ)) := by
  have hb' := incr_cast _ hb
  have hz' := histZ_cast_ne hz
  simp only [castL_cons, lastB_cast] at hb' hz' ⊢
  refine ⟨(iso_integral_one _ _ _ hb' hz').2, fun x => ?_, fun k => ?_, histPdf_cast hs (b0 :: bs)⟩
  · rw [← isoCdf_is_integral _ _ _ _ hb' hz']
    exact isoCdf_cast hs b0 bs x hb hz
  · rw [← (isoMoment_is_integral k _ _ _ hb' hz').2, isoMoment, isoMoment, apply_ite ((↑) : ℚ → ℝ), Rat.cast_one,
      histMoment_cast]
    rfl

noncomputable def exDr : List ℝ := [1/5, 0, 1/2, 3/10]
noncomputable def exBr : List ℝ := [0, 1, 3/2, 7/2, 4]
theorem exBr_incr : Incr exBr := by norm_num [exBr, Incr]
theorem exDr_nonNeg : NonNeg exDr := by
  intro h hh; simp only [exDr, List.mem_cons, List.not_mem_nil, or_false] at hh
  rcases hh with rfl | rfl | rfl | rfl <;> norm_num
theorem exZr : histZ exDr exBr = 27/20 := by norm_num [histZ, exDr, exBr]
theorem exZr_ne : histZ exDr exBr ≠ 0 := exZr ▸ by norm_num

example : ∫ t in (0 : ℝ)..4, histPdf exDr exBr t = 1 :=
  (iso_integral_one exDr 0 _ exBr_incr exZr_ne).2

example (x : ℝ) : isoCdf exDr exBr x = ∫ t in (0 : ℝ)..x, histPdf exDr exBr t :=
  isoCdf_is_integral exDr 0 _ x exBr_incr exZr_ne

/-- the mean of the example histogram is `253/108` (SciPy: `2.3425925…`) and it is the integral `∫ t·pdf` -/
example : ∫ t in (0 : ℝ)..4, t ^ 1 * histPdf exDr exBr t = 253/108 := by
  refine ((isoMoment_is_integral 1 exDr 0 _ exBr_incr exZr_ne).1.symm.trans ?_ :)
  rw [histMoment, show histZ exDr [0, 1, 3/2, 7/2, 4] = 27/20 from exZr]
  norm_num [histMomentZ, exDr]

example (t : ℝ) :
    volume {u : ℝ | u ∈ Icc (0 : ℝ) 1 ∧ isoPpf (-1) exDr exBr u ≤ t} = ENNReal.ofReal (isoCdf exDr exBr t) :=
  (inverse_transform_measure (-1) exDr 0 _ t exDr_nonNeg exBr_incr (exZr ▸ by norm_num)).1

example : ∀ x : ℚ, ((isoCdf exD exB x : ℚ) : ℝ) = ∫ t in ((0 : ℚ) : ℝ)..(x : ℝ), histPdf (castL exD) (castL exB) t :=
  (iso_rat_is_integral exD 0 _ exB_incr exZ_pos.ne').2.1


/-- un-normalised cdf of the mutant sampler "pick bin `i` with probability `hᵢ/Σh`, then uniform inside the
bin" (`Isotonic.sample` with densities read as bin masses) -/
def heightPropRaw {α : Type} [Field α] [LT α] [DecidableLT α] (t : α) : List α → List α → α
  | h :: hs, lo :: hi :: bs =>
      (if t < lo then 0 else if t < hi then h * ((t - lo) / (hi - lo)) else h) + heightPropRaw t hs (hi :: bs)
  | _, _ => 0

/-- its cdf -/
def heightPropCdf {α : Type} [Field α] [LT α] [DecidableLT α] (hs b : List α) (t : α) : α :=
  heightPropRaw t hs b / tsum hs

/-- for bins of unequal width the law "bin `i` with probability
`hᵢ/Σh`, uniform inside" is not the leaf's distribution: `densities = [1/2, 1/2]`, `breaks = [0, 1, 3]` (SciPy
reads heights since the widths vary; the leaf is the uniform law on `[0,3]`): `cdf(1) = 1/3`, the mutant's is
`1/2`. For equal widths (`breaks = [0, 1, 2]`) the two agree — why a test with equal bins does not see it. -/
theorem height_proportional_sampling_is_wrong :
    Incr ([0, 1, 3] : List ℚ) ∧ isoHs [1/2, 1/2] [0, 1, 3] = [1/2, 1/2] ∧
    isoCdf (isoHs [1/2, 1/2] [0, 1, 3]) [0, 1, 3] 1 = 1/3 ∧ heightPropCdf [1/2, 1/2] [0, 1, 3] (1 : ℚ) = 1/2 ∧
    isoCdf (isoHs [1/2, 1/2] [0, 1, 2]) [0, 1, 2] 1 = heightPropCdf [1/2, 1/2] [0, 1, 2] (1 : ℚ) := by
  refine ⟨by norm_num [Incr], by decide +kernel, by decide +kernel, by decide +kernel, by decide +kernel⟩

/-- raw moment of the mutant `Isotonic.moment` that treats `densities` as bin masses (each bin uniform) -/
def massMoment {α : Type} [Field α] (k : ℕ) : List α → List α → α
  | d :: ds, lo :: hi :: bs =>
      d * ((hi ^ (k + 1) - lo ^ (k + 1)) / (((k + 1 : ℕ) : α) * (hi - lo))) + massMoment k ds (hi :: bs)
  | _, _ => 0

/-- same leaf (uniform on `[0,3]`, mean `3/2`); bin masses `[1/2, 1/2]` give `5/4`. -/
theorem mass_moment_is_wrong :
    isoMoment 1 (isoHs [1/2, 1/2] [0, 1, 3]) ([0, 1, 3] : List ℚ) = 3/2 ∧
    massMoment 1 [1/2, 1/2] ([0, 1, 3] : List ℚ) = 5/4 := by
  constructor <;> decide +kernel

theorem allPos_one {α : Type} [Field α] [LinearOrder α] [IsStrictOrderedRing α] : AllPos [(1 : α)] :=
  fun _ h => List.mem_singleton.1 h ▸ one_pos

/-- `Uniform` is the histogram with the single bin `[start, start+width)` of height one: same density except at
the right end point (SciPy's `uniform` support is closed), same cdf, same ppf on `[0,1]` -/
theorem uniform_is_one_bin {α : Type} [Field α] [LinearOrder α] [IsStrictOrderedRing α] (s w : α) (hw : 0 < w) :
    (∀ x, x ≠ s + w → uniPdf s w x = histPdf [1] [s, s + w] x) ∧
    (∀ x, uniCdf s w x = isoCdf [1] [s, s + w] x) ∧
    (∀ u, 0 ≤ u → u ≤ 1 → uniPpf s w u = isoPpf 0 [1] [s, s + w] u) := by
  have hsw : s < s + w := lt_add_of_pos_right s hw
  have hz : histZ [1] [s, s + w] = w := by simp [histZ]
  have hb : Incr [s, s + w] := ⟨hsw, trivial⟩
  have hcdf : ∀ x, uniCdf s w x = isoCdf [1] [s, s + w] x := by
    intro x
    rw [isoCdf_closed [1] x hb (ne_of_eq_of_ne hz hw.ne'), hz]
    simp only [uniCdf, histCdfRaw, one_mul, add_zero, add_sub_cancel_left]
    rcases lt_trichotomy x (s + w) with h | rfl | h
    · rw [if_neg h.not_gt, if_pos h]
    · rw [if_neg (lt_irrefl _), if_neg (lt_irrefl _), add_sub_cancel_left]
    · rw [if_pos h, if_neg h.not_gt, div_self hw.ne']
  refine ⟨?_, hcdf, ?_⟩
  · intro x hx
    simp only [uniPdf, histPdf, histRaw, hz]
    rcases lt_or_gt_of_ne hx with h | h
    · rw [if_neg h.not_gt, if_pos h]
    · rw [if_pos h, if_neg h.not_gt, zero_div, ite_self]
  · -- `start + width·u` has cdf `u`, and `ppf ∘ cdf` is the identity on the support of a histogram without empty bins
    intro u h0 h1
    have h0' : s ≤ s + w * u := le_add_of_nonneg_right (mul_nonneg hw.le h0)
    have h1' : s + w * u ≤ s + w := add_le_add_right (mul_le_of_le_one_right hw.le h1) s
    have hu : isoCdf [1] [s, s + w] (s + w * u) = u := by
      rw [← hcdf, uniCdf, if_neg h0'.not_gt, if_neg h1'.not_gt, add_sub_cancel_left, mul_div_cancel_left₀ u hw.ne']
    rw [uniPpf, ← isoPpf_cdf_inv 0 [1] s [s + w] (s + w * u) allPos_one hb (List.cons_ne_nil _ _) rfl h0' h1', hu]

theorem uniform_integral_one (s w : ℝ) (hw : 0 < w) : ∫ t in s..s + w, uniPdf s w t = 1 := by
  have hsw : s < s + w := lt_add_of_pos_right s hw
  rw [← (iso_integral_one [1] s [s + w] ⟨hsw, trivial⟩ (by simp [histZ, hw.ne'])).2]
  exact integral_congr_Ioo_of_le hsw.le fun t ht => (uniform_is_one_bin s w hw).1 t ht.2.ne

/-- `Uniform.moment(k)` is `∫ tᵏ·pdf` and has the closed form
`((s+w)^{k+1} − s^{k+1}) / ((k+1)·w)` -/
theorem uniform_moment (s w : ℝ) (hw : 0 < w) (k : ℕ) :
    uniMoment s w k = ∫ t in s..s + w, t ^ k * uniPdf s w t ∧
    uniMoment s w k = ((s + w) ^ (k + 1) - s ^ (k + 1)) / ((k + 1) * w) := by
  have hsw : s < s + w := lt_add_of_pos_right s hw
  have hz : histZ [1] [s, s + w] = w := by simp [histZ]
  constructor
  · -- `uniMoment` is by definition `isoMoment` of the one-bin histogram, whose density differs at `s + w` only
    refine ((isoMoment_is_integral k [1] s [s + w] ⟨hsw, trivial⟩ (ne_of_eq_of_ne hz hw.ne')).2.trans ?_ :)
    exact (integral_congr_Ioo_of_le hsw.le fun t ht => by
      rw [(uniform_is_one_bin s w hw).1 t ht.2.ne]).symm
  · unfold uniMoment
    split_ifs with hk
    · subst hk
      rw [Nat.cast_zero, zero_add, zero_add, pow_one, pow_one, add_sub_cancel_left, one_mul, div_self hw.ne']
    · rw [histMoment, hz]
      simp only [histMomentZ]
      rw [add_zero, one_div, inv_mul_eq_div, div_div, Nat.cast_succ]

/-- finding F14 of DESIGN.md (`Uniform.fit` of the library as received gave width 0 on a constant column): a zero-width "uniform" has total mass `0`, not `1` -/
theorem uniform_width_zero (s : ℝ) : ∫ t in s..s + 0, uniPdf s 0 t = 0 := by simp

/-- law of `Uniform.sample` (`start + width·U`): `{u ∈ [0,1] : ppf u ≤ t} = [0, cdf t]` for `t ≥ start` -/
theorem uniform_inverse_transform {α : Type} [Field α] [LinearOrder α] [IsStrictOrderedRing α] (s w t : α)
    (hw : 0 < w) (ht : s ≤ t) :
    {u | u ∈ Icc (0 : α) 1 ∧ uniPpf s w u ≤ t} = Icc 0 (uniCdf s w t) := by
  obtain ⟨_, hc, hp⟩ := uniform_is_one_bin s w hw
  rw [hc, ← inverse_transform_law 0 [1] s [s + w] t allPos_one ⟨lt_add_of_pos_right s hw, trivial⟩
    (List.cons_ne_nil _ _) rfl ht]
  ext u
  exact and_congr_right fun hu => by rw [hp u hu.1 hu.2]

example : ∫ t in (3/2 : ℝ)..3/2 + 2, uniPdf (3/2) 2 t = 1 := uniform_integral_one _ _ (by norm_num)
example : uniMoment (3/2 : ℝ) 2 2 = ∫ t in (3/2 : ℝ)..3/2 + 2, t ^ 2 * uniPdf (3/2) 2 t :=
  (uniform_moment _ _ (by norm_num) 2).1
/-- SciPy: `Uniform(0, 1.5, 2.0).moment(2) = 6.58333…` -/
example : uniMoment (3/2 : ℚ) 2 2 = 79/12 ∧ uniMode (3/2 : ℚ) 2 = 3/2 := by constructor <;> decide +kernel
example : {u | u ∈ Icc (0 : ℚ) 1 ∧ uniPpf (3/2) 2 u ≤ 2} = Icc 0 (uniCdf (3/2) 2 2) :=
  uniform_inverse_transform _ _ _ (by norm_num) (by norm_num)


theorem bernoulli_sum_one {α : Type} [CommRing α] [LT α] [DecidableLT α] (p : α) :
    bernPmf p 0 + bernPmf p 1 = 1 := by
  simp [bernPmf]

/-- Bernoulli(p) is the Categorical leaf with categories `[0, 1]` and probabilities `[1−p, p]`: same pmf, same
raw moments (`p` for every order `≥ 1`), and its dense table is the exporter's `[1−p, p]` -/
theorem bernoulli_is_categorical {α : Type} [CommRing α] [LT α] [DecidableLT α] (p : α) :
    (∀ x : Int, bernPmf p x = catPmf [0, 1] [1 - p, p] x) ∧
    (∀ k : ℕ, catMoment k [0, 1] [1 - p, p] = bernMoment p k) ∧
    denseTbl [0, 1] [1 - p, p] 2 = [1 - p, p] := by
  refine ⟨?_, ?_, ?_⟩
  · intro x
    simp only [bernPmf, catPmf]
    split_ifs <;> first | rfl | omega
  · intro k
    cases k <;> simp [catMoment, bernMoment]
  · simp [denseTbl, List.range_succ, catPmf]

/-- the pmf summed over the support (the listed, pairwise different categories) is the
sum of the probabilities — one, when they sum to one. Categories in any order, with gaps, negative allowed. -/
theorem categorical_sum_one {α : Type} [CommSemiring α] (cats : List Int) (ps : List α) (hn : cats.Nodup)
    (hl : cats.length = ps.length) (hs : tsum ps = 1) :
    tsum (cats.map (fun c => catPmf cats ps c)) = 1 := by
  have := tsum_support (fun _ => (1 : α)) cats ps hn hl
  simp only [one_mul] at this
  rw [this, catSum_one cats ps hl, hs]

/-- `Categorical.moment(k) = Σ_c cᵏ·p_c` is the expectation
`Σ_{x ∈ support} xᵏ·pmf(x)` with the pmf taken by category value -/
theorem categorical_moment_is_expectation {α : Type} [CommRing α] (k : ℕ) (cats : List Int) (ps : List α)
    (hn : cats.Nodup) (hl : cats.length = ps.length) :
    catMoment k cats ps = tsum (cats.map (fun c => ((c : Int) : α) ^ k * catPmf cats ps c)) := by
  rw [catMoment_eq_catSum, tsum_support (fun c => ((c : Int) : α) ^ k) cats ps hn hl]

/-- with categories `[5, 2, 9]` (not `0..K−1`) the mean is `47/10`; using the index
in place of the category gives `11/10`; likewise `Categorical.mpe` must answer the category `2`, not the index
`1` of the maximal probability. -/
theorem index_moment_is_wrong :
    catMoment 1 [5, 2, 9] [(1/5 : ℚ), 1/2, 3/10] = 47/10 ∧ idxMoment 1 0 [(1/5 : ℚ), 1/2, 3/10] = 11/10 ∧
    catMode [5, 2, 9] [(1/5 : ℚ), 1/2, 3/10] = 2 ∧ argmaxFirst [(1/5 : ℚ), 1/2, 3/10] = 1 := by
  refine ⟨by decide +kernel, by decide +kernel, by decide +kernel, by decide +kernel⟩

/-- `Categorical.mpe` answers a category of the support with maximal
pmf — the one stored at the first maximal probability: every category stored before it has a strictly smaller pmf. -/
theorem categorical_mode_is_argmax_category {α : Type} [CommSemiring α] [LinearOrder α] (cats : List Int) (ps : List α)
    (hn : cats.Nodup) (hl : cats.length = ps.length) (hne : ps ≠ []) :
    catMode cats ps ∈ cats ∧
    (∀ c ∈ cats, catPmf cats ps c ≤ catPmf cats ps (catMode cats ps)) ∧
    (∀ (j : ℕ) (c : Int), j < argmaxFirst ps → cats[j]? = some c →
      catPmf cats ps c < catPmf cats ps (catMode cats ps)) := by
  obtain ⟨rv, hr, hmax, hfirst⟩ := argmaxFirst_spec ps hne
  have hlt : argmaxFirst ps < cats.length := hl ▸ (List.getElem?_eq_some_iff.1 hr).1
  have hget : cats[argmaxFirst ps]? = some (catMode cats ps) := by
    rw [catMode, List.getD_eq_getElem?_getD, List.getElem?_eq_getElem hlt]; rfl
  have hmode : catPmf cats ps (catMode cats ps) = rv := catPmf_getElem cats ps _ _ rv hn hget hr
  refine ⟨List.mem_of_getElem? hget, ?_, ?_⟩
  · intro c hc
    obtain ⟨j, hj, rfl⟩ := List.getElem_of_mem hc
    have hj' : j < ps.length := hl ▸ hj
    rw [hmode, catPmf_getElem cats ps j _ _ hn (List.getElem?_eq_getElem hj) (List.getElem?_eq_getElem hj')]
    exact hmax _ (List.getElem_mem hj')
  · intro j c hj hc
    have h2 := List.getElem?_eq_getElem (hl ▸ (List.getElem?_eq_some_iff.1 hc).1 : j < ps.length)
    rw [hmode, catPmf_getElem cats ps j c _ hn hc h2]
    exact hfirst j hj _ h2

/-- `Bernoulli.mpe` (`0 if p < 0.5 else 1`, tie towards 1) answers a value of maximal pmf -/
theorem bernoulli_mode_maximal {α : Type} [Field α] [LinearOrder α] [IsStrictOrderedRing α] (p : α) (h0 : 0 ≤ p)
    (h1 : p ≤ 1) (x : Int) : bernPmf p x ≤ bernPmf p (bernMode p) := by
  have hx : bernPmf p x = p ∨ bernPmf p x = 1 - p ∨ bernPmf p x = 0 := by
    unfold bernPmf; split_ifs
    exacts [.inl rfl, .inr (.inl rfl), .inr (.inr rfl)]
  have half : p < 1 / (1 + 1) ↔ p < 1 - p := by
    rw [one_add_one_eq_two, lt_div_iff₀ two_pos, mul_two, lt_sub_iff_add_lt]
  unfold bernMode
  split_ifs with hp
  · -- `p < 1/2`: the mode is `0`, of mass `1 - p`
    rw [show bernPmf p 0 = 1 - p from if_neg (by decide)]
    rcases hx with h | h | h <;> rw [h]
    exacts [(half.1 hp).le, sub_nonneg.2 h1]
  · rw [show bernPmf p 1 = p from if_pos rfl]
    rcases hx with h | h | h <;> rw [h]
    exacts [not_lt.1 (mt half.2 hp), h0]

/-! ### non-vacuity: categories with gaps, stored unsorted -/

def exCats : List Int := [5, 2, 9]
def exPs : List ℚ := [1/5, 1/2, 3/10]

example : tsum (exCats.map (fun c => catPmf exCats exPs c)) = 1 :=
  categorical_sum_one exCats exPs (by decide) rfl (by norm_num [exPs, tsum])
example (k : ℕ) : catMoment k exCats exPs = tsum (exCats.map (fun c => ((c : Int) : ℚ) ^ k * catPmf exCats exPs c)) :=
  categorical_moment_is_expectation k exCats exPs (by decide) rfl
example : catMode exCats exPs ∈ exCats ∧
    (∀ c ∈ exCats, catPmf exCats exPs c ≤ catPmf exCats exPs (catMode exCats exPs)) ∧
    (∀ (j : ℕ) (c : Int), j < argmaxFirst exPs → exCats[j]? = some c →
      catPmf exCats exPs c < catPmf exCats exPs (catMode exCats exPs)) :=
  categorical_mode_is_argmax_category exCats exPs (by decide) rfl (by simp [exPs])
/-- ties go to the category stored first (`np.argmax`), not to the smallest category -/
example : catMode [5, 2, 9] [(2/5 : ℚ), 1/5, 2/5] = 5 := by decide +kernel
example : bernPmf (3/10 : ℚ) 0 + bernPmf (3/10 : ℚ) 1 = 1 := bernoulli_sum_one _
example (x : Int) : bernPmf (1/2 : ℚ) x ≤ bernPmf (1/2 : ℚ) (bernMode (1/2 : ℚ)) :=
  bernoulli_mode_maximal _ (by norm_num) (by norm_num) x
/-- `Bernoulli.mpe` at `p = 1/2` is `1`; the Categorical rule on the same table would answer `0` -/
example : bernMode (1/2 : ℚ) = 1 ∧ catMode [0, 1] [(1/2 : ℚ), 1/2] = 0 := by constructor <;> decide +kernel

open Deeprob Deeprob.Circ Deeprob.MCirc

/-- **LeafOK / LeafNorm instances**: the table leaf `Circ.catLeaf v tbl` built from a Categorical leaf's own
parameters — `tbl[j] = pmf(j)` for the values `j < dom v`, categories pairwise different naturals below `dom v`,
probabilities summing to one — is a distribution over its variable (so it is a valid leaf of `Circ.Valid`) and
reports one when nothing is observed (the `LeafNorm` hypothesis of `Circ.normalised`). -/
theorem categorical_leaf_ok {α : Type} [CommSemiring α] (dom : Nat → Nat) (v : Nat) (cats : List Int) (ps : List α)
    (hn : cats.Nodup) (hr : ∀ c ∈ cats, 0 ≤ c ∧ c < dom v) (hl : cats.length = ps.length) (hs : tsum ps = 1) :
    Circ.Valid dom (Circ.catLeaf v (denseTbl cats ps (dom v))) ∧
    Circ.LeafNorm dom (Circ.catLeaf v (denseTbl cats ps (dom v))) ∧
    Circ.NormW (Circ.catLeaf v (denseTbl cats ps (dom v))) := by
  simp only [← MCirc.cat_toCirc]
  exact ⟨MCirc.cat_valid dom v _ (denseTbl_length cats ps (dom v)) ((denseTbl_tsum cats ps (dom v) hn hr hl).trans hs),
    MCirc.cat_leafNorm dom v _, MCirc.cat_normW v _⟩

/-- **the leaf-moment hypothesis of `C19.moment_exact`, instantiated for the discrete families**: for the table
leaf of a Categorical (or Bernoulli) leaf, `MomOK` holds, the recursion of `moment(root, k)` returns the leaf's own
`Categorical.moment(k) = Σ_c cᵏ·p_c`, and that is the exact raw moment `momentSpec` (`Σ_x xᵏ·leaf(x)` over the
domain). -/
theorem categorical_leaf_moment_exact {α : Type} [CommRing α] (dom : Nat → Nat) (k v : Nat) (cats : List Int)
    (ps : List α) (hn : cats.Nodup) (hr : ∀ c ∈ cats, 0 ≤ c ∧ c < dom v) (hl : cats.length = ps.length)
    (hs : tsum ps = 1) :
    MCirc.MomOK dom k v (MCirc.cat v (denseTbl cats ps (dom v))) ∧
    MCirc.moment k v (MCirc.cat v (denseTbl cats ps (dom v))) = catMoment k cats ps ∧
    catMoment k cats ps = momentSpec dom k v (Circ.catLeaf v (denseTbl cats ps (dom v))) := by
  have hm : MCirc.MomOK dom k v (MCirc.cat v (denseTbl cats ps (dom v))) :=
    C19.cat_momOK dom k v v _ (denseTbl_length cats ps (dom v))
  have h1 : MCirc.moment k v (MCirc.cat v (denseTbl cats ps (dom v))) = catMoment k cats ps := by
    simp [MCirc.cat, MCirc.moment, tblMoment_denseTbl k (dom v) cats ps hn hr]
  obtain ⟨hv, hln, hnw⟩ := categorical_leaf_ok dom v cats ps hn hr hl hs
  rw [← MCirc.cat_toCirc] at hv hln hnw ⊢
  exact ⟨hm, h1, h1 ▸ C19.moment_exact dom k v _ hv hnw hln hm (List.mem_singleton_self v)⟩

/-! ### non-vacuity: a mixture of two Categorical leaves over the categories `{1, 3, 4}` resp. `{4, 0}`
(gaps, unsorted) of one variable with domain `0..4` -/

def exDom : Nat → Nat := fun _ => 5
def exCatsA : List Int := [3, 1, 4]
def exPsA : List ℚ := [1/2, 1/5, 3/10]
def exCatsB : List Int := [4, 0]
def exPsB : List ℚ := [1/4, 3/4]
def exMix : MCirc ℚ :=
  .sum [0] [2/5, 3/5] [MCirc.cat 0 (denseTbl exCatsA exPsA 5), MCirc.cat 0 (denseTbl exCatsB exPsB 5)]

theorem exCatsA_range : ∀ c ∈ exCatsA, 0 ≤ c ∧ c < exDom 0 := by decide
theorem exCatsB_range : ∀ c ∈ exCatsB, 0 ≤ c ∧ c < exDom 0 := by decide
theorem exPsA_sum : tsum exPsA = 1 := by norm_num [exPsA, tsum]
theorem exPsB_sum : tsum exPsB = 1 := by norm_num [exPsB, tsum]

/-- every hypothesis of `C19.moment_exact` (validity, normalised weights, `LeafNorm`, `MomOK`) is discharged from
the leaf theory; the value is the mixture of the leaves' own moments -/
theorem exMix_moment (k : ℕ) : MCirc.moment k 0 exMix = momentSpec exDom k 0 exMix.toCirc ∧
    MCirc.moment k 0 exMix = 2/5 * catMoment k exCatsA exPsA + 3/5 * catMoment k exCatsB exPsB := by
  obtain ⟨vA, lA, nA⟩ := categorical_leaf_ok exDom 0 exCatsA exPsA (by decide) exCatsA_range rfl exPsA_sum
  obtain ⟨vB, lB, nB⟩ := categorical_leaf_ok exDom 0 exCatsB exPsB (by decide) exCatsB_range rfl exPsB_sum
  have hA := categorical_leaf_moment_exact exDom k 0 exCatsA exPsA (by decide) exCatsA_range rfl exPsA_sum
  have hB := categorical_leaf_moment_exact exDom k 0 exCatsB exPsB (by decide) exCatsB_range rfl exPsB_sum
  rw [← MCirc.cat_toCirc] at vA lA nA vB lB nB
  constructor
  · exact C19.moment_exact exDom k 0 exMix
      (MCirc.valid_sum.2 ⟨List.cons_ne_nil _ _, rfl, MCirc.forall_mem_two (fun _ => Iff.rfl) (fun _ => Iff.rfl),
        MCirc.forall_mem_two vA vB⟩)
      (MCirc.normW_sum.2 ⟨by norm_num [tsum], MCirc.forall_mem_two nA nB⟩)
      (MCirc.leafNorm_sum.2 (MCirc.forall_mem_two lA lB))
      (by rw [exMix, MCirc.MomOK]; exact MCirc.forall_mem_two hA.1 hB.1) (List.mem_singleton_self 0)
  · have eA : MCirc.moment k 0 (MCirc.cat 0 (denseTbl exCatsA exPsA 5)) = catMoment k exCatsA exPsA := hA.2.1
    have eB : MCirc.moment k 0 (MCirc.cat 0 (denseTbl exCatsB exPsB 5)) = catMoment k exCatsB exPsB := hB.2.1
    simp only [exMix, MCirc.moment, List.map, wsum, eA, eB]
    ring

/-- numbers of the differential run: mean `= 2/5·(3·1/2 + 1·1/5 + 4·3/10) + 3/5·(4·1/4) = 44/25` -/
example : MCirc.moment 1 0 exMix = 44/25 := by
  rw [(exMix_moment 1).2]; norm_num [catMoment, exCatsA, exPsA, exCatsB, exPsB]


section Readings
variable {α : Type} [Field α] [LinearOrder α] [IsStrictOrderedRing α]

theorem histZ_scale (c : α) : ∀ (hs b : List α), histZ (hs.map (fun h => h / c)) b = histZ hs b / c
  | [], _ | _ :: _, [] | _ :: _, [_] => (zero_div c).symm
  | h :: hs, lo :: hi :: bs => by
      simp only [List.map_cons, histZ]
      rw [histZ_scale c hs (hi :: bs)]
      ring

theorem histRaw_scale (c x : α) : ∀ (hs b : List α), histRaw x (hs.map (fun h => h / c)) b = histRaw x hs b / c
  | [], _ | _ :: _, [] | _ :: _, [_] => (zero_div c).symm
  | h :: hs, lo :: hi :: bs => by
      simp only [List.map_cons, histRaw]
      rw [histRaw_scale c x hs (hi :: bs), apply_ite (· / c)]

theorem zipWith_equal_widths (c : α) : ∀ (d b : List α), (∀ w ∈ widths b, w = c) → d.length + 1 = b.length →
    List.zipWith (fun x w => x / w) d (widths b) = d.map (fun h => h / c)
  | [], _, _, _ => rfl
  | _ :: _, [], _, h | _ :: _, [_], _, h => by simp at h
  | x :: d, lo :: hi :: bs, hw, hl => by
      simp only [widths, List.zipWith_cons_cons, List.map_cons]
      rw [hw (hi - lo) (List.mem_cons_self ..),
        zipWith_equal_widths c d (hi :: bs) (fun w hw' => hw w (List.mem_cons_of_mem _ hw')) (Nat.succ.inj hl)]

/-- **equal widths: both readings give the same distribution.** When every bin has the same width `c`, reading the
`densities` as counts (dividing by the widths, what SciPy does then) or as heights (what the reference formulas of the
harness do) yields the same normalised density — whatever `np.allclose` decides. (For widths that differ by less than
`allclose`'s tolerance the two readings differ by that relative amount: the model follows SciPy.) -/
theorem equal_widths_readings_agree (atol rtol : α) (d b : List α) (c : α) (hc : c ≠ 0)
    (hw : ∀ w ∈ widths b, w = c) (hl : d.length + 1 = b.length) (x : α) :
    histPdf (isoHeights atol rtol d b) b x = histPdf d b x := by
  unfold isoHeights
  split_ifs
  · rfl
  · rw [zipWith_equal_widths c d b hw hl]
    cases b with
    | nil => simp [histPdf]
    | cons b0 bs =>
      simp only [histPdf]
      split_ifs
      · rfl
      · rw [histRaw_scale, histZ_scale, div_div_div_cancel_right₀ hc]

/-- `Uniform.mpe` fills the left edge `start` (finding F17 of DESIGN.md), which has full density `1/width` in SciPy's closed support;
`Isotonic.likelihood` at its own left edge answers the out-of-support constant instead. -/
theorem edge_modes_as_coded (s w ood : α) (hw : 0 ≤ w) (hs : List α) (b0 : α) (bs : List α) :
    uniPdf s w (uniMode s w) = 1 / w ∧ isoLik ood hs (b0 :: bs) b0 = ood := by
  constructor
  · simp [uniPdf, uniMode, not_lt.2 hw]
  · simp [isoLik]

end Readings

example (x : ℚ) : histPdf (isoHs [1/5, 3/10, 1/2] [0, 1/2, 1, 3/2]) [0, 1/2, 1, 3/2] x
    = histPdf [1/5, 3/10, 1/2] [0, 1/2, 1, 3/2] x :=
  equal_widths_readings_agree _ _ _ _ (1/2) (by norm_num)
    (by intro w hw; simp [widths] at hw; rcases hw with rfl | rfl | rfl <;> norm_num) rfl x
/-- here SciPy takes the counts reading (`heights = densities / width`) -/
example : isoHs [1/5, 3/10, 1/2] [0, 1/2, 1, 3/2] = [2/5, 3/5, 1] := by decide +kernel
example : uniPdf (3/2 : ℚ) 2 (uniMode (3/2) 2) = 1 / 2 ∧ isoLik oodDefault exD exB 0 = oodDefault :=
  edge_modes_as_coded _ _ _ (by norm_num) _ _ _


example : NonNeg (isoHs exD exB) := isoHeights_nonNeg _ _ exD exB exD_nonNeg exB_incr
example (x : ℚ) : isoCdf exD exB x = if x < 0 then 0 else histCdfRaw x exD exB / histZ exD exB :=
  isoCdf_closed_form exD 0 _ x exB_incr exZ_pos.ne'
example : (∀ x y : ℚ, x ≤ y → isoCdf exD exB x ≤ isoCdf exD exB y) ∧
    ∀ x : ℚ, 0 ≤ isoCdf exD exB x ∧ isoCdf exD exB x ≤ 1 :=
  isoCdf_monotone exD 0 _ exD_nonNeg exB_incr exZ_pos
example (k : ℕ) : IntervalIntegrable (fun t => t ^ k * histPdf exDr exBr t) volume 0 (lastB 0 [1, 3/2, 7/2, 4]) :=
  isoMoment_integrable k exDr 0 _ exBr_incr
example : (∀ x : ℚ, x ≠ 3/2 + 2 → uniPdf (3/2) 2 x = histPdf [1] [3/2, 3/2 + 2] x) ∧
    (∀ x : ℚ, uniCdf (3/2) 2 x = isoCdf [1] [3/2, 3/2 + 2] x) ∧
    (∀ u : ℚ, 0 ≤ u → u ≤ 1 → uniPpf (3/2) 2 u = isoPpf 0 [1] [3/2, 3/2 + 2] u) :=
  uniform_is_one_bin _ _ (by norm_num)
example : ∫ t in (5 : ℝ)..5 + 0, uniPdf 5 0 t = 0 := uniform_width_zero 5
example : (∀ x : Int, bernPmf (3/10 : ℚ) x = catPmf [0, 1] [1 - 3/10, 3/10] x) ∧
    (∀ k : ℕ, catMoment k [0, 1] [1 - 3/10, (3/10 : ℚ)] = bernMoment (3/10) k) ∧
    denseTbl [0, 1] [1 - 3/10, (3/10 : ℚ)] 2 = [1 - 3/10, 3/10] :=
  bernoulli_is_categorical _

end Deeprob.LeafTheory
