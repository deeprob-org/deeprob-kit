import DeeprobModel.Lemmas.E2ELemmas
import DeeprobModel.Oblig.Struct3Inference
import DeeprobModel.Oblig.C01
import DeeprobModel.Props.C01
import DeeprobModel.Props.C02
import DeeprobModel.Oblig.Struct3Moments
import DeeprobModel.Oblig.C19
import DeeprobModel.Props.C19
import DeeprobModel.Props.LeafTheory
import DeeprobModel.Oblig.Struct3Em
import DeeprobModel.Props.C14Net
import DeeprobModel.Oblig.Struct4Rewrite
import DeeprobModel.Oblig.StructRewrite
import DeeprobModel.Props.C10Net
import DeeprobModel.Props.C10NetMore
import DeeprobModel.Oblig.Struct4Sampling
import DeeprobModel.Oblig.C07
import DeeprobModel.Props.C07
/-
End-to-end corollaries, circuits: the property theorems of `Props/*.lean` stated about the definitions the translator
extracts from the source (`Generated/Formulas.lean`, `Generated/Consts.lean`: `Gen.…`, `Gen.S3…`, `Gen.S4…`), by composing
the "as coded" obligations (`Oblig/*.lean`) with the property theorems about the hand-written model.  In this file the
loops around the generated bodies are written out as definitions that call the generated definitions and nothing else;
where the translator also extracts the loop, the file that ties it to the definition used here is named below.
Per section, what is generated and what is written out:

* C01 / C02 `e2e_eval_forward…`.  Generated: the body of `eval_forward` (`Gen.S3evalForwardInner`), `node_likelihood`,
  `Sum.likelihood` / `Product.likelihood`, the `likelihood` of Bernoulli / Categorical leaves.  Written out: the loop
  `for node in reversed(topological_order(root)): eval_forward(node)` (`genTable`: one call of the generated body per table
  index, in table order; the table is stored children-first, `WellOrdered`, as `Props/Topo.lean: kahn_topological` orders it).
  The extracted loop `Gen.S5evalUpLoop` is `genTable` by `Struct5E.genTable_as_coded` (`Oblig/Struct5Eval.lean`); the
  theorems of this section are restated for it in `Props/E2EEval.lean`.
* C01, log domain `e2e_log_likelihood…` (prefix `ll`).  Generated: `node_log_likelihood` with its floor, the four
  `log_likelihood` methods, the body of `eval_forward`.  Written out: the loop (`llTable`, mirror of `genTable`; extracted
  loop: `Struct5E.llTable_as_coded`, `E2EEval.e2e_log_likelihood_loop`).
* C19 `moments.moment` (prefix `mo`).  Generated: `leaf_moment`, the `node_func` of the pass, the body of `eval_forward`, the
  exits of `moment`, `variance` / `skewness` / `kurtosis`.  Written out: the bottom-up loop (`moGenTree` on trees,
  `moGenTable` on children-first tables; extracted loop `Gen.S5momentLoop`: `Struct5E.moGenTable_as_coded`,
  `E2EEval.e2e_moment_loop`) and the list comprehension over the variables (`moGenApi`).  Not generated: the leaves' own
  closed forms `node.moment(k)` (opaque: `mom` in `MCirc.leaf`, `LeafP.rawMoment` on tables; for table leaves the
  hand-written `tblMoment` is tied to the specification by `C19.cat_momOK`, to no generated definition).
* C14, the responsibilities of `expectation_maximization` (prefix `rs`).  Generated: one entry of
  `np.exp(children_ll - root_ll + grads[node.id])` (`Gen.S3emRespSum`).  Not generated here: the forward pass (the model's
  `evalNet`, or `genTable` in `e2e_resp_gen`), the backward pass (the model's `backward`, linear domain; the rules extracted
  from `gradient.py` are treated in `Props/E2EGrad.lean`), the loop over the children (`rsGenResp`).  The code works in the
  log domain; the generated expression is evaluated on the logarithms of the model's linear-domain numbers, hence the
  positivity hypotheses `RsPos`.
* C10 `structure.marginalize` (prefix `mg`).  Generated: the three argument guards (`Gen.margGuardChain`) and the body of the
  first pass (`Gen.S4margStep`; its loop is `Struct4.margPassGen`, covered as a whole by `Struct4.margPass_as_coded`; the
  extracted pass skeleton `Gen.S5margPassLoop` is treated in `Props/E2ERewriteLoop.lean`).  Not generated: the test for
  leaves outside the net-level model (`margUnsupported`), `prune` (`pruneNet` = `pruneNetWith true` by
  `pruneNet_is_repaired`: `prune` with the single-child collapse, i.e. after the fix of finding F7 of DESIGN.md §7) and the
  canonical export.
* C07 `sum_sample` (prefix `ss`).  Generated: the score entry `lls + np.log(weights) + gumbel` (`Gen.S4sumSampleEntry`), the
  noise law, location, scale and selector as constants.  The Gumbel-max identity is a named hypothesis here,
  `hGumbelMax_trusted : ssGumbelMaxIdentity E argmaxLaw`, of every theorem of that section, because the carrier `F` is an
  arbitrary ordered field with `ExpLog`; over `ℝ` it is the theorem `SamplingFacts.gumbelMaxIdentity_real`
  (`Props/SamplingFacts.lean`, which also restates the two branch theorems without the hypothesis).
-/set_option linter.unusedSectionVars false
namespace Deeprob.E2E

section evalForward
open Deeprob

variable {F : Type} [Field F] [LinearOrder F] [IsStrictOrderedRing F]

/-- a leaf object of the source with a table density: `Bernoulli(scope=[v], p)` or
`Categorical(scope=[v], probabilities=probs)` with categories `0 .. len(probs)-1` -/
inductive SrcLeaf (F : Type) where
  | bernoulli (v : Nat) (p : F)
  | categorical (v : Nat) (probs : List F)
deriving Inhabited

/-- the model's table leaf for a source leaf (`Bernoulli(p)` is the table `[1 - p, p]`) -/
def SrcLeaf.toModel : SrcLeaf F → LeafP F
  | .bernoulli v p => .cat v [1 - p, p]
  | .categorical v probs => .cat v probs

/-- `leaf_func(n, x[:, n.scope])` with `leaf_func = node.likelihood`: the GENERATED `Bernoulli.likelihood` /
`Categorical.likelihood` on the row's entry of the leaf's variable -/
def SrcLeaf.genValue (e : Ev) : SrcLeaf F → F
  | .bernoulli v p => Gen.S3bernoulliLikelihood p (e v)
  | .categorical v probs => Gen.S3categoricalLikelihood (List.range probs.length) probs (e v)

/-- `node_func(n, ·)` with `node_func = node_likelihood`: the GENERATED `node_likelihood` around the GENERATED
`likelihood` method of the node stored at index `j` -/
def genNodeFunc (net : Net F) (j : Nat) : List F → F :=
  match net[j]? with
  | some y => (match y.kind with
      | .sum => Gen.S3nodeLikelihood (Gen.S3sumLikelihood y.ws)
      | .prod => Gen.S3nodeLikelihood Gen.S3productLikelihood
      | .leaf => fun _ => 0)
  | none => fun _ => 0

/-- one call `eval_forward(n)` for the node at table index `i`: a leaf stores the generated leaf likelihood, an inner node
the GENERATED `Gen.S3evalForwardInner` (nodes are their table indices: `nid = id`, `children = Net.chOf net`);
`vals` = the values stored so far -/
def genEntry (e : Ev) (net : Net F) (leaves : Nat → SrcLeaf F) (vals : List F) (i : Nat) : F :=
  match net[i]? with
  | none => 0
  | some x =>
    if x.kind = .leaf then (leaves i).genValue e
    else Gen.S3evalForwardInner (N := Nat) id (Net.chOf net) (genNodeFunc net) (fun c => vals.getD c 0) i

/-- the loop `for node in reversed(ordering): eval_forward(node)` over a table stored children-first -/
def genTable (e : Ev) (net : Net F) (leaves : Nat → SrcLeaf F) : List F :=
  (List.range net.length).foldl (fun vals i => vals ++ [genEntry e net leaves vals i]) []

/-- every leaf of the table is the model's rendering of the source leaf at that index -/
def TableLeaves (net : Net F) (leaves : Nat → SrcLeaf F) : Prop :=
  ∀ i (x : NNode F), net[i]? = some x → x.kind = .leaf → x.leaf = (leaves i).toModel

/-- the generated leaf likelihood is the model's leaf function (`bernoulli_likelihood_as_coded`,
`categorical_likelihood_as_coded`) -/
theorem srcLeaf_genValue (e : Ev) (l : SrcLeaf F) (scope : List Nat) (d : F) :
    l.genValue e = l.toModel.fn scope d e := by
  cases l with
  | bernoulli v p => exact Struct3.bernoulli_likelihood_as_coded p v e
  | categorical v probs => exact Struct3.categorical_likelihood_as_coded probs v e

/-- **one call of the generated body = one `evalNode`** (`evalNode_inner_as_coded` + the leaf obligations) -/
theorem genEntry_eq_evalNode (e : Ev) (dens : List F) (net : Net F) (leaves : Nat → SrcLeaf F)
    (hl : TableLeaves net leaves) (i : Nat) (x : NNode F) (hx : net[i]? = some x) (vals : List F) :
    genEntry e net leaves vals i = evalNode e dens vals x := by
  rw [Struct3.evalNode_inner_as_coded]
  unfold genEntry
  simp only [hx]
  cases hk : x.kind
  case leaf =>
    simp only [if_true]
    rw [hl i x hx hk]
    exact srcLeaf_genValue e (leaves i) x.scope _
  all_goals simp only [reduceCtorEq, if_false, Gen.S3evalForwardInner, Net.chOf, genNodeFunc, hx, hk]

/-- **the generated pass fills the model's table** -/
theorem genTable_eq_evalNet (e : Ev) (dens : List F) (net : Net F) (leaves : Nat → SrcLeaf F)
    (hl : TableLeaves net leaves) : genTable e net leaves = evalNet e dens net :=
  (foldl_index net (evalNode e dens) (genEntry e net leaves)
    (fun i x hx vals _ => (genEntry_eq_evalNode e dens net leaves hl i x hx vals).symm)).symm

/-- C01: the table the GENERATED bottom-up pass fills holds, at every node of a
children-first table with table leaves, the mixture / product semantics of that node's sub-circuit (sharing
included), for every evidence row. -/
theorem e2e_eval_forward (net : Net F) (leaves : Nat → SrcLeaf F) (dens : List F) (e : Ev)
    (hw : WellOrdered net) (hl : TableLeaves net leaves) (i : Nat) (hi : i < net.length) :
    (genTable e net leaves).getD i 0 = Circ.eval e (toTree net dens (i+1) i) := by
  rw [genTable_eq_evalNet e dens net leaves hl]
  exact C01_semantics net dens e hw i hi

/-- the tree semantics at an inner node is itself the generated recursion (`eval_sum_as_coded`, `eval_prod_as_coded`):
the value the generated pass stores for a sum node is the GENERATED `node_likelihood ∘ Sum.likelihood` of the
semantic values of the children's sub-circuits -/
theorem e2e_eval_forward_sum (net : Net F) (leaves : Nat → SrcLeaf F) (dens : List F) (e : Ev)
    (hw : WellOrdered net) (hl : TableLeaves net leaves) (i : Nat) (x : NNode F) (hx : net[i]? = some x)
    (hk : x.kind = .sum) :
    (genTable e net leaves).getD i 0
      = Gen.S3nodeLikelihood (Gen.S3sumLikelihood x.ws) ((x.ch.map (toTree net dens i)).map (Circ.eval e)) := by
  rw [e2e_eval_forward net leaves dens e hw hl i (List.getElem?_eq_some_iff.1 hx).1, ← Struct3.eval_sum_as_coded e x.scope]
  simp only [toTree, hx, hk]

theorem e2e_eval_forward_prod (net : Net F) (leaves : Nat → SrcLeaf F) (dens : List F) (e : Ev)
    (hw : WellOrdered net) (hl : TableLeaves net leaves) (i : Nat) (x : NNode F) (hx : net[i]? = some x)
    (hk : x.kind = .prod) :
    (genTable e net leaves).getD i 0
      = Gen.S3nodeLikelihood Gen.S3productLikelihood ((x.ch.map (toTree net dens i)).map (Circ.eval e)) := by
  rw [e2e_eval_forward net leaves dens e hw hl i (List.getElem?_eq_some_iff.1 hx).1, ← Struct3.eval_prod_as_coded e x.scope]
  simp only [toTree, hx, hk]

/-- C02: at the root of a valid table, on a row with missing entries, the value
the GENERATED pass returns is the sum, over every completion of the missing entries of the root scope, of the values the
GENERATED pass returns on the completed rows. -/
theorem e2e_eval_forward_marginal (dom : Nat → Nat) (net : Net F) (leaves : Nat → SrcLeaf F) (dens : List F)
    (hw : WellOrdered net) (hl : TableLeaves net leaves)
    (hok : ∀ i (x : NNode F), net[i]? = some x → NodeOK dom net dens i x)
    (root : Nat) (hr : root < net.length) (e : Ev) :
    (genTable e net leaves).getD root 0
      = sumOver dom (scopeOf net root) e (fun e' => (genTable e' net leaves).getD root 0) := by
  rw [genTable_eq_evalNet e dens net leaves hl, C02_marginal dom net dens hw hok root hr e]
  apply sumOver_congr; intro e' _
  rw [genTable_eq_evalNet e' dens net leaves hl]

/-- C02: with nothing observed the GENERATED pass returns 1 at the root of a
valid table with normalised weights and leaves. -/
theorem e2e_eval_forward_all_missing (dom : Nat → Nat) (net : Net F) (leaves : Nat → SrcLeaf F) (dens : List F)
    (hw : WellOrdered net) (hl : TableLeaves net leaves)
    (hok : ∀ i (x : NNode F), net[i]? = some x → NodeOK dom net dens i x)
    (hnw : NetNormW net) (hln : NetLeafNorm net dens) (root : Nat) (hr : root < net.length) :
    (genTable (fun _ => none) net leaves).getD root 0 = 1 := by
  rw [genTable_eq_evalNet _ dens net leaves hl]
  exact C02_all_missing dom net dens hw hok hnw hln root hr

/-- C01: the complete-evidence values the GENERATED pass returns at the root sum
to one over the whole domain of the root scope. -/
theorem e2e_eval_forward_normalised (dom : Nat → Nat) (net : Net F) (leaves : Nat → SrcLeaf F) (dens : List F)
    (hw : WellOrdered net) (hl : TableLeaves net leaves)
    (hok : ∀ i (x : NNode F), net[i]? = some x → NodeOK dom net dens i x)
    (hnw : NetNormW net) (hln : NetLeafNorm net dens) (root : Nat) (hr : root < net.length) :
    sumOver dom (scopeOf net root) (fun _ => none) (fun x => (genTable x net leaves).getD root 0) = 1 := by
  rw [← C01_normalised dom net dens hw hok hnw hln root hr]
  apply sumOver_congr; intro e' _
  rw [genTable_eq_evalNet e' dens net leaves hl]

/-- the variable of a source leaf -/
def SrcLeaf.var : SrcLeaf F → Nat
  | .bernoulli v _ => v
  | .categorical v _ => v

/-- the table of a source leaf has one entry per value of its variable and sums to one: any Bernoulli leaf over a binary
variable, a Categorical leaf whose probabilities sum to one -/
def SrcLeaf.Normalised (dom : Nat → Nat) : SrcLeaf F → Prop
  | .bernoulli v _ => dom v = 2
  | .categorical v probs => dom v = probs.length ∧ tsum probs = 1

/-- the leaf hypotheses of the three theorems above (`NodeOK` at a leaf, `NetLeafNorm`) hold for normalised source leaves
(`Circ.catLeaf_ok`) -/
theorem srcLeaf_ok (dom : Nat → Nat) (l : SrcLeaf F) (d : F) (h : l.Normalised dom) :
    LeafOK dom [l.var] (l.toModel.fn [l.var] d) ∧ ∀ s, l.toModel.fn s d (fun _ => none) = 1 := by
  cases l with
  | bernoulli v p => exact ⟨Circ.catLeaf_ok dom v _ h.symm (by simp [tsum]), fun _ => rfl⟩
  | categorical v probs => exact ⟨Circ.catLeaf_ok dom v _ h.1.symm h.2, fun _ => rfl⟩

/-! ### non-vacuity: a DAG over two binary variables — a sum over two products that SHARE the Bernoulli leaf -/

def exLeaves : Nat → SrcLeaf ℚ := fun i =>
  [SrcLeaf.bernoulli 0 (3/4), .categorical 1 [1/2, 1/2], .categorical 1 [1/10, 9/10]].getD i (.bernoulli 0 0)

def exNet : Net ℚ :=
  [ { id := 3, kind := .leaf, scope := [0], ch := [], ws := [], leaf := (exLeaves 0).toModel },
    { id := 4, kind := .leaf, scope := [1], ch := [], ws := [], leaf := (exLeaves 1).toModel },
    { id := 5, kind := .leaf, scope := [1], ch := [], ws := [], leaf := (exLeaves 2).toModel },
    { id := 1, kind := .prod, scope := [0, 1], ch := [0, 1], ws := [], leaf := .absent },
    { id := 2, kind := .prod, scope := [1, 0], ch := [2, 0], ws := [], leaf := .absent },
    { id := 0, kind := .sum, scope := [0, 1], ch := [3, 4], ws := [1/3, 2/3], leaf := .absent } ]

theorem exNet_wellOrdered : WellOrdered exNet := (wellOrderedB_iff exNet).1 (by decide)

-- facts about every stored node are given node by node, in table order; `nofun` where the premise on the kind is absurd
theorem exNet_tableLeaves : TableLeaves exNet exLeaves :=
  forall_getElem?_of_forallIdx ⟨fun _ => rfl, fun _ => rfl, fun _ => rfl, nofun, nofun, nofun, trivial⟩

theorem exNet_ok : ∀ i (x : NNode ℚ), exNet[i]? = some x → NodeOK (fun _ => 2) exNet [] i x :=
  nodeOK_of_checkSpn (fun _ => 2) exNet [] 5 (by decide) (by decide) <| forall_getElem?_of_forallIdx
    ⟨fun _ => (srcLeaf_ok (fun _ => 2) (.bernoulli 0 (3/4)) 0 rfl).1,
     fun _ => (srcLeaf_ok (fun _ => 2) (.categorical 1 [1/2, 1/2]) 0 ⟨rfl, by decide +kernel⟩).1,
     fun _ => (srcLeaf_ok (fun _ => 2) (.categorical 1 [1/10, 9/10]) 0 ⟨rfl, by decide +kernel⟩).1,
     nofun, nofun, nofun, trivial⟩

theorem exNet_normW : NetNormW exNet :=
  forall_getElem?_of_forallIdx ⟨nofun, nofun, nofun, nofun, nofun, fun _ => by decide +kernel, trivial⟩

theorem exNet_leafNorm : NetLeafNorm exNet [] :=
  forall_getElem?_of_forallIdx ⟨fun _ => rfl, fun _ => rfl, fun _ => rfl, nofun, nofun, nofun, trivial⟩

/-- the hypotheses of all four theorems hold for the shared-leaf DAG, and the generated pass returns the expected
numbers: `1/3·(3/4·1/2) + 2/3·(9/10·3/4)` on the row `(1, 1)`, the marginal `3/4` on `(1, NaN)`, and `1` on `(NaN, NaN)` -/
example : WellOrdered exNet ∧ TableLeaves exNet exLeaves ∧
    (∀ i (x : NNode ℚ), exNet[i]? = some x → NodeOK (fun _ => 2) exNet [] i x) ∧ NetNormW exNet ∧ NetLeafNorm exNet [] ∧
    (genTable (Ev.ofList [some 1, some 1]) exNet exLeaves).getD 5 0 = 1/3 * (3/4 * (1/2)) + 2/3 * (9/10 * (3/4)) ∧
    (genTable (Ev.ofList [some 1, none]) exNet exLeaves).getD 5 0 = 3/4 ∧
    (genTable (fun _ => none) exNet exLeaves).getD 5 0 = 1 :=
  ⟨exNet_wellOrdered, exNet_tableLeaves, exNet_ok, exNet_normW, exNet_leafNorm,
   by decide +kernel, by decide +kernel, by decide +kernel⟩

example : (genTable (Ev.ofList [some 1, none]) exNet exLeaves).getD 5 0
    = sumOver (fun _ => 2) (scopeOf exNet 5) (Ev.ofList [some 1, none])
        (fun e' => (genTable e' exNet exLeaves).getD 5 0) :=
  e2e_eval_forward_marginal (fun _ => 2) exNet exLeaves [] exNet_wellOrdered exNet_tableLeaves exNet_ok 5 (by decide) _

/-- non-vacuity of `e2e_eval_forward_sum` / `e2e_eval_forward_prod`: the root (a sum, index 5) and the product at index 3
of the shared-leaf DAG -/
example (e : Ev) : (genTable e exNet exLeaves).getD 5 0
    = Gen.S3nodeLikelihood (Gen.S3sumLikelihood [1/3, 2/3]) (([3, 4].map (toTree exNet [] 5)).map (Circ.eval e)) :=
  e2e_eval_forward_sum exNet exLeaves [] e exNet_wellOrdered exNet_tableLeaves 5 _ rfl rfl

example (e : Ev) : (genTable e exNet exLeaves).getD 3 0
    = Gen.S3nodeLikelihood Gen.S3productLikelihood (([0, 1].map (toTree exNet [] 3)).map (Circ.eval e)) :=
  e2e_eval_forward_prod exNet exLeaves [] e exNet_wellOrdered exNet_tableLeaves 3 _ rfl rfl

end evalForward

section logLikelihood
open Deeprob

section ll
open Deeprob.Struct3

variable {F : Type} [Field F] [LinearOrder F] [IsStrictOrderedRing F]

/-- `leaf_func(n, x[:, n.scope])` with `leaf_func = node_log_likelihood`: the GENERATED `node_log_likelihood` (the floor
`np.maximum(·, -1e31)`) around the GENERATED `Bernoulli.log_likelihood` / `Categorical.log_likelihood` on the row's entry
of the leaf's variable.  (`Gen.S3nodeLogLikelihood` takes the node method as a function of the list of children values;
a leaf's method reads its data column instead, so the list argument is unused.) -/
def llLeafValue (E : ExpLog F) (e : Ev) : SrcLeaf F → F
  | .bernoulli v p => Gen.S3nodeLogLikelihood (fun _ => Gen.S3bernoulliLogLikelihood E p (e v)) []
  | .categorical v probs =>
      Gen.S3nodeLogLikelihood (fun _ => Gen.S3categoricalLogLikelihood E (List.range probs.length) probs (e v)) []

/-- `node_func(n, ·)` with `node_func = node_log_likelihood`: the GENERATED `node_log_likelihood` around the GENERATED
`log_likelihood` method of the node stored at index `j` -/
def llNodeFunc (E : ExpLog F) (net : Net F) (j : Nat) : List F → F :=
  match net[j]? with
  | some y => (match y.kind with
      | .sum => Gen.S3nodeLogLikelihood (Gen.S3sumLogLikelihood E y.ws)
      | .prod => Gen.S3nodeLogLikelihood Gen.S3productLogLikelihood
      | .leaf => fun _ => 0)
  | none => fun _ => 0

/-- one call `eval_forward(n)` of `log_likelihood(root, x)` for the node at table index `i` (mirror of `genEntry`): a leaf
stores the generated floored leaf log-likelihood, an inner node the GENERATED `Gen.S3evalForwardInner` -/
def llEntry (E : ExpLog F) (e : Ev) (net : Net F) (leaves : Nat → SrcLeaf F) (vals : List F) (i : Nat) : F :=
  match net[i]? with
  | none => 0
  | some x =>
    if x.kind = .leaf then llLeafValue E e (leaves i)
    else Gen.S3evalForwardInner (N := Nat) id (Net.chOf net) (llNodeFunc E net) (fun c => vals.getD c 0) i

/-- the loop `for node in reversed(ordering): eval_forward(node)` of `log_likelihood` over a table stored children-first
(mirror of `genTable`: one call of the generated body per table index and nothing else) -/
def llTable (E : ExpLog F) (e : Ev) (net : Net F) (leaves : Nat → SrcLeaf F) : List F :=
  (List.range net.length).foldl (fun vals i => vals ++ [llEntry E e net leaves vals i]) []

theorem llTable_fold (E : ExpLog F) (e : Ev) (net : Net F) (leaves : Nat → SrcLeaf F) :
    llTable E e net leaves = llFold (llEntry E e net leaves) net.length := rfl

theorem ll_genTable_fold (e : Ev) (net : Net F) (leaves : Nat → SrcLeaf F) :
    genTable e net leaves = llFold (genEntry e net leaves) net.length := rfl

/-- the floor of `node_log_likelihood` is below `-10⁶` (`Oblig.floor_inactive` is this fact about the constant
`Gen.llFloor`; the GENERATED `Gen.S3nodeLogLikelihood` inlines the same literal) -/
theorem ll_floor_le : (-10000000000000000000000000000000 : F) ≤ -1000000 := by
  have h : ((Gen.llFloor : ℚ) : F) ≤ ((-1000000 : ℚ) : F) := Rat.cast_le.2 Oblig.floor_inactive
  unfold Gen.llFloor at h
  push_cast at h
  exact h

/-- a generated leaf log-value is the logarithm of the generated leaf value when that is positive and its logarithm is
above the floor (`bernoulli_log_likelihood_as_coded`, `categorical_log_likelihood_as_coded`, `…_likelihood_as_coded`) -/
theorem llLeafValue_eq_log (E : ExpLog F) (e : Ev) (l : SrcLeaf F) (hpos : 0 < l.genValue e)
    (hfl : (-10000000000000000000000000000000 : F) ≤ E.log (l.genValue e)) :
    llLeafValue E e l = E.log (l.genValue e) := by
  -- before the floor is applied the generated log-value has the generated value as its `exp`
  obtain ⟨ll, hll, hexp⟩ : ∃ ll, llLeafValue E e l = max ll (-10000000000000000000000000000000) ∧
      E.exp ll = l.genValue e := by
    cases l with
    | bernoulli v p =>
      rw [SrcLeaf.genValue, bernoulli_likelihood_as_coded] at hpos ⊢
      exact ⟨_, rfl, bernoulli_log_likelihood_as_coded E p v e hpos⟩
    | categorical v probs =>
      rw [SrcLeaf.genValue, categorical_likelihood_as_coded] at hpos ⊢
      exact ⟨_, rfl, categorical_log_likelihood_as_coded E probs v e hpos⟩
  rw [← hexp, E.log_exp] at hfl ⊢
  rw [hll]
  exact max_eq_left hfl

theorem ll_getD_map_log (E : ExpLog F) (vals : List F) (c : Nat) (hc : c < vals.length) :
    (vals.map E.log).getD c 0 = E.log (vals.getD c 0) := by
  simp [List.getD_eq_getElem?_getD, List.getElem?_map, List.getElem?_eq_getElem hc]

/-- **the generated log-domain table is the entry-wise logarithm of the generated linear table** when every entry of the
linear table is positive and has its logarithm above the floor (`node_log_likelihood_sum`, `node_log_likelihood_prod` at
the inner nodes, `llLeafValue_eq_log` at the leaves; `WellOrdered`: the children values read are stored ones) -/
theorem llTable_eq_map_log (E : ExpLog F) (e : Ev) (net : Net F) (leaves : Nat → SrcLeaf F) (hw : WellOrdered net)
    (hpos : ∀ i, i < net.length → 0 < (genTable e net leaves).getD i 0)
    (hfl : ∀ i, i < net.length → (-10000000000000000000000000000000 : F) ≤ E.log ((genTable e net leaves).getD i 0)) :
    llTable E e net leaves = (genTable e net leaves).map E.log := by
  rw [llTable_fold, ll_genTable_fold]
  apply llFold_map
  intro i hi
  have hposi := hpos i hi
  have hfli := hfl i hi
  rw [ll_genTable_fold, llFold_getD _ _ i hi] at hposi hfli
  -- the children values read are positive stored values
  have hchild : ∀ c, c < i → (llFold (genEntry e net leaves) i).getD c 0 = (genTable e net leaves).getD c 0 :=
    fun c hc => llFold_getD_of_lt _ c i _ hc (le_of_lt hi) 0
  have hlen := llFold_length (genEntry e net leaves) i
  generalize llFold (genEntry e net leaves) i = vals at hlen hposi hfli hchild
  have hx : net[i]? = some net[i] := List.getElem?_eq_getElem hi
  generalize net[i] = x at hx
  have hch := hw i x hx
  have hmap : x.ch.map (fun c => (vals.map E.log).getD c 0) = (x.ch.map (fun c => vals.getD c 0)).map E.log := by
    rw [List.map_map]
    exact List.map_congr_left fun c hc => ll_getD_map_log E vals c (by rw [hlen]; exact hch c hc)
  have hvs : ∀ v ∈ x.ch.map (fun c => vals.getD c 0), 0 < v := by
    intro v hv
    obtain ⟨c, hc, rfl⟩ := List.mem_map.1 hv
    rw [hchild c (hch c hc)]
    exact hpos c (lt_trans (hch c hc) hi)
  unfold llEntry genEntry at *
  simp only [hx] at hposi hfli ⊢
  cases hk : x.kind
  case leaf =>
    simp only [hk, if_true] at hposi hfli ⊢
    exact llLeafValue_eq_log E e (leaves i) hposi hfli
  all_goals
    simp only [hk, reduceCtorEq, if_false, Gen.S3evalForwardInner, Net.chOf, genNodeFunc, llNodeFunc, hx, id_eq]
      at hfli ⊢
    rw [hmap]
    rw [node_likelihood_as_coded] at hfli
  · rw [sum_likelihood_as_coded] at hfli
    exact node_log_likelihood_sum E x.ws _ hvs hfli
  · rw [product_likelihood_as_coded] at hfli
    exact node_log_likelihood_prod E _ hvs hfli

/-- C01, log domain: at every node of a children-first table with table leaves, the value
the GENERATED log-domain pass (`Gen.S3nodeLogLikelihood` around `Gen.S3sumLogLikelihood` / `Gen.S3productLogLikelihood` /
the generated leaf `log_likelihood`s, chained by `Gen.S3evalForwardInner`) stores is the logarithm of the mixture /
product semantics of that node's sub-circuit, PROVIDED every node value on the row is positive (`hpos`) and the floor
`-1e31` of `node_log_likelihood` is inactive — stated as: every log-value is at least `-10⁶` (`hfloor`; the logarithm of
the smallest positive double is about `-745`; `Oblig.floor_inactive` puts the floor below `-10⁶`). -/
theorem e2e_log_likelihood_log (E : ExpLog F) (net : Net F) (leaves : Nat → SrcLeaf F) (dens : List F) (e : Ev)
    (hw : WellOrdered net) (hl : TableLeaves net leaves)
    (hpos : ∀ i, i < net.length → 0 < Circ.eval e (toTree net dens (i+1) i))
    (hfloor : ∀ i, i < net.length → (-1000000 : F) ≤ E.log (Circ.eval e (toTree net dens (i+1) i)))
    (i : Nat) (hi : i < net.length) :
    (llTable E e net leaves).getD i 0 = E.log (Circ.eval e (toTree net dens (i+1) i)) := by
  have hlenT : (genTable e net leaves).length = net.length := by rw [ll_genTable_fold]; exact llFold_length _ _
  rw [llTable_eq_map_log E e net leaves hw
    (fun j hj => by rw [e2e_eval_forward net leaves dens e hw hl j hj]; exact hpos j hj)
    (fun j hj => by
      rw [e2e_eval_forward net leaves dens e hw hl j hj]; exact le_trans ll_floor_le (hfloor j hj)),
    ll_getD_map_log E _ i (by rw [hlenT]; exact hi), e2e_eval_forward net leaves dens e hw hl i hi]

/-- C01, log domain: under the same hypotheses, `exp` of the value the GENERATED log-domain
pass stores at a node is the semantic value `Circ.eval e (toTree net dens (i+1) i)` of that node. -/
theorem e2e_log_likelihood (E : ExpLog F) (net : Net F) (leaves : Nat → SrcLeaf F) (dens : List F) (e : Ev)
    (hw : WellOrdered net) (hl : TableLeaves net leaves)
    (hpos : ∀ i, i < net.length → 0 < Circ.eval e (toTree net dens (i+1) i))
    (hfloor : ∀ i, i < net.length → (-1000000 : F) ≤ E.log (Circ.eval e (toTree net dens (i+1) i)))
    (i : Nat) (hi : i < net.length) :
    E.exp ((llTable E e net leaves).getD i 0) = Circ.eval e (toTree net dens (i+1) i) := by
  rw [e2e_log_likelihood_log E net leaves dens e hw hl hpos hfloor i hi, E.exp_log _ (hpos i hi)]

/-- the log-domain pass agrees with the linear one: `exp` of the generated log-table entry is the generated linear-table
entry of `genTable` -/
theorem e2e_log_likelihood_linear (E : ExpLog F) (net : Net F) (leaves : Nat → SrcLeaf F) (dens : List F) (e : Ev)
    (hw : WellOrdered net) (hl : TableLeaves net leaves)
    (hpos : ∀ i, i < net.length → 0 < Circ.eval e (toTree net dens (i+1) i))
    (hfloor : ∀ i, i < net.length → (-1000000 : F) ≤ E.log (Circ.eval e (toTree net dens (i+1) i)))
    (i : Nat) (hi : i < net.length) :
    E.exp ((llTable E e net leaves).getD i 0) = (genTable e net leaves).getD i 0 := by
  rw [e2e_log_likelihood E net leaves dens e hw hl hpos hfloor i hi, e2e_eval_forward net leaves dens e hw hl i hi]

/-! non-vacuity: the shared-leaf DAG `exNet` on the row `(1, 1)` -/

/-- on the row `(1, 1)` every node of `exNet` has a value in `[3/8, 9/10]` -/
theorem ll_exNet_values : ∀ i, i < exNet.length →
    (3/8 : ℚ) ≤ Circ.eval (Ev.ofList [some 1, some 1]) (toTree exNet [] (i+1) i) := by
  intro i hi
  rw [← e2e_eval_forward exNet exLeaves [] _ exNet_wellOrdered exNet_tableLeaves i hi]
  revert i
  decide +kernel

/-- the hypotheses about the table (positive values, inactive floor) hold on `exNet` and the row `(1, 1)` whenever the
logarithm is at least `-10⁶` on `[3/8, ∞)` (the real logarithm is: `log (3/8) ≈ -0.98`), and `exp` of the generated
log-value at the root is `1/3·(3/4·1/2) + 2/3·(9/10·3/4) = 23/40`.
The hypothesis `E : ExpLog ℚ` itself is unsatisfiable (`SamplingFacts.expLog_rat_empty`), so this example does not show
that ALL hypotheses can hold together; that witness is `RealWitnesses.e2e_log_likelihood_real`, over the reals. -/
example (E : ExpLog ℚ) (hE : ∀ a : ℚ, 3/8 ≤ a → (-1000000 : ℚ) ≤ E.log a) :
    E.exp ((llTable E (Ev.ofList [some 1, some 1]) exNet exLeaves).getD 5 0) = 23/40 := by
  rw [e2e_log_likelihood_linear E exNet exLeaves [] _ exNet_wellOrdered exNet_tableLeaves
    (fun i hi => lt_of_lt_of_le (by norm_num) (ll_exNet_values i hi))
    (fun i hi => hE _ (ll_exNet_values i hi)) 5 (by decide)]
  decide +kernel

end ll

end logLikelihood

section moments
open Deeprob

section moment
variable {F : Type} [Field F] [LinearOrder F] [IsStrictOrderedRing F]
open MCirc Circ

/-- `moment(root, order = k)[v]` on a tree-shaped circuit, written out: the bottom-up pass with
`leaf_func = leaf_moment` (GENERATED `Gen.S3leafMoment`; the leaf's own `node.moment(k)` — `mom k` — is opaque to the
translator) and `node_func = node_likelihood` (`Gen.S3momentNodeFunc`; GENERATED `Gen.S3nodeLikelihood` around the GENERATED
`Sum.likelihood` / `Product.likelihood`).  Nothing but the generated definitions and the recursion over the children. -/
def moGenTree (k v : Nat) : MCirc F → F
  | .leaf s _ mom => Gen.S3leafMoment s (mom k) v
  | .sum _ ws cs => Gen.S3nodeLikelihood (Gen.S3sumLikelihood ws) (cs.map (moGenTree k v))
  | .prod _ cs => Gen.S3nodeLikelihood Gen.S3productLikelihood (cs.map (moGenTree k v))

/-- one call `eval_forward(n)` of the moment pass for the node at table index `i`, row `v` of the `n × n` matrix: a leaf
stores the GENERATED `leaf_moment` entry (`x.leaf.rawMoment k ·` is the leaf's own `node.moment(k)`: closed form for table
leaves, `moms[i]` supplied for the others — not generated), an inner node the GENERATED `Gen.S3evalForwardInner` with the
GENERATED `node_likelihood` (`genNodeFunc`) -/
def moGenEntry (k v : Nat) (net : Net F) (moms vals : List F) (i : Nat) : F :=
  match net[i]? with
  | none => 0
  | some x =>
    if x.kind = .leaf then Gen.S3leafMoment x.scope (fun _ => x.leaf.rawMoment k (moms.getD i 0)) v
    else Gen.S3evalForwardInner (N := Nat) id (Net.chOf net) (genNodeFunc net) (fun c => vals.getD c 0) i

/-- the loop `for node in reversed(ordering): eval_forward(node)` of the moment pass over a table stored children-first -/
def moGenTable (k v : Nat) (net : Net F) (moms : List F) : List F :=
  (List.range net.length).foldl (fun vals i => vals ++ [moGenEntry k v net moms vals i]) []

/-- `moments.moment(root, order)` as the API returns it, written out around the GENERATED exit selector
`Gen.S3momentCase` (index into `Gen.S3momentExits = ["raise", "ones", "bottom_up"]`): `none` = `ValueError`, exit 1
returns `np.ones(len(scope))`, exit 2 the bottom-up pass (`moGenTree`) for every variable id `0 .. len(scope)-1` -/
def moGenApi (c : MCirc F) (order : Int) : Option (List F) :=
  match Gen.S3momentCase order with
  | 0 => none
  | 1 => some ((List.range c.scope.length).map (fun _ => 1))
  | _ => some ((List.range c.scope.length).map (fun v => moGenTree order.toNat v c))

/-- **the generated tree recursion is the model's `MCirc.moment`**: it satisfies the three equations that determine
`MCirc.moment` (`C19.moment_exact_abstract`; `leaf_moment_as_coded`, `sum_likelihood_as_coded`,
`product_likelihood_as_coded`) -/
theorem moGenTree_eq (k v : Nat) (c : MCirc F) : moGenTree k v c = MCirc.moment k v c :=
  C19.moment_exact_abstract k v (moGenTree k v) (fun _ _ _ => by rw [moGenTree, Gen.S3leafMoment])
    (fun _ ws cs => by rw [moGenTree, Struct3.node_likelihood_as_coded, Struct3.sum_likelihood_as_coded])
    (fun _ cs => by rw [moGenTree, Struct3.node_likelihood_as_coded, Struct3.product_likelihood_as_coded]) c

/-- **one call of the generated body = one `momNode`** (`momNode_as_coded`) -/
theorem moGenEntry_eq_momNode (k v : Nat) (net : Net F) (moms : List F) (i : Nat) (x : NNode F)
    (hx : net[i]? = some x) (vals : List F) (hlen : vals.length = i) :
    moGenEntry k v net moms vals i = momNode k v moms vals x := by
  rw [Struct3.momNode_as_coded]
  unfold moGenEntry
  simp only [hx]
  cases hk : x.kind
  case leaf => simp only [if_true, hlen]
  all_goals simp only [reduceCtorEq, if_false, Gen.S3evalForwardInner, Net.chOf, genNodeFunc, hx, hk]

/-- **the generated pass fills the model's table** -/
theorem moGenTable_eq_momentNet (k v : Nat) (net : Net F) (moms : List F) :
    moGenTable k v net moms = momentNet k v moms net :=
  (foldl_index net (momNode k v moms) (moGenEntry k v net moms)
    (fun i x hx vals hl => (moGenEntry_eq_momNode k v net moms i x hx vals hl).symm)).symm

/-- **the generated API is the model's `momentApi`** (`momentApi_as_coded` + `moGenTree_eq`) -/
theorem moGenApi_eq (c : MCirc F) (order : Int) : moGenApi c order = MCirc.momentApi c order := by
  rw [(Struct3.momentApi_as_coded c order).2]
  unfold moGenApi
  simp only [moGenTree_eq]
  generalize Gen.S3momentCase order = n
  match n with
  | 0 => rfl
  | 1 => rfl
  | _ + 2 => rfl

/-- the leaf hypothesis of `C19.momentNet_exact`, node by node: the stored leaf at index `i` reports, for the variable `v`
of its scope, its own exact raw moment of order `k` -/
def MoLeafExact (dom : Nat → Nat) (k v : Nat) (net : Net F) (dens : List F) (moms : Nat → List F) : Prop :=
  ∀ (i : Nat) (x : NNode F), net[i]? = some x → x.kind = .leaf → v ∈ x.scope →
    x.leaf.rawMoment k ((moms k).getD i 0)
      = sumOver dom x.scope (fun _ => none) (fun y => gPow k v y * x.leaf.fn x.scope (dens.getD i 0) y)

/-- the per-node leaf hypothesis gives `MomOK` of every unfolding -/
theorem mo_momOK_toMTree (dom : Nat → Nat) (k v : Nat) (net : Net F) (dens : List F) (moms : Nat → List F)
    (hm : MoLeafExact dom k v net dens moms) : ∀ fuel i, MomOK dom k v (toMTree net dens moms fuel i) := by
  intro fuel
  induction fuel with
  | zero => intro i; simp [toMTree, MomOK]
  | succ f ih =>
    intro i
    simp only [toMTree]
    cases hn : net[i]? with
    | none => simp [MomOK]
    | some x =>
      simp only
      cases hk : x.kind
      case leaf => simp only [MomOK]; exact hm i x hn hk
      all_goals
        simp only [MomOK]
        intro c hc
        obtain ⟨j, _, rfl⟩ := List.mem_map.1 hc
        exact ih j

/-- table leaves (Bernoulli / Categorical stored as a dense table over the values `0 .. dom w − 1`) satisfy the leaf
hypothesis, whatever is supplied in `moms` (`C19.cat_momOK`) -/
theorem mo_leafExact_of_cat (dom : Nat → Nat) (k v : Nat) (net : Net F) (dens : List F) (moms : Nat → List F)
    (hc : ∀ (i : Nat) (x : NNode F), net[i]? = some x → x.kind = .leaf →
      ∃ w tbl, x.leaf = .cat w tbl ∧ x.scope = [w] ∧ tbl.length = dom w) :
    MoLeafExact dom k v net dens moms := by
  intro i x hx hk hv
  obtain ⟨w, tbl, h1, h2, h3⟩ := hc i x hx hk
  rw [h2] at hv
  rw [h1, h2]
  have h := C19.cat_momOK (α := F) dom k v w tbl h3
  unfold MCirc.cat MomOK at h
  exact h hv

/-- C19, tree-shaped circuits: for every valid (smooth, decomposable) circuit with normalised weights
and leaves whose leaves report their own exact raw moments, and every variable `v` of the root scope, the value the
GENERATED moment recursion returns is the exact raw moment `E[X_v^k] = Σ_x x_v^k · c(x)`. -/
theorem e2e_moment (dom : Nat → Nat) (k v : Nat) (c : MCirc F)
    (hv : Valid dom c.toCirc) (hn : NormW c.toCirc) (hl : LeafNorm dom c.toCirc) (hm : MomOK dom k v c)
    (hin : v ∈ c.scope) :
    moGenTree k v c = momentSpec dom k v c.toCirc := by
  rw [moGenTree_eq]
  exact C19.moment_exact dom k v c hv hn hl hm hin

/-- C19, general form — continuous leaves: whatever "integration against `x_v^k`" means for
the leaf families at hand, if it is linear at sum nodes, factorises at product nodes and returns the leaf's raw moment
(or its total mass one outside the leaf's scope) at a leaf, then it is the value the GENERATED recursion returns. -/
theorem e2e_moment_abstract (k v : Nat) (J : MCirc F → F)
    (hleaf : ∀ s f mom, J (.leaf s f mom) = if s.contains v then mom k v else 1)
    (hsum : ∀ s ws cs, J (.sum s ws cs) = wsum ws (cs.map J))
    (hprod : ∀ s cs, J (.prod s cs) = lprod (cs.map J)) (c : MCirc F) :
    J c = moGenTree k v c := by
  rw [moGenTree_eq]
  exact C19.moment_exact_abstract k v J hleaf hsum hprod c

/-- C19, stored tables — DAGs, sharing included: entry `root` of the table the GENERATED moment
pass fills is the exact raw moment of the circuit the table stores (its unfolding), under the hypotheses of
`C19.momentNet_exact` on that unfolding. -/
theorem e2e_moment_net (dom : Nat → Nat) (k v : Nat) (dens : List F) (moms : Nat → List F) (net : Net F)
    (hw : WellOrdered net) (root : Nat) (hr : root < net.length)
    (hv : Valid dom (toTree net dens (root+1) root)) (hn : NormW (toTree net dens (root+1) root))
    (hl : LeafNorm dom (toTree net dens (root+1) root))
    (hm : MomOK dom k v (toMTree net dens moms (root+1) root))
    (hin : v ∈ (toTree net dens (root+1) root).scope) :
    (moGenTable k v net (moms k)).getD root 0 = momentSpec dom k v (toTree net dens (root+1) root) := by
  rw [moGenTable_eq_momentNet]
  exact C19.momentNet_exact dom k v dens moms net hw root hr hv hn hl hm hin

/-- C19: the same with every hypothesis stated node by node on the stored table — the local
validity conditions `check_spn` enforces (`NodeOK`), normalised sum weights and leaves, and the leaf-moment hypothesis
`MoLeafExact`. -/
theorem e2e_moment_table (dom : Nat → Nat) (k v : Nat) (dens : List F) (moms : Nat → List F) (net : Net F)
    (hw : WellOrdered net) (hok : ∀ i (x : NNode F), net[i]? = some x → NodeOK dom net dens i x)
    (hnw : NetNormW net) (hln : NetLeafNorm net dens) (hm : MoLeafExact dom k v net dens moms)
    (root : Nat) (hr : root < net.length) (hin : v ∈ scopeOf net root) :
    (moGenTable k v net (moms k)).getD root 0 = momentSpec dom k v (toTree net dens (root+1) root) :=
  e2e_moment_net dom k v dens moms net hw root hr (valid_toTree dom net dens hw hok root hr)
    (normW_toTree net dens hw hnw root hr) (leafNorm_toTree dom net dens hw hln root hr)
    (mo_momOK_toMTree dom k v net dens moms hm _ _) (by rw [scope_toTree net dens root root hr]; exact hin)

/-- C19, API level: which exit the GENERATED selector takes and what comes back —
a negative order is rejected (and only a negative order); order 0 returns ones without a pass; a positive order returns,
for every variable id `0 .. len(scope)-1`, the exact raw moment (under the hypotheses of `e2e_moment` for every such
variable; `hsc` says that the scope of the root is `{0, …, n-1}`, which `moment` assumes when it allocates the `n × n`
matrix). -/
theorem e2e_moment_api (dom : Nat → Nat) (c : MCirc F) (order : Int) :
    Gen.S3momentExits = ["raise", "ones", "bottom_up"] ∧
    (moGenApi c order = none ↔ order < 0) ∧
    (order = 0 → moGenApi c order = some ((List.range c.scope.length).map (fun _ => 1))) ∧
    (0 < order → Valid dom c.toCirc → NormW c.toCirc → LeafNorm dom c.toCirc →
      (∀ v, v < c.scope.length → v ∈ c.scope ∧ MomOK dom order.toNat v c) →
      moGenApi c order = some ((List.range c.scope.length).map (fun v => momentSpec dom order.toNat v c.toCirc))) := by
  refine ⟨by decide, ?_, ?_, ?_⟩
  · rw [moGenApi_eq]; exact C19.moment_negative c order
  · intro h; rw [moGenApi_eq, h]; exact C19.moment_zero_api c
  · intro hpos hv hn hl hsc
    rw [moGenApi_eq]
    unfold MCirc.momentApi
    rw [if_neg (not_lt.2 hpos.le), if_neg hpos.ne']
    exact congrArg some (List.map_congr_left fun v hvm =>
      have hlt := hsc v (List.mem_range.1 hvm)
      C19.moment_exact dom order.toNat v c hv hn hl hlt.2 hlt.1)

/-- the ones of exit 1 are exact too: one is the 0-th raw moment of a valid normalised circuit (`C19.moment_zero`) -/
theorem e2e_moment_api_zero (dom : Nat → Nat) (c : MCirc F)
    (hv : Valid dom c.toCirc) (hn : NormW c.toCirc) (hl : LeafNorm dom c.toCirc) :
    moGenApi c 0 = some ((List.range c.scope.length).map (fun v => momentSpec dom 0 v c.toCirc)) := by
  rw [((e2e_moment_api dom c 0).2.2.1) rfl]
  congr 1
  apply List.map_congr_left
  intro v _
  exact (C19.moment_zero dom v c.toCirc hv hn hl).symm

/-- C19, derived statistics: the GENERATED `variance` evaluated on the values the GENERATED
recursion returns for the orders 1 … 4 is `E[X_v²] − E[X_v]²`. -/
theorem e2e_moment_variance (dom : Nat → Nat) (v : Nat) (c : MCirc F)
    (hv : Valid dom c.toCirc) (hn : NormW c.toCirc) (hl : LeafNorm dom c.toCirc)
    (hm : ∀ k, MomOK dom k v c) (hin : v ∈ c.scope) :
    Gen.variance (moGenTree 1 v c) (moGenTree 2 v c) (moGenTree 3 v c) (moGenTree 4 v c)
      = momentSpec dom 2 v c.toCirc - (momentSpec dom 1 v c.toCirc) ^ 2 := by
  rw [Oblig.C19.variance_is_central2, e2e_moment dom 1 v c hv hn hl (hm 1) hin, e2e_moment dom 2 v c hv hn hl (hm 2) hin]

/-- C19: the GENERATED `skewness` on the generated moments is the third central moment over
`σ²` to the power 3/2. -/
theorem e2e_moment_skewness (E : ExpLog F) (dom : Nat → Nat) (v : Nat) (c : MCirc F)
    (hv : Valid dom c.toCirc) (hn : NormW c.toCirc) (hl : LeafNorm dom c.toCirc)
    (hm : ∀ k, MomOK dom k v c) (hin : v ∈ c.scope) :
    Gen.skewness E (moGenTree 1 v c) (moGenTree 2 v c) (moGenTree 3 v c) (moGenTree 4 v c)
      = (momentSpec dom 3 v c.toCirc - 3 * momentSpec dom 1 v c.toCirc * momentSpec dom 2 v c.toCirc
          + 2 * (momentSpec dom 1 v c.toCirc) ^ 3)
        / E.rpow (momentSpec dom 2 v c.toCirc - (momentSpec dom 1 v c.toCirc) ^ 2) 3 2 := by
  rw [Oblig.C19.skewness_is_central3, e2e_moment dom 1 v c hv hn hl (hm 1) hin, e2e_moment dom 2 v c hv hn hl (hm 2) hin,
    e2e_moment dom 3 v c hv hn hl (hm 3) hin]

/-- C19: the GENERATED `kurtosis` on the generated moments is the excess kurtosis (fourth
central moment over `σ⁴`, minus 3) when the variance is not zero. -/
theorem e2e_moment_kurtosis (dom : Nat → Nat) (v : Nat) (c : MCirc F)
    (hv : Valid dom c.toCirc) (hn : NormW c.toCirc) (hl : LeafNorm dom c.toCirc)
    (hm : ∀ k, MomOK dom k v c) (hin : v ∈ c.scope)
    (hvar : momentSpec dom 2 v c.toCirc - (momentSpec dom 1 v c.toCirc) ^ 2 ≠ 0) :
    Gen.kurtosis (moGenTree 1 v c) (moGenTree 2 v c) (moGenTree 3 v c) (moGenTree 4 v c)
      = (momentSpec dom 4 v c.toCirc - 4 * momentSpec dom 1 v c.toCirc * momentSpec dom 3 v c.toCirc
          + 6 * (momentSpec dom 1 v c.toCirc) ^ 2 * momentSpec dom 2 v c.toCirc
          - 3 * (momentSpec dom 1 v c.toCirc) ^ 4)
        / (momentSpec dom 2 v c.toCirc - (momentSpec dom 1 v c.toCirc) ^ 2) ^ 2 - 3 := by
  rw [e2e_moment dom 1 v c hv hn hl (hm 1) hin, e2e_moment dom 2 v c hv hn hl (hm 2) hin,
    e2e_moment dom 3 v c hv hn hl (hm 3) hin, e2e_moment dom 4 v c hv hn hl (hm 4) hin]
  exact Oblig.C19.kurtosis_is_excess _ _ _ _ hvar

/-- discharging the leaf hypothesis from the leaf theory (`LeafTheory.categorical_leaf_moment_exact`): on a Categorical
leaf with arbitrary non-negative categories `cats` (stored as its dense table over `0 .. dom v − 1`) the GENERATED
recursion returns the leaf's own `Categorical.moment(k) = Σ_c cᵏ·p_c`, which is the exact raw moment, and `MomOK` holds -/
theorem e2e_moment_categorical_leaf (dom : Nat → Nat) (k v : Nat) (cats : List Int) (ps : List F)
    (hn : cats.Nodup) (hr : ∀ c ∈ cats, 0 ≤ c ∧ c < dom v) (hl : cats.length = ps.length) (hs : tsum ps = 1) :
    MomOK dom k v (MCirc.cat v (LeafTheory.denseTbl cats ps (dom v))) ∧
    moGenTree k v (MCirc.cat v (LeafTheory.denseTbl cats ps (dom v))) = LeafTheory.catMoment k cats ps ∧
    LeafTheory.catMoment k cats ps = momentSpec dom k v (Circ.catLeaf v (LeafTheory.denseTbl cats ps (dom v))) := by
  obtain ⟨h1, h2, h3⟩ := LeafTheory.categorical_leaf_moment_exact dom k v cats ps hn hr hl hs
  exact ⟨h1, by rw [moGenTree_eq]; exact h2, h3⟩

/-! ### non-vacuity: the mixture of two products of `Props/C19.lean` (a Bernoulli and a 3-valued Categorical variable), as
a tree (`C19.exC`) and as a stored DAG in which the two products share the Bernoulli leaf (`C19.exNet`) -/

theorem moExC_mem : 1 ∈ C19.exC.scope := by decide

/-- only the two leaves of variable 1 contribute to the moments of `X₁` in `C19.exC` -/
theorem moExC_moment (k : Nat) :
    MCirc.moment k 1 C19.exC = 2/5 * tblMoment k [1/5, 3/10, 1/2] + 3/5 * tblMoment k [1/10, 1/10, 4/5] := by
  simp only [C19.exC, C19.exCof, moment, MCirc.cat, wsum, lprod, List.map_cons, List.map_nil, List.contains_cons,
    List.contains_nil, Nat.reduceBEq, Bool.or_false, Bool.false_eq_true, ↓reduceIte, mul_one, one_mul, add_zero]

theorem moExC_moments : MCirc.moment 1 1 C19.exC = 77/50 ∧ MCirc.moment 2 1 C19.exC = 29/10 := by
  rw [moExC_moment, moExC_moment]; decide +kernel

/-- all hypotheses of `e2e_moment` hold for `C19.exC`, every order, both variables; the generated recursion returns
`E[X₁] = 77/50`, `E[X₁²] = 29/10` -/
example (k : Nat) : moGenTree k 1 C19.exC = momentSpec C19.exDom k 1 C19.exC.toCirc :=
  e2e_moment C19.exDom k 1 C19.exC C19.exC_valid C19.exC_normW C19.exC_leafNorm (C19.exC_momOK k 1) moExC_mem

example : moGenTree 1 1 C19.exC = 77/50 ∧ moGenTree 2 1 C19.exC = 29/10 := by
  rw [moGenTree_eq, moGenTree_eq]; exact moExC_moments

/-- the generated variance of X₁: `29/10 − (77/50)²` -/
example : Gen.variance (moGenTree 1 1 C19.exC) (moGenTree 2 1 C19.exC) (moGenTree 3 1 C19.exC) (moGenTree 4 1 C19.exC)
    = momentSpec C19.exDom 2 1 C19.exC.toCirc - (momentSpec C19.exDom 1 1 C19.exC.toCirc) ^ 2 :=
  e2e_moment_variance C19.exDom 1 C19.exC C19.exC_valid C19.exC_normW C19.exC_leafNorm (fun k => C19.exC_momOK k 1)
    moExC_mem

theorem moExC_m1 : momentSpec C19.exDom 1 1 C19.exC.toCirc = 77/50 :=
  (C19.moment_exact C19.exDom 1 1 C19.exC C19.exC_valid C19.exC_normW C19.exC_leafNorm (C19.exC_momOK 1 1)
    moExC_mem).symm.trans moExC_moments.1

theorem moExC_m2 : momentSpec C19.exDom 2 1 C19.exC.toCirc = 29/10 :=
  (C19.moment_exact C19.exDom 2 1 C19.exC C19.exC_valid C19.exC_normW C19.exC_leafNorm (C19.exC_momOK 2 1)
    moExC_mem).symm.trans moExC_moments.2

/-- kurtosis of X₁ in `C19.exC`: the variance `29/10 − (77/50)² = 1321/2500` is not zero -/
example : Gen.kurtosis (moGenTree 1 1 C19.exC) (moGenTree 2 1 C19.exC) (moGenTree 3 1 C19.exC) (moGenTree 4 1 C19.exC)
    = (momentSpec C19.exDom 4 1 C19.exC.toCirc
        - 4 * momentSpec C19.exDom 1 1 C19.exC.toCirc * momentSpec C19.exDom 3 1 C19.exC.toCirc
        + 6 * (momentSpec C19.exDom 1 1 C19.exC.toCirc) ^ 2 * momentSpec C19.exDom 2 1 C19.exC.toCirc
        - 3 * (momentSpec C19.exDom 1 1 C19.exC.toCirc) ^ 4)
      / (momentSpec C19.exDom 2 1 C19.exC.toCirc - (momentSpec C19.exDom 1 1 C19.exC.toCirc) ^ 2) ^ 2 - 3 :=
  e2e_moment_kurtosis C19.exDom 1 C19.exC C19.exC_valid C19.exC_normW C19.exC_leafNorm (fun k => C19.exC_momOK k 1)
    moExC_mem (by rw [moExC_m1, moExC_m2]; norm_num)

/-- the real-valued copy of a one-leaf circuit (a Bernoulli(1/5) leaf) for the skewness statement, which needs an `ExpLog` -/
noncomputable def moExBern : MCirc ℝ := MCirc.cat 0 [4/5, 1/5]

example : Gen.skewness realExpLog (moGenTree 1 0 moExBern) (moGenTree 2 0 moExBern) (moGenTree 3 0 moExBern)
      (moGenTree 4 0 moExBern)
    = (momentSpec (fun _ => 2) 3 0 moExBern.toCirc
        - 3 * momentSpec (fun _ => 2) 1 0 moExBern.toCirc * momentSpec (fun _ => 2) 2 0 moExBern.toCirc
        + 2 * (momentSpec (fun _ => 2) 1 0 moExBern.toCirc) ^ 3)
      / realExpLog.rpow (momentSpec (fun _ => 2) 2 0 moExBern.toCirc
          - (momentSpec (fun _ => 2) 1 0 moExBern.toCirc) ^ 2) 3 2 := by
  have e : moExBern.toCirc = Circ.catLeaf 0 [4/5, 1/5] := MCirc.cat_toCirc 0 _
  apply e2e_moment_skewness realExpLog (fun _ => 2) 0 moExBern
  · rw [e]; unfold Circ.catLeaf Valid
    exact Circ.catLeaf_ok (fun _ => 2) 0 _ rfl (by norm_num [tsum])
  · rw [e]; simp [Circ.catLeaf, NormW]
  · rw [e]; simp [Circ.catLeaf, LeafNorm, Circ.catLeafFn]
  · exact fun k => C19.cat_momOK (fun _ => 2) k 0 0 _ rfl
  · exact List.mem_singleton_self 0

/-- `e2e_moment_abstract`: the model's own recursion is such a `J` -/
example : MCirc.moment 2 1 C19.exC = moGenTree 2 1 C19.exC :=
  e2e_moment_abstract 2 1 (MCirc.moment 2 1) (fun _ _ _ => by simp only [moment]) (fun _ _ _ => by simp only [moment])
    (fun _ _ => by simp only [moment]) C19.exC

example : moGenApi C19.exC 0
    = some ((List.range C19.exC.scope.length).map (fun v => momentSpec C19.exDom 0 v C19.exC.toCirc)) :=
  e2e_moment_api_zero C19.exDom C19.exC C19.exC_valid C19.exC_normW C19.exC_leafNorm

/-- the API: order −1 raises, order 0 returns ones, order 2 returns the exact second moments of both variables -/
example : moGenApi C19.exC (-1) = none ∧ moGenApi C19.exC 0 = some [1, 1] ∧
    moGenApi C19.exC 2 = some [momentSpec C19.exDom 2 0 C19.exC.toCirc, momentSpec C19.exDom 2 1 C19.exC.toCirc] := by
  refine ⟨((e2e_moment_api C19.exDom C19.exC (-1)).2.1).2 (by norm_num), ?_, ?_⟩
  · rw [((e2e_moment_api C19.exDom C19.exC 0).2.2.1) rfl]; rfl
  · rw [((e2e_moment_api C19.exDom C19.exC 2).2.2.2) (by norm_num) C19.exC_valid C19.exC_normW C19.exC_leafNorm
      fun v hv => ⟨(by decide : ∀ v < C19.exC.scope.length, v ∈ C19.exC.scope) v hv, C19.exC_momOK _ v⟩]
    rfl

theorem moExNet_ok : ∀ (i : Nat) (x : NNode ℚ), C19.exNet[i]? = some x → NodeOK C19.exDom C19.exNet [] i x :=
  nodeOK_of_checkSpn C19.exDom C19.exNet [] 5 (by decide) (by decide) <| forall_getElem?_of_forallIdx
    ⟨fun _ => Circ.catLeaf_ok C19.exDom 0 _ rfl (by decide +kernel),
     fun _ => Circ.catLeaf_ok C19.exDom 1 _ rfl (by decide +kernel),
     fun _ => Circ.catLeaf_ok C19.exDom 1 _ rfl (by decide +kernel), nofun, nofun, nofun, trivial⟩

theorem moExNet_normW : NetNormW C19.exNet :=
  forall_getElem?_of_forallIdx ⟨nofun, nofun, nofun, nofun, nofun, fun _ => by decide +kernel, trivial⟩

theorem moExNet_leafNorm : NetLeafNorm C19.exNet [] :=
  forall_getElem?_of_forallIdx ⟨fun _ => rfl, fun _ => rfl, fun _ => rfl, nofun, nofun, nofun, trivial⟩

theorem moExNet_leafExact (k v : Nat) : MoLeafExact C19.exDom k v C19.exNet [] (fun _ => []) :=
  mo_leafExact_of_cat C19.exDom k v C19.exNet [] _ <| forall_getElem?_of_forallIdx
    ⟨fun _ => ⟨0, _, rfl, rfl, rfl⟩, fun _ => ⟨1, _, rfl, rfl, rfl⟩, fun _ => ⟨1, _, rfl, rfl, rfl⟩,
     nofun, nofun, nofun, trivial⟩

/-- all hypotheses of `e2e_moment_table` hold for the shared-leaf DAG, every order; the generated pass returns
`E[X₁²] = 29/10` and `E[X₀] = 1/5` at the root -/
example (k : Nat) : (moGenTable k 1 C19.exNet []).getD 5 0 = momentSpec C19.exDom k 1 (toTree C19.exNet [] 6 5) :=
  e2e_moment_table C19.exDom k 1 [] (fun _ => []) C19.exNet C19.exNet_wellOrdered moExNet_ok moExNet_normW
    moExNet_leafNorm (moExNet_leafExact k 1) 5 (by decide) (by decide)

/-- `e2e_moment_net` with the hypotheses on the unfolding (as `C19.momentNet_exact` states them) -/
example (k : Nat) : (moGenTable k 1 C19.exNet []).getD 5 0 = momentSpec C19.exDom k 1 (toTree C19.exNet [] 6 5) :=
  e2e_moment_net C19.exDom k 1 [] (fun _ => []) C19.exNet C19.exNet_wellOrdered 5 (by decide)
    (valid_toTree C19.exDom C19.exNet [] C19.exNet_wellOrdered moExNet_ok 5 (by decide))
    (normW_toTree C19.exNet [] C19.exNet_wellOrdered moExNet_normW 5 (by decide))
    (leafNorm_toTree C19.exDom C19.exNet [] C19.exNet_wellOrdered moExNet_leafNorm 5 (by decide))
    (mo_momOK_toMTree C19.exDom k 1 C19.exNet [] (fun _ => []) (moExNet_leafExact k 1) 6 5)
    (by rw [scope_toTree C19.exNet [] 5 5 (by decide)]; simp [scopeOf, C19.exNet])

example : (moGenTable 2 1 C19.exNet []).getD 5 0 = 29/10 ∧ (moGenTable 1 0 C19.exNet []).getD 5 0 = 1/5 :=
  ⟨by decide +kernel, by decide +kernel⟩

/-- the leaf theory: a Categorical leaf over the categories `{3, 1, 4}` of a variable with domain `0..4` -/
example (k : Nat) :
    moGenTree k 0 (MCirc.cat 0 (LeafTheory.denseTbl LeafTheory.exCatsA LeafTheory.exPsA (LeafTheory.exDom 0)))
      = LeafTheory.catMoment k LeafTheory.exCatsA LeafTheory.exPsA :=
  (e2e_moment_categorical_leaf (F := ℚ) LeafTheory.exDom k 0 LeafTheory.exCatsA LeafTheory.exPsA (by decide) (by decide) rfl
    (by decide +kernel)).2.1

end moment

end moments

section responsibilities
open Deeprob

section resp
variable {F : Type} [Field F] [LinearOrder F] [IsStrictOrderedRing F]
open Bwd

/-- the entries of `stats = np.exp(children_ll - root_ll + grads[node.id])` for sum node `n` on one row, one per child
in child order: the GENERATED `Gen.S3emRespSum` on the logarithms of the child's value, the root's value and the gradient
of the node.  Nothing but the generated expression and the loop over the children. -/
def rsGenResp (E : ExpLog F) (vals grads : List F) (root n : Nat) (x : NNode F) : List F :=
  x.ch.map (fun c => Gen.S3emRespSum E (E.log (vals.getD c 0)) (E.log (vals.getD root 0)) (E.log (grads.getD n 0)))

/-- the positivity hypotheses the log domain needs at sum node `x` (stored at index `n`): the values of its children, the
value of the root and the gradient of the node have logarithms -/
def RsPos (vals grads : List F) (root n : Nat) (x : NNode F) : Prop :=
  (∀ c ∈ x.ch, 0 < vals.getD c 0) ∧ 0 < vals.getD root 0 ∧ 0 < grads.getD n 0

/-- linking lemma (`respSum_as_coded` read from the generated side) -/
theorem rsGenResp_eq (E : ExpLog F) (vals grads : List F) (root n : Nat) (x : NNode F) (hp : RsPos vals grads root n x) :
    rsGenResp E vals grads root n x = respSum vals grads root n x :=
  (Struct3.respSum_as_coded E vals grads root n x hp.1 hp.2.1 hp.2.2).symm

/-- C14: the GENERATED responsibility expression, evaluated on the logarithms of the value of a
child `c`, of the value of the root and of the gradient the (modelled) backward pass leaves at node `n`, is
`value[c] · grads[n] / value[root]`, where `grads[n]` is the derivative of the root with respect to node `n`: the root
value, as a function of the value forced at `n`, is affine with that slope. -/
theorem e2e_resp_entry (E : ExpLog F) (e : Ev) (dens : List F) (net : Net F) (hw : WellOrdered net) (root n c : Nat)
    (hr : root < net.length) (hn : n < net.length) (hd : DecompAt net root n)
    (hc : 0 < (evalNet e dens net).getD c 0) (hroot : 0 < (evalNet e dens net).getD root 0)
    (hg : 0 < (backward net (evalNet e dens net) root).getD n 0) :
    Gen.S3emRespSum E (E.log ((evalNet e dens net).getD c 0)) (E.log ((evalNet e dens net).getD root 0))
        (E.log ((backward net (evalNet e dens net) root).getD n 0))
      = (evalNet e dens net).getD c 0 * (backward net (evalNet e dens net) root).getD n 0
          / (evalNet e dens net).getD root 0 ∧
    ∀ x : F, (evalNetWith e dens net n x).getD root 0
      = (evalNetWith e dens net n 0).getD root 0 + (backward net (evalNet e dens net) root).getD n 0 * x :=
  ⟨(Struct3.resp_entry_as_coded E _ _ _ hc hroot hg).1,
   fun x => C14.backward_is_derivative e dens net hw root n hr hn hd x⟩

/-- C14: for every sum node `n` of a children-first table, the GENERATED responsibilities of
its children, weighted by the current weights, add up to `value[n] · grads[n] / value[root]`. -/
theorem e2e_resp_posterior (E : ExpLog F) (e : Ev) (dens : List F) (net : Net F) (hw : WellOrdered net) (root n : Nat)
    (hn : n < net.length) (hk : (net[n]).kind = .sum)
    (hp : RsPos (evalNet e dens net) (backward net (evalNet e dens net) root) root n net[n]) :
    wsum (net[n]).ws (rsGenResp E (evalNet e dens net) (backward net (evalNet e dens net) root) root n net[n])
      = (evalNet e dens net).getD n 0 * (backward net (evalNet e dens net) root).getD n 0
          / (evalNet e dens net).getD root 0 := by
  rw [rsGenResp_eq E _ _ root n _ hp]
  exact C14.resp_is_posterior e dens net hw root n hn hk

/-- C14: … which is the posterior probability that the sum node is reached — the share of the root's
mass that flows through `n`: one minus what is left of the root when `n` is zeroed, relative to the root.  The
positivity hypotheses (`RsPos`) are those the logarithms need; `hd` is decomposability below the root
(`decompAt_of_nodeOK`). -/
theorem e2e_resp (E : ExpLog F) (e : Ev) (dens : List F) (net : Net F) (hw : WellOrdered net) (root n : Nat)
    (hr : root < net.length) (hn : n < net.length) (hk : (net[n]).kind = .sum) (hd : DecompAt net root n)
    (hp : RsPos (evalNet e dens net) (backward net (evalNet e dens net) root) root n net[n]) :
    wsum (net[n]).ws (rsGenResp E (evalNet e dens net) (backward net (evalNet e dens net) root) root n net[n])
      = 1 - (evalNetWith e dens net n 0).getD root 0 / (evalNet e dens net).getD root 0 := by
  rw [rsGenResp_eq E _ _ root n _ hp]
  exact C14.resp_is_mass_through_node e dens net hw root n hr hn hk hd (ne_of_gt hp.2.1)

/-- C14: at a root sum node the weighted GENERATED responsibilities add up to one — the E-step
distributes one unit of mass per row.  The gradient hypothesis is discharged (`grads[root] = 1`,
`C14.backward_root_one`). -/
theorem e2e_resp_root (E : ExpLog F) (e : Ev) (dens : List F) (net : Net F) (hw : WellOrdered net) (root : Nat)
    (hr : root < net.length) (hk : (net[root]).kind = .sum)
    (hc : ∀ c ∈ (net[root]).ch, 0 < (evalNet e dens net).getD c 0) (hroot : 0 < (evalNet e dens net).getD root 0) :
    wsum (net[root]).ws
      (rsGenResp E (evalNet e dens net) (backward net (evalNet e dens net) root) root root net[root]) = 1 := by
  have hg : 0 < (backward net (evalNet e dens net) root).getD root 0 := by
    rw [C14.backward_root_one net _ hw root hr]; exact one_pos
  rw [rsGenResp_eq E _ _ root root _ ⟨hc, hroot, hg⟩]
  exact C14.resp_root_sums_to_one e dens net hw root hr hk (ne_of_gt hroot)

/-- the same with the values taken from the GENERATED linear-domain forward pass `genTable`
(tables whose leaves are Bernoulli / Categorical source leaves). -/
theorem e2e_resp_gen (E : ExpLog F) (e : Ev) (dens : List F) (net : Net F) (leaves : Nat → SrcLeaf F)
    (hw : WellOrdered net) (hl : TableLeaves net leaves) (root n : Nat)
    (hr : root < net.length) (hn : n < net.length) (hk : (net[n]).kind = .sum) (hd : DecompAt net root n)
    (hp : RsPos (genTable e net leaves) (backward net (genTable e net leaves) root) root n net[n]) :
    wsum (net[n]).ws (rsGenResp E (genTable e net leaves) (backward net (genTable e net leaves) root) root n net[n])
      = 1 - (evalNetWith e dens net n 0).getD root 0 / (genTable e net leaves).getD root 0 := by
  rw [genTable_eq_evalNet e dens net leaves hl] at hp ⊢
  exact e2e_resp E e dens net hw root n hr hn hk hd hp

/-! ### non-vacuity at ℝ (usual `exp` / `log`): a DAG over two binary variables — the root sum 7 over the products 4 and 6,
which SHARE the leaf 3; the inner sum 2 is a child of product 4.  Row `(X0, X1) = (1, 0)`. -/

noncomputable def rsNet : Net ℝ :=
  [⟨0, .leaf, [0], [], [], .cat 0 [1/2, 1/2]⟩,
   ⟨1, .leaf, [0], [], [], .cat 0 [1/4, 3/4]⟩,
   ⟨2, .sum, [0], [0, 1], [1/3, 2/3], .absent⟩,
   ⟨3, .leaf, [1], [], [], .cat 1 [1/5, 4/5]⟩,
   ⟨4, .prod, [0, 1], [2, 3], [], .absent⟩,
   ⟨5, .leaf, [0], [], [], .cat 0 [1/10, 9/10]⟩,
   ⟨6, .prod, [0, 1], [5, 3], [], .absent⟩,
   ⟨7, .sum, [0, 1], [4, 6], [1/2, 1/2], .absent⟩]

noncomputable def rsLeaves : Nat → SrcLeaf ℝ := fun i =>
  [SrcLeaf.categorical 0 [1/2, 1/2], .categorical 0 [1/4, 3/4], .bernoulli 0 0, .categorical 1 [1/5, 4/5],
   .bernoulli 0 0, .categorical 0 [1/10, 9/10]].getD i (.bernoulli 0 0)

def rsRow : Ev := Ev.ofList [some 1, some 0]

theorem rsNet_wo : WellOrdered rsNet := (wellOrderedB_iff rsNet).1 (by decide)

theorem rsNet_vals : evalNet rsRow [] rsNet = [1/2, 3/4, 2/3, 1/5, 2/15, 9/10, 9/50, 47/300] := by
  simp only [evalNet, evalNode, rsNet, rsRow, LeafP.fn, Circ.catLeafFn, Ev.ofList, wsum, lprod, List.foldl_cons,
    List.foldl_nil, List.nil_append, List.cons_append, List.map_cons, List.map_nil, List.getD_cons_zero,
    List.getD_cons_succ]
  norm_num

theorem rsNet_grads : backward rsNet (evalNet rsRow [] rsNet) 7 = [1/30, 1/15, 1/10, 47/60, 1/2, 1/10, 1/2, 1] := by
  rw [rsNet_vals]
  simp only [backward, sendDown, rsNet, lprod, List.length_cons, List.length_nil, List.range_succ, List.range_zero,
    List.nil_append, List.cons_append, List.reverse_cons, List.reverse_nil, List.foldl_cons, List.foldl_nil,
    List.replicate_succ, List.replicate_zero, List.set_cons_succ, List.set_cons_zero, List.getElem?_cons_succ,
    List.getElem?_cons_zero, List.zip_cons_cons, List.zip_nil_right, List.zipIdx_cons, List.zipIdx_nil,
    List.getD_cons_succ, List.getD_cons_zero, List.eraseIdx_cons_succ, List.eraseIdx_cons_zero, List.map_cons,
    List.map_nil]
  norm_num

theorem rsNet_vals_pos (c : Nat) (hc : c < 8) : 0 < (evalNet rsRow [] rsNet).getD c 0 := by
  have h : ∀ v ∈ evalNet rsRow [] rsNet, 0 < v := by
    rw [rsNet_vals]
    simp only [List.forall_mem_cons, List.not_mem_nil, false_imp_iff, implies_true, and_true]
    norm_num
  rw [List.getD_eq_getElem?_getD, List.getElem?_eq_getElem (by rw [rsNet_vals]; exact hc), Option.getD_some]
  exact h _ (List.getElem_mem _)

/-- the inner sum 2 has the single path `[0, 0]` from the root, hence is not reached twice below a product -/
theorem rsNet_decomp : DecompAt rsNet 7 2 := by
  apply decompAt_of_unique_path
  intro q q' h h'
  have := unique_path_of_pathsTo rsNet rsNet_wo 7 2 [0, 0] (by decide)
  rw [this q h, this q' h']

theorem rsNet_pos : RsPos (evalNet rsRow [] rsNet) (backward rsNet (evalNet rsRow [] rsNet) 7) 7 2 rsNet[2] :=
  ⟨fun c hc => rsNet_vals_pos c (lt_trans (rsNet_wo 2 _ rfl c hc) (by decide)), rsNet_vals_pos 7 (by decide),
   by rw [rsNet_grads]; simp only [List.getD_cons_succ, List.getD_cons_zero]; norm_num⟩

theorem rsNet_tableLeaves : TableLeaves rsNet rsLeaves :=
  forall_getElem?_of_forallIdx
    ⟨fun _ => rfl, fun _ => rfl, nofun, fun _ => rfl, nofun, fun _ => rfl, nofun, nofun, trivial⟩

/-- all hypotheses of `e2e_resp_posterior` / `e2e_resp` hold for the inner sum 2; the weighted generated
responsibilities add up to `(2/3)·(1/10)/(47/300) = 20/47`, the share of the root's mass that flows through node 2 -/
example : wsum (rsNet[2]).ws (rsGenResp realExpLog (evalNet rsRow [] rsNet) (backward rsNet (evalNet rsRow [] rsNet) 7) 7 2
      rsNet[2]) = 20/47 ∧
    wsum (rsNet[2]).ws (rsGenResp realExpLog (evalNet rsRow [] rsNet) (backward rsNet (evalNet rsRow [] rsNet) 7) 7 2
      rsNet[2]) = 1 - (evalNetWith rsRow [] rsNet 2 0).getD 7 0 / (evalNet rsRow [] rsNet).getD 7 0 := by
  refine ⟨?_, e2e_resp realExpLog rsRow [] rsNet rsNet_wo 7 2 (by decide) (by decide) rfl rsNet_decomp rsNet_pos⟩
  rw [e2e_resp_posterior realExpLog rsRow [] rsNet rsNet_wo 7 2 (by decide) rfl rsNet_pos, rsNet_grads, rsNet_vals]
  simp only [List.getD_cons_succ, List.getD_cons_zero]
  norm_num

/-- the entry of child 0 of the inner sum: `(1/2)·(1/10)/(47/300) = 15/47` -/
example : Gen.S3emRespSum realExpLog (realExpLog.log ((evalNet rsRow [] rsNet).getD 0 0))
    (realExpLog.log ((evalNet rsRow [] rsNet).getD 7 0))
    (realExpLog.log ((backward rsNet (evalNet rsRow [] rsNet) 7).getD 2 0)) = 15/47 := by
  rw [(e2e_resp_entry realExpLog rsRow [] rsNet rsNet_wo 7 2 0 (by decide) (by decide) rsNet_decomp
    (rsNet_vals_pos 0 (by decide)) rsNet_pos.2.1 rsNet_pos.2.2).1, rsNet_grads, rsNet_vals]
  simp only [List.getD_cons_succ, List.getD_cons_zero]
  norm_num

/-- the root sum 7: the weighted generated responsibilities add up to one -/
example : wsum (rsNet[7]).ws (rsGenResp realExpLog (evalNet rsRow [] rsNet) (backward rsNet (evalNet rsRow [] rsNet) 7) 7 7
    rsNet[7]) = 1 :=
  e2e_resp_root realExpLog rsRow [] rsNet rsNet_wo 7 (by decide) rfl
    (fun c hc => rsNet_vals_pos c (lt_trans (rsNet_wo 7 _ rfl c hc) (by decide))) (rsNet_vals_pos 7 (by decide))

/-- the same with the values of the GENERATED forward pass -/
example : wsum (rsNet[2]).ws (rsGenResp realExpLog (genTable rsRow rsNet rsLeaves)
      (backward rsNet (genTable rsRow rsNet rsLeaves) 7) 7 2 rsNet[2])
    = 1 - (evalNetWith rsRow [] rsNet 2 0).getD 7 0 / (genTable rsRow rsNet rsLeaves).getD 7 0 :=
  e2e_resp_gen realExpLog rsRow [] rsNet rsLeaves rsNet_wo rsNet_tableLeaves 7 2 (by decide) (by decide) rfl rsNet_decomp
    (by rw [genTable_eq_evalNet rsRow [] rsNet rsLeaves rsNet_tableLeaves]; exact rsNet_pos)

end resp

end responsibilities

section marginalize
open Deeprob

section marg
open Net

/-- `marginalize(root, keep_scope)` around the GENERATED pieces: the GENERATED argument guards `Gen.margGuardChain` (the
index of the first guard that raises, rendered with `StructRewrite.margTag`), the model's test for leaves outside the
net-level model (`margUnsupported`, not generated), the GENERATED first pass (`Struct4.margPassGen`: `Gen.S4margStep` once
per table entry), `nodes_map[root.id]`, then the MODELLED `prune` (`pruneNet`) with the canonical export -/
def mgGenMarginalize {α : Type} [Zero α] [Add α] [Mul α] (keep : List Nat) (net : Net α) (root : Nat) :
    Except String (Net α × List Nat) :=
  match Gen.margGuardChain keep (scopeAt net root) with
  | some k => .error ("reject:" ++ Oblig.StructRewrite.margTag k)
  | none =>
    match margUnsupported net (collect net root) with
    | some why => .error ("unsupported:" ++ why)
    | none =>
      let st := Struct4.margPassGen keep net
      match st.2.getD root none with
      | none => .error "none"
      | some r1 =>
        match pruneNet st.1 r1 with
        | none => .error "cycle"
        | some res => .ok res

/-- the domain of `Struct4.margPass_as_coded`: EVERY entry of the table (reachable from the root or not) has its children
stored before it and, if a leaf, a single variable -/
def mgTableOK {α : Type} (net : Net α) : Prop :=
  ∀ (i : Nat) (x : NNode α), net[i]? = some x → (∀ c ∈ x.ch, c < i) ∧ (x.kind = Kind.leaf → x.scope.length = 1)

/-- **the function around the generated pieces is the model's `marginalizeNet`** on the domain of the obligation
(`margGuard_as_coded`, `margPass_as_coded`, `pruneNet_is_repaired`) -/
theorem mgGenMarginalize_eq {α : Type} [Zero α] [Add α] [Mul α] (keep : List Nat) (net : Net α) (root : Nat)
    (ht : mgTableOK net) : mgGenMarginalize keep net root = marginalizeNet keep net root := by
  unfold mgGenMarginalize marginalizeNet marginalizeNetWith
  rw [Oblig.StructRewrite.margGuard_as_coded, Struct4.margPass_as_coded keep net ht]
  cases Gen.margGuardChain keep (scopeAt net root) with
  | some k => rfl
  | none =>
    simp only [Option.map_none]
    cases margUnsupported net (collect net root) with
    | some why => rfl
    | none =>
      simp only
      cases ((margPass keep net).2.getD root none) with
      | none => rfl
      | some r1 =>
        simp only [Oblig.StructRewrite.pruneNet_is_repaired]
        rfl

/-- the hypotheses of the value theorem put the table into the domain of the obligation: children-first storage is
`WellOrdered`, and `MargNodeOK` at a leaf says its scope is one variable -/
theorem mgTableOK_of_nodeOK {α : Type} (net : Net α) (hw : WellOrdered net)
    (hn : ∀ (i : Nat) (x : NNode α), net[i]? = some x → MargNodeOK net x) : mgTableOK net := by
  intro i x hx
  refine ⟨hw i x hx, ?_⟩
  intro hk
  have := hn i x hx
  unfold MargNodeOK at this
  rw [hk] at this
  obtain ⟨v, hv, _⟩ := this
  rw [hv]; rfl

/-- the generated guard chain only answers `none`, `some 0`, `some 1`, `some 2` -/
theorem mgGuardChain_range (keep scope : List Nat) :
    Gen.margGuardChain keep scope = none ∨ Gen.margGuardChain keep scope = some 0 ∨
    Gen.margGuardChain keep scope = some 1 ∨ Gen.margGuardChain keep scope = some 2 := by
  unfold Gen.margGuardChain
  simp only []
  split
  · simp
  · split
    · simp
    · split <;> simp

variable {α : Type} [CommSemiring α]

/-- C10 at DAG level, value: whenever the GENERATED guards accept and the GENERATED first pass
followed by the modelled `prune` returns a table, its root (last entry) has, under every evidence in which all variables
outside the kept set are missing, the value the original table has at `root` — shared sub-circuits and merged coinciding
children included.  Hypotheses on the table exactly as in `marginalizeNetWith_eval` (they imply the domain of
`margPass_as_coded`, `mgTableOK_of_nodeOK`). -/
theorem e2e_marginalize (keep : List Nat) (net : Net α) (root : Nat)
    (hw : WellOrdered net) (hs : NetSumOK net)
    (hn : ∀ (i : Nat) (x : NNode α), net[i]? = some x → MargNodeOK net x)
    (hr : root < net.length) (out : Net α) (order : List Nat)
    (h : mgGenMarginalize keep net root = .ok (out, order))
    (e : Ev) (he : ∀ v, v ∉ keep → e v = none) (dens : List α) :
    out ≠ [] ∧ nval e (order.map (fun i => dens.getD i 0)) out (out.length - 1) = nval e dens net root := by
  rw [mgGenMarginalize_eq keep net root (mgTableOK_of_nodeOK net hw hn)] at h
  exact marginalizeNetWith_eval true keep net root hw hs hn hr out order h e he dens

/-- C10, the statement on rows: the returned table evaluated on a row `x` over the kept
variables equals the original table evaluated on `x` with every other variable marked missing. -/
theorem e2e_marginalize_rows (keep : List Nat) (net : Net α) (root : Nat)
    (hw : WellOrdered net) (hs : NetSumOK net)
    (hn : ∀ (i : Nat) (x : NNode α), net[i]? = some x → MargNodeOK net x)
    (hr : root < net.length) (out : Net α) (order : List Nat)
    (h : mgGenMarginalize keep net root = .ok (out, order)) (x : Ev) (dens : List α) :
    nval (x.restrict keep) (order.map (fun i => dens.getD i 0)) out (out.length - 1)
      = nval (x.restrict keep) dens net root := by
  rw [mgGenMarginalize_eq keep net root (mgTableOK_of_nodeOK net hw hn)] at h
  exact marginalizeNet_eval keep net root hw hs hn hr out order h x dens

/-- C10, totality: for a children-first table accepted by
`check_spn(labeled, smooth, decomposable)` whose leaves have no children, when the GENERATED guard chain raises nothing and
there is no Chow-Liu / multivariate leaf, the GENERATED pass followed by the modelled `prune` returns a table.
`ht` (every table entry, reachable or not, is stored after its children and has a one-variable scope if a leaf) is the
domain of `margPass_as_coded`; the property theorem only needs this for the nodes reachable from the root (`hun`), the
obligation asks it of the whole table — both are listed. -/
theorem e2e_marginalize_total (keep : List Nat) (net : Net α) (root : Nat) (hw : WellOrdered net)
    (hr : root < net.length) (hacc : Net.checkSpn net root true true true = .accept)
    (hleaf : ∀ i ∈ collect net root, ∀ x, net[i]? = some x → x.kind = .leaf → x.ch = [])
    (hg : Gen.margGuardChain keep (scopeAt net root) = none)
    (hun : margUnsupported net (collect net root) = none)
    (ht : mgTableOK net) :
    ∃ res, mgGenMarginalize keep net root = .ok res := by
  rw [mgGenMarginalize_eq keep net root ht]
  exact marginalizeNet_total keep net root hw hr hacc hleaf
    (by rw [Oblig.StructRewrite.margGuard_as_coded, hg]; rfl) hun

/-- C10, shape of the result: under the same hypotheses, whatever table the GENERATED pass
followed by the modelled `prune` returns is accepted by `check_spn` with all three flags, is in normal form and
children-first, has root scope `root.scope ∩ keep` (as a set) with duplicate-free stored scopes, and is a fixed point of
`prune`. -/
theorem e2e_marginalize_shape (keep : List Nat) (net : Net α) (root : Nat) (hw : WellOrdered net)
    (hr : root < net.length) (hacc : Net.checkSpn net root true true true = .accept)
    (hleaf : ∀ i ∈ collect net root, ∀ x, net[i]? = some x → x.kind = .leaf → x.ch = [])
    (ht : mgTableOK net)
    (out : Net α) (order : List Nat) (h : mgGenMarginalize keep net root = .ok (out, order)) :
    Net.checkSpn out (out.length - 1) true true true = .accept ∧
    (∀ p, p < out.length → p ∈ collect out (out.length - 1)) ∧
    normalFormB out (out.length - 1) = true ∧ NetNF out ∧ WellOrdered out ∧
    (∀ v, v ∈ scopeOf out (out.length - 1) ↔ (v ∈ scopeOf net root ∧ v ∈ keep)) ∧
    (∀ p, p < out.length → (scopeOf out p).Nodup) ∧
    pruneNet out (out.length - 1) = some (out, List.range out.length) := by
  rw [mgGenMarginalize_eq keep net root ht] at h
  exact marginalizeNet_shape keep net root hw hr hacc hleaf out order h

/-- C10, which calls are rejected: the GENERATED guard chain accepts exactly the non-empty,
duplicate-free kept sets inside the root scope; guard 0 raises iff `keep_scope` is empty, guard 1 iff it is non-empty with
a repeated entry, guard 2 iff it is non-empty, duplicate-free and not inside the scope; there is no other answer. -/
theorem e2e_marginalize_guard (keep scope : List Nat) :
    (Gen.margGuardChain keep scope = none ↔ keep ≠ [] ∧ keep.Nodup ∧ ∀ v ∈ keep, v ∈ scope) ∧
    (Gen.margGuardChain keep scope = some 0 ↔ keep = []) ∧
    (Gen.margGuardChain keep scope = some 1 ↔ keep ≠ [] ∧ ¬ keep.Nodup) ∧
    (Gen.margGuardChain keep scope = some 2 ↔ keep ≠ [] ∧ keep.Nodup ∧ ¬ ∀ v ∈ keep, v ∈ scope) := by
  have hg := Oblig.StructRewrite.margGuard_as_coded keep scope
  have h0 := marginalize_guards keep scope
  obtain ⟨h1, h2, h3⟩ := marginalize_guard_reasons keep scope
  rw [hg] at h0 h1 h2 h3
  -- on the answers `some 0`, `some 1`, `some 2` the rendering `margTag` loses nothing
  have e : ∀ k, k ≤ 2 → (Gen.margGuardChain keep scope = some k ↔
      (Gen.margGuardChain keep scope).map Oblig.StructRewrite.margTag = some (Oblig.StructRewrite.margTag k)) := by
    rcases mgGuardChain_range keep scope with h | h | h | h <;> rw [h] <;> decide
  exact ⟨Option.map_eq_none_iff.symm.trans h0, (e 0 (by decide)).trans h1, (e 1 (by decide)).trans h2,
    (e 2 (by decide)).trans h3⟩

/-- a rejected call returns the error of the guard that raised, before anything is done to the circuit -/
theorem e2e_marginalize_rejects (keep : List Nat) (net : Net α) (root : Nat) :
    (keep = [] → mgGenMarginalize keep net root = .error "reject:empty") ∧
    (keep ≠ [] → ¬ keep.Nodup → mgGenMarginalize keep net root = .error "reject:duplicates") ∧
    (keep ≠ [] → keep.Nodup → (¬ ∀ v ∈ keep, v ∈ scopeAt net root) →
      mgGenMarginalize keep net root = .error "reject:subset") := by
  obtain ⟨_, g0, g1, g2⟩ := e2e_marginalize_guard keep (scopeAt net root)
  refine ⟨?_, ?_, ?_⟩
  · intro h
    unfold mgGenMarginalize; rw [g0.2 h]; rfl
  · intro h1 h2
    unfold mgGenMarginalize; rw [g1.2 ⟨h1, h2⟩]; rfl
  · intro h1 h2 h3
    unfold mgGenMarginalize; rw [g2.2 ⟨h1, h2, h3⟩]; rfl

end marg

/-! ### non-vacuity: `C10w.net`, a sum over two products that SHARE the leaf of variable 0 -/

theorem mgEx_tableOK : mgTableOK C10w.net := mgTableOK_of_nodeOK _ C10w.wellOrdered C10w.nodeOK

/-- the hypotheses of `e2e_marginalize` / `e2e_marginalize_total` / `e2e_marginalize_shape` hold for `C10w.net`; the
GENERATED pass keeps the two leaves of variable 1 and the root (`nodes_map = [None, 1, 1, 3, 3, 5]`), and the result is a
two-child sum over the two leaves of variable 1; keeping variable 0 the root is replaced by the shared leaf -/
example : WellOrdered C10w.net ∧ NetSumOK C10w.net ∧
    (∀ (i : Nat) (x : NNode Rat), C10w.net[i]? = some x → MargNodeOK C10w.net x) ∧ mgTableOK C10w.net ∧
    Gen.margGuardChain [1] (Net.scopeAt C10w.net 5) = none ∧
    (Struct4.margPassGen [1] C10w.net).2 = [none, some 1, some 1, some 3, some 3, some 5] ∧
    C10w.view (mgGenMarginalize [1] C10w.net 5)
      = [(.leaf, 1, [1], [], []), (.leaf, 2, [1], [], []), (.sum, 0, [1], [0, 1], [1/2, 1/2])] ∧
    C10w.origin (mgGenMarginalize [1] C10w.net 5) = [1, 3, 5] ∧
    C10w.view (mgGenMarginalize [0] C10w.net 5) = [(.leaf, 0, [0], [], [])] :=
  ⟨C10w.wellOrdered, C10w.sumOK, C10w.nodeOK, mgEx_tableOK, by decide, by decide +kernel, by decide +kernel,
   by decide +kernel, by decide +kernel⟩

example : ∃ res, mgGenMarginalize [1] C10w.net 5 = .ok res :=
  e2e_marginalize_total [1] C10w.net 5 C10w.wellOrdered (by decide) C10w.accept C10w.leafNoCh (by decide) (by decide)
    mgEx_tableOK

example : ∀ (x : Ev) (dens : List Rat), ∃ out order, mgGenMarginalize [1] C10w.net 5 = .ok (out, order) ∧
    out ≠ [] ∧
    nval (x.restrict [1]) (order.map (fun i => dens.getD i 0)) out (out.length - 1)
      = nval (x.restrict [1]) dens C10w.net 5 ∧
    Net.checkSpn out (out.length - 1) true true true = .accept := by
  intro x dens
  obtain ⟨res, hres⟩ := e2e_marginalize_total [1] C10w.net 5 C10w.wellOrdered (by decide) C10w.accept C10w.leafNoCh
    (by decide) (by decide) mgEx_tableOK
  refine ⟨res.1, res.2, hres, ?_, ?_, ?_⟩
  · exact (e2e_marginalize [1] C10w.net 5 C10w.wellOrdered C10w.sumOK C10w.nodeOK (by decide) res.1 res.2 hres
      (x.restrict [1]) (Ev.restrict_out x [1]) dens).1
  · exact e2e_marginalize_rows [1] C10w.net 5 C10w.wellOrdered C10w.sumOK C10w.nodeOK (by decide) res.1 res.2 hres x dens
  · exact (e2e_marginalize_shape [1] C10w.net 5 C10w.wellOrdered (by decide) C10w.accept C10w.leafNoCh mgEx_tableOK
      res.1 res.2 hres).1

/-- the four answers of the generated guard chain on concrete calls, and the errors returned -/
example : Gen.margGuardChain [1] [0, 1] = none ∧ Gen.margGuardChain [] [0, 1] = some 0 ∧
    Gen.margGuardChain [1, 1] [0, 1] = some 1 ∧ Gen.margGuardChain [1, 2] [0, 1] = some 2 ∧
    mgGenMarginalize [] C10w.net 5 = .error "reject:empty" ∧
    mgGenMarginalize [1, 1] C10w.net 5 = .error "reject:duplicates" ∧
    mgGenMarginalize [1, 2] C10w.net 5 = .error "reject:subset" :=
  ⟨by decide, by decide, by decide, by decide,
   (e2e_marginalize_rejects [] C10w.net 5).1 rfl,
   (e2e_marginalize_rejects [1, 1] C10w.net 5).2.1 (by decide) (by decide),
   (e2e_marginalize_rejects [1, 2] C10w.net 5).2.2 (by decide) (by decide) (by decide)⟩

end marginalize

section sumSample
open Deeprob

section ss
open Deeprob.TCirc Deeprob.Struct4

variable {F : Type} [Field F] [LinearOrder F] [IsStrictOrderedRing F]

/-- the noise-free scores of `sum_sample` at one sum node on one row: entry `i` is the GENERATED
`Gen.S4sumSampleEntry` at `ll = log Lᵢ` (the stored log-value of child `i`), `w = wᵢ`, noise `0` -/
def ssGenScore0 (E : ExpLog F) (ws ls : List F) : List F :=
  List.zipWith (fun w l => Gen.S4sumSampleEntry E (E.log l) w 0) ws ls

/-- the scores as coded: the GENERATED entry with the noise `gᵢ` of that (row, child) -/
def ssGenScore (E : ExpLog F) (ws ls gs : List F) : List F :=
  List.zipWith (fun (wl : F × F) g => Gen.S4sumSampleEntry E (E.log wl.2) wl.1 g) (ws.zip ls) gs

/-- The Gumbel-max identity, as a named hypothesis.  `argmaxLaw s` stands for the law of
`np.argmax(s + G)` — entry `i` = probability that position `i` is the arg-max — when `G` has one independent standard
right-skewed Gumbel entry per position.  The Gumbel-max identity says that this law is the soft-max of `s`:
`P(argmax = i) = exp sᵢ / Σⱼ exp sⱼ`.  It is a statement about continuous random variables and cannot be stated, let
alone proved, in the algebraic setting of `ExpLog F`; every theorem below that mentions sampling carries it as the explicit
hypothesis `hGumbelMax_trusted`.  Over `ℝ`, with `argmaxLaw` the actual law of the arg-max under Gumbel noise, it is proved:
`SamplingFacts.gumbelMaxIdentity_real`. -/
def ssGumbelMaxIdentity (E : ExpLog F) (argmaxLaw : List F → List F) : Prop :=
  ∀ s : List F, argmaxLaw s = s.map (fun a => E.exp a / tsum (s.map E.exp))

/-- the noise enters additively, one entry per child (first conjunct of `sumSampleEntry_as_coded`, which states it under
positivity hypotheses it does not use): the scores as coded are `s + g` with `s` the noise-free scores — the shape the
Gumbel-max identity is about -/
theorem ssGenScore_additive (E : ExpLog F) (ws ls gs : List F) :
    ssGenScore E ws ls gs = List.zipWith (· + ·) (ssGenScore0 E ws ls) gs := by
  unfold ssGenScore ssGenScore0
  rw [List.zip_eq_zipWith, List.zipWith_zipWith_left, List.zipWith_zipWith_left]
  congr
  funext w l g
  unfold Gen.S4sumSampleEntry
  ring

/-- the exponentiated noise-free scores add up to the value of the sum node (second conjunct of
`sumSampleEntry_as_coded` at every child) -/
theorem ssGenScore0_total (E : ExpLog F) (ws ls : List F) (hw : ∀ w ∈ ws, 0 < w) (hl : ∀ l ∈ ls, 0 < l) :
    tsum ((ssGenScore0 E ws ls).map E.exp) = wsum ws ls := by
  unfold ssGenScore0
  induction ws generalizing ls with
  | nil => simp [tsum, wsum]
  | cons w ws ih =>
    cases ls with
    | nil => simp [tsum, wsum]
    | cons l ls =>
      simp only [List.zipWith_cons_cons, List.map_cons, tsum, wsum]
      rw [(sumSampleEntry_as_coded E w l 0 (hw w (by simp)) (hl l (by simp))).2,
        ih ls (fun a ha => hw a (by simp [ha])) (fun a ha => hl a (by simp [ha]))]

/-- C07: at a sum node with positive weights `ws` whose children have positive values `ls`
on the input row, the law of the branch `np.argmax(scores, axis=1)` of `sum_sample` — scores = the GENERATED
`Gen.S4sumSampleEntry` of the stored log-values, the weights and the noise — is the exact conditional branch
probability `wᵢ·Lᵢ / Σⱼ wⱼ·Lⱼ` (`TCirc.branchPmf` at the node's value), the branch law `topDownPmf` uses.
The Gumbel-max step is the hypothesis `hGumbelMax_trusted` (see `ssGumbelMaxIdentity`; discharged over `ℝ` in
`SamplingFacts.e2e_sum_sample_branch_real`).  Proved here: the scores fed to that identity are `log(wᵢ·Lᵢ)` and their
soft-max is `branchPmf`. -/
theorem e2e_sum_sample_branch (E : ExpLog F) (argmaxLaw : List F → List F)
    (hGumbelMax_trusted : ssGumbelMaxIdentity E argmaxLaw)
    (ws ls : List F) (hw : ∀ w ∈ ws, 0 < w) (hl : ∀ l ∈ ls, 0 < l) :
    argmaxLaw (ssGenScore0 E ws ls) = branchPmf (wsum ws ls) ws ls := by
  rw [hGumbelMax_trusted, ssGenScore0_total E ws ls hw hl, branchPmf_as_coded E (wsum ws ls) ws ls hw hl]
  unfold ssGenScore0
  rw [List.map_zipWith]

/-- the frame of `sum_sample` / `sample` the statement above relies on, as extracted from the source: the noise is
`gumbel_r` with location 0 and scale 1, the selector is `argmax` along the children axis, leaves delegate to their own
`sample`, and the pass runs on the log-values of the INPUT rows (`Oblig.sum_sample_noise_is_standard_gumbel_r`,
`Struct4.sumSample_frame_as_coded`) -/
theorem e2e_sum_sample_branch_frame :
    Gen.sumSampleNoise = "gumbel_r" ∧ Gen.sumSampleNoiseLoc = 0 ∧ Gen.sumSampleNoiseScale = 1 ∧
    Gen.S4sumSampleSelector = "argmax" ∧ Gen.S4sumSampleAxis = some 1 ∧ Gen.S4leafSample = "node.sample(x)" :=
  ⟨Oblig.sum_sample_noise_is_standard_gumbel_r.1, Oblig.sum_sample_noise_is_standard_gumbel_r.2.1,
   Oblig.sum_sample_noise_is_standard_gumbel_r.2.2, sumSample_frame_as_coded.1, sumSample_frame_as_coded.2.1,
   sumSample_frame_as_coded.2.2.1⟩

/-- the pmf induced by `sample(root, x)` on a tree, one row, when every sum node draws its branch as coded: arg-max of
the GENERATED scores, whose law is `argmaxLaw` of the noise-free scores (`TCirc.topDownPmf` with the branch law
replaced; products and leaves as there) -/
def ssGenTopDownPmf (E : ExpLog F) (argmaxLaw : List F → List F) (e x : Ev) : TCirc F → F
  | .leaf _ _ _ cd => cd e x
  | .sum _ ws cs =>
      wsum (argmaxLaw (ssGenScore0 E ws (cs.map (fun c => Circ.eval e c.toCirc))))
           (cs.map (ssGenTopDownPmf E argmaxLaw e x))
  | .prod _ cs => lprod (cs.map (ssGenTopDownPmf E argmaxLaw e x))

/-- the positivity the log-domain scores need: at every sum node all weights are positive and every child has positive
value on the input row (`exp (log a) = a` is only available for `a > 0`; a child of value 0 has log-value `-inf`
in the source, which `ExpLog F` does not model) -/
def ssPos (e : Ev) : TCirc F → Prop
  | .leaf _ _ _ _ => True
  | .sum _ ws cs => (∀ w ∈ ws, 0 < w) ∧ (∀ c ∈ cs, 0 < Circ.eval e c.toCirc) ∧ ∀ c ∈ cs, ssPos e c
  | .prod _ cs => ∀ c ∈ cs, ssPos e c

/-- under the Gumbel-max hypothesis the pmf with the generated branch law is the model's `topDownPmf` -/
theorem ssGenTopDownPmf_eq (E : ExpLog F) (argmaxLaw : List F → List F)
    (hGumbelMax_trusted : ssGumbelMaxIdentity E argmaxLaw) (e x : Ev) :
    ∀ c : TCirc F, ssPos e c → ssGenTopDownPmf E argmaxLaw e x c = topDownPmf e x c := by
  intro c
  induction c using TCirc.ind with
  | hl s f m cd => intro _; simp only [ssGenTopDownPmf, topDownPmf]
  | hs s ws cs ih =>
    intro hp
    unfold ssPos at hp
    obtain ⟨hw, hl, hc⟩ := hp
    simp only [ssGenTopDownPmf, topDownPmf]
    rw [e2e_sum_sample_branch E argmaxLaw hGumbelMax_trusted ws _ hw
      (by intro l hl'; obtain ⟨c, hcm, rfl⟩ := List.mem_map.1 hl'; exact hl c hcm)]
    congr 1
    exact List.map_congr_left (fun c hcm => ih c hcm (hc c hcm))
  | hp s cs ih =>
    intro hp
    unfold ssPos at hp
    simp only [ssGenTopDownPmf, topDownPmf]
    congr 1
    exact List.map_congr_left (fun c hcm => ih c hcm (hp c hcm))

/-- C07: the sampler whose sum nodes draw the arg-max of the GENERATED scores draws from
the exact conditional distribution given the observed entries — `P_sampler(x | e) · value(e) = value(x)` for every
completion `x` of `e` on the root scope — **under the stated Gumbel-max hypothesis `hGumbelMax_trusted`** and the
positivity `ssPos e c` the log-domain scores need. -/
theorem e2e_sum_sample_branch_exact (E : ExpLog F) (argmaxLaw : List F → List F)
    (hGumbelMax_trusted : ssGumbelMaxIdentity E argmaxLaw)
    (dom : Nat → Nat) (c : TCirc F) (hv : Circ.Valid dom c.toCirc) (hn : NonNeg c) (hl : LeafExact c)
    (e x : Ev) (hpos : ssPos e c) (hx : Completes c.scope e x) :
    ssGenTopDownPmf E argmaxLaw e x c * eval e c = eval x c := by
  rw [ssGenTopDownPmf_eq E argmaxLaw hGumbelMax_trusted e x c hpos]
  exact C07.topDownPmf_exact dom c hv hn hl e x hx

/-! non-vacuity: a 2-child mixture of products of Bernoulli leaves over two binary variables, variable 1 observed -/

def ssExT : TCirc ℚ :=
  .sum [0, 1] [1/4, 3/4]
    [ .prod [0, 1] [bernT 0 [1/2, 1/2], bernT 1 [1/3, 2/3]],
      .prod [0, 1] [bernT 0 [1/5, 4/5], bernT 1 [9/10, 1/10]] ]
def ssExE : Ev := Ev.ofList [none, some 1]
def ssExX : Ev := Ev.ofList [some 0, some 1]

theorem ssExT_ok : TDOK (fun _ => 2) ssExT := by
  have hb : ∀ (v : Nat) (tbl : List ℚ), tbl.length = 2 → tsum tbl = 1 → (∀ x ∈ tbl, 0 ≤ x) →
      TDOK (fun _ => 2) (bernT v tbl) := fun v tbl hl hs h0 => bernT_ok (fun _ => 2) v tbl hl rfl hs h0
  -- a product of Bernoulli leaves over the variables 0 and 1
  have hp : ∀ t0 t1 : List ℚ, TDOK (fun _ => 2) (bernT 0 t0) → TDOK (fun _ => 2) (bernT 1 t1) →
      TDOK (fun _ => 2) (.prod [0, 1] [bernT 0 t0, bernT 1 t1]) := fun t0 t1 h0 h1 =>
    TDOK.prod _ _ _ (show [0, 1].Nodup by decide) (fun _ => Iff.rfl) (List.forall_mem_cons.2 ⟨h0, List.forall_mem_cons.2 ⟨h1, nofun⟩⟩)
  refine TDOK.sum _ _ _ _ (by decide) rfl (by decide +kernel)
    (List.forall_mem_cons.2 ⟨fun _ => Iff.rfl, List.forall_mem_cons.2 ⟨fun _ => Iff.rfl, nofun⟩⟩)
    (List.forall_mem_cons.2 ⟨hp _ _ ?_ ?_, List.forall_mem_cons.2 ⟨hp _ _ ?_ ?_, nofun⟩⟩)
  all_goals exact hb _ _ rfl (by decide +kernel) (by decide +kernel)

theorem ssExT_eval_e : eval ssExE ssExT = 29/120 := by
  simp only [ssExT, eval, toCirc, Circ.eval, wsum, lprod, bernT, Circ.catLeafFn, ssExE, Ev.ofList, List.map_cons,
    List.map_nil, List.getD_cons_zero, List.getD_cons_succ]
  norm_num

theorem ssExT_eval_x : eval ssExX ssExT = 59/600 := by
  simp only [ssExT, eval, toCirc, Circ.eval, wsum, lprod, bernT, Circ.catLeafFn, ssExX, Ev.ofList, List.map_cons,
    List.map_nil, List.getD_cons_zero, List.getD_cons_succ]
  norm_num

theorem ssExT_pos : ssPos ssExE ssExT := by
  unfold ssExT
  simp only [ssPos, List.mem_cons, List.not_mem_nil, or_false, forall_eq_or_imp, forall_eq, bernT, and_true]
  refine ⟨⟨by norm_num, by norm_num⟩, ?_, ?_⟩ <;>
    simp only [toCirc, Circ.eval, lprod, Circ.catLeafFn, ssExE, Ev.ofList, List.map_cons, List.map_nil,
      List.getD_cons_zero, List.getD_cons_succ] <;>
    norm_num

theorem ssExX_completes : Completes ssExT.scope ssExE ssExX :=
  ⟨fun v hv => match v, hv with
    | 0, hv => absurd rfl hv
    | 1, _ => rfl
    | _ + 2, hv => absurd rfl hv,
   by decide⟩

/-- the hypotheses about the circuit (validity, non-negativity, exact leaves, `ssPos`, `Completes`) hold on the witness
`ssExT`; the branch law at the root on the row `(·, 1)` is `(1/4·2/3, 3/4·1/10) / (29/120) = (20/29, 9/29)`, and the
exact conditional of the completion `(0, 1)` is `(1/4·1/2·2/3 + 3/4·1/5·1/10) / (29/120) = 59/145`.
The hypothesis `E : ExpLog ℚ` itself is unsatisfiable (`SamplingFacts.expLog_rat_empty`), so this example does not show
that ALL hypotheses can hold together; that witness is over the reals, in `Props/SamplingFacts.lean`. -/
example (E : ExpLog ℚ) (argmaxLaw : List ℚ → List ℚ) (hGumbelMax_trusted : ssGumbelMaxIdentity E argmaxLaw) :
    argmaxLaw (ssGenScore0 E [1/4, 3/4] [2/3, 1/10]) = [20/29, 9/29] ∧
    ssGenTopDownPmf E argmaxLaw ssExE ssExX ssExT * eval ssExE ssExT = eval ssExX ssExT ∧
    eval ssExE ssExT = 29/120 ∧ eval ssExX ssExT = 59/600 := by
  refine ⟨?_, ?_, ssExT_eval_e, ssExT_eval_x⟩
  · rw [e2e_sum_sample_branch E argmaxLaw hGumbelMax_trusted _ _ (by decide +kernel) (by decide +kernel)]
    decide +kernel
  · exact e2e_sum_sample_branch_exact E argmaxLaw hGumbelMax_trusted (fun _ => 2) ssExT ssExT_ok.1 ssExT_ok.2.2.1
      ssExT_ok.2.2.2.2 ssExE ssExX ssExT_pos ssExX_completes

end ss

end sumSample

end Deeprob.E2E
