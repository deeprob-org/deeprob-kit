import DeeprobModel.Lemmas.CltLemmas
import DeeprobModel.Lemmas.CltMpe
import DeeprobModel.Lemmas.CltExample
/-
Property theorems about binary Chow-Liu trees (deeprob/spn/structure/cltree.py): C02 (marginals,
batch split), C06 (MPE), C07 (conditional sampling), C12 (conversion `to_pc`).
`lab scope t = t.vars.map (fun i => scope.getD i 0)` is the list of variable ids of the tree `t`
of local indices.  A general theorem is followed by a non-vacuity example on the 4-variable tree of
`Lemmas/CltExample.lean` (variable ids 7 → {2 → {4}, 9}, rational tables, variable 2 observed);
`maxOver_upper_bound`, which is not about trees, has its example on the single variable 7, and
`root_rows_needed`, `old_clt_sampler_wrong`, `old_clt_sampler_wrong_child` are themselves statements
about concrete 2- and 3-variable trees.
`samplePmf` mirrors `BinaryCLT.sample` as it is in the library today (commit 8801abf: it draws from the
normalised local conditionals); `oldRootParam` / `oldChildParam` are the formulas `sample` used in the
library as received (commit ccdc3a1).
-/
namespace Deeprob
namespace Clt

section semiring
variable {α : Type} [CommSemiring α]

/-- **C12, exactness**: the circuit built by `to_pc` evaluates to the upward message of
`message_passing` under every evidence (complete, partial, empty): the conversion is exact on every
complete and marginal query. -/
theorem pc_eval (scope : List Nat) (cpt : List (List (List α))) (t : RTree) (l : Nat) (e : Ev) :
    Circ.eval e (pc scope cpt t l) = up scope cpt t l e :=
  pc_eval_lem scope cpt t l e

example : Circ.eval Ex.ev (pc Ex.scope Ex.cpt Ex.tree 0) = up Ex.scope Ex.cpt Ex.tree 0 Ex.ev ∧
    up Ex.scope Ex.cpt Ex.tree 0 Ex.ev = 13 / 25 := by
  refine ⟨pc_eval _ _ _ _ _, ?_⟩
  rw [up_eq_upE]; decide +kernel

/-- **C12, validity**: over pairwise distinct binary variables the circuit built by `to_pc` is smooth
and decomposable and its (indicator) leaves are distributions. -/
theorem pc_valid (dom : Nat → Nat) (scope : List Nat) (cpt : List (List (List α))) (t : RTree) (l : Nat)
    (hnd : (t.vars.map (fun i => scope.getD i 0)).Nodup)
    (hdom : ∀ v ∈ t.vars.map (fun i => scope.getD i 0), dom v = 2) :
    Circ.Valid dom (pc scope cpt t l) :=
  pc_valid_lem dom scope cpt t l hnd hdom

example : Circ.Valid (fun _ => 2) (pc Ex.scope Ex.cpt Ex.tree 0) :=
  pc_valid (fun _ => 2) _ _ _ _ Ex.lab_nodup (fun _ _ => rfl)

/-- **C12 for the object `to_pc` returns** (`pos_buffer[0]`: the root sum with the weights of row 1 of
the root's table): it evaluates to the CLT's own value (`value`, root row 0) under every evidence,
provided the two rows of the root's table are equal; it is valid over distinct binary scope variables. -/
theorem toPc_eval (dom : Nat → Nat) (scope : List Nat) (pred : List Int) (cpt : List (List (List α))) (r : Nat)
    (hr : rootOf pred = some r) (hroot : ∀ k, cptAt cpt r 0 k = cptAt cpt r 1 k) :
    (∀ e : Ev, Circ.eval e (toPc scope pred cpt) = value scope pred cpt e) ∧
    (isTree pred = true → scope.length = pred.length → scope.Nodup → (∀ v ∈ scope, dom v = 2) →
      Circ.Valid dom (toPc scope pred cpt)) := by
  refine ⟨fun e => ?_, fun htree hlen hnd hdom => ?_⟩
  · simp only [toPc, value, hr]
    rw [pc_eval]
    exact up_build_root_row scope cpt pred _ r e hroot
  · obtain ⟨r', hr', hp⟩ := isTree_lab_perm scope htree hlen
    simp only [toPc, hr']
    exact pc_valid_lem dom scope cpt _ 1 (hp.nodup_iff.2 hnd) (fun v hv => hdom v (hp.mem_iff.1 hv))

example : (∀ e : Ev, Circ.eval e (toPc Ex.scope Ex.pred Ex.cpt) = value Ex.scope Ex.pred Ex.cpt e) ∧
    Circ.Valid (fun _ => 2) (toPc Ex.scope Ex.pred Ex.cpt) :=
  let h := toPc_eval (fun _ => 2) Ex.scope Ex.pred Ex.cpt 0 Ex.root_eq (Ex.root_rows 0 Ex.root_eq)
  ⟨h.1, h.2 Ex.isTree_eq Ex.scope_len Ex.scope_nodup (fun _ _ => rfl)⟩

/-- the scope stored at the root of `to_pc`'s circuit lists exactly the variables of the tree -/
theorem pc_scope_perm (scope : List Nat) (cpt : List (List (List α))) (t : RTree) (l : Nat) :
    (Circ.scope (pc scope cpt t l)).Perm (lab scope t) := by
  rw [pc_scope]; exact pcScope_perm scope t

example : Circ.scope (pc Ex.scope Ex.cpt Ex.tree 0) = [7, 9, 2, 4] := by
  rw [pc_scope]; simp [Ex.tree, Ex.scope, pcScope]

/-- **C02 for CLTs**: the message-passing value under any evidence equals the explicit sum, over all
completions of the missing variables of the sub-tree, of the message-passing values (from `Circ.marg`
applied to `to_pc`; any commutative semiring). -/
theorem up_marg (dom : Nat → Nat) (scope : List Nat) (cpt : List (List (List α))) (t : RTree) (l : Nat)
    (hnd : (lab scope t).Nodup) (hdom : ∀ v ∈ lab scope t, dom v = 2) (e : Ev) :
    up scope cpt t l e = sumOver dom (lab scope t) e (fun e' => up scope cpt t l e') :=
  up_marg_lem dom scope cpt t l hnd hdom e

example : up Ex.scope Ex.cpt Ex.tree 0 Ex.ev =
    sumOver (fun _ => 2) [7, 2, 4, 9] Ex.ev (fun e' => up Ex.scope Ex.cpt Ex.tree 0 e') := by
  rw [← Ex.lab_eq]; exact up_marg (fun _ => 2) _ _ _ _ Ex.lab_nodup (fun _ _ => rfl) _

/-- a CLT sub-tree is a distribution over its variables in the sense `Circ.Valid` asks of a leaf -/
theorem clt_leafOK (dom : Nat → Nat) (scope : List Nat) (cpt : List (List (List α))) (t : RTree) (l : Nat)
    (hnd : (lab scope t).Nodup) (hdom : ∀ v ∈ lab scope t, dom v = 2) :
    LeafOK dom (lab scope t) (up scope cpt t l) :=
  clt_leafOK_lem dom scope cpt t l hnd hdom

example : LeafOK (fun _ => 2) [7, 2, 4, 9] (up Ex.scope Ex.cpt Ex.tree 0) := by
  rw [← Ex.lab_eq]; exact clt_leafOK (fun _ => 2) _ _ _ _ Ex.lab_nodup (fun _ => fun _ => rfl)

/-- the whole `BinaryCLT` leaf (`value`, what `log_likelihood` computes on rows with NaNs): for a
well-formed predecessor vector and pairwise distinct binary scope variables it is a distribution over
its scope — so it can sit as a leaf of a valid circuit and `Circ.marg` goes through it. -/
theorem value_leafOK (dom : Nat → Nat) (scope : List Nat) (pred : List Int) (cpt : List (List (List α)))
    (htree : isTree pred = true) (hlen : scope.length = pred.length) (hnd : scope.Nodup)
    (hdom : ∀ v ∈ scope, dom v = 2) : LeafOK dom scope (value scope pred cpt) :=
  Clt.value_leafOK_lem dom scope pred cpt htree hlen hnd hdom

example : LeafOK (fun _ => 2) Ex.scope (value Ex.scope Ex.pred Ex.cpt) :=
  value_leafOK _ _ _ _ Ex.isTree_eq Ex.scope_len Ex.scope_nodup (fun _ _ => rfl)

/-- **C02 for the whole CLT**: NaN-marginal = sum over completions of the scope -/
theorem value_marg (dom : Nat → Nat) (scope : List Nat) (pred : List Int) (cpt : List (List (List α)))
    (htree : isTree pred = true) (hlen : scope.length = pred.length) (hnd : scope.Nodup)
    (hdom : ∀ v ∈ scope, dom v = 2) (e : Ev) :
    value scope pred cpt e = sumOver dom scope e (fun e' => value scope pred cpt e') :=
  ((value_leafOK dom scope pred cpt htree hlen hnd hdom).marg e).symm

example : value Ex.scope Ex.pred Ex.cpt Ex.ev =
    sumOver (fun _ => 2) Ex.scope Ex.ev (fun e' => value Ex.scope Ex.pred Ex.cpt e') :=
  value_marg _ _ _ _ Ex.isTree_eq Ex.scope_len Ex.scope_nodup (fun _ _ => rfl) _

/-- **normalisation**: if every CPT row of the sub-tree sums to one, the message with nothing observed
is one, and (distinct binary variables) the complete-evidence values sum to one over `{0,1}^n`. -/
theorem up_normalised (dom : Nat → Nat) (scope : List Nat) (cpt : List (List (List α))) (t : RTree) (l : Nat)
    (hl : l < 2) (hrows : ∀ i ∈ t.vars, ∀ l < 2, cptAt cpt i l 0 + cptAt cpt i l 1 = 1) :
    up scope cpt t l (fun _ => none) = 1 ∧
    ((lab scope t).Nodup → (∀ v ∈ lab scope t, dom v = 2) →
      sumOver dom (lab scope t) (fun _ => none) (fun x => up scope cpt t l x) = 1) := by
  refine ⟨up_all_missing scope cpt t l hl hrows, fun hnd hdom => ?_⟩
  rw [← up_marg dom scope cpt t l hnd hdom]
  exact up_all_missing scope cpt t l hl hrows

example : up Ex.scope Ex.cpt Ex.tree 0 (fun _ => none) = 1 ∧
    sumOver (fun _ => 2) (lab Ex.scope Ex.tree) (fun _ => none) (fun x => up Ex.scope Ex.cpt Ex.tree 0 x) = 1 :=
  let h := up_normalised (fun _ => 2) Ex.scope Ex.cpt Ex.tree 0 (by omega) Ex.rows
  ⟨h.1, h.2 Ex.lab_nodup (fun _ _ => rfl)⟩

/-- complete evidence, RTree form: message passing returns the product of the selected CPT entries -/
theorem up_complete_eq_treeJoint (scope : List Nat) (cpt : List (List (List α))) (x : Nat → Nat) (t : RTree) (l : Nat) :
    up scope cpt t l (fun v => some (x v)) = treeJoint scope cpt x t l := by
  induction t using RTree.ind generalizing l with
  | node i cs ih =>
    rw [up_obs scope cpt i cs l (e := fun v => some (x v)) rfl, treeJoint, List.map_congr_left (fun c hc => ih c hc _)]

example : up Ex.scope Ex.cpt Ex.tree 0 (fun v => some (if v = 7 then 1 else 0)) = 189 / 2000 := by
  rw [up_eq_upE]; decide +kernel

/-- **C02, batch split**: on a complete binary row the vectorised full-evidence path of
`log_likelihood` (`joint`: `Σ params[vs, x[:, tree], x[:, vs]]`, where the root reads the row selected by
the last column, NumPy index `-1`) and the message-passing path (`value`, root row 0) agree.
Structural hypothesis: `isTree pred = true` (exactly one `-1`, and the unfolding `build pred n r` from it
lists `n` indices covering `0..n-1`); parameter hypothesis: the two rows of the root's table are equal
(what `compute_clt_parameters`, `em_init` and `em_step` establish).  Hence mixing complete and
incomplete rows in one batch cannot change a row's value. -/
theorem joint_eq_up (scope : List Nat) (pred : List Int) (cpt : List (List (List α))) (x : Nat → Nat)
    (htree : isTree pred = true)
    (hroot : ∀ r, rootOf pred = some r → ∀ k, cptAt cpt r 0 k = cptAt cpt r 1 k)
    (hx : ∀ i < pred.length, x (scope.getD i 0) < 2) :
    joint scope pred cpt x = value scope pred cpt (fun v => some (x v)) := by
  obtain ⟨r, hr, hperm⟩ := isTree_perm htree
  have hpos : 0 < pred.length := by
    have hmem : r ∈ (build pred pred.length r).vars := by rw [vars_build]; exact List.mem_cons_self
    exact Nat.lt_of_le_of_lt (Nat.zero_le r) (List.mem_range.1 (hperm.mem_iff.1 hmem))
  rw [joint_eq_lprod, ← lprod_perm (hperm.map _), value, hr]
  simp only
  rw [up_complete_eq_treeJoint, treeJoint_build, vars_build pred pred.length r, List.map_cons, lprod, List.tail_cons]
  congr 1
  unfold jointFactor
  rw [rootOf_spec hr]
  simp only [show ((-1 : Int) < 0) = True from by simp, if_true]
  obtain h | h : x (scope.getD (pred.length - 1) 0) = 0 ∨ x (scope.getD (pred.length - 1) 0) = 1 := by
    have := hx (pred.length - 1) (by omega); omega
  · rw [h]
  · rw [h]; exact (hroot r hr _).symm

example : joint Ex.scope Ex.pred Ex.cpt (fun v => if v = 7 then 1 else 0)
    = value Ex.scope Ex.pred Ex.cpt (fun v => some (if v = 7 then 1 else 0)) :=
  joint_eq_up _ _ _ _ Ex.isTree_eq Ex.root_rows (fun i _ => by split <;> omega)

/-- the hypothesis "the two rows of the root's table are equal" of `joint_eq_up` / `toPc_eval` is needed:
the constructor of `BinaryCLT` only checks that every row sums to one, and for the 2-variable tree `3 → 8`
with root rows `(1/2, 1/2)`, `(1/4, 3/4)` the complete row `X₃ = 0, X₈ = 1` gets `1/40` on the vectorised
path (root row selected by the last column) and `1/20` by message passing, while `to_pc` evaluates to `1/40`. -/
theorem root_rows_needed :
    let scope : List Nat := [3, 8]
    let pred : List Int := [-1, 0]
    let cpt : List (List (List ℚ)) := [[[1/2, 1/2], [1/4, 3/4]], [[9/10, 1/10], [1/5, 4/5]]]
    let x : Nat → Nat := fun v => if v = 8 then 1 else 0
    isTree pred = true ∧ joint scope pred cpt x = 1 / 40 ∧ value scope pred cpt (fun v => some (x v)) = 1 / 20 ∧
    Circ.eval (fun v => some (x v)) (toPc scope pred cpt) = 1 / 40 := by
  intro scope pred cpt x
  have hr : rootOf pred = some 0 := by rfl
  have hb : build pred pred.length 0 = .node 0 [.node 1 []] := by rfl
  refine ⟨?_, by decide +kernel, ?_, ?_⟩
  · simp only [isTree, hr, hb]
    simp [RTree.vars, pred]
    omega
  · simp only [value, hr, hb, up_eq_upE]
    decide +kernel
  · simp only [toPc, hr, hb, pc_eval, up_eq_upE]
    decide +kernel

/-- **C12, structured decomposability**: the scopes stored at the product nodes of `to_pc`'s circuit are
exactly the scopes `pcScope u` of the inner sub-trees `u` (each a permutation of the variable set of `u`),
and, over pairwise distinct variables, they form a laminar family (pairwise nested or disjoint). -/
theorem pc_structured (scope : List Nat) (cpt : List (List (List α))) (t : RTree) (l : Nat) :
    (∀ s, s ∈ Circ.prodScopes (pc scope cpt t l) ↔ ∃ u ∈ t.subtrees, u.kids ≠ [] ∧ s = pcScope scope u) ∧
    (∀ u, (pcScope scope u).Perm (lab scope u)) ∧
    ((lab scope t).Nodup → Laminar (Circ.prodScopes (pc scope cpt t l))) :=
  ⟨fun s => mem_prodScopes_pc scope cpt s t l, pcScope_perm scope, fun hnd => by
    unfold Laminar
    apply List.pairwise_of_forall_mem_list
    intro a ha b hb
    obtain ⟨u1, hu1, _, rfl⟩ := (mem_prodScopes_pc scope cpt a t l).1 ha
    obtain ⟨u2, hu2, _, rfl⟩ := (mem_prodScopes_pc scope cpt b t l).1 hb
    have p1 := fun v => (pcScope_perm scope u1).mem_iff (a := v)
    have p2 := fun v => (pcScope_perm scope u2).mem_iff (a := v)
    simp only [p1, p2]
    exact subtrees_laminar scope t hnd u1 hu1 u2 hu2⟩

example : Circ.prodScopes (pc Ex.scope Ex.cpt Ex.tree 0) =
      [[7, 9, 2, 4], [2, 4], [2, 4], [7, 9, 2, 4], [2, 4], [2, 4]] ∧
    Laminar (Circ.prodScopes (pc Ex.scope Ex.cpt Ex.tree 0)) := by
  refine ⟨?_, (pc_structured _ _ _ _).2.2 Ex.lab_nodup⟩
  simp [pc, Ex.tree, Ex.scope, Circ.mkSum, Circ.mkProd, Circ.prodScopes, Circ.catLeaf, Circ.scope]

/-- `get_scopes` returns the same family: one list per inner sub-tree, a permutation of its variable set
(hence of the scope stored at the corresponding product nodes of `to_pc`). -/
theorem get_scopes_spec (scope : List Nat) (cpt : List (List (List α))) (t : RTree) (l : Nat) :
    (∀ s, s ∈ getScopes scope t ↔ ∃ u ∈ t.subtrees, u.kids ≠ [] ∧ s = getScopeTop scope u) ∧
    (∀ s ∈ getScopes scope t, ∃ s' ∈ Circ.prodScopes (pc scope cpt t l), s.Perm s') ∧
    (∀ s' ∈ Circ.prodScopes (pc scope cpt t l), ∃ s ∈ getScopes scope t, s.Perm s') := by
  refine ⟨fun s => mem_getScopes scope s t, ?_, ?_⟩
  · intro s hs
    obtain ⟨u, hu, hk, rfl⟩ := (mem_getScopes scope s t).1 hs
    exact ⟨pcScope scope u, (mem_prodScopes_pc scope cpt _ t l).2 ⟨u, hu, hk, rfl⟩,
      (getScopeTop_perm scope u).trans (pcScope_perm scope u).symm⟩
  · intro s' hs'
    obtain ⟨u, hu, hk, rfl⟩ := (mem_prodScopes_pc scope cpt s' t l).1 hs'
    exact ⟨getScopeTop scope u, (mem_getScopes scope _ t).2 ⟨u, hu, hk, rfl⟩,
      (getScopeTop_perm scope u).trans (pcScope_perm scope u).symm⟩

example : getScopes Ex.scope Ex.tree = [[4, 2], [9, 4, 2, 7]] := by
  simp [getScopes, getScopeTop, Ex.tree, Ex.scope]

/-- **C12, determinism**: on evidence that observes every variable of the tree, at most one child of
every sum node of `to_pc`'s circuit evaluates to a non-zero value (the two children carry
contradictory indicators). -/
theorem pc_deterministic (scope : List Nat) (cpt : List (List (List α))) (e : Ev) (t : RTree) (l : Nat)
    (hcomplete : ∀ v ∈ lab scope t, e v ≠ none) : Circ.DetAt e (pc scope cpt t l) := by
  induction t using RTree.ind generalizing l with
  | node i cs ih =>
    have hb : ∀ k, Circ.DetAt e (pcBranch scope cpt (scope.getD i 0) cs k) := fun k =>
      detAt_pcBranch e scope cpt _ cs k
        (fun c hc => ih c hc k (fun v hv => hcomplete v (lab_child_sub scope i cs c hc v hv)))
    obtain ⟨o, ho⟩ := Option.ne_none_iff_exists'.1 (hcomplete _ (root_mem_lab scope i cs))
    rw [pc_node]
    refine Circ.mkSum_pair_detAt e _ ?_ (hb 0) (hb 1)
    rw [eval_pcBranch, eval_pcBranch]
    rcases indicator_contra (α := α) _ o e ho with h0 | h1
    · left; rw [h0, zero_mul]
    · right; rw [h1, zero_mul]

example : Circ.DetAt Ex.full (pc Ex.scope Ex.cpt Ex.tree 0) :=
  pc_deterministic _ _ _ _ _ Ex.full_fill

end semiring

section field
variable {α : Type} [Field α]

/-- **C07, exactness of the CLT sampler** (`BinaryCLT.sample` of today's library; division-free): for every completion `X` of the
evidence `e` (agrees with `e` where `e` is observed, observes every variable of the tree), the
probability `samplePmf` of drawing `X` times the marginal of `e` is the joint value of `X`, provided the
marginals the sampler divides by along the path of `X` are non-zero (`SampleDefined`). -/
theorem samplePmf_exact (scope : List Nat) (cpt : List (List (List α))) (t : RTree) (l : Nat) (e X : Ev)
    (hagree : ∀ v, e v ≠ none → X v = e v) (hfill : ∀ v ∈ lab scope t, X v ≠ none)
    (hd : SampleDefined scope cpt t l e (fun v => (X v).getD 0)) :
    samplePmf scope cpt t l e (fun v => (X v).getD 0) * up scope cpt t l e = up scope cpt t l X := by
  rw [samplePmf_exact_fill scope cpt e _ t l hd]
  apply up_congr
  intro v hv
  unfold Ev.fill
  cases h : e v with
  | some o => simp only; rw [← h, hagree v (by simp [h])]
  | none =>
    obtain ⟨k, hk⟩ := Option.ne_none_iff_exists'.1 (hfill v hv)
    simp [hk]

example : samplePmf Ex.scope Ex.cpt Ex.tree 0 Ex.ev (fun v => (Ex.full v).getD 0) * up Ex.scope Ex.cpt Ex.tree 0 Ex.ev
    = up Ex.scope Ex.cpt Ex.tree 0 Ex.full :=
  samplePmf_exact _ _ _ _ _ _ Ex.full_agree Ex.full_fill
    (sampleDefined_of_pos _ _ _ _ _ _ (by omega) Ex.cpt_pos Ex.ev_obs Ex.full_lt)

/-- the same for the whole tree (`value`, `samplePmfTree`) -/
theorem samplePmf_exact_value (scope : List Nat) (pred : List Int) (cpt : List (List (List α))) (r : Nat)
    (hr : rootOf pred = some r) (e X : Ev)
    (hagree : ∀ v, e v ≠ none → X v = e v) (hfill : ∀ v ∈ lab scope (build pred pred.length r), X v ≠ none)
    (hd : SampleDefined scope cpt (build pred pred.length r) 0 e (fun v => (X v).getD 0)) :
    samplePmfTree scope pred cpt e (fun v => (X v).getD 0) * value scope pred cpt e = value scope pred cpt X := by
  simp only [samplePmfTree, value, hr]
  exact samplePmf_exact scope cpt _ 0 e X hagree hfill hd

example : samplePmfTree Ex.scope Ex.pred Ex.cpt Ex.ev (fun v => (Ex.full v).getD 0) * value Ex.scope Ex.pred Ex.cpt Ex.ev
    = value Ex.scope Ex.pred Ex.cpt Ex.full :=
  samplePmf_exact_value _ _ _ 0 Ex.root_eq _ _ Ex.full_agree (by rw [Ex.build_eq]; exact Ex.full_fill)
    (by rw [Ex.build_eq]
        exact sampleDefined_of_pos _ _ _ _ _ _ (by omega) Ex.cpt_pos Ex.ev_obs Ex.full_lt)

end field

section ordfield
variable {α : Type} [Field α] [LinearOrder α] [IsStrictOrderedRing α]

/-- with strictly positive tables and binary evidence no division by zero can occur: the sampler is
exact for every binary completion -/
theorem samplePmf_exact_pos (scope : List Nat) (cpt : List (List (List α))) (t : RTree) (l : Nat) (hl : l < 2)
    (hpos : ∀ i ∈ t.vars, ∀ l < 2, ∀ k < 2, 0 < cptAt cpt i l k) (e X : Ev)
    (hobs : ∀ v ∈ lab scope t, ∀ o, e v = some o → o < 2)
    (hagree : ∀ v, e v ≠ none → X v = e v) (hfill : ∀ v ∈ lab scope t, X v ≠ none)
    (hX : ∀ v ∈ lab scope t, (X v).getD 0 < 2) :
    samplePmf scope cpt t l e (fun v => (X v).getD 0) * up scope cpt t l e = up scope cpt t l X ∧
    up scope cpt t l e ≠ 0 :=
  ⟨samplePmf_exact scope cpt t l e X hagree hfill
      (sampleDefined_of_pos scope cpt e _ t l hl hpos hobs hX),
    ne_of_gt (up_pos scope cpt e t l hl hpos hobs)⟩

example : (samplePmf Ex.scope Ex.cpt Ex.tree 0 Ex.ev (fun v => (Ex.full v).getD 0) * up Ex.scope Ex.cpt Ex.tree 0 Ex.ev
    = up Ex.scope Ex.cpt Ex.tree 0 Ex.full) ∧ up Ex.scope Ex.cpt Ex.tree 0 Ex.ev ≠ 0 :=
  samplePmf_exact_pos _ _ _ _ (by omega) Ex.cpt_pos _ _ Ex.ev_obs Ex.full_agree Ex.full_fill Ex.full_lt

end ordfield

/-- **C07, the sampler of the library as received is wrong (root)**: 2-variable tree `3 → 8`, root prior `(3/5, 2/5)`, child
table `P(X₈=1|X₃=0) = 1/10`, `P(X₈=1|X₃=1) = 4/5`, evidence `X₈ = 1`.  The Bernoulli parameter that
`sample` used for the root, `exp(params[root,0,1] + messages[root,·,1])`, is `8/25`; the true conditional
`P(X₃=1 | X₈=1)`, which the normalised local conditional of today's `sample` returns, is `16/19`. -/
theorem old_clt_sampler_wrong :
    let scope : List Nat := [3, 8]
    let cpt : List (List (List ℚ)) := [[[3/5, 2/5], [3/5, 2/5]], [[9/10, 1/10], [1/5, 4/5]]]
    let t : RTree := .node 0 [.node 1 []]
    let e : Ev := fun v => if v = 8 then some 1 else none
    oldRootParam scope cpt 0 [.node 1 []] e = 8 / 25 ∧
    localCond scope cpt 0 [.node 1 []] 0 1 e = 16 / 19 ∧
    up scope cpt t 0 (e.set 3 1) / up scope cpt t 0 e = 16 / 19 ∧
    oldRootParam scope cpt 0 [.node 1 []] e ≠ up scope cpt t 0 (e.set 3 1) / up scope cpt t 0 e := by
  simp only [oldRootParam, localCond, up_eq_upE, msgAt_eq_upsE]
  decide +kernel

/-- **C07, the sampler of the library as received is wrong (inner variable)**: chain `3 → 8 → 5`, evidence `X₃ = 0, X₅ = 1`,
`X₈` missing.  That code used `exp(params[j, pa, 1] + messages[j, ·, pa])` (the message indexed by the
parent's value `pa = 0`): `1/2 · 1/10 = 1/20`; the true conditional `P(X₈=1 | X₃=0, X₅=1)` is `8/9`. -/
theorem old_clt_sampler_wrong_child :
    let scope : List Nat := [3, 8, 5]
    let cpt : List (List (List ℚ)) :=
      [[[3/5, 2/5], [3/5, 2/5]], [[1/2, 1/2], [1/5, 4/5]], [[9/10, 1/10], [1/5, 4/5]]]
    let e : Ev := fun v => if v = 3 then some 0 else if v = 5 then some 1 else none
    oldChildParam scope cpt 1 [.node 2 []] 0 e = 1 / 20 ∧
    localCond scope cpt 1 [.node 2 []] 0 1 e = 8 / 9 ∧
    up scope cpt (.node 0 [.node 1 [.node 2 []]]) 0 (e.set 8 1) / up scope cpt (.node 0 [.node 1 [.node 2 []]]) 0 e = 8 / 9 := by
  simp only [oldChildParam, localCond, up_eq_upE, msgAt_eq_upsE]
  decide +kernel

section mpe
variable {α : Type} [CommSemiring α] [LinearOrder α] [IsStrictOrderedRing α]

/-- **max-product message passing = max over completions**: `upMax` (the `reduce='mpe'` messages) is
`up` at the max-times carrier, and there `up_marg` makes it the completion "sum",
i.e. the maximum over all completions of the missing variables; in particular it dominates the value
of every completion. -/
theorem up_max_eq_maxOver (scope : List Nat) (cpt : List (List (List α))) (hc : ∀ i l k, 0 ≤ cptAt cpt i l k)
    (t : RTree) (l : Nat) (hnd : (lab scope t).Nodup) (e : Ev) :
    upMax scope cpt t l e
        = (sumOver (fun _ => 2) (lab scope t) e (fun e' => up scope (liftCpt cpt) t l e')).val ∧
    (∀ X : Ev, (∀ v ∈ lab scope t, X v ≠ none) → (up scope (liftCpt cpt) t l X).val = up scope cpt t l X) ∧
    (∀ X : Ev, (∀ v ∈ lab scope t, e v ≠ none → X v = e v) →
        (∀ v ∈ lab scope t, e v = none → ∃ k, k < 2 ∧ X v = some k) →
        up scope cpt t l X ≤ upMax scope cpt t l e) := by
  refine ⟨?_, ?_, ?_⟩
  · rw [upMax_eq_val scope cpt hc, ← up_maxTimes_marg scope (liftCpt cpt) t l hnd e]
  · intro X hX; exact (up_complete_val scope cpt hc t l X hX).symm
  · intro X h1 h2; exact up_le_upMax scope cpt hc t l hnd e X h1 h2

example : upMax Ex.scope Ex.cpt Ex.tree 0 Ex.ev
    = (sumOver (fun _ => 2) (lab Ex.scope Ex.tree) Ex.ev (fun e' => up Ex.scope (liftCpt Ex.cpt) Ex.tree 0 e')).val :=
  (up_max_eq_maxOver Ex.scope Ex.cpt Ex.cpt_nonneg Ex.tree 0 Ex.lab_nodup Ex.ev).1

/-- at the max-times carrier the completion "sum" is an upper bound of the values at all completions -/
theorem maxOver_upper_bound (dom : Nat → Nat) (S : List Nat) (f : Ev → MaxTimes α) (e X : Ev)
    (h : CompletesIn dom S e X) : (f X).val ≤ (sumOver dom S e f).val :=
  maxOver_ge dom S f e X h

example : (MaxTimes.ofVal (if (Ev.set (fun _ => none) 7 1) 7 = some 1 then (3 : ℚ) else 1)).val
    ≤ (sumOver (fun _ => 2) [7] (fun _ => none)
        (fun X : Ev => MaxTimes.ofVal (if X 7 = some 1 then (3 : ℚ) else 1))).val := by
  apply maxOver_upper_bound (fun _ => 2) [7] (fun X : Ev => MaxTimes.ofVal (if X 7 = some 1 then (3 : ℚ) else 1))
    (fun _ => none) (Ev.set (fun _ => none) 7 1)
  refine ⟨fun w hw => ?_, fun v hv _ => ⟨1, by show 1 < 2; omega, ?_⟩⟩
  · rcases hw with hw | hw
    · exact Ev.set_ne _ 1 (by simpa using hw)
    · exact absurd rfl hw
  · have : v = 7 := by simpa using hv
    subst this; exact Ev.set_self _ 7 1

/-- **C06**: `mpe` leaves observed entries untouched (any tree, any tables, any labels) -/
theorem decode_keeps_observed (scope : List Nat) (cpt : List (List (List α))) (t : RTree) (l : Nat) (e : Ev)
    (w o : Nat) (h : e w = some o) : decode scope cpt t l e w = some o := by
  unfold decode
  rcases over_cases (decodeList scope cpt t l e) e w with ⟨k, hk, hov⟩ | ⟨_, hov⟩
  · have : k = o := decodeList_obs scope cpt e t l (w, k) hk o h
    rw [hov, this]
  · rw [hov, h]

example : decode Ex.scope Ex.cpt Ex.tree 0 Ex.ev 2 = some 1 :=
  decode_keeps_observed _ _ _ _ _ 2 1 (by simp [Ex.ev])

/-- **C06**: `mpe` gives a value to every variable of the tree — a value `< 2` when the observed
entries of the tree are binary — and changes nothing outside the tree -/
theorem decode_fills_all (scope : List Nat) (cpt : List (List (List α))) (t : RTree) (l : Nat) (e : Ev) :
    (∀ w ∈ lab scope t, ∃ k, decode scope cpt t l e w = some k ∧
        ((∀ v ∈ lab scope t, ∀ o, e v = some o → o < 2) → k < 2)) ∧
    (∀ w, w ∉ lab scope t → decode scope cpt t l e w = e w) :=
  ⟨fun w h => by
    unfold decode
    rcases over_cases (decodeList scope cpt t l e) e w with ⟨k, hk, hov⟩ | ⟨hnk, _⟩
    · exact ⟨k, hov, fun hb => decodeList_lt2 scope cpt e t l hb (w, k) hk⟩
    · rw [decodeList_keys] at hnk; exact absurd h hnk,
   fun w h => by
    unfold decode
    exact over_not_key _ e w (by rwa [decodeList_keys])⟩

example : ∀ w ∈ [7, 2, 4, 9], ∃ k, decode Ex.scope Ex.cpt Ex.tree 0 Ex.ev w = some k ∧ k < 2 := by
  intro w hw
  rw [← Ex.lab_eq] at hw
  obtain ⟨k, hk, hlt⟩ := (decode_fills_all Ex.scope Ex.cpt Ex.tree 0 Ex.ev).1 w hw
  exact ⟨k, hk, hlt Ex.ev_obs⟩

/-- **C06, exactness on Chow-Liu trees**: for non-negative tables over pairwise distinct variables, the
joint value of the row completed by the decoding pass of `mpe` equals the max-product value, i.e. the
maximum over all completions of the evidence: it is at least the value of every completion. -/
theorem decode_attains_max (scope : List Nat) (cpt : List (List (List α))) (hc : ∀ i l k, 0 ≤ cptAt cpt i l k)
    (t : RTree) (l : Nat) (hnd : (lab scope t).Nodup) (e : Ev) :
    up scope cpt t l (decode scope cpt t l e) = upMax scope cpt t l e ∧
    up scope cpt t l (decode scope cpt t l e)
        = (sumOver (fun _ => 2) (lab scope t) e (fun e' => up scope (liftCpt cpt) t l e')).val ∧
    (∀ X : Ev, (∀ v ∈ lab scope t, e v ≠ none → X v = e v) →
        (∀ v ∈ lab scope t, e v = none → ∃ k, k < 2 ∧ X v = some k) →
        up scope cpt t l X ≤ up scope cpt t l (decode scope cpt t l e)) := by
  have h := decode_attains scope cpt hc e t l hnd
  refine ⟨h, ?_, ?_⟩
  · rw [h]; exact (up_max_eq_maxOver scope cpt hc t l hnd e).1
  · intro X h1 h2; rw [h]; exact up_le_upMax scope cpt hc t l hnd e X h1 h2

example : up Ex.scope Ex.cpt Ex.tree 0 (decode Ex.scope Ex.cpt Ex.tree 0 Ex.ev) = upMax Ex.scope Ex.cpt Ex.tree 0 Ex.ev ∧
    up Ex.scope Ex.cpt Ex.tree 0 Ex.full ≤ up Ex.scope Ex.cpt Ex.tree 0 (decode Ex.scope Ex.cpt Ex.tree 0 Ex.ev) :=
  let h := decode_attains_max Ex.scope Ex.cpt Ex.cpt_nonneg Ex.tree 0 Ex.lab_nodup Ex.ev
  ⟨h.1, h.2.2 Ex.full (fun v _ hv => Ex.full_agree v hv) Ex.full_mis⟩

/-- the whole tree: `value (mpe e)` dominates `value X` for every binary completion `X` of `e` -/
theorem mpe_attains_max (scope : List Nat) (pred : List Int) (cpt : List (List (List α)))
    (hc : ∀ i l k, 0 ≤ cptAt cpt i l k) (htree : isTree pred = true) (hlen : scope.length = pred.length)
    (hnd : scope.Nodup) (e X : Ev) (hobs : ∀ v ∈ scope, e v ≠ none → X v = e v)
    (hmis : ∀ v ∈ scope, e v = none → ∃ k, k < 2 ∧ X v = some k) :
    value scope pred cpt X ≤ value scope pred cpt (mpe scope pred cpt e) := by
  obtain ⟨r, hr, hp⟩ := isTree_lab_perm scope htree hlen
  simp only [value, mpe, hr]
  exact (decode_attains_max scope cpt hc _ 0 (hp.nodup_iff.2 hnd) e).2.2 X
    (fun v hv => hobs v (hp.mem_iff.1 hv)) (fun v hv => hmis v (hp.mem_iff.1 hv))

example : value Ex.scope Ex.pred Ex.cpt Ex.full ≤ value Ex.scope Ex.pred Ex.cpt (mpe Ex.scope Ex.pred Ex.cpt Ex.ev) :=
  mpe_attains_max _ _ _ Ex.cpt_nonneg Ex.isTree_eq Ex.scope_len Ex.scope_nodup _ _
    (fun v _ hv => Ex.full_agree v hv)
    (fun v hv he => Ex.full_mis v (by rw [Ex.lab_eq]; simp [Ex.scope] at hv ⊢; omega) he)

end mpe

end Clt
end Deeprob
