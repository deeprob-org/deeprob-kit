import DeeprobModel.Lemmas.RewriteNetMain
import DeeprobModel.Lemmas.RewriteNetOrder
import DeeprobModel.Lemmas.KahnRename
import DeeprobModel.Props.C03
import DeeprobModel.Props.C09Net
import Mathlib.Algebra.Ring.Rat
import Mathlib.Tactic.NormNum
set_option linter.unusedSectionVars false
set_option linter.unusedSimpArgs false
set_option linter.unusedVariables false
/-
C09 at DAG level, beyond the value: shape of the result of `prune` after the fix of finding F7 of DESIGN.md §7
(`pruneNet`; /repo/deeprob/spn/algorithms/structure.py) on node tables with sharing (`Model/RewriteNet.lean`).
-/
namespace Deeprob
open Net

/-! ### the example table: sharing, a chain of single-child nodes, nested same-kind nodes, coinciding children -/
namespace C09x
def lf (id v : Nat) : NNode Rat := { id := id, kind := .leaf, scope := [v], ch := [], ws := [], leaf := .cat v [1/2, 1/2] }
/--
```
9 = S{½,½}(8, 7)          both children are replaced by 7: the merged dictionary has one key, the root collapses
8 = P(7)                   single-child product
7 = P(6, 2)
6 = S{½,½}(5, 0)          5 is replaced (through the chain 5 → 4 → 3) by the sum 3: nested sum; leaf 0 is shared with 3
5 = S{1}(4), 4 = S{1}(3)  chain of single-child sums
3 = S{½,½}(0, 1)
0, 1 leaves over variable 0; 2 leaf over variable 1
```
-/
def net : Net Rat :=
  [ lf 9 0, lf 8 0, lf 7 1,
    { id := 6, kind := .sum, scope := [0], ch := [0, 1], ws := [1/2, 1/2], leaf := .absent },
    { id := 5, kind := .sum, scope := [0], ch := [3], ws := [1], leaf := .absent },
    { id := 4, kind := .sum, scope := [0], ch := [4], ws := [1], leaf := .absent },
    { id := 3, kind := .sum, scope := [0], ch := [5, 0], ws := [1/2, 1/2], leaf := .absent },
    { id := 2, kind := .prod, scope := [0, 1], ch := [6, 2], ws := [], leaf := .absent },
    { id := 1, kind := .prod, scope := [0, 1], ch := [7], ws := [], leaf := .absent },
    { id := 0, kind := .sum, scope := [0, 1], ch := [8, 7], ws := [1/2, 1/2], leaf := .absent } ]

theorem wellOrdered : WellOrdered net := (wellOrderedB_iff net).1 (by decide +kernel)
theorem accept : Net.checkSpn net 9 true true true = .accept := by decide +kernel
theorem leafNoCh : ∀ i ∈ collect net 9, ∀ x, net[i]? = some x → x.kind = .leaf → x.ch = [] :=
  fun i _ x hx => (by decide +kernel : ∀ x ∈ net, x.kind = .leaf → x.ch = []) x (List.mem_of_getElem? hx)

/-- the table `prune` returns on `net`: `P( S{¾,¼}(leaf, leaf), leaf )` -/
def nfNet : Net Rat :=
  [ lf 3 0, lf 4 0,
    { id := 1, kind := .sum, scope := [0], ch := [0, 1], ws := [3/4, 1/4], leaf := .absent },
    lf 2 1,
    { id := 0, kind := .prod, scope := [0, 1], ch := [2, 3], ws := [], leaf := .absent } ]
theorem sumOK : NetSumOK net := netSumOK_of_forall_mem net (by decide +kernel)

/-- `topological_order(root)` of the example (Kahn, FIFO queue) -/
theorem kahn_eq : kahn net 9 = some [9, 8, 7, 6, 2, 5, 4, 3, 0, 1] := by decide +kernel
theorem kahnOK : KahnOrdOK net 9 [9, 8, 7, 6, 2, 5, 4, 3, 0, 1] :=
  kahnOrdOK_of_wellOrdered net wellOrdered 9 _ kahn_eq
end C09x

variable {α : Type} [CommSemiring α]

/-- **C09 at DAG level, the invariant of `nodes_map`** (`prune` after the fix of F7): for a children-first table accepted by
`check_spn(labeled, smooth, decomposable)` whose leaves have no children, the replacement `nodes_map[i]` of every node
`i` reachable from the root is, after the pass, a leaf, or an inner node with at least two children none of which has
the node's own kind; and each of these children is again the replacement of a reachable node. -/
theorem prunePass_rep_invariant (net : Net α) (root : Nat) (hw : WellOrdered net)
    (hacc : Net.checkSpn net root true true true = .accept)
    (hleaf : ∀ i ∈ collect net root, ∀ x, net[i]? = some x → x.kind = .leaf → x.ch = [])
    (i : Nat) (hi : i ∈ collect net root) (hlt : i < net.length) :
    ∃ y, (prunePass true net).1[(prunePass true net).2.getD i i]? = some y ∧
      ((y.kind = .leaf ∧ y.ch = []) ∨
       (2 ≤ y.ch.length ∧ (y.kind = .sum → y.ws.length = y.ch.length) ∧
        ∀ c ∈ y.ch, kindOf (prunePass true net).1 c ≠ y.kind ∧
          ∃ j, j < (prunePass true net).2.getD i i ∧ j ∈ collect net root ∧ (prunePass true net).2.getD j j = c)) :=
  sol_good net _ _ hw (prunePass_sol true net hw) (fun i => i ∈ collect net root)
    (collect_closed_of_wellOrdered net hw root)
    (shapeOK_of_accept net root true hacc hleaf) i hlt hi

example : ∀ i ∈ collect C09x.net 9, i < C09x.net.length →
    ∃ y, (prunePass true C09x.net).1[(prunePass true C09x.net).2.getD i i]? = some y ∧
      ((y.kind = .leaf ∧ y.ch = []) ∨ (2 ≤ y.ch.length ∧ (y.kind = .sum → y.ws.length = y.ch.length) ∧
        ∀ c ∈ y.ch, kindOf (prunePass true C09x.net).1 c ≠ y.kind ∧
          ∃ j, j < (prunePass true C09x.net).2.getD i i ∧ j ∈ collect C09x.net 9 ∧
            (prunePass true C09x.net).2.getD j j = c)) :=
  fun i hi hlt => prunePass_rep_invariant C09x.net 9 C09x.wellOrdered C09x.accept C09x.leafNoCh i hi hlt

/-- the replacement map of the example: the chain `5 → 4 → 3` and the single-child product are bypassed, the root
collapses onto node 7 -/
example : (prunePass true C09x.net).2 = [0, 1, 2, 3, 3, 3, 6, 7, 7, 7] := by decide +kernel

/-- **C09 at DAG level, normal form** (`prune` after the fix of F7): for a children-first table accepted by
`check_spn(labeled, smooth, decomposable)` whose leaves have no children, every entry of the table returned by
`prune` + `assign_ids` + export is a leaf or an inner node with at least two children, none of its own kind; in
particular `normalFormB` holds at the new root (last entry). -/
theorem pruneNet_normal_form (net : Net α) (root : Nat) (hw : WellOrdered net) (hr : root < net.length)
    (hacc : Net.checkSpn net root true true true = .accept)
    (hleaf : ∀ i ∈ collect net root, ∀ x, net[i]? = some x → x.kind = .leaf → x.ch = [])
    (out : Net α) (order : List Nat) (h : pruneNet net root = some (out, order)) :
    normalFormB out (out.length - 1) = true ∧
    ∀ p, p < out.length → ∃ x, out[p]? = some x ∧
      (x.kind = .leaf ∨ (2 ≤ x.ch.length ∧ ∀ c ∈ x.ch, kindOf out c ≠ x.kind)) :=
  pruneNet_normal_form_of net root hw hr (fun i => i ∈ collect net root)
    (collect_closed_of_wellOrdered net hw root)
    (root_mem_collect net root) (shapeOK_of_accept net root true hacc hleaf) out order h

example : ∃ out order, pruneNet C09x.net 9 = some (out, order) ∧ normalFormB out (out.length - 1) = true := by
  obtain ⟨r, h⟩ := pruneNetWith_isSome true C09x.net 9 C09x.wellOrdered
  exact ⟨r.1, r.2, h,
    (pruneNet_normal_form C09x.net 9 C09x.wellOrdered (by decide) C09x.accept C09x.leafNoCh r.1 r.2 h).1⟩

/-- the result on the example: `P( S{¾,¼}(leaf 0, leaf 1), leaf 2 )`, five nodes out of ten -/
example : C09w.view (pruneNet C09x.net 9) =
    [(.leaf, 3, [], []), (.leaf, 4, [], []), (.sum, 1, [0, 1], [3/4, 1/4]), (.leaf, 2, [], []), (.prod, 0, [2, 3], [])] ∧
    C09w.origin (pruneNet C09x.net 9) = [0, 1, 6, 2, 7] := by
  constructor <;> decide +kernel

example : LocalOK C09x.net (fun i => i ∈ collect C09x.net 9) ∧ ShapeOK C09x.net (fun i => i ∈ collect C09x.net 9) :=
  ⟨localOK_of_accept _ _ true C09x.accept, shapeOK_of_accept _ _ true C09x.accept C09x.leafNoCh⟩

/-- **C09 at DAG level, validity** (`prune` after the fix of F7): for a children-first table accepted by
`check_spn(labeled, smooth, decomposable)` whose leaves have no children and whose stored scopes are duplicate-free
(enforced by `Node.__init__`, not looked at by `check_spn`), every entry of the returned table is smooth
(`SumOK`: one weight per child, every child has the sum's scope as a set) resp. decomposable (`ProdOK`: child scopes
duplicate-free, pairwise disjoint, union = the product's scope); hence `check_spn(smooth, decomposable)` accepts the
result, and the scope of the new root is the scope of the old root as a set. (Labels: `pruneNet_labeled`.) -/
theorem pruneNet_valid (net : Net α) (root : Nat) (hw : WellOrdered net) (hr : root < net.length)
    (hacc : Net.checkSpn net root true true true = .accept)
    (hleaf : ∀ i ∈ collect net root, ∀ x, net[i]? = some x → x.kind = .leaf → x.ch = [])
    (hnd : ∀ i ∈ collect net root, (scopeOf net i).Nodup)
    (out : Net α) (order : List Nat) (h : pruneNet net root = some (out, order)) :
    Net.checkSpn out (out.length - 1) false true true = .accept ∧
    scopeEq (scopeOf out (out.length - 1)) (scopeOf net root) ∧
    (∀ (p : Nat) (x : NNode α), out[p]? = some x → (x.kind = .sum → SumOK out x) ∧ (x.kind = .prod → ProdOK out x)) ∧
    (∀ p, p < out.length → (scopeOf out p).Nodup) :=
  pruneNet_valid_of net root hw hr (fun i => i ∈ collect net root)
    (collect_closed_of_wellOrdered net hw root)
    (root_mem_collect net root) (shapeOK_of_accept net root true hacc hleaf) (localOK_of_accept net root true hacc) hnd
    out order h

theorem C09x.scopesNodup : ∀ i ∈ collect C09x.net 9, (scopeOf C09x.net i).Nodup := by decide +kernel

example : ∃ out order, pruneNet C09x.net 9 = some (out, order) ∧
    Net.checkSpn out (out.length - 1) false true true = .accept ∧
    scopeEq (scopeOf out (out.length - 1)) (scopeOf C09x.net 9) := by
  obtain ⟨r, h⟩ := pruneNetWith_isSome true C09x.net 9 C09x.wellOrdered
  have := pruneNet_valid C09x.net 9 C09x.wellOrdered (by decide) C09x.accept C09x.leafNoCh C09x.scopesNodup r.1 r.2 h
  exact ⟨r.1, r.2, h, this.1, this.2.1⟩

/-- the hypothesis "stored scopes are duplicate-free" of `pruneNet_valid` cannot be dropped: `check_spn` accepts
`P( S{1}(A), B )` with `A.scope = [0, 0]` (it compares scopes of sum children as sets), `prune` replaces the
single-child sum by `A`, and the result is rejected. `Node.__init__` rules such scopes out. -/
theorem pruneNet_valid_needs_nodup :
    ∃ (n : Net Rat) (root : Nat), WellOrdered n ∧ Net.checkSpn n root true true true = .accept ∧
      (∀ r ∈ pruneNet n root, Net.checkSpn r.1 (r.1.length - 1) true true true = .decomposable "scopes") ∧
      (pruneNet n root).isSome :=
  ⟨[ { id := 3, kind := .leaf, scope := [0, 0], ch := [], ws := [], leaf := .cat 0 [1/2, 1/2] },
     { id := 2, kind := .leaf, scope := [1], ch := [], ws := [], leaf := .cat 1 [1/2, 1/2] },
     { id := 1, kind := .sum, scope := [0], ch := [0], ws := [1], leaf := .absent },
     { id := 0, kind := .prod, scope := [0, 1], ch := [2, 1], ws := [], leaf := .absent } ], 3,
   (wellOrderedB_iff _).1 (by decide), by decide, by decide +kernel, by decide +kernel⟩

/-- the ids written by `assign_ids` are a permutation of `0..n-1` and every entry is reachable from the new root, so
the result passes `check_spn` with all three flags; general form -/
theorem pruneNet_labeled_of (net : Net α) (root : Nat) (hw : WellOrdered net) (hr : root < net.length)
    (P : Nat → Prop) (hPcl : ∀ i, P i → ∀ c ∈ chOf net i, P c) (hPr : P root) (hsh : ShapeOK net P)
    (hlo : LocalOK net P) (hnd : ∀ i, P i → (scopeOf net i).Nodup)
    (out : Net α) (order : List Nat) (h : pruneNet net root = some (out, order)) :
    Net.checkSpn out (out.length - 1) true true true = .accept ∧
    (∀ p, p < out.length → p ∈ collect out (out.length - 1)) := by
  have S := prunePass_sol true net hw
  have hlab := exportFrom_labeled _ S.wellOrdered _
    (S.lt ▸ Nat.lt_of_le_of_lt (S.basic root hr).rep_le hr) out order h
  obtain ⟨hv, _⟩ := pruneNet_valid_of net root hw hr P hPcl hPr hsh hlo hnd out order h
  rw [checkSpn_flags_accept_iff] at hv ⊢
  exact ⟨⟨fun _ => hlab.1, hv.2.1, hv.2.2⟩, hlab.2⟩

/-- **C09 at DAG level, labels**: the ids written by `assign_ids` are a permutation of `0..n-1` and every exported
entry is reachable from the new root, so the result passes `check_spn` with all three flags. -/
theorem pruneNet_labeled (net : Net α) (root : Nat) (hw : WellOrdered net) (hr : root < net.length)
    (hacc : Net.checkSpn net root true true true = .accept)
    (hleaf : ∀ i ∈ collect net root, ∀ x, net[i]? = some x → x.kind = .leaf → x.ch = [])
    (hnd : ∀ i ∈ collect net root, (scopeOf net i).Nodup)
    (out : Net α) (order : List Nat) (h : pruneNet net root = some (out, order)) :
    Net.checkSpn out (out.length - 1) true true true = .accept ∧
    (∀ p, p < out.length → p ∈ collect out (out.length - 1)) :=
  pruneNet_labeled_of net root hw hr (fun i => i ∈ collect net root)
    (collect_closed_of_wellOrdered net hw root)
    (root_mem_collect net root) (shapeOK_of_accept net root true hacc hleaf) (localOK_of_accept net root true hacc) hnd
    out order h

example : ∃ out order, pruneNet C09x.net 9 = some (out, order) ∧
    Net.checkSpn out (out.length - 1) true true true = .accept := by
  obtain ⟨r, h⟩ := pruneNetWith_isSome true C09x.net 9 C09x.wellOrdered
  exact ⟨r.1, r.2, h, (pruneNet_labeled C09x.net 9 C09x.wellOrdered (by decide) C09x.accept
    C09x.leafNoCh C09x.scopesNodup r.1 r.2 h).1⟩

/-- **C09 at DAG level, fixed point**: on a children-first table every inner entry of which has at least two
children, none of its own kind, and whose sums have one weight per child and pairwise distinct children (`NetNF`),
the pass changes nothing (`prunePass_fix`: the table is returned as it is and `nodes_map` is the identity), so `prune`
amounts to `assign_ids` + export. -/
theorem pruneNet_fix (net : Net α) (root : Nat) (hw : WellOrdered net) (hnf : NetNF net) :
    prunePass true net = (net, List.range net.length) ∧ pruneNet net root = exportFrom net root := by
  have h := prunePass_fix true net hw hnf
  refine ⟨h, ?_⟩
  unfold pruneNet pruneNetWith
  simp only [h]
  congr 1
  rw [List.getD_eq_getElem?_getD]
  rcases Nat.lt_or_ge root net.length with h1 | h1
  · rw [List.getElem?_range h1]; rfl
  · rw [List.getElem?_eq_none (by simpa using h1)]; rfl

theorem C09x.nfNet_NF : NetNF C09x.nfNet :=
  netNF_of_normalFormB C09x.nfNet 4 (by decide +kernel) (by decide +kernel) (fun _ x hx =>
    (by decide +kernel : ∀ x ∈ C09x.nfNet, x.kind = .sum → x.ws.length = x.ch.length ∧ x.ch.Nodup) x
      (List.mem_of_getElem? hx))

example : prunePass true C09x.nfNet = (C09x.nfNet, List.range 5) ∧
    pruneNet C09x.nfNet 4 = exportFrom C09x.nfNet 4 ∧
    C09w.view (pruneNet C09x.nfNet 4) = C09x.nfNet.map (fun x => (x.kind, x.id, x.ch, x.ws)) ∧
    C09w.origin (pruneNet C09x.nfNet 4) = List.range 5 :=
  ⟨(pruneNet_fix C09x.nfNet 4 ((wellOrderedB_iff _).1 (by decide)) C09x.nfNet_NF).1,
   (pruneNet_fix C09x.nfNet 4 ((wellOrderedB_iff _).1 (by decide)) C09x.nfNet_NF).2, by decide +kernel,
   by decide +kernel⟩

/-- the result of `pruneNet` satisfies `NetNF` (same hypotheses as `pruneNet_normal_form`) -/
theorem pruneNet_netNF (net : Net α) (root : Nat) (hw : WellOrdered net) (hr : root < net.length)
    (hacc : Net.checkSpn net root true true true = .accept)
    (hleaf : ∀ i ∈ collect net root, ∀ x, net[i]? = some x → x.kind = .leaf → x.ch = [])
    (out : Net α) (order : List Nat) (h : pruneNet net root = some (out, order)) :
    WellOrdered out ∧ NetNF out :=
  pruneNet_netNF_of net root hw hr (fun i => i ∈ collect net root)
    (collect_closed_of_wellOrdered net hw root)
    (root_mem_collect net root) (shapeOK_of_accept net root true hacc hleaf) out order h

example : ∃ out order, pruneNet C09x.net 9 = some (out, order) ∧ WellOrdered out ∧ NetNF out := by
  obtain ⟨r, h⟩ := pruneNetWith_isSome true C09x.net 9 C09x.wellOrdered
  exact ⟨r.1, r.2, h, pruneNet_netNF C09x.net 9 C09x.wellOrdered (by decide) C09x.accept C09x.leafNoCh r.1 r.2 h⟩

/-- **C09 at DAG level, idempotence up to the ids**. Pruning the result of `pruneNet` again returns the
same table with the same storage order: kinds, scopes, children, weights and leaf parameters of every entry coincide
(`sameUpToIds`), and `nodes_map` of the second run is the identity. (With the ids: `pruneNet_idem` in
`Props/C09NetKahn.lean`.) -/
theorem pruneNet_idem_partial (net : Net α) (root : Nat) (hw : WellOrdered net) (hr : root < net.length)
    (hacc : Net.checkSpn net root true true true = .accept)
    (hleaf : ∀ i ∈ collect net root, ∀ x, net[i]? = some x → x.kind = .leaf → x.ch = [])
    (out : Net α) (order : List Nat) (h : pruneNet net root = some (out, order)) :
    prunePass true out = (out, List.range out.length) ∧
    ∀ res, pruneNet out (out.length - 1) = some res → res.2 = List.range out.length ∧ sameUpToIds res.1 out := by
  obtain ⟨hwo, hnf⟩ := pruneNet_netNF net root hw hr hacc hleaf out order h
  obtain ⟨hfix, hexp⟩ := pruneNet_fix out (out.length - 1) hwo hnf
  refine ⟨hfix, ?_⟩
  intro res hres
  rw [hexp] at hres
  have S := prunePass_sol true net hw
  obtain ⟨ko, hk, hord, he⟩ := exportFrom_unpack _ _ _ _ h
  have hrr : (prunePass true net).2.getD root root < (prunePass true net).1.length :=
    S.lt ▸ Nat.lt_of_le_of_lt (S.basic root hr).rep_le hr
  have := exportFrom_export (prunePass true net).1 S.wellOrdered _ hrr (posIn ko) res
  simp only at this
  rw [← hord, ← he] at this
  exact ⟨(this hres).1, (this hres).2.1⟩

example : ∃ out order, pruneNet C09x.net 9 = some (out, order) ∧
    prunePass true out = (out, List.range out.length) ∧
    ∃ res, pruneNet out (out.length - 1) = some res ∧ res.2 = List.range out.length ∧ sameUpToIds res.1 out := by
  obtain ⟨r, h⟩ := pruneNetWith_isSome true C09x.net 9 C09x.wellOrdered
  have key := pruneNet_idem_partial C09x.net 9 C09x.wellOrdered (by decide) C09x.accept C09x.leafNoCh r.1 r.2 h
  obtain ⟨res, h2⟩ := pruneNetWith_isSome true r.1 (r.1.length - 1)
    (pruneNet_netNF C09x.net 9 C09x.wellOrdered (by decide) C09x.accept C09x.leafNoCh r.1 r.2 h).1
  exact ⟨r.1, r.2, h, key.1, res, h2, key.2 res h2⟩

/-- on the example the ids coincide as well: the second run returns exactly the first result -/
example : C09w.view ((pruneNet C09x.net 9).bind (fun r => pruneNet r.1 (r.1.length - 1)))
      = C09w.view (pruneNet C09x.net 9) ∧
    C09w.origin ((pruneNet C09x.net 9).bind (fun r => pruneNet r.1 (r.1.length - 1))) = List.range 5 := by
  constructor <;> decide +kernel

/-- **C09 at DAG level, order independence**: on a children-first table the pass that walks any duplicate-free list
`ord` of table indices in which every node comes after all its children (`ChildrenFirst`; the code's
`reversed(topological_order(root))` is one, see `childrenFirst_of_kahn`) produces, on every node of `ord`, the node
object and the `nodes_map` entry of the pass in storage order, and does not touch the others. -/
theorem prunePass_order_indep (b : Bool) (net : Net α) (hw : WellOrdered net) (ord : List Nat)
    (hcf : ChildrenFirst net ord) :
    (∀ i ∈ ord, (prunePassOrd b net ord).1[i]? = (prunePass b net).1[i]? ∧
        (prunePassOrd b net ord).2.getD i i = (prunePass b net).2.getD i i) ∧
    (∀ i, i ∉ ord → (prunePassOrd b net ord).1[i]? = net[i]? ∧ (prunePassOrd b net ord).2.getD i i = i) :=
  (prunePassOrd_agree b net hw ord hcf).2.2

example : ChildrenFirst C09x.net [9, 8, 7, 6, 2, 5, 4, 3, 0, 1].reverse ∧
    (prunePassOrd true C09x.net [9, 8, 7, 6, 2, 5, 4, 3, 0, 1].reverse).2 = (prunePass true C09x.net).2 :=
  ⟨childrenFirst_of_kahn C09x.net C09x.wellOrdered 9 (by decide) _ C09x.kahnOK, by decide +kernel⟩

/-- **`prune` as coded (`reversed(topological_order(root))`) = `prune` in storage order**, given that Kahn's order
lists the nodes reachable from the root exactly once and no node before one of its parents (`KahnOrdOK`, which
`Net.kahn_spec` provides: `pruneNetKahn_eq'` in `Props/C09NetKahn.lean`). Before and after the fix of F7 alike. -/
theorem pruneNetKahn_eq_partial (b : Bool) (net : Net α) (hw : WellOrdered net) (root : Nat) (hr : root < net.length)
    (ko : List Nat) (hk : kahn net root = some ko) (h : KahnOrdOK net root ko) :
    pruneNetKahn b net root = pruneNetWith b net root :=
  pruneNetKahn_eq b net hw root hr ko hk h

example : pruneNetKahn true C09x.net 9 = pruneNetWith true C09x.net 9 ∧
    pruneNetKahn false C09x.net 9 = pruneNetWith false C09x.net 9 :=
  ⟨pruneNetKahn_eq_partial true C09x.net C09x.wellOrdered 9 (by decide) _ C09x.kahn_eq C09x.kahnOK,
   pruneNetKahn_eq_partial false C09x.net C09x.wellOrdered 9 (by decide) _ C09x.kahn_eq C09x.kahnOK⟩

/-- **C09 at DAG level, value, for the pass as coded** (same hypothesis on Kahn's order): the table returned by
`pruneNetKahn` has at its root the value the input has at `root`, for every evidence. -/
theorem pruneNetKahn_eval_partial (b : Bool) (net : Net α) (root : Nat) (hw : WellOrdered net) (hs : NetSumOK net)
    (hr : root < net.length) (ko : List Nat) (hk : kahn net root = some ko) (hko : KahnOrdOK net root ko)
    (out : Net α) (order : List Nat) (h : pruneNetKahn b net root = some (out, order)) (e : Ev) (dens : List α) :
    out.length = order.length ∧ out ≠ [] ∧
    nval e (order.map (fun i => dens.getD i 0)) out (out.length - 1) = nval e dens net root := by
  rw [pruneNetKahn_eq b net hw root hr ko hk hko] at h
  exact pruneNetWith_eval b net root hw hs hr out order h e dens

example : ∃ out order, pruneNetKahn true C09x.net 9 = some (out, order) ∧
    ∀ (e : Ev) (dens : List Rat),
      nval e (order.map (fun i => dens.getD i 0)) out (out.length - 1) = nval e dens C09x.net 9 := by
  obtain ⟨r, h⟩ := pruneNetWith_isSome true C09x.net 9 C09x.wellOrdered
  rw [← pruneNetKahn_eq true C09x.net C09x.wellOrdered 9 (by decide) _ C09x.kahn_eq C09x.kahnOK] at h
  exact ⟨r.1, r.2, h, fun e dens =>
    (pruneNetKahn_eval_partial true C09x.net 9 C09x.wellOrdered C09x.sumOK (by decide) _ C09x.kahn_eq C09x.kahnOK
      r.1 r.2 h e dens).2.2⟩

end Deeprob
