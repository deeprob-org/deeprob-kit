import DeeprobModel.Lemmas.MargNetStruct
import DeeprobModel.Props.C10Net
import DeeprobModel.Props.C09NetKahn
import DeeprobModel.Props.C10
set_option linter.unusedSectionVars false
set_option linter.unusedSimpArgs false
set_option linter.unusedVariables false
/-
C10 at DAG level, beyond the value: shape of the result of `marginalize`
(/repo/deeprob/spn/algorithms/structure.py) on node tables with sharing (`marginalizeNet`, Model/RewriteNet.lean):
normal form, validity (`check_spn` with all three flags), scope = `root.scope ∩ keep_scope`, totality.
Chow-Liu-tree leaves are outside (`marginalizeNet` answers `unsupported:clt`; see Props/C10NetClt.lean).
-/
namespace Deeprob
open Net

namespace C10w
theorem accept : Net.checkSpn net 5 true true true = .accept := by decide
theorem leafNoCh : ∀ i ∈ collect net 5, ∀ x, net[i]? = some x → x.kind = .leaf → x.ch = [] :=
  fun i _ x hx => (by decide +kernel : ∀ x ∈ net, x.kind = .leaf → x.ch = []) x (List.mem_of_getElem? hx)
end C10w

variable {α : Type} [CommSemiring α]

/-- **C10 at DAG level, shape of the result**: for a children-first table accepted by
`check_spn(labeled, smooth, decomposable)` whose leaves have no children, whenever `marginalize(root, keep)` (with
`prune` after the fix of finding F7 of DESIGN.md §7) returns a table,
* it is accepted by `check_spn(labeled, smooth, decomposable)` at its root (last entry), every entry being reachable;
* it is in normal form (`normalFormB`; in fact every entry, `NetNF`) and children-first;
* its root scope is `root.scope ∩ keep` as a set, and every stored scope is duplicate-free;
* pruning it again changes nothing. -/
theorem marginalizeNet_shape (keep : List Nat) (net : Net α) (root : Nat) (hw : WellOrdered net)
    (hr : root < net.length) (hacc : Net.checkSpn net root true true true = .accept)
    (hleaf : ∀ i ∈ collect net root, ∀ x, net[i]? = some x → x.kind = .leaf → x.ch = [])
    (out : Net α) (order : List Nat) (h : marginalizeNet keep net root = .ok (out, order)) :
    Net.checkSpn out (out.length - 1) true true true = .accept ∧
    (∀ p, p < out.length → p ∈ collect out (out.length - 1)) ∧
    normalFormB out (out.length - 1) = true ∧ NetNF out ∧ WellOrdered out ∧
    (∀ v, v ∈ scopeOf out (out.length - 1) ↔ (v ∈ scopeOf net root ∧ v ∈ keep)) ∧
    (∀ p, p < out.length → (scopeOf out p).Nodup) ∧
    pruneNet out (out.length - 1) = some (out, List.range out.length) := by
  obtain ⟨_, hun, r1, hr1, hres⟩ := (marginalizeNetWith_eq_ok_iff true keep net root (out, order)).1 h
  have hm := margOK_of_accept net root hw hacc hleaf hun
  have I := msol_struct keep net _ _ (margPass_sol keep net hw) hw _ hm root hr (root_mem_collect net root)
  obtain ⟨rw1, rl, rcl, rsh, rlo, rnd⟩ := margPass_ready net keep _ hw hm
  -- the final `prune` runs on the replacements of the collected nodes
  have hG : MRepOf net.length (margPass keep net).2 (fun i => i ∈ collect net root) r1 :=
    ⟨root, hr, root_mem_collect net root, hr1⟩
  have hr1lt : r1 < (margPass keep net).1.length := rl ▸ (rnd r1 hG).2
  have hres' : pruneNet (margPass keep net).1 r1 = some (out, order) := hres
  obtain ⟨l1, l2⟩ := pruneNet_labeled_of _ r1 rw1 hr1lt _ rcl hG rsh rlo (fun i hi => (rnd i hi).1) out order hres'
  obtain ⟨n1, _⟩ := pruneNet_normal_form_of _ r1 rw1 hr1lt _ rcl hG rsh out order hres'
  obtain ⟨n3, n4⟩ := pruneNet_netNF_of _ r1 rw1 hr1lt _ rcl hG rsh out order hres'
  obtain ⟨_, v2, _, v4⟩ := pruneNet_valid_of _ r1 rw1 hr1lt _ rcl hG rsh rlo (fun i hi => (rnd i hi).1) out order hres'
  exact ⟨l1, l2, n1, n4, n3, fun v => (v2 v).trans ((I.2 r1 hr1).2 v), v4,
    pruneNet_idem_of _ r1 rw1 hr1lt _ rcl hG rsh out order hres'⟩

/-- **C10 at DAG level, totality**: under the same hypotheses, with `keep_scope` non-empty, duplicate-free and inside
the root scope (the three argument checks) and no Chow-Liu / multivariate leaf, `marginalize` returns a table: the
first pass cannot answer `None` at the root and the final `prune` cannot report a cycle. -/
theorem marginalizeNet_total (keep : List Nat) (net : Net α) (root : Nat) (hw : WellOrdered net)
    (hr : root < net.length) (hacc : Net.checkSpn net root true true true = .accept)
    (hleaf : ∀ i ∈ collect net root, ∀ x, net[i]? = some x → x.kind = .leaf → x.ch = [])
    (hg : margGuard keep (scopeAt net root) = none)
    (hun : margUnsupported net (collect net root) = none) :
    ∃ res, marginalizeNet keep net root = .ok res := by
  have hm := margOK_of_accept net root hw hacc hleaf hun
  have I := msol_struct keep net _ _ (margPass_sol keep net hw) hw _ hm root hr (root_mem_collect net root)
  obtain ⟨rw1, _⟩ := margPass_ready net keep _ hw hm
  -- the root is not marginalised away
  obtain ⟨r1, hr1⟩ : ∃ r1, (margPass keep net).2.getD root none = some r1 := by
    refine Option.ne_none_iff_exists'.1 fun hn => ?_
    obtain ⟨hne, _, hsub⟩ := (marginalize_guards keep _).1 hg
    obtain ⟨v, hv⟩ := List.exists_mem_of_ne_nil _ hne
    exact I.1.1 hn v (hsub v hv) hv
  obtain ⟨res, hres⟩ := pruneNetWith_isSome true (margPass keep net).1 r1 rw1
  exact ⟨res, (marginalizeNetWith_eq_ok_iff true keep net root res).2 ⟨hg, hun, r1, hr1, hres⟩⟩

example : ∃ res, marginalizeNet [0] C10w.net 5 = .ok res :=
  marginalizeNet_total [0] C10w.net 5 C10w.wellOrdered (by decide) C10w.accept C10w.leafNoCh (by decide) (by decide)

example : ∃ out order, marginalizeNet [1] C10w.net 5 = .ok (out, order) ∧
    Net.checkSpn out (out.length - 1) true true true = .accept ∧ normalFormB out (out.length - 1) = true ∧
    (∀ v, v ∈ scopeOf out (out.length - 1) ↔ (v ∈ scopeOf C10w.net 5 ∧ v ∈ [1])) := by
  obtain ⟨r, h⟩ := marginalizeNet_total [1] C10w.net 5 C10w.wellOrdered (by decide) C10w.accept C10w.leafNoCh
    (by decide) (by decide)
  have key := marginalizeNet_shape [1] C10w.net 5 C10w.wellOrdered (by decide) C10w.accept C10w.leafNoCh r.1 r.2 h
  exact ⟨r.1, r.2, h, key.1, key.2.2.1, key.2.2.2.2.2.1⟩

end Deeprob
