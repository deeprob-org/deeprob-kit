import DeeprobModel.Props.C09Net
import DeeprobModel.Lemmas.ListEntries
import DeeprobModel.Oblig.Struct5Prune
/-
End-to-end corollary for `structure.prune` (C09), stated about the PASS skeleton extracted by tools/listprog.py,
`Gen.S5prunePassLoop` (fragment `structure.prune.loop`).  `pgLoopPrune` is `check_spn(root, labeled, smooth, decomposable)`
(`Net.checkSpn`, the model of the guard; its order of tests is tied to the source by `StructValidity.checkSpn_order`), then the generated
skeleton (walked over the table in storage order, update = `Struct5Prune.genStep`, i.e. the model's per-node rule with the GENERATED
collapse tests `Gen.pruneSingleChild` / `Gen.pruneMergedSingle`), then `assign_ids(nodes_map[root.id])` with the canonical export
(`Net.exportFrom`).  `pgPrune` is the same around the model's `pruneNet`; `pgLoopPrune_eq` says the two agree.

PARTIAL (see `Oblig/Struct5Prune.lean`): the instance of the skeleton covers the traversal, the initial dictionary, one update per
visited node and the `None` answer of `topological_order`; the read / write locality and the link between the generated
`topological_order` and the storage order are not composed in.  The per-node rewrite of `prune` (rebuilt children / weights:
`prodItems`, `sumAcc`) is the MODEL's: of the loop body only the two collapse tests are extracted, and there is
no simulation theorem for the rest of the body.  The other DAG-level theorems about `pruneNet` (`pruneNet_checkSpn`,
`pruneNet_normal_form`, `pruneNet_idem`, …) transfer by the same rewriting (`pgLoopPrune_eq`).
-/
namespace Deeprob.E2EPruneLoop
open Deeprob Deeprob.Net

/-- the pass of `prune` as the GENERATED skeleton renders it (`none`: `topological_order` returned `None`) -/
def loopPrunePass {α : Type} [Zero α] [Add α] [Mul α] (net : Net α) (rootNode : NNode α) : Option (Net α × List Nat) :=
  Gen.S5prunePassLoop (N := NNode α) (V := Net α × List Nat) (MAP := Net α × List Nat) (O := NNode α)
    (R := Net α × List Nat)
    (fun x => x.id) (fun st _ => st) (fun st _ x => Oblig.Struct5Prune.genStep st x) (fun _ => some net.reverse)
    (fun _ => ([], [])) id (fun _ x => x) rootNode

theorem loopPrunePass_eq {α : Type} [Zero α] [Add α] [Mul α] (net : Net α) (rootNode : NNode α) :
    loopPrunePass net rootNode = some (prunePass true net) :=
  Oblig.Struct5Prune.prunePassLoop_shape_partial net rootNode

/-- `prune(root)` around the generated pieces, with the generated PASS skeleton -/
def pgLoopPrune {α : Type} [Zero α] [Add α] [Mul α] (net : Net α) (root : Nat) (rootNode : NNode α) :
    Except String (Net α × List Nat) :=
  match Net.checkSpn net root true true true with
  | .accept =>
    match loopPrunePass net rootNode with
    | none => .error "cycle"
    | some st =>
      match exportFrom st.1 (st.2.getD root root) with
      | none => .error "cycle"
      | some res => .ok res
  | v => .error v.toString

/-- `prune(root)` with the model's DAG-level pass (`pruneNet` = `prunePass true` + `assign_ids` + export) behind the same guard -/
def pgPrune {α : Type} [Zero α] [Add α] [Mul α] (net : Net α) (root : Nat) : Except String (Net α × List Nat) :=
  match Net.checkSpn net root true true true with
  | .accept =>
    match pruneNet net root with
    | none => .error "cycle"
    | some res => .ok res
  | v => .error v.toString

theorem pgLoopPrune_eq {α : Type} [Zero α] [Add α] [Mul α] (net : Net α) (root : Nat) (rootNode : NNode α) :
    pgLoopPrune net root rootNode = pgPrune net root := by
  unfold pgLoopPrune pgPrune
  rw [loopPrunePass_eq]
  rfl

/-- what `.ok` of the wrapper means in terms of the model -/
theorem pgPrune_ok {α : Type} [Zero α] [Add α] [Mul α] (net : Net α) (root : Nat) (res : Net α × List Nat)
    (h : pgPrune net root = .ok res) :
    Net.checkSpn net root true true true = .accept ∧ pruneNet net root = some res := by
  unfold pgPrune at h
  split at h
  · rename_i hacc
    refine ⟨hacc, ?_⟩
    cases hp : pruneNet net root with
    | none => rw [hp] at h; simp at h
    | some r => rw [hp] at h; simp only [Except.ok.injEq] at h; rw [h]
  · simp at h

variable {α : Type} [CommSemiring α]

/-- C09 at DAG level, value — about the extracted PASS skeleton: whenever the guard `check_spn` accepts
and the generated pass skeleton followed by `assign_ids` / the canonical export returns a table, that table is not empty and its root
(last entry) has, under EVERY evidence, the value the original table has at `root` (shared sub-circuits and merged coinciding children
included).  PARTIAL: see the header — the per-node rewrite handed to the skeleton is the model's rule with the generated collapse tests
(`Gen.pruneSingleChild`, `Gen.pruneMergedSingle`); the rest of the loop body is not extracted and there is no
simulation theorem for it; the storage order stands for `reversed(topological_order(root))` (`prunePass_order_indep` is not composed in). -/
theorem e2e_prune_loop_partial (net : Net α) (root : Nat) (rootNode : NNode α)
    (hw : WellOrdered net) (hs : NetSumOK net) (hr : root < net.length) (out : Net α) (order : List Nat)
    (h : pgLoopPrune net root rootNode = .ok (out, order)) (e : Ev) (dens : List α) :
    Net.checkSpn net root true true true = .accept ∧ out.length = order.length ∧ out ≠ [] ∧
    nval e (order.map (fun i => dens.getD i 0)) out (out.length - 1) = nval e dens net root := by
  rw [pgLoopPrune_eq] at h
  obtain ⟨hacc, hp⟩ := pgPrune_ok net root (out, order) h
  exact ⟨hacc, pruneNetWith_eval true net root hw hs hr out order hp e dens⟩

/-! ### non-vacuity: a sum over a sum with a shared leaf, `S{½,½}( S{½,½}(A, B), B )` — the inner sum is merged into the root -/
namespace W
def net : Net Rat :=
  [ { id := 3, kind := .leaf, scope := [0], ch := [], ws := [], leaf := .cat 0 [1/3, 2/3] },
    { id := 2, kind := .leaf, scope := [0], ch := [], ws := [], leaf := .cat 0 [1/2, 1/2] },
    { id := 1, kind := .sum, scope := [0], ch := [0, 1], ws := [1/2, 1/2], leaf := .absent },
    { id := 0, kind := .sum, scope := [0], ch := [2, 1], ws := [1/2, 1/2], leaf := .absent } ]

theorem wellOrdered : WellOrdered net := (wellOrderedB_iff net).1 (by decide)
theorem accept : Net.checkSpn net 3 true true true = .accept := by decide

theorem sumOK : NetSumOK net :=
  E2E.forall_getElem?_of_forallIdx
    ⟨nofun, nofun, fun _ => ⟨rfl, by decide +kernel⟩, fun _ => ⟨rfl, by decide +kernel⟩, trivial⟩

def okB {β : Type} : Except String β → Bool
  | .ok _ => true
  | .error _ => false

theorem ok_of_okB {β : Type} (r : Except String β) (h : okB r = true) : ∃ v, r = .ok v := by
  cases r with
  | ok v => exact ⟨v, rfl⟩
  | error s => simp [okB] at h

/-- kind, children, weights of every exported node, and the origin of every exported node -/
def view (r : Except String (Net Rat × List Nat)) : List (Kind × List Nat × List Rat) × List Nat :=
  match r with
  | .ok p => (p.1.map (fun x => (x.kind, x.ch, x.ws)), p.2)
  | .error _ => ([], [])
end W

/-- the pass skeleton returns a table on `W.net`, and the value statement applies to it (whatever object is passed as `root`: only its
`id` is read by the skeleton, after the pass) -/
example (rootNode : NNode Rat) : ∃ out order, pgLoopPrune W.net 3 rootNode = .ok (out, order) ∧ out ≠ [] ∧
    ∀ (e : Ev) (dens : List Rat),
      nval e (order.map (fun i => dens.getD i 0)) out (out.length - 1) = nval e dens W.net 3 := by
  obtain ⟨res, hres⟩ := W.ok_of_okB (pgPrune W.net 3) (by decide +kernel)
  have h : pgLoopPrune W.net 3 rootNode = .ok (res.1, res.2) := by rw [pgLoopPrune_eq]; exact hres
  refine ⟨res.1, res.2, h, ?_, fun e dens => ?_⟩
  · exact (e2e_prune_loop_partial W.net 3 rootNode W.wellOrdered W.sumOK (by decide) res.1 res.2 h (fun _ => none) []).2.2.1
  · exact (e2e_prune_loop_partial W.net 3 rootNode W.wellOrdered W.sumOK (by decide) res.1 res.2 h e dens).2.2.2

/-- … and what it returns: the inner sum is gone, the root is `S{¼,¾}(A, B)` (the shared leaf `B` collects `½·½ + ½`) -/
example : W.view (pgLoopPrune W.net 3 (default : NNode Rat)) =
    ([(.leaf, [], []), (.leaf, [], []), (.sum, [0, 1], [1/4, 3/4])], [0, 1, 3]) := by decide +kernel

example : (loopPrunePass W.net (default : NNode Rat)).map (fun st => st.2) = some [0, 1, 2, 3] := by decide +kernel

end Deeprob.E2EPruneLoop
