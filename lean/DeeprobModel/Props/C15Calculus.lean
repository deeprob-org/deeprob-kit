import DeeprobModel.Props.C15
import DeeprobModel.Spec.FlowRealInst
import DeeprobModel.Lemmas.FlowsExamples
import Mathlib.Analysis.SpecialFunctions.Log.Deriv
import Mathlib.Analysis.SpecialFunctions.ExpDeriv
import Mathlib.Analysis.SpecialFunctions.Sqrt
import Mathlib.Analysis.SpecialFunctions.Trigonometric.DerivHyp
import Mathlib.Analysis.Calculus.Deriv.Inv
import Mathlib.Analysis.Calculus.Deriv.Pi
import Mathlib.Analysis.Calculus.Deriv.Prod
import Mathlib.Analysis.Calculus.FDeriv.Prod
import Mathlib.Analysis.Calculus.FDeriv.Pi
import Mathlib.Topology.Algebra.Module.Determinant
import Mathlib.Topology.Algebra.Module.FiniteDimension
import Mathlib.LinearAlgebra.Matrix.ToLin
import Mathlib.LinearAlgebra.Determinant
import Mathlib.LinearAlgebra.Matrix.Permutation
/-
Property C15 — the calculus behind the log-determinants of the flow layers, over ℝ.

`Props/C15.lean` works over an abstract `ExpLog F`; its `*_ldj_is_logdet` theorems speak about *any* matrix with a
stated diagonal (the "slopes") and vanishing pattern. Here the slopes are shown to be the derivatives and the matrices
the Jacobians: every layer of `Model/Flows.lean` at `realExpLog`, as a map of `ℝⁿ`, is differentiable with invertible
Fréchet derivative, and the log-det it reports is `log|det (fderiv layer x)|` (`HasLogAbsDet`) — `LogitLayer` and
`BatchNormLayer1d/2d` (evaluation mode), affine and additive couplings with any mask, the autoregressive layer in the
density direction and in the sampling direction (the `D`-step loop), index permutations, composition.
Conditioner networks stay uninterpreted and are differentiable by hypothesis. `ScaledTanh` (/repo/deeprob/torch/utils.py)
is applied to the conditioner's output `s`, not to the transformed coordinate, so its slope enters no log-det.
Not covered: the channel-wise branch of `CouplingLayer2d` (`chanBackward / chanForward`).
Naming follows the code: `backward` = `apply_backward` (data → latent; for `LogitLayer` this is the logit map),
`forward` = `apply_forward` (latent → data; for `LogitLayer` the sigmoid followed by the affine map).
-/
open Matrix BigOperators

namespace Deeprob.Flows.Calc

/-- `realExpLog` is ℝ with the usual functions (the laws of `ExpLog` are proved where it is defined,
`Spec/FlowRealInst.lean`, from `Real.exp_add`, `Real.exp_log`, `Real.mul_self_sqrt`, …). -/
theorem realExpLog_fields :
    realExpLog.exp = Real.exp ∧ realExpLog.log = Real.log ∧ realExpLog.sqrt = Real.sqrt ∧
    realExpLog.tanh = Real.tanh ∧ (∀ a, realExpLog.sigmoid a = 1 / (1 + Real.exp (-a))) ∧
    realExpLogSig.toExpLog = realExpLog :=
  ⟨rfl, rfl, rfl, rfl, fun _ => rfl, rfl⟩

/-- Non-vacuity: the instance computes with real numbers: `log (exp 2 · exp 3) = 5`, `√4 · √4 = 4`. -/
example : realExpLog.log (realExpLog.exp 2 * realExpLog.exp 3) = 5 ∧ realExpLog.sqrt 4 * realExpLog.sqrt 4 = 4 := by
  refine ⟨?_, realExpLog.sqrt_sq 4 (by norm_num)⟩
  rw [← realExpLog.exp_add, realExpLog.log_exp]; norm_num

/-- Coordinate map of `LogitLayer.apply_backward`: `x' = α + (1 − 2α)·x`, `u = log x' − log (1 − x')`. -/
noncomputable def logitMap (α x : ℝ) : ℝ :=
  Real.log (α + (1 - 2 * α) * x) - Real.log (1 - (α + (1 - 2 * α) * x))

/-- The slope whose logarithm `LogitLayer.apply_backward` reports per coordinate:
`(1 − 2α) / (x'·(1 − x'))` — `−(log x' + log(1 − x')) + log(1 − 2α)`. -/
noncomputable def logitSlope (α x : ℝ) : ℝ :=
  (1 - 2 * α) / ((α + (1 - 2 * α) * x) * (1 - (α + (1 - 2 * α) * x)))

theorem logitBackward_coord (α d : ℝ) (n : Nat) (x : Nat → ℝ) (k : Nat) :
    (logitBackward Real.log α d n x).1 k = logitMap α (x k) := by
  show Real.log (α + (1 - (1 + 1) * α) * x k) - Real.log (1 - (α + (1 - (1 + 1) * α) * x k)) = _
  rw [one_add_one_eq_two]; rfl

/-- `LogitLayer.apply_backward`, one coordinate: `d/dx logit(α + (1 − 2α)x) = (1 − 2α)/(x'(1 − x'))` wherever both
logarithms are taken at non-zero arguments (in particular for `x' ∈ (0, 1)`). Uses `d/dx log x = 1/x`. -/
theorem logit_backward_hasDerivAt (α x : ℝ) (h0 : α + (1 - 2 * α) * x ≠ 0)
    (h1 : 1 - (α + (1 - 2 * α) * x) ≠ 0) :
    HasDerivAt (logitMap α) (logitSlope α x) x := by
  have hlin : HasDerivAt (fun y : ℝ => α + (1 - 2 * α) * y) (1 - 2 * α) x :=
    (((hasDerivAt_id x).const_mul (1 - 2 * α)).const_add α).congr_deriv (mul_one _)
  have h := (hlin.log h0).sub ((hlin.const_sub 1).log h1)
  -- `c/x' − (−c)/(1 − x') = c·((1 − x') + x') / (x'·(1 − x'))`
  refine h.congr_deriv ?_
  rw [logitSlope, neg_div, sub_neg_eq_add, div_add_div _ _ h0 h1]
  congr 1
  ring

/-- On the domain of the layer (`x' ∈ (0,1)`, `α < 1/2`) the slope is positive, so `log|f'| = log slope`. -/
theorem logit_backward_slope_pos (α x : ℝ) (hα : 0 < 1 - 2 * α) (h0 : 0 < α + (1 - 2 * α) * x)
    (h1 : α + (1 - 2 * α) * x < 1) : 0 < logitSlope α x :=
  div_pos hα (mul_pos h0 (sub_pos.2 h1))

/-- The logarithm of the slope is the summand of the reported `inv_log_det_jacobian`:
`−(log x' + log (1 − x')) + log (1 − 2α)`. -/
theorem logit_backward_log_slope (α x : ℝ) (hα : 0 < 1 - 2 * α) (h0 : 0 < α + (1 - 2 * α) * x)
    (h1 : α + (1 - 2 * α) * x < 1) :
    Real.log |logitSlope α x|
      = -(Real.log (α + (1 - 2 * α) * x) + Real.log (1 - (α + (1 - 2 * α) * x))) + Real.log (1 - 2 * α) := by
  rw [abs_of_pos (logit_backward_slope_pos α x hα h0 h1), logitSlope,
    Real.log_div hα.ne' (mul_pos h0 (sub_pos.2 h1)).ne', Real.log_mul h0.ne' (sub_pos.2 h1).ne']
  ring

/-- Non-vacuity at `α = 0.05`, `x = 0.3` (`x' = 0.32`): the slope is `0.9 / (0.32 · 0.68)`. -/
example : HasDerivAt (logitMap (1 / 20)) ((9 / 10) / ((8 / 25) * (17 / 25))) (3 / 10) ∧
    0 < logitSlope (1 / 20) (3 / 10) := by
  constructor
  · have := logit_backward_hasDerivAt (1 / 20) (3 / 10) (by norm_num) (by norm_num)
    convert this using 1
    unfold logitSlope; norm_num
  · exact logit_backward_slope_pos _ _ (by norm_num) (by norm_num) (by norm_num)

/-- `torch.sigmoid` as `realExpLog.sigmoid` states it. -/
noncomputable def sigmoid (a : ℝ) : ℝ := 1 / (1 + Real.exp (-a))

theorem sigmoid_pos (a : ℝ) : 0 < sigmoid a := by unfold sigmoid; positivity

theorem sigmoid_lt_one (a : ℝ) : sigmoid a < 1 := by
  unfold sigmoid
  rw [div_lt_one (by positivity)]
  linarith [Real.exp_pos (-a)]

/-- `σ' = σ(1 − σ)`. -/
theorem sigmoid_hasDerivAt (a : ℝ) : HasDerivAt sigmoid (sigmoid a * (1 - sigmoid a)) a := by
  have hpos : (1 + Real.exp (-a)) ≠ 0 := by positivity
  have h := ((hasDerivAt_neg a).exp.const_add 1).inv hpos
  have e : sigmoid = fun y : ℝ => (1 + Real.exp (-y))⁻¹ := funext fun y => one_div _
  rw [e]
  refine h.congr_deriv ?_
  field_simp
  ring

/-- Coordinate map of `LogitLayer.apply_forward`: `x = (σ(u) − α) / (1 − 2α)`. -/
noncomputable def logitInvMap (α u : ℝ) : ℝ := (sigmoid u - α) / (1 - 2 * α)

/-- The slope whose logarithm `LogitLayer.apply_forward` reports: `σ(u)(1 − σ(u)) / (1 − 2α)`. -/
noncomputable def logitInvSlope (α u : ℝ) : ℝ := sigmoid u * (1 - sigmoid u) / (1 - 2 * α)

theorem logitForward_coord (α d : ℝ) (n : Nat) (u : Nat → ℝ) (k : Nat) :
    (logitForward Real.log realExpLog.sigmoid α d n u).1 k = logitInvMap α (u k) := by
  show (1 / (1 + Real.exp (-(u k))) - α) / (1 - (1 + 1) * α) = _
  rw [one_add_one_eq_two]; rfl

/-- `LogitLayer.apply_forward`, one coordinate (no hypothesis: for `α = 1/2` both sides are `0` by Lean's `x/0 = 0`;
the layer is used with `α < 1/2`). -/
theorem logit_forward_hasDerivAt (α u : ℝ) : HasDerivAt (logitInvMap α) (logitInvSlope α u) u :=
  ((sigmoid_hasDerivAt u).sub_const α).div_const (1 - 2 * α)

theorem logit_forward_slope_pos (α u : ℝ) (hα : 0 < 1 - 2 * α) : 0 < logitInvSlope α u :=
  div_pos (mul_pos (sigmoid_pos u) (sub_pos.2 (sigmoid_lt_one u))) hα

/-- The logarithm of the slope is the summand of the reported `log_det_jacobian`:
`log σ(u) + log (1 − σ(u)) − log (1 − 2α)`. -/
theorem logit_forward_log_slope (α u : ℝ) (hα : 0 < 1 - 2 * α) :
    Real.log |logitInvSlope α u|
      = Real.log (sigmoid u) + Real.log (1 - sigmoid u) - Real.log (1 - 2 * α) := by
  rw [abs_of_pos (logit_forward_slope_pos α u hα), logitInvSlope,
    Real.log_div (mul_pos (sigmoid_pos u) (sub_pos.2 (sigmoid_lt_one u))).ne' hα.ne',
    Real.log_mul (sigmoid_pos u).ne' (sub_pos.2 (sigmoid_lt_one u)).ne']

/-- The two slopes are reciprocal along the bijection (`x' = σ(u)`): inverse-function rule, checked directly. -/
theorem logit_slopes_reciprocal (α x : ℝ) (hα : 1 - 2 * α ≠ 0) (h0 : 0 < α + (1 - 2 * α) * x)
    (h1 : α + (1 - 2 * α) * x < 1) : logitInvSlope α (logitMap α x) * logitSlope α x = 1 := by
  have hs : sigmoid (logitMap α x) = α + (1 - 2 * α) * x := sigmoid_logit realExpLogSig h0 h1
  rw [logitInvSlope, logitSlope, hs, div_mul_div_cancel₀ hα, div_self (mul_ne_zero h0.ne' (sub_pos.2 h1).ne')]

example : HasDerivAt (logitInvMap (1 / 20)) (logitInvSlope (1 / 20) 0) 0 ∧ logitInvSlope (1 / 20) 0 = 5 / 18 := by
  refine ⟨logit_forward_hasDerivAt _ _, ?_⟩
  unfold logitInvSlope sigmoid; norm_num

/-- `x = u·exp(s) + t` (coupling `apply_forward`, MAF `apply_forward`): slope `exp s`, reported summand `s`. -/
theorem affine_forward_hasDerivAt (s t u : ℝ) : HasDerivAt (fun y : ℝ => y * Real.exp s + t) (Real.exp s) u :=
  (((hasDerivAt_id u).mul_const (Real.exp s)).add_const t).congr_deriv (one_mul _)

/-- `u = (x − t)·exp(−s)` (coupling / MAF `apply_backward`): slope `exp(−s)`, reported summand `−s`. -/
theorem affine_backward_hasDerivAt (s t x : ℝ) :
    HasDerivAt (fun y : ℝ => (y - t) * Real.exp (-s)) (Real.exp (-s)) x :=
  (((hasDerivAt_id x).sub_const t).mul_const (Real.exp (-s))).congr_deriv (one_mul _)

theorem affine_slope_pos_log (s : ℝ) :
    0 < Real.exp s ∧ Real.log |Real.exp s| = s ∧ 0 < Real.exp (-s) ∧ Real.log |Real.exp (-s)| = -s := by
  refine ⟨Real.exp_pos s, ?_, Real.exp_pos _, ?_⟩ <;> rw [abs_of_pos (Real.exp_pos _), Real.log_exp]

example : HasDerivAt (fun y : ℝ => y * Real.exp 2 + 7) (Real.exp 2) (3 / 10) ∧
    HasDerivAt (fun y : ℝ => (y - 7) * Real.exp (-2)) (Real.exp (-2)) (3 / 10) :=
  ⟨affine_forward_hasDerivAt 2 7 _, affine_backward_hasDerivAt 2 7 _⟩

/-- `BatchNormLayer1d/2d.apply_backward` (running statistics), one coordinate:
`u = (x − μ)/√(v + ε) · exp(w) + b`; slope `exp(w)/√(v + ε)` (no hypothesis needed for the derivative itself). -/
theorem bn_backward_hasDerivAt (w b μ v ε x : ℝ) :
    HasDerivAt (fun y : ℝ => (y - μ) / Real.sqrt (v + ε) * Real.exp w + b)
      (Real.exp w / Real.sqrt (v + ε)) x := by
  refine (((((hasDerivAt_id x).sub_const μ).div_const (Real.sqrt (v + ε))).mul_const
    (Real.exp w)).add_const b).congr_deriv ?_
  rw [one_div, div_eq_mul_inv, mul_comm]

/-- With `running_var + eps > 0` the slope is positive and its logarithm is the reported summand
`w − 0.5·log(v + ε)`. -/
theorem bn_backward_slope (w v ε : ℝ) (hv : 0 < v + ε) :
    0 < Real.exp w / Real.sqrt (v + ε) ∧
    Real.log |Real.exp w / Real.sqrt (v + ε)| = w - (1 / 2) * Real.log (v + ε) := by
  have hs : 0 < Real.sqrt (v + ε) := Real.sqrt_pos.2 hv
  refine ⟨div_pos (Real.exp_pos w) hs, ?_⟩
  rw [abs_of_pos (div_pos (Real.exp_pos w) hs), Real.log_div (Real.exp_pos w).ne' hs.ne', Real.log_exp,
    Real.log_sqrt hv.le]
  ring

/-- `apply_forward`: `x = (u − b)·exp(−w)·√(v + ε) + μ`; slope `exp(−w)·√(v + ε)`. -/
theorem bn_forward_hasDerivAt (w b μ v ε u : ℝ) :
    HasDerivAt (fun y : ℝ => (y - b) * Real.exp (-w) * Real.sqrt (v + ε) + μ)
      (Real.exp (-w) * Real.sqrt (v + ε)) u := by
  refine (((((hasDerivAt_id u).sub_const b).mul_const (Real.exp (-w))).mul_const
    (Real.sqrt (v + ε))).add_const μ).congr_deriv ?_
  rw [one_mul]

theorem bn_forward_slope (w v ε : ℝ) (hv : 0 < v + ε) :
    0 < Real.exp (-w) * Real.sqrt (v + ε) ∧
    Real.log |Real.exp (-w) * Real.sqrt (v + ε)| = -w + (1 / 2) * Real.log (v + ε) := by
  have hs : 0 < Real.sqrt (v + ε) := Real.sqrt_pos.2 hv
  refine ⟨mul_pos (Real.exp_pos _) hs, ?_⟩
  rw [abs_of_pos (mul_pos (Real.exp_pos _) hs), Real.log_mul (Real.exp_pos _).ne' hs.ne', Real.log_exp,
    Real.log_sqrt hv.le]
  ring

/-- Non-vacuity: the library defaults `running_var = 1`, `eps = 1e-5`, and `w = 2`. -/
example : HasDerivAt (fun y : ℝ => (y - 3) / Real.sqrt (1 + 1 / 100000) * Real.exp 2 + 4)
      (Real.exp 2 / Real.sqrt (1 + 1 / 100000)) (3 / 10) ∧
    Real.log |Real.exp 2 / Real.sqrt (1 + 1 / 100000)| = 2 - (1 / 2) * Real.log (1 + 1 / 100000) :=
  ⟨bn_backward_hasDerivAt 2 4 3 1 _ _, (bn_backward_slope 2 1 _ (by norm_num)).2⟩

/-- `tanh' = 1 − tanh²`. -/
theorem tanh_hasDerivAt (x : ℝ) : HasDerivAt Real.tanh (1 - Real.tanh x ^ 2) x := by
  have hc : Real.cosh x ≠ 0 := (Real.cosh_pos x).ne'
  have h := (Real.hasDerivAt_sinh x).div (Real.hasDerivAt_cosh x) hc
  have e : Real.tanh = fun y => Real.sinh y / Real.cosh y := funext Real.tanh_eq_sinh_div_cosh
  rw [e]
  refine h.congr_deriv ?_
  show _ = 1 - (Real.sinh x / Real.cosh x) ^ 2
  field_simp

/-- `ScaledTanh.forward`: `w·tanh(x)`, slope `w·(1 − tanh² x)`. The layers apply it to the conditioner's output
`s` (`s = self.scale_act(s)`), never to the transformed coordinate, so this slope is part of no reported log-det. -/
theorem scaledTanh_hasDerivAt (w x : ℝ) :
    HasDerivAt (fun y : ℝ => w * Real.tanh y) (w * (1 - Real.tanh x ^ 2)) x :=
  (tanh_hasDerivAt x).const_mul w

example : HasDerivAt (fun y : ℝ => 3 * Real.tanh y) 3 0 := by
  simpa using scaledTanh_hasDerivAt 3 0

/-- `DequantizeLayer.apply_backward` for a fixed noise value `r`: `u = (x·(bins − 1) + r)/bins` has slope
`(bins − 1)/bins` in `x`. -/
theorem dequantize_backward_hasDerivAt (bins r x : ℝ) :
    HasDerivAt (fun y : ℝ => (y * (bins - 1) + r) / bins) ((bins - 1) / bins) x := by
  refine ((((hasDerivAt_id x).mul_const (bins - 1)).add_const r).div_const bins).congr_deriv ?_
  rw [one_mul]

/-- The layer reports `−log(bins)` per coordinate, i.e. the log-slope of `p ↦ (p + r)/bins` in the *integer pixel
value* `p = x·(bins − 1)`, not in its input `x`: for `n_bits = 8` the two differ by `log 255` per coordinate. -/
theorem dequantize_reported_is_not_log_slope :
    Real.log |((256 : ℝ) - 1) / 256| ≠ -Real.log 256 ∧
    Real.log |((256 : ℝ) - 1) / 256| - -Real.log 256 = Real.log 255 := by
  have h : Real.log |((256 : ℝ) - 1) / 256| = Real.log 255 - Real.log 256 := by
    rw [abs_of_pos (by norm_num), Real.log_div (by norm_num) (by norm_num)]; norm_num
  have hpos : 0 < Real.log 255 := Real.log_pos (by norm_num)
  constructor
  · rw [h]; linarith
  · rw [h]; ring

/-- The continuous linear map of a square real matrix on `Fin n → ℝ`. -/
noncomputable def matCLM {n : Nat} (M : Matrix (Fin n) (Fin n) ℝ) : (Fin n → ℝ) →L[ℝ] (Fin n → ℝ) :=
  LinearMap.toContinuousLinearMap (Matrix.toLin' M)

theorem matCLM_apply {n : Nat} (M : Matrix (Fin n) (Fin n) ℝ) (v : Fin n → ℝ) : matCLM M v = M.mulVec v := rfl

/-- `ContinuousLinearMap.det` of the map of a matrix is the determinant of the matrix (this `det` is the one in
Mathlib's change-of-variables formula `integral_image_eq_integral_abs_det_fderiv_smul`). -/
theorem matCLM_det {n : Nat} (M : Matrix (Fin n) (Fin n) ℝ) : (matCLM M).det = M.det := by
  show LinearMap.det ((matCLM M : (Fin n → ℝ) →L[ℝ] (Fin n → ℝ)) : (Fin n → ℝ) →ₗ[ℝ] (Fin n → ℝ)) = _
  have : ((matCLM M : (Fin n → ℝ) →L[ℝ] (Fin n → ℝ)) : (Fin n → ℝ) →ₗ[ℝ] (Fin n → ℝ)) = Matrix.toLin' M := by
    ext v i; rfl
  rw [this, LinearMap.det_toLin']

/-- **Element-wise maps have a diagonal Jacobian.** If every `fᵢ` has derivative `sᵢ` at `xᵢ`, the map
`x ↦ (f₁ x₁, …, f_n x_n)` has Fréchet derivative the diagonal matrix of the slopes at `x`. -/
theorem elementwise_hasFDerivAt {n : Nat} (f : Fin n → ℝ → ℝ) (s x : Fin n → ℝ)
    (hf : ∀ i, HasDerivAt (f i) (s i) (x i)) :
    HasFDerivAt (fun y : Fin n → ℝ => fun i => f i (y i)) (matCLM (Matrix.diagonal s)) x := by
  rw [hasFDerivAt_pi']
  intro i
  have h := (hf i).hasFDerivAt.comp x (hasFDerivAt_apply (𝕜 := ℝ) i x)
  refine h.congr_fderiv ?_
  ext v
  simp [matCLM_apply, Matrix.mulVec_diagonal, mul_comm]

/-- … hence `det J = ∏ slopes` (`Matrix.det_diagonal`) and `log|det J| = Σ log|slopeᵢ|` (non-zero slopes). -/
theorem elementwise_det {n : Nat} (s : Fin n → ℝ) :
    (matCLM (Matrix.diagonal s)).det = ∏ i, s i ∧ (Matrix.diagonal s).det = ∏ i, s i :=
  ⟨by rw [matCLM_det, Matrix.det_diagonal], Matrix.det_diagonal⟩

theorem log_abs_prod {n : Nat} (s : Fin n → ℝ) (hs : ∀ i, s i ≠ 0) :
    Real.log |∏ i, s i| = ∑ i, Real.log |s i| := by
  rw [Finset.abs_prod, Real.log_prod (fun i _ => abs_ne_zero.2 (hs i))]

/-- "`F` is differentiable at `x`, its Fréchet derivative is invertible, and `a = log|det F'(x)|`": what a layer that
reports the log-det `a` at `x` has to satisfy for the change-of-variables formula. -/
def HasLogAbsDet {n : Nat} (F : (Fin n → ℝ) → (Fin n → ℝ)) (x : Fin n → ℝ) (a : ℝ) : Prop :=
  DifferentiableAt ℝ F x ∧ (fderiv ℝ F x).det ≠ 0 ∧ Real.log |(fderiv ℝ F x).det| = a

/-- The change-of-variables fact for element-wise maps in one statement: the map is differentiable at `x`, and the
log-absolute-determinant of its derivative is the sum of the logs of the absolute slopes. -/
theorem elementwise_logabsdet {n : Nat} (f : Fin n → ℝ → ℝ) (s x : Fin n → ℝ)
    (hf : ∀ i, HasDerivAt (f i) (s i) (x i)) (hs : ∀ i, s i ≠ 0) :
    HasLogAbsDet (fun y : Fin n → ℝ => fun i => f i (y i)) x (∑ i, Real.log |s i|) := by
  have h := elementwise_hasFDerivAt f s x hf
  refine ⟨h.differentiableAt, ?_, ?_⟩
  · rw [h.fderiv, (elementwise_det s).1]; exact Finset.prod_ne_zero_iff.2 (fun i _ => hs i)
  · rw [h.fderiv, (elementwise_det s).1, log_abs_prod s hs]

theorem forall_vec3 {P : ℝ → Prop} {a b c : ℝ} (ha : P a) (hb : P b) (hc : P c) (i : Fin 3) : P (![a, b, c] i) := by
  fin_cases i <;> assumption

/-- The point `(0.3, 0.5, 0.9)` of the examples lies in the domain of the logit layer with `α = 0.05`. -/
theorem exPoint_mem (i : Fin 3) :
    0 < 1 / 20 + (1 - 2 * (1 / 20)) * (![3 / 10, 1 / 2, 9 / 10] : Fin 3 → ℝ) i ∧
      1 / 20 + (1 - 2 * (1 / 20)) * (![3 / 10, 1 / 2, 9 / 10] : Fin 3 → ℝ) i < 1 :=
  forall_vec3 (P := fun x => 0 < 1 / 20 + (1 - 2 * (1 / 20)) * x ∧ 1 / 20 + (1 - 2 * (1 / 20)) * x < 1)
    (by norm_num) (by norm_num) (by norm_num) i

/-- Non-vacuity: the logit pre-processing on three coordinates at `α = 0.05`, `x = (0.3, 0.5, 0.9)`. -/
example : Real.log |(fderiv ℝ (fun y : Fin 3 → ℝ => fun i => logitMap (1 / 20) (y i)) ![3 / 10, 1 / 2, 9 / 10]).det|
    = ∑ i, Real.log |logitSlope (1 / 20) (![3 / 10, 1 / 2, 9 / 10] i)| :=
  (elementwise_logabsdet (fun _ => logitMap (1 / 20)) _ _
    (fun i => logit_backward_hasDerivAt _ _ (exPoint_mem i).1.ne' (sub_pos.2 (exPoint_mem i).2).ne')
    (fun i => (logit_backward_slope_pos _ _ (by norm_num) (exPoint_mem i).1 (exPoint_mem i).2).ne')).2.2

/-- The Jacobian matrix of a Fréchet derivative: entry `(i, j)` is `A eⱼ` at coordinate `i`. -/
noncomputable def jac {n : Nat} (A : (Fin n → ℝ) →L[ℝ] (Fin n → ℝ)) : Matrix (Fin n) (Fin n) ℝ :=
  LinearMap.toMatrix' (A : (Fin n → ℝ) →ₗ[ℝ] (Fin n → ℝ))

theorem jac_apply {n : Nat} (A : (Fin n → ℝ) →L[ℝ] (Fin n → ℝ)) (i j : Fin n) :
    jac A i j = A (Pi.single j 1) i := by
  simp [jac, LinearMap.toMatrix'_apply]

theorem jac_det {n : Nat} (A : (Fin n → ℝ) →L[ℝ] (Fin n → ℝ)) : (jac A).det = A.det :=
  LinearMap.det_toMatrix' _

/-- Entry `(i, j)` of the Jacobian matrix is the partial derivative of coordinate `i` in the variable `xⱼ`. -/
theorem jac_entry_is_partial {n : Nat} (F : (Fin n → ℝ) → (Fin n → ℝ)) (A : (Fin n → ℝ) →L[ℝ] (Fin n → ℝ))
    (x : Fin n → ℝ) (hF : HasFDerivAt F A x) (i j : Fin n) :
    HasDerivAt (fun v : ℝ => F (Function.update x j v) i) (jac A i j) (x j) := by
  have hx : Function.update x j (x j) = x := Function.update_eq_self j x
  have hF' : HasFDerivAt F A (Function.update x j (x j)) := by rw [hx]; exact hF
  have h := hF'.comp_hasDerivAt (x j) (hasDerivAt_update x j (x j))
  have h2 := (hasDerivAt_pi.1 h) i
  rw [jac_apply]
  exact h2

/-- **Triangular maps.** Let `F` be differentiable at `x` with derivative `A`. If coordinate `i` of `F` does not read
`xⱼ` whenever `j ≠ i` and `deg i ≤ deg j` (autoregressive / coupling dependency structure), and the partial
derivative of coordinate `i` in its own variable is `sᵢ`, then the Jacobian matrix has the vanishing pattern of
`det_triangular_by_degree'` (Lemmas/FlowsDet.lean; `det_triangular_by_degree` of Props/C15.lean is the same statement)
and diagonal `s`; `det A = ∏ sᵢ`. -/
theorem triangular_fderiv_det {n : Nat} (F : (Fin n → ℝ) → (Fin n → ℝ)) (A : (Fin n → ℝ) →L[ℝ] (Fin n → ℝ))
    (x : Fin n → ℝ) (hF : HasFDerivAt F A x) (deg : Fin n → ℕ) (s : Fin n → ℝ)
    (hdep : ∀ i j, i ≠ j → deg i ≤ deg j → ∀ v, F (Function.update x j v) i = F x i)
    (hdiag : ∀ i, HasDerivAt (fun v : ℝ => F (Function.update x i v) i) (s i) (x i)) :
    (∀ i j, i ≠ j → deg i ≤ deg j → jac A i j = 0) ∧ (∀ i, jac A i i = s i) ∧
    (jac A).det = ∏ i, s i ∧ A.det = ∏ i, s i := by
  have hpat : ∀ i j, i ≠ j → deg i ≤ deg j → jac A i j = 0 := by
    intro i j hij hd
    have h1 := jac_entry_is_partial F A x hF i j
    have h2 : HasDerivAt (fun v : ℝ => F (Function.update x j v) i) 0 (x j) := by
      have : (fun v : ℝ => F (Function.update x j v) i) = fun _ => F x i := funext (hdep i j hij hd)
      rw [this]; exact hasDerivAt_const _ _
    exact h1.unique h2
  have hd : ∀ i, jac A i i = s i := fun i => (jac_entry_is_partial F A x hF i i).unique (hdiag i)
  have hdet : (jac A).det = ∏ i, s i := by
    rw [det_triangular_by_degree' (jac A) deg hpat]
    exact Finset.prod_congr rfl (fun i _ => hd i)
  exact ⟨hpat, hd, hdet, by rw [← jac_det, hdet]⟩

/-- Lower triangular Jacobians (coordinate `i` reads no `xⱼ` with `i < j`) as the special case `deg = id`. -/
theorem lowerTriangular_fderiv_det {n : Nat} (F : (Fin n → ℝ) → (Fin n → ℝ)) (A : (Fin n → ℝ) →L[ℝ] (Fin n → ℝ))
    (x : Fin n → ℝ) (hF : HasFDerivAt F A x) (s : Fin n → ℝ)
    (hdep : ∀ i j : Fin n, i < j → ∀ v, F (Function.update x j v) i = F x i)
    (hdiag : ∀ i, HasDerivAt (fun v : ℝ => F (Function.update x i v) i) (s i) (x i)) :
    (jac A).BlockTriangular OrderDual.toDual ∧ A.det = ∏ i, s i := by
  have h := triangular_fderiv_det F A x hF (fun i => (i : ℕ)) s
    (fun i j hij hd => hdep i j (lt_of_le_of_ne hd hij)) hdiag
  refine ⟨?_, h.2.2.2⟩
  intro i j hij
  have hij' : i < j := hij
  exact h.1 i j (ne_of_lt hij') (le_of_lt hij')

/-- Non-vacuity: a two-coordinate autoregressive affine map `(x₀, x₁) ↦ (x₀·e² + 1, x₁·exp(x₀) + x₀²)`:
its derivative at `(0.3, 0.5)` has determinant `e² · exp(0.3)`. -/
example : ∀ A : (Fin 2 → ℝ) →L[ℝ] (Fin 2 → ℝ),
    HasFDerivAt (fun y : Fin 2 → ℝ => ![y 0 * Real.exp 2 + 1, y 1 * Real.exp (y 0) + y 0 ^ 2]) A ![3 / 10, 1 / 2] →
    A.det = ∏ i, ![Real.exp 2, Real.exp (3 / 10)] i := by
  intro A hA
  refine (lowerTriangular_fderiv_det _ A _ hA _ ?_ ?_).2
  · intro i j hij v
    obtain ⟨rfl, rfl⟩ : i = 0 ∧ j = 1 := by omega
    simp
  · intro i
    fin_cases i
    · simpa using affine_forward_hasDerivAt 2 1 (3 / 10)
    · simpa using affine_forward_hasDerivAt (3 / 10) ((3 / 10 : ℝ) ^ 2) (1 / 2)


/-- Triangular change of variables in one statement (non-zero diagonal slopes). -/
theorem triangular_logabsdet {n : Nat} (F : (Fin n → ℝ) → (Fin n → ℝ)) (x : Fin n → ℝ)
    (hF : DifferentiableAt ℝ F x) (deg : Fin n → ℕ) (s : Fin n → ℝ)
    (hdep : ∀ i j, i ≠ j → deg i ≤ deg j → ∀ v, F (Function.update x j v) i = F x i)
    (hdiag : ∀ i, HasDerivAt (fun v : ℝ => F (Function.update x i v) i) (s i) (x i))
    (hs : ∀ i, s i ≠ 0) :
    HasLogAbsDet F x (∑ i, Real.log |s i|) := by
  have hdet := (triangular_fderiv_det F _ x hF.hasFDerivAt deg s hdep hdiag).2.2.2
  refine ⟨hF, ?_, ?_⟩
  · rw [hdet]; exact Finset.prod_ne_zero_iff.2 (fun i _ => hs i)
  · rw [hdet, log_abs_prod s hs]

theorem clm_det_comp {n : Nat} (A B : (Fin n → ℝ) →L[ℝ] (Fin n → ℝ)) : (A.comp B).det = A.det * B.det := by
  rw [ContinuousLinearMap.det, ContinuousLinearMap.toLinearMap_comp, LinearMap.det_comp]

/-- Inverse-function rule for reported log-dets: if `B ∘ F = id`, `F` is differentiable at `u` and `B` reports `b`
at `F u`, then `F` reports `−b` at `u`. -/
theorem HasLogAbsDet.of_leftInverse {n : Nat} {F B : (Fin n → ℝ) → (Fin n → ℝ)} {u : Fin n → ℝ} {b : ℝ}
    (hF : DifferentiableAt ℝ F u) (hB : HasLogAbsDet B (F u) b) (hBF : ∀ u', B (F u') = u') :
    HasLogAbsDet F u (-b) := by
  obtain ⟨hBd, -, hBlog⟩ := hB
  have hdet : (fderiv ℝ B (F u)).det * (fderiv ℝ F u).det = 1 := by
    rw [← clm_det_comp, ← fderiv_comp u hBd hF, show B ∘ F = id from funext hBF, fderiv_id]
    exact LinearMap.det_id
  have hB0 := left_ne_zero_of_mul_eq_one hdet
  have hF0 := right_ne_zero_of_mul_eq_one hdet
  have hlog : Real.log |(fderiv ℝ B (F u)).det| + Real.log |(fderiv ℝ F u).det| = 0 := by
    rw [← Real.log_mul (abs_ne_zero.2 hB0) (abs_ne_zero.2 hF0), ← abs_mul, hdet, abs_one, Real.log_one]
  exact ⟨hF, hF0, by rw [← hBlog]; exact eq_neg_of_add_eq_zero_right hlog⟩

/-- Embedding of `ℝⁿ` into the model's flat-index vectors. -/
def ext {n : Nat} (x : Fin n → ℝ) : Nat → ℝ := fun k => if h : k < n then x ⟨k, h⟩ else 0

@[simp] theorem ext_fin {n : Nat} (x : Fin n → ℝ) (i : Fin n) : ext x (i : ℕ) = x i := by
  simp [ext, i.2]

theorem ext_update_ne {n : Nat} (x : Fin n → ℝ) (j : Fin n) (v : ℝ) (k : Nat) (hk : k ≠ (j : ℕ)) :
    ext (Function.update x j v) k = ext x k := by
  unfold ext
  split_ifs with h
  · exact Function.update_of_ne (fun e => hk (by rw [← e])) _ _
  · rfl

theorem differentiable_ext {n : Nat} (k : Nat) : Differentiable ℝ (fun y : Fin n → ℝ => ext y k) := by
  unfold ext
  split_ifs with h
  · exact differentiable_apply _
  · exact differentiable_const _

/-- A layer of the model (`Nat → ℝ` vectors, returns value and reported log-det) as a map of `ℝⁿ`. -/
def onFin (n : Nat) (L : (Nat → ℝ) → (Nat → ℝ) × ℝ) : (Fin n → ℝ) → (Fin n → ℝ) :=
  fun y i => (L (ext y)).1 (i : ℕ)

/-- A layer that applies `fᵢ` to coordinate `i` and reports the sum of the log-slopes. -/
theorem onFin_elementwise_logabsdet {n : Nat} (L : (Nat → ℝ) → (Nat → ℝ) × ℝ) (f : Fin n → ℝ → ℝ)
    (s x : Fin n → ℝ) (hL : ∀ (y : Nat → ℝ) (i : Fin n), (L y).1 i = f i (y i))
    (hf : ∀ i, HasDerivAt (f i) (s i) (x i)) (hs : ∀ i, s i ≠ 0)
    (hval : (L (ext x)).2 = ∑ i, Real.log |s i|) : HasLogAbsDet (onFin n L) x (L (ext x)).2 := by
  have e : onFin n L = fun y i => f i (y i) :=
    funext fun y => funext fun i => (hL (ext y) i).trans (by rw [ext_fin])
  rw [e, hval]
  exact elementwise_logabsdet f s x hf hs

/-- `LogitLayer.apply_backward` (data → latent) at `realExpLog`, `dims = n`, `α < 1/2`, on the layer's domain
`α + (1 − 2α)x ∈ (0,1)ⁿ`: the layer is differentiable and the `inv_log_det_jacobian` it reports is
`log|det|` of its Fréchet derivative. -/
theorem logit_backward_ldj_is_logabsdet (α : ℝ) (n : Nat) (hα : 0 < 1 - 2 * α) (x : Fin n → ℝ)
    (hx : ∀ i, 0 < α + (1 - 2 * α) * x i ∧ α + (1 - 2 * α) * x i < 1) :
    HasLogAbsDet (onFin n (logitBackward realExpLog.log α (n : ℝ) n)) x
      (logitBackward realExpLog.log α (n : ℝ) n (ext x)).2 := by
  refine onFin_elementwise_logabsdet _ (fun _ => logitMap α) (fun i => logitSlope α (x i)) x
    (fun y i => logitBackward_coord α _ n y i)
    (fun i => logit_backward_hasDerivAt α (x i) (hx i).1.ne' (sub_pos.2 (hx i).2).ne')
    (fun i => (logit_backward_slope_pos α (x i) hα (hx i).1 (hx i).2).ne') ?_
  show -(sumVar n (fun k => Real.log (α + (1 - (1 + 1) * α) * ext x k)
      + Real.log (1 - (α + (1 - (1 + 1) * α) * ext x k))) + -((n : ℝ) * Real.log (1 - (1 + 1) * α))) = _
  rw [sumVar_eq_sum, one_add_one_eq_two]
  simp only [ext_fin]
  rw [Finset.sum_congr rfl (fun i _ => logit_backward_log_slope α (x i) hα (hx i).1 (hx i).2)]
  simp only [Finset.sum_add_distrib, Finset.sum_neg_distrib, Finset.sum_const, Finset.card_univ,
    Fintype.card_fin, nsmul_eq_mul]
  ring

/-- Non-vacuity at `α = 0.05`, `x = (0.3, 0.5, 0.9)`. -/
example : Real.log |(fderiv ℝ (onFin 3 (logitBackward realExpLog.log (1 / 20) ((3 : ℕ) : ℝ) 3))
      ![3 / 10, 1 / 2, 9 / 10]).det|
    = (logitBackward realExpLog.log (1 / 20) ((3 : ℕ) : ℝ) 3 (ext ![3 / 10, 1 / 2, 9 / 10])).2 :=
  (logit_backward_ldj_is_logabsdet (1 / 20) 3 (by norm_num) _ exPoint_mem).2.2

/-- `LogitLayer.apply_forward` (latent → data), every `u ∈ ℝⁿ`. -/
theorem logit_forward_ldj_is_logabsdet (α : ℝ) (n : Nat) (hα : 0 < 1 - 2 * α) (u : Fin n → ℝ) :
    HasLogAbsDet (onFin n (logitForward realExpLog.log realExpLog.sigmoid α (n : ℝ) n)) u
      (logitForward realExpLog.log realExpLog.sigmoid α (n : ℝ) n (ext u)).2 := by
  refine onFin_elementwise_logabsdet _ (fun _ => logitInvMap α) (fun i => logitInvSlope α (u i)) u
    (fun y i => logitForward_coord α _ n y i) (fun i => logit_forward_hasDerivAt α (u i))
    (fun i => (logit_forward_slope_pos α (u i) hα).ne') ?_
  show sumVar n (fun k => Real.log (sigmoid (ext u k)) + Real.log (1 - sigmoid (ext u k)))
      + -((n : ℝ) * Real.log (1 - (1 + 1) * α)) = _
  rw [sumVar_eq_sum, one_add_one_eq_two]
  simp only [ext_fin]
  rw [Finset.sum_congr rfl (fun i _ => logit_forward_log_slope α (u i) hα)]
  simp only [Finset.sum_sub_distrib, Finset.sum_const, Finset.card_univ, Fintype.card_fin, nsmul_eq_mul]
  ring

example := logit_forward_ldj_is_logabsdet (1 / 20) 3 (by norm_num) ![-2, 0, 5]

/-- `BatchNormLayer1d.apply_backward` with running statistics, `running_var + eps > 0`. -/
theorem bn1d_backward_ldj_is_logabsdet (ε : ℝ) (n : Nat) (w b mean var : Nat → ℝ) (hv : ∀ k, 0 < var k + ε)
    (x : Fin n → ℝ) :
    HasLogAbsDet (onFin n (bn1dBackward realExpLog.exp realExpLog.log realExpLog.sqrt (1 / 2) ε n w b mean var)) x
      (bn1dBackward realExpLog.exp realExpLog.log realExpLog.sqrt (1 / 2) ε n w b mean var (ext x)).2 :=
  onFin_elementwise_logabsdet _ _ _ x (fun _ _ => rfl)
    (fun i : Fin n => bn_backward_hasDerivAt (w i) (b i) (mean i) (var i) ε (x i))
    (fun i => (bn_backward_slope (w i) (var i) ε (hv i)).1.ne')
    ((sumVar_eq_sum _ _).trans
      (Finset.sum_congr rfl (fun i _ => (bn_backward_slope (w i) (var i) ε (hv i)).2.symm)))

/-- `BatchNormLayer1d.apply_forward`. -/
theorem bn1d_forward_ldj_is_logabsdet (ε : ℝ) (n : Nat) (w b mean var : Nat → ℝ) (hv : ∀ k, 0 < var k + ε)
    (u : Fin n → ℝ) :
    HasLogAbsDet (onFin n (bn1dForward realExpLog.exp realExpLog.log realExpLog.sqrt (1 / 2) ε n w b mean var)) u
      (bn1dForward realExpLog.exp realExpLog.log realExpLog.sqrt (1 / 2) ε n w b mean var (ext u)).2 :=
  onFin_elementwise_logabsdet _ _ _ u (fun _ _ => rfl)
    (fun i : Fin n => bn_forward_hasDerivAt (w i) (b i) (mean i) (var i) ε (u i))
    (fun i => (bn_forward_slope (w i) (var i) ε (hv i)).1.ne')
    ((sumVar_eq_sum _ _).trans
      (Finset.sum_congr rfl (fun i _ => (bn_forward_slope (w i) (var i) ε (hv i)).2.symm)))

/-- `BatchNormLayer2d.apply_backward` on a `(C, H, W)` tensor, `grid = H·W`: per-channel parameters broadcast over
the grid; the reported value is `(Σ_c …)·grid_size`. -/
theorem bn2d_backward_ldj_is_logabsdet (ε : ℝ) (C grid : Nat) (w b mean var : Nat → ℝ) (hv : ∀ c, 0 < var c + ε)
    (x : Fin (C * grid) → ℝ) :
    HasLogAbsDet (onFin (C * grid)
      (bn2dBackward realExpLog.exp realExpLog.log realExpLog.sqrt (1 / 2) ε C grid (grid : ℝ) w b mean var)) x
      (bn2dBackward realExpLog.exp realExpLog.log realExpLog.sqrt (1 / 2) ε C grid (grid : ℝ) w b mean var
          (ext x)).2 := by
  rw [bn2dBackward_eq_bn1d]
  exact bn1d_backward_ldj_is_logabsdet ε (C * grid) _ _ _ _ (fun _ => hv _) x

/-- `BatchNormLayer2d.apply_forward`. -/
theorem bn2d_forward_ldj_is_logabsdet (ε : ℝ) (C grid : Nat) (w b mean var : Nat → ℝ) (hv : ∀ c, 0 < var c + ε)
    (u : Fin (C * grid) → ℝ) :
    HasLogAbsDet (onFin (C * grid)
      (bn2dForward realExpLog.exp realExpLog.log realExpLog.sqrt (1 / 2) ε C grid (grid : ℝ) w b mean var)) u
      (bn2dForward realExpLog.exp realExpLog.log realExpLog.sqrt (1 / 2) ε C grid (grid : ℝ) w b mean var
          (ext u)).2 := by
  rw [bn2dForward_eq_bn1d]
  exact bn1d_forward_ldj_is_logabsdet ε (C * grid) _ _ _ _ (fun _ => hv _) u

/-- Non-vacuity: 2 channels × a 3-position grid, `eps = 1e-5`, running variance `c` for channel `c` (so channel 0
has variance 0 and only `eps` keeps the square root positive). -/
example (x : Fin (2 * 3) → ℝ) := bn2d_backward_ldj_is_logabsdet (1 / 100000) 2 3 (fun k => (k : ℝ)) (fun _ => 1)
  (fun k => 2 * k) (fun k => (k : ℝ)) (fun k => by positivity) x
example (x : Fin 3 → ℝ) := bn1d_backward_ldj_is_logabsdet (1 / 100000) 3 (fun k => (k : ℝ)) (fun _ => 1)
  (fun k => 2 * k) (fun k => (k : ℝ)) (fun k => by positivity) x
example (x : Fin 3 → ℝ) := bn1d_forward_ldj_is_logabsdet (1 / 100000) 3 (fun k => (k : ℝ)) (fun _ => 1)
  (fun k => 2 * k) (fun k => (k : ℝ)) (fun k => by positivity) x
example (x : Fin (2 * 3) → ℝ) := bn2d_forward_ldj_is_logabsdet (1 / 100000) 2 3 (fun k => (k : ℝ)) (fun _ => 1)
  (fun k => 2 * k) (fun k => (k : ℝ)) (fun k => by positivity) x

/-- The Jacobian of `y ↦ (aᵢ(y)·yᵢ + bᵢ(y))ᵢ`, where `aᵢ`, `bᵢ` do not see a change of coordinate `j` when
`deg i ≤ deg j`, is degree-triangular with diagonal `aᵢ(x)`; hence `log|det| = Σ log|aᵢ(x)|`. All couplings and the
autoregressive layer in the density direction are of this form. -/
theorem triangular_affine_logabsdet {n : Nat} (deg : Fin n → ℕ) (a b : (Fin n → ℝ) → Fin n → ℝ) (x : Fin n → ℝ)
    (ha : ∀ i, DifferentiableAt ℝ (fun y => a y i) x) (hb : ∀ i, DifferentiableAt ℝ (fun y => b y i) x)
    (hadep : ∀ i j, deg i ≤ deg j → ∀ v, a (Function.update x j v) i = a x i)
    (hbdep : ∀ i j, deg i ≤ deg j → ∀ v, b (Function.update x j v) i = b x i)
    (ha0 : ∀ i, a x i ≠ 0) :
    let F : (Fin n → ℝ) → Fin n → ℝ := fun y i => a y i * y i + b y i
    HasLogAbsDet F x (∑ i, Real.log |a x i|) ∧
    (∀ i j, i ≠ j → deg i ≤ deg j → jac (fderiv ℝ F x) i j = 0) ∧ (∀ i, jac (fderiv ℝ F x) i i = a x i) := by
  intro F
  have hdiff : DifferentiableAt ℝ F x :=
    differentiableAt_pi.2 (fun i => ((ha i).mul (differentiableAt_apply i x)).add (hb i))
  have hdep : ∀ i j, i ≠ j → deg i ≤ deg j → ∀ v, F (Function.update x j v) i = F x i := by
    intro i j hij hd v
    simp only [F, hadep i j hd, hbdep i j hd, Function.update_of_ne hij]
  have hdiag : ∀ i, HasDerivAt (fun v => F (Function.update x i v) i) (a x i) (x i) := by
    intro i
    have e : (fun v => F (Function.update x i v) i) = fun v => a x i * v + b x i :=
      funext fun v => by simp only [F, hadep i i le_rfl, hbdep i i le_rfl, Function.update_self]
    rw [e]
    exact (((hasDerivAt_id (x i)).const_mul (a x i)).add_const (b x i)).congr_deriv (mul_one _)
  have htri := triangular_fderiv_det F _ x hdiff.hasFDerivAt deg (fun i => a x i) hdep hdiag
  exact ⟨triangular_logabsdet F x hdiff deg _ hdep hdiag ha0, htri.1, htri.2.1⟩

/-- Output `i` of the conditioner head `h` does not see a change of coordinate `j` of `x` when `deg i ≤ deg j`. -/
def ReadsLower {n : Nat} (deg : Fin n → ℕ) (h : (Nat → ℝ) → Nat → ℝ) (x : Fin n → ℝ) : Prop :=
  ∀ i j : Fin n, deg i ≤ deg j → ∀ v, h (ext (Function.update x j v)) i = h (ext x) i

theorem readsLower_of_autoregressive {n : Nat} {deg : Nat → Nat} {h : (Nat → ℝ) → Nat → ℝ}
    (hh : Autoregressive n deg h) (x : Fin n → ℝ) : ReadsLower (fun i : Fin n => deg i) h x := by
  intro i j hd v
  have hd' : deg i ≤ deg j := hd
  refine hh i i.2 _ _ (fun k _ hk => ext_update_ne x j v k ?_)
  rintro rfl
  omega

/-- The heads of a coupling, for the degrees `mask ↦ 0`, `inv_mask ↦ 1`: they vanish on masked outputs and read
masked inputs only. -/
theorem maskedHead_readsLower {n : Nat} (m : Nat → Bool) (H : (Nat → ℝ) → Nat → ℝ) (x : Fin n → ℝ) :
    ReadsLower (fun i : Fin n => if m i then 0 else 1) (maskedHead m H) x := by
  intro i j hd v
  rcases maskDeg_le hd with hi | hj
  · rw [maskedHead_true hi, maskedHead_true hi]
  · refine congrFun (maskedHead_congr H (fun k hk => ext_update_ne x j v k ?_)) i
    rintro rfl
    rw [hj] at hk
    cases hk

/-- **The one-pass map `y ↦ (y − t(y))·exp(−s(y))`** (`apply_backward` of the autoregressive layer and of the affine
couplings) for heads that are differentiable at `x` and read only coordinates of lower degree: the Jacobian is
degree-triangular with diagonal `exp(−sᵢ(x))`, and the reported `−Σ sᵢ(x)` is `log|det|` of the Fréchet derivative. -/
theorem affine_backward_logabsdet {n : Nat} (deg : Fin n → ℕ) (t s : (Nat → ℝ) → Nat → ℝ) (x : Fin n → ℝ)
    (hdt : ∀ i : Fin n, DifferentiableAt ℝ (fun y : Fin n → ℝ => t (ext y) i) x)
    (hds : ∀ i : Fin n, DifferentiableAt ℝ (fun y : Fin n → ℝ => s (ext y) i) x)
    (ht : ReadsLower deg t x) (hs : ReadsLower deg s x) :
    HasLogAbsDet (onFin n (mafBackward realExpLog.exp n t s)) x (mafBackward realExpLog.exp n t s (ext x)).2 ∧
    (∀ i j : Fin n, i ≠ j → deg i ≤ deg j →
      jac (fderiv ℝ (onFin n (mafBackward realExpLog.exp n t s)) x) i j = 0) ∧
    (∀ i : Fin n, jac (fderiv ℝ (onFin n (mafBackward realExpLog.exp n t s)) x) i i = Real.exp (-(s (ext x) i))) := by
  have e : onFin n (mafBackward realExpLog.exp n t s)
      = fun (y : Fin n → ℝ) (i : Fin n) =>
          Real.exp (-(s (ext y) i)) * y i + -(t (ext y) i * Real.exp (-(s (ext y) i))) := by
    funext y i
    show (ext y (i : ℕ) - t (ext y) i) * Real.exp (-(s (ext y) i)) = _
    rw [ext_fin]
    ring
  have hval : (mafBackward realExpLog.exp n t s (ext x)).2
      = ∑ i : Fin n, Real.log |Real.exp (-(s (ext x) i))| := by
    show -(sumVar n (s (ext x))) = _
    rw [sumVar_eq_sum, ← Finset.sum_neg_distrib]
    exact Finset.sum_congr rfl (fun i _ => (affine_slope_pos_log _).2.2.2.symm)
  rw [e, hval]
  exact triangular_affine_logabsdet deg _ _ x (fun i => (hds i).neg.exp)
    (fun i => ((hdt i).mul (hds i).neg.exp).neg) (fun i j hd v => by rw [hs i j hd v])
    (fun i j hd v => by rw [ht i j hd v, hs i j hd v]) (fun i => (Real.exp_pos _).ne')

/-- The masked input `mask ⊙ x` handed to the conditioner. -/
def masked {n : Nat} (m : Nat → Bool) (y : Fin n → ℝ) : Nat → ℝ := fun k => maskVal m k * ext y k

theorem differentiable_masked {n : Nat} (m : Nat → Bool) (k : Nat) :
    Differentiable ℝ (fun y : Fin n → ℝ => masked m y k) :=
  (differentiable_ext k).const_mul _

/-- **Affine coupling, `apply_backward`.** For any mask and any conditioner heads `T`, `S` that are differentiable
(as functions of the masked input) at `x`: the layer is differentiable at `x` and the reported
`inv_log_det_jacobian = −Σ inv_maskₖ·S(mask ⊙ x)ₖ` is `log|det|` of its Fréchet derivative. The Jacobian is
triangular for the degrees `mask ↦ 0`, `inv_mask ↦ 1`; its diagonal is `exp(−sₖ)` by `affine_backward_hasDerivAt`. -/
theorem coupling_backward_ldj_is_logabsdet (n : Nat) (m : Nat → Bool) (T S : (Nat → ℝ) → Nat → ℝ)
    (x : Fin n → ℝ)
    (hT : ∀ i : Fin n, DifferentiableAt ℝ (fun y : Fin n → ℝ => T (masked m y) i) x)
    (hS : ∀ i : Fin n, DifferentiableAt ℝ (fun y : Fin n → ℝ => S (masked m y) i) x) :
    HasLogAbsDet (onFin n (couplingBackward realExpLog.exp true n m T S)) x
      (couplingBackward realExpLog.exp true n m T S (ext x)).2 := by
  rw [couplingBackward_affine]
  exact (affine_backward_logabsdet (fun i : Fin n => if m i then 0 else 1) _ _ x (fun i => (hT i).const_mul _)
    (fun i => (hS i).const_mul _) (maskedHead_readsLower m T x) (maskedHead_readsLower m S x)).1

/-- **Affine coupling, `apply_forward`**: reported `log_det_jacobian = Σ inv_maskₖ·S(mask ⊙ u)ₖ`. -/
theorem coupling_forward_ldj_is_logabsdet (n : Nat) (m : Nat → Bool) (T S : (Nat → ℝ) → Nat → ℝ)
    (u : Fin n → ℝ)
    (hT : ∀ i : Fin n, DifferentiableAt ℝ (fun y : Fin n → ℝ => T (masked m y) i) u)
    (hS : ∀ i : Fin n, DifferentiableAt ℝ (fun y : Fin n → ℝ => S (masked m y) i) u) :
    HasLogAbsDet (onFin n (couplingForward realExpLog.exp true n m T S)) u
      (couplingForward realExpLog.exp true n m T S (ext u)).2 := by
  have e : onFin n (couplingForward realExpLog.exp true n m T S)
      = fun (y : Fin n → ℝ) (i : Fin n) =>
          Real.exp (maskedHead m S (ext y) i) * y i + maskedHead m T (ext y) i := by
    funext y i
    show ext y (i : ℕ) * Real.exp (maskedHead m S (ext y) i) + maskedHead m T (ext y) i = _
    rw [ext_fin, mul_comm]
  have hval : (couplingForward realExpLog.exp true n m T S (ext u)).2
      = ∑ i : Fin n, Real.log |Real.exp (maskedHead m S (ext u) i)| := by
    show sumVar n (maskedHead m S (ext u)) = _
    rw [sumVar_eq_sum]
    exact Finset.sum_congr rfl (fun i _ => (affine_slope_pos_log _).2.1.symm)
  rw [e, hval]
  exact (triangular_affine_logabsdet (fun i : Fin n => if m i then 0 else 1) _ _ u
    (fun i => ((hS i).const_mul _).exp) (fun i => (hT i).const_mul _)
    (fun i j hd v => congrArg Real.exp (maskedHead_readsLower m S u i j hd v)) (maskedHead_readsLower m T u)
    (fun i => (Real.exp_pos _).ne')).1

/-- Non-vacuity: alternating mask on 4 coordinates, conditioner heads `T(z)ₖ = z₀·z₂ + k`, `S(z)ₖ = z₀ − z₂²`
(smooth, genuinely non-linear, reading only what the mask lets through). -/
example (x : Fin 4 → ℝ) :
    Real.log |(fderiv ℝ (onFin 4 (couplingBackward realExpLog.exp true 4 (alternatingMask true)
        (fun z k => z 0 * z 2 + k) (fun z _ => z 0 - z 2 ^ 2))) x).det|
      = (couplingBackward realExpLog.exp true 4 (alternatingMask true)
        (fun z k => z 0 * z 2 + k) (fun z _ => z 0 - z 2 ^ 2) (ext x)).2 := by
  refine (coupling_backward_ldj_is_logabsdet 4 _ _ _ x (fun i => ?_) (fun i => ?_)).2.2
  · exact (((differentiable_masked _ 0).mul (differentiable_masked _ 2)).add_const _) x
  · exact ((differentiable_masked _ 0).sub ((differentiable_masked _ 2).pow 2)) x

/-- **Additive coupling** (`affine = False`), both directions: slope `1` on every coordinate, reported log-det `0`. -/
theorem coupling_additive_ldj_is_logabsdet (n : Nat) (m : Nat → Bool) (T S : (Nat → ℝ) → Nat → ℝ)
    (x : Fin n → ℝ)
    (hT : ∀ i : Fin n, DifferentiableAt ℝ (fun y : Fin n → ℝ => T (masked m y) i) x) :
    HasLogAbsDet (onFin n (couplingBackward realExpLog.exp false n m T S)) x
      (couplingBackward realExpLog.exp false n m T S (ext x)).2 ∧
    HasLogAbsDet (onFin n (couplingForward realExpLog.exp false n m T S)) x
      (couplingForward realExpLog.exp false n m T S (ext x)).2 := by
  have hS : ∀ i : Fin n, DifferentiableAt ℝ (fun y : Fin n → ℝ => (fun _ _ => (0 : ℝ)) (masked m y) i) x :=
    fun _ => differentiableAt_const _
  rw [couplingBackward_additive realExpLog, couplingForward_additive realExpLog]
  exact ⟨coupling_backward_ldj_is_logabsdet n m T _ x hT hS, coupling_forward_ldj_is_logabsdet n m T _ x hT hS⟩

example (x : Fin 4 → ℝ) := coupling_additive_ldj_is_logabsdet 4 (fun _ => true) (fun _ _ => 0) (fun _ _ => 0) x
  (fun _ => differentiableAt_const _)

/-- **`AutoregressiveLayer.apply_backward`.** For conditioner heads `t`, `s` that are autoregressive for the degree
assignment `deg` (what `masks_strictly_autoregressive` + `made_output_depends_only_on_smaller_degree` give for the
MADE network) and differentiable at `x`: the layer is differentiable at `x`, its Jacobian matrix has the
degree-triangular vanishing pattern with diagonal `exp(−sᵢ(x))`, and the reported `inv_log_det_jacobian = −Σ sᵢ(x)`
is `log|det|` of its Fréchet derivative. -/
theorem maf_backward_ldj_is_logabsdet (n : Nat) (deg : Nat → Nat) (t s : (Nat → ℝ) → Nat → ℝ)
    (ht : Autoregressive n deg t) (hs : Autoregressive n deg s) (x : Fin n → ℝ)
    (hdt : ∀ i : Fin n, DifferentiableAt ℝ (fun y : Fin n → ℝ => t (ext y) i) x)
    (hds : ∀ i : Fin n, DifferentiableAt ℝ (fun y : Fin n → ℝ => s (ext y) i) x) :
    HasLogAbsDet (onFin n (mafBackward realExpLog.exp n t s)) x (mafBackward realExpLog.exp n t s (ext x)).2 ∧
    (∀ i j : Fin n, i ≠ j → deg i ≤ deg j →
      jac (fderiv ℝ (onFin n (mafBackward realExpLog.exp n t s)) x) i j = 0) ∧
    (∀ i : Fin n, jac (fderiv ℝ (onFin n (mafBackward realExpLog.exp n t s)) x) i i = Real.exp (-(s (ext x) i))) :=
  affine_backward_logabsdet (fun i : Fin n => deg i) t s x hdt hds (readsLower_of_autoregressive ht x)
    (readsLower_of_autoregressive hs x)

/-- The heads of the example conditioner are polynomials in the coordinates: `t = (3y₁ + 1, 2)`, `s = (y₁², −1)`. -/
theorem exT_differentiable (i : Fin 2) : Differentiable ℝ (fun y : Fin 2 → ℝ => exT (ext y) i) := by
  fin_cases i
  · exact ((differentiable_apply (1 : Fin 2)).const_mul (3 : ℝ)).add_const 1
  · exact differentiable_const (2 : ℝ)

theorem exS_differentiable (i : Fin 2) : Differentiable ℝ (fun y : Fin 2 → ℝ => exS (ext y) i) := by
  fin_cases i
  · exact (differentiable_apply (1 : Fin 2)).mul (differentiable_apply (1 : Fin 2))
  · exact differentiable_const (-1 : ℝ)

/-- Non-vacuity: the two-feature conditioner of `Lemmas/FlowsExamples.lean` (ordering `[1, 0]`: head 0 reads `x₁`,
`t₀ = 3x₁ + 1`, `s₀ = x₁²`), at every point of `ℝ²`. -/
example (x : Fin 2 → ℝ) :
    Real.log |(fderiv ℝ (onFin 2 (mafBackward realExpLog.exp 2 exT exS)) x).det|
      = (mafBackward realExpLog.exp 2 exT exS (ext x)).2 :=
  (maf_backward_ldj_is_logabsdet 2 _ exT exS exT_ar exS_ar x (fun i => exT_differentiable i x)
    (fun i => exS_differentiable i x)).1.2.2

/-- An autoregressive head only reads the first `n` coordinates. -/
theorem head_reads_first_n {n : Nat} {deg : Nat → Nat} {h : (Nat → ℝ) → Nat → ℝ} (hh : Autoregressive n deg h)
    (z : Nat → ℝ) (i : Nat) (hi : i < n) : h (ext (res (n := n) z)) i = h z i :=
  hh i hi _ _ (fun _ hj _ => ext0_res_lt z hj)

theorem differentiable_upd {n : Nat} {X : (Fin n → ℝ) → Nat → ℝ} {v : (Fin n → ℝ) → ℝ} {i : Nat}
    (hX : ∀ j, Differentiable ℝ (fun u => X u j)) (hv : Differentiable ℝ v) (j : Nat) :
    Differentiable ℝ (fun u => upd (X u) i (v u) j) := by
  by_cases hj : j = i
  · simp only [upd, hj, if_true]; exact hv
  · simp only [upd, hj, if_false]; exact hX j

/-- Every iterate of the loop `for i in self.inv_ordering:` is a differentiable function of `u` (coordinate by
coordinate), for conditioner heads that are differentiable everywhere. -/
theorem mafLoop_differentiable (n : Nat) (deg : Nat → Nat) (t s : (Nat → ℝ) → Nat → ℝ)
    (ht : Autoregressive n deg t) (hs : Autoregressive n deg s)
    (hdt : ∀ i : Fin n, Differentiable ℝ (fun y : Fin n → ℝ => t (ext y) i))
    (hds : ∀ i : Fin n, Differentiable ℝ (fun y : Fin n → ℝ => s (ext y) i)) :
    ∀ (order : List Nat), (∀ i ∈ order, i < n) → ∀ (X L : (Fin n → ℝ) → Nat → ℝ),
      (∀ j, Differentiable ℝ (fun u => X u j)) → (∀ j, Differentiable ℝ (fun u => L u j)) →
      (∀ j, Differentiable ℝ (fun u => (mafLoop Real.exp t s (ext u) order (X u, L u)).1 j)) ∧
      (∀ j, Differentiable ℝ (fun u => (mafLoop Real.exp t s (ext u) order (X u, L u)).2 j)) := by
  intro order
  induction order with
  | nil => intro _ X L hX hL; exact ⟨hX, hL⟩
  | cons i rest ih =>
    intro hmem X L hX hL
    have hi : i < n := hmem i List.mem_cons_self
    -- a head at `i`, evaluated on the current iterate, is the head on `ℝⁿ` composed with the first `n` coordinates
    have hhead : ∀ h : (Nat → ℝ) → Nat → ℝ, Autoregressive n deg h →
        (∀ i : Fin n, Differentiable ℝ (fun y : Fin n → ℝ => h (ext y) i)) →
        Differentiable ℝ (fun u => h (X u) i) := by
      intro h hh hd
      have e : (fun u => h (X u) i)
          = (fun y : Fin n → ℝ => h (ext y) (⟨i, hi⟩ : Fin n)) ∘ fun u => res (n := n) (X u) :=
        funext (fun u => (head_reads_first_n hh (X u) i hi).symm)
      rw [e]
      exact (hd ⟨i, hi⟩).comp (differentiable_pi.2 (fun j => hX j))
    have hsd := hhead s hs hds
    refine ih (fun k hk => hmem k (List.mem_cons_of_mem _ hk))
      (fun u => upd (X u) i (ext u i * Real.exp (s (X u) i) + t (X u) i)) (fun u => upd (L u) i (s (X u) i))
      (differentiable_upd hX (((differentiable_ext i).mul hsd.exp).add (hhead t ht hdt))) (differentiable_upd hL hsd)

/-- **`AutoregressiveLayer.apply_forward`** (the `D`-step loop, network re-evaluated at every step). For heads that
are autoregressive for `ordering` and differentiable everywhere, the map computed by the loop is differentiable, and
the reported `log_det_jacobian` (the `s` values collected along the iterates and summed) is `log|det|` of its
Fréchet derivative — by the chain rule through `apply_backward ∘ apply_forward = id` and
`maf_backward_ldj_is_logabsdet`. -/
theorem maf_forward_ldj_is_logabsdet (ordering : List Nat) (n : Nat) (hp : ordering.Perm (List.range n))
    (t s : (Nat → ℝ) → Nat → ℝ)
    (ht : Autoregressive n (fun j => ordering.getD j 0) t)
    (hs : Autoregressive n (fun j => ordering.getD j 0) s)
    (hdt : ∀ i : Fin n, Differentiable ℝ (fun y : Fin n → ℝ => t (ext y) i))
    (hds : ∀ i : Fin n, Differentiable ℝ (fun y : Fin n → ℝ => s (ext y) i)) (u : Fin n → ℝ) :
    HasLogAbsDet (onFin n (mafForward realExpLog.exp n (invOrdering ordering) t s)) u
      (mafForward realExpLog.exp n (invOrdering ordering) t s (ext u)).2 := by
  obtain ⟨hnd, hmem, hpw⟩ := invOrdering_props ordering n hp
  -- the layer on `ℝⁿ` is the bijector `mafBij`: backward after forward is the identity, the log-dets are antisymmetric
  let M := mafBij realExpLog _ n t s ht hs (invOrdering ordering) hnd hpw hmem
  have hFd : Differentiable ℝ (onFin n (mafForward realExpLog.exp n (invOrdering ordering) t s)) :=
    differentiable_pi.2 (fun i =>
      (mafLoop_differentiable n _ t s ht hs hdt hds (invOrdering ordering) (fun i hi => (hmem i).1 hi)
        (fun _ _ => 0) (fun _ _ => 0) (fun _ => differentiable_const _) (fun _ => differentiable_const _)).1 i)
  -- so the log-det of the loop is minus the one `apply_backward` reports at its image
  obtain ⟨hB, -, -⟩ := maf_backward_ldj_is_logabsdet n _ t s ht hs _ (fun i => hdt i _) (fun i => hds i _)
  obtain ⟨h1, h2, h3⟩ := HasLogAbsDet.of_leftInverse (hFd u) hB M.bwd_fwd
  exact ⟨h1, h2, h3.trans (neg_eq_iff_eq_neg.2 (M.ldj_antisymm u))⟩

/-- Non-vacuity: the loop of the two-feature example, at every latent point. -/
example (u : Fin 2 → ℝ) :
    Real.log |(fderiv ℝ (onFin 2 (mafForward realExpLog.exp 2 (invOrdering [1, 0]) exT exS)) u).det|
      = (mafForward realExpLog.exp 2 (invOrdering [1, 0]) exT exS (ext u)).2 :=
  (maf_forward_ldj_is_logabsdet [1, 0] 2 (by decide) exT exS exT_ar exS_ar exT_differentiable
    exS_differentiable u).2.2

/-- **Index permutations** (squeeze / un-squeeze, the down/up-scaling convolutions with a permutation matrix, the
`chunk`/`cat` bookkeeping — every layer that only moves entries around and reports `0`): the gather `y ↦ y ∘ σ` for a
permutation `σ` of the flat indices is linear, its Jacobian is the permutation matrix, `|det| = 1`, `log|det| = 0`. -/
theorem permutation_ldj_is_logabsdet {n : Nat} (σ : Equiv.Perm (Fin n)) (x : Fin n → ℝ) :
    HasLogAbsDet (fun y : Fin n → ℝ => y ∘ σ) x 0 := by
  have hfun : (fun y : Fin n → ℝ => y ∘ σ) = matCLM (σ.permMatrix ℝ) := by
    funext y
    rw [matCLM_apply, Matrix.permMatrix_mulVec]
  have hd : HasFDerivAt (fun y : Fin n → ℝ => y ∘ σ) (matCLM (σ.permMatrix ℝ)) x := by
    rw [hfun]; exact (matCLM (σ.permMatrix ℝ)).hasFDerivAt
  have hdet : |(matCLM (σ.permMatrix ℝ)).det| = 1 := by
    rw [matCLM_det, Matrix.det_permutation]
    rcases Int.units_eq_one_or (Equiv.Perm.sign σ) with h | h <;> simp [h]
  refine ⟨hd.differentiableAt, ?_, ?_⟩
  · rw [hd.fderiv]; intro h0; rw [h0, abs_zero] at hdet; exact zero_ne_one hdet
  · rw [hd.fderiv, hdet, Real.log_one]

/-- Non-vacuity: the transposition of the first two of three entries. -/
example (x : Fin 3 → ℝ) := permutation_ldj_is_logabsdet (Equiv.swap (0 : Fin 3) 1) x

/-- **Composition** (`NormalizingFlow.apply_backward / apply_forward` accumulate the layers' log-dets): the chain
rule. If `F` reports `a` at `x` and `G` reports `b` at `F x`, then `G ∘ F` is differentiable at `x` with invertible
derivative and `log|det (G ∘ F)'(x)| = a + b`. -/
theorem compose_ldj_is_logabsdet {n : Nat} (F G : (Fin n → ℝ) → (Fin n → ℝ)) (x : Fin n → ℝ) (a b : ℝ)
    (hF : HasLogAbsDet F x a) (hG : HasLogAbsDet G (F x) b) : HasLogAbsDet (G ∘ F) x (a + b) := by
  obtain ⟨hFd, hF0, hFa⟩ := hF
  obtain ⟨hGd, hG0, hGb⟩ := hG
  have hdet : (fderiv ℝ (G ∘ F) x).det = (fderiv ℝ G (F x)).det * (fderiv ℝ F x).det := by
    rw [fderiv_comp x hGd hFd, clm_det_comp]
  refine ⟨hGd.comp x hFd, ?_, ?_⟩
  · rw [hdet]; exact mul_ne_zero hG0 hF0
  · rw [hdet, abs_mul, Real.log_mul (abs_ne_zero.2 hG0) (abs_ne_zero.2 hF0), hFa, hGb, add_comm]

/-- Non-vacuity: logit pre-processing followed by an evaluation-mode batch normalisation on three coordinates; the
accumulated log-det is the sum of the two reported values. -/
example : HasLogAbsDet
    (onFin 3 (bn1dBackward realExpLog.exp realExpLog.log realExpLog.sqrt (1 / 2) (1 / 100000) 3
        (fun k => (k : ℝ)) (fun _ => 1) (fun k => 2 * k) (fun k => (k : ℝ)))
      ∘ onFin 3 (logitBackward realExpLog.log (1 / 20) ((3 : ℕ) : ℝ) 3))
    ![3 / 10, 1 / 2, 9 / 10]
    ((logitBackward realExpLog.log (1 / 20) ((3 : ℕ) : ℝ) 3 (ext ![3 / 10, 1 / 2, 9 / 10])).2
      + (bn1dBackward realExpLog.exp realExpLog.log realExpLog.sqrt (1 / 2) (1 / 100000) 3
          (fun k => (k : ℝ)) (fun _ => 1) (fun k => 2 * k) (fun k => (k : ℝ))
          (ext (onFin 3 (logitBackward realExpLog.log (1 / 20) ((3 : ℕ) : ℝ) 3) ![3 / 10, 1 / 2, 9 / 10]))).2) :=
  compose_ldj_is_logabsdet _ _ _ _ _
    (logit_backward_ldj_is_logabsdet (1 / 20) 3 (by norm_num) _ exPoint_mem)
    (bn1d_backward_ldj_is_logabsdet (1 / 100000) 3 _ _ _ _ (fun k => by positivity) _)

end Deeprob.Flows.Calc
