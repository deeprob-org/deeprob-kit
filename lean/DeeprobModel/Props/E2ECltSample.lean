import DeeprobModel.Props.E2ECltLoop
import DeeprobModel.Oblig.Struct5CltSample
set_option linter.unusedVariables false
/-
End-to-end law of `BinaryCLT.sample` (C07 for Chow-Liu trees), stated about the LOOP extracted whole by tools/listprog.py:
`Gen.S5cltSampleLoop` (fragment `cltree.sample.loop`) with the GENERATED loop of `message_passing` composed in
(`E2ECltLoop.loopMp`, `reduce='mar'`), `self.bfs` = the generated breadth-first order, linear-domain reading
(`+ ↦ *`, `- ↦ /`, `np.exp ↦ id`, `logsumexp ↦ Σ`).

    loopSampleLaw  cpt tree r mx x target = (row returned when every draw comes out as in `target`, probability of these draws)
    loopSampleProb cpt tree r mx x target = probability that the extracted loop returns `target`

chain:  source --(listprog K)--> S5 loop skeleton --(Struct5CltSample.sample_loop_as_coded)--> explicit product along `bfs`
        --(loopSampleLaw_eq_factors: the fold along `bfs`; factors_eq_samplePmfTree: draw_is_localCond, samplePmf_build)-->
        `Clt.samplePmfTree` --(Clt.samplePmf_exact_value)--> value X / value e.
-/
namespace Deeprob.E2ECltSample
open Deeprob Deeprob.Clt Deeprob.E2EClt Deeprob.E2ECltLoop Deeprob.Gen
open Deeprob.GraphIo (exTree exCpt exScope exEv exTree_wf exCpt_nonneg)
open Deeprob.Oblig.Struct5CltSample

section field
variable {α : Type} [Field α]

/-- **the law of `BinaryCLT.sample` on ONE row**: the GENERATED sampling loop on weighted rows with the GENERATED loop of
`message_passing` composed in (the call `self.message_passing(x, obs_mask, return_lls=False, reduce='mar')` is part of the skeleton) -/
def loopSampleLaw (cpt : List (List (List α))) (tree : List Int) (r : Nat) (mx : List α → α)
    (x target : List (Option Nat)) : WRow α :=
  sampleLawWith (α := α) (· * ·) (· / ·) id Struct4.sumL (params cpt) (r : Int) (genBfsI tree r) tree
    (fun x obs rl rd => CltLoop.msgsOf (loopMp cpt tree r Struct4.sumL mx x obs rl rd)) x target

/-- the probability that the extracted loop returns `target` -/
def loopSampleProb (cpt : List (List (List α))) (tree : List Int) (r : Nat) (mx : List α → α)
    (x target : List (Option Nat)) : α :=
  sampleProbWith (α := α) (· * ·) (· / ·) id Struct4.sumL (params cpt) (r : Int) (genBfsI tree r) tree
    (fun x obs rl rd => CltLoop.msgsOf (loopMp cpt tree r Struct4.sumL mx x obs rl rd)) x target

theorem loopSampleProb_eq (cpt : List (List (List α))) (tree : List Int) (r : Nat) (mx : List α → α)
    (x target : List (Option Nat)) :
    loopSampleProb cpt tree r mx x target =
      if (loopSampleLaw cpt tree r mx x target).1 = target then (loopSampleLaw cpt tree r mx x target).2 else 0 := rfl

/-- **one draw of the loop is the model's local conditional**: with `messages[j] = [msgAt cs 0, msgAt cs 1]` (the products of
the children's upward messages), the probability `bernoulli.pmf(v, exp(log_probs[1] - logsumexp(log_probs)))`,
`log_probs = params[j, p] + messages[j]`, is `cpt[j][p][v] * msgBelow(j, v) / Σ_v' cpt[j][p][v'] * msgBelow(j, v')`. -/
theorem draw_is_localCond (scope : List Nat) (cpt : List (List (List α))) (j : Nat) (cs : List RTree) (p v : Nat) (e : Ev)
    (hv : v < 2)
    (hden : cptAt cpt j p 0 * msgAt scope cpt cs 0 e + cptAt cpt j p 1 * msgAt scope cpt cs 1 e ≠ 0) :
    Py3.bernoulliPmf v (sampleParam (α := α) (· * ·) (· / ·) id Struct4.sumL (Py4.vec2 (params cpt (j : Int) (p : Int)))
        [msgAt scope cpt cs 0 e, msgAt scope cpt cs 1 e]) = localCond scope cpt j cs p v e := by
  -- `log_probs = [c₀·m₀, c₁·m₁]`: the parameter is `c₁·m₁ / (c₀·m₀ + c₁·m₁)`, and the model's normaliser is the same sum
  show Py3.bernoulliPmf v (cptAt cpt j p 1 * msgAt scope cpt cs 1 e /
      (cptAt cpt j p 0 * msgAt scope cpt cs 0 e + (cptAt cpt j p 1 * msgAt scope cpt cs 1 e + 0))) =
    cptAt cpt j p v * msgAt scope cpt cs v e /
      (cptAt cpt j p 0 * msgAt scope cpt cs 0 e + (cptAt cpt j p 1 * msgAt scope cpt cs 1 e + 0))
  rw [add_zero]
  rcases v with _ | _ | v
  · show 1 - _ = _
    rw [eq_div_iff hden, sub_mul, one_mul, div_mul_cancel₀ _ hden, add_sub_cancel_right]
  · rfl
  · exact absurd hv (Nat.not_lt.2 (Nat.le_add_left 2 v))

/-- the factor the loop multiplies at position `j` when the parent's value is `pv` (1 on an observed entry) -/
def drawFactor (cpt : List (List (List α))) (x0 tg : List (Option Nat)) (msgs : Int → List α) (pv : Int) (j : Nat) : α :=
  if Py4.getI (x0.map Py3.isnan) (j : Int) false then
    Py3.bernoulliPmf (Py3.val (Py4.getI tg (j : Int) none))
      (sampleParam (α := α) (· * ·) (· / ·) id Struct4.sumL (Py4.vec2 (params cpt (j : Int) pv)) (msgs (j : Int)))
  else 1

/-- the parent's value the loop reads at `j`, when the row already holds the target there -/
def pvOf (tree : List Int) (tg : List (Option Nat)) (j : Nat) : Int :=
  ((Py3.val (Py4.getI tg (Py4.getI tree (j : Int) 0) none) : Nat) : Int)

/-- the mask `np.isnan(x)` at a position of the row -/
theorem getI_isnan (x : List (Option Nat)) (j : Nat) (hj : j < x.length) :
    Py4.getI (x.map Py3.isnan) (j : Int) false = (x.getD j none).isNone := by
  rw [Oblig.StructPy.getI_natCast, List.getD_eq_getElem _ _ (by rw [List.length_map]; exact hj), List.getD_eq_getElem _ _ hj, List.getElem_map]; rfl

theorem flag_false (x0 : List (Option Nat)) (j : Nat) (hj : j < x0.length)
    (h : Py4.getI (x0.map Py3.isnan) (j : Int) false = false) : x0.getD j none ≠ none := by
  intro hn
  rw [getI_isnan x0 j hj, hn] at h
  cases h

/-- one iteration at `j`, when the row already holds the target at the parent of `j`: an observed entry is kept, a missing
one receives the target, and the weight is multiplied by `drawFactor` -/
theorem sampleStep_eq (cpt : List (List (List α))) (tree : List Int) (x0 tg : List (Option Nat)) (msgs : Int → List α)
    (s : WRow α) (j v : Nat) (hv : tg.getD j none = some v)
    (hsp : Py4.getI s.1 (Py4.getI tree (j : Int) 0) none = Py4.getI tg (Py4.getI tree (j : Int) 0) none) :
    sampleStep (α := α) (· * ·) (· / ·) id Struct4.sumL (params cpt) tree x0 tg msgs s (j : Int) =
      (if Py4.getI (x0.map Py3.isnan) (j : Int) false then s.1.set j (tg.getD j none) else s.1,
        s.2 * drawFactor cpt x0 tg msgs (pvOf tree tg j) j) := by
  unfold sampleStep drawFactor pvOf
  rw [hsp]
  cases Py4.getI (x0.map Py3.isnan) (j : Int) false with
  | false => rw [if_neg Bool.false_ne_true, if_neg Bool.false_ne_true, if_neg Bool.false_ne_true, mul_one]
  | true =>
    rw [if_pos rfl, if_pos rfl, if_pos rfl, Py4.setI, Int.toNat_natCast, Oblig.StructPy.getI_natCast, hv]
    rfl

/-- **the fold of the sampling loop over the positions `B`**: when the row already holds the target on the positions `Done`
(and on the observed ones), and every position of `B` has its parent in `Done` or earlier in `B`, the fold writes the target on
`B` and multiplies the weight by the factors of `B`, each read with the TARGET's value at the parent.
Induction on `B` from its end: the last step finds the target at the parent, by the statement for the rest. -/
theorem fold_steps_done (cpt : List (List (List α))) (tree : List Int) (x0 tg : List (Option Nat)) (msgs : Int → List α)
    (n : Nat) (hx0 : x0.length = n) (htg : ∀ j, j < n → ∃ v, tg.getD j none = some v)
    (Done : Nat → Prop) (s : WRow α) (hl : s.1.length = n)
    (hinv : ∀ j, j < n → (Done j ∨ x0.getD j none ≠ none) → s.1.getD j none = tg.getD j none) :
    ∀ (B : List Nat), (∀ j ∈ B, j < n) →
      (∀ (A' : List Nat) (j : Nat) (B' : List Nat), B = A' ++ j :: B' →
        ∃ p : Nat, Py4.getI tree (j : Int) 0 = (p : Int) ∧ p < n ∧ (Done p ∨ p ∈ A')) →
      ∃ row, (B.map (fun (a : Nat) => (a : Int))).foldl
            (sampleStep (α := α) (· * ·) (· / ·) id Struct4.sumL (params cpt) tree x0 tg msgs) s
          = (row, s.2 * lprod (B.map (fun j => drawFactor cpt x0 tg msgs (pvOf tree tg j) j))) ∧ row.length = n ∧
        (∀ j, j < n → (Done j ∨ j ∈ B ∨ x0.getD j none ≠ none) → row.getD j none = tg.getD j none) := by
  intro B
  induction B using List.reverseRecOn with
  | nil =>
    intro _ _
    exact ⟨s.1, by rw [List.map_nil, List.map_nil, lprod, mul_one]; rfl, hl,
      fun j hj h => hinv j hj (h.imp_right (fun h' => h'.resolve_left List.not_mem_nil))⟩
  | append_singleton B j ih =>
    intro hB hpar
    obtain ⟨row, h1, h2, h3⟩ := ih (fun k hk => hB k (List.mem_append_left _ hk))
      (fun A' j' B' hBB => hpar A' j' (B' ++ [j]) (by rw [hBB, List.append_assoc]; rfl))
    have hjn : j < n := hB j (List.mem_append_right _ List.mem_cons_self)
    obtain ⟨v, hv⟩ := htg j hjn
    -- the parent of `j` is done or earlier in the list: the row holds the target there
    obtain ⟨p, hp, hpn, hpA⟩ := hpar B j [] rfl
    have hsp : Py4.getI row (Py4.getI tree (j : Int) 0) none = Py4.getI tg (Py4.getI tree (j : Int) 0) none := by
      rw [hp, Oblig.StructPy.getI_natCast, Oblig.StructPy.getI_natCast]
      exact h3 p hpn (hpA.imp_right Or.inl)
    rw [List.map_append, List.foldl_append, h1, List.map_singleton, List.foldl_cons, List.foldl_nil,
      sampleStep_eq cpt tree x0 tg msgs (row, _) j v hv hsp, List.map_append, List.map_singleton, lprod_eq_prod, lprod_eq_prod,
      List.prod_append, List.prod_singleton, mul_assoc]
    refine ⟨_, rfl, ?_, fun k hk h => ?_⟩
    · split
      · rw [List.length_set, h2]
      · exact h2
    · by_cases hkj : k = j
      · subst hkj
        cases hflag : Py4.getI (x0.map Py3.isnan) (k : Int) false with
        | false => exact h3 k hk (Or.inr (Or.inr (flag_false x0 k (hx0 ▸ hk) hflag)))
        | true => rw [if_pos rfl, getD_set, if_pos ⟨rfl, h2 ▸ hk⟩]
      · have hs : row.getD k none = tg.getD k none :=
          h3 k hk (h.imp_right (Or.imp_left (fun h' => (List.mem_append.1 h').resolve_right (fun h'' => hkj (List.mem_singleton.1 h'')))))
        split
        · rw [getD_set, if_neg (fun h' => hkj h'.1), hs]
        · exact hs

theorem fold_steps (cpt : List (List (List α))) (tree : List Int) (x0 tg : List (Option Nat)) (msgs : Int → List α)
    (n r : Nat) (hx0 : x0.length = n) (htg : ∀ j, j < n → ∃ v, tg.getD j none = some v) :
    ∀ (B A : List Nat) (s : WRow α),
      (∀ j ∈ B, j < n) →
      (∀ (A' : List Nat) (j : Nat) (B' : List Nat), B = A' ++ j :: B' → ∃ p : Nat, Py4.getI tree (j : Int) 0 = (p : Int) ∧ p < n ∧ (p = r ∨ p ∈ A ∨ p ∈ A')) →
      s.1.length = n →
      (∀ j, j < n → (j = r ∨ j ∈ A ∨ x0.getD j none ≠ none) → s.1.getD j none = tg.getD j none) →
      ∃ row, (B.map (fun (a : Nat) => (a : Int))).foldl
            (sampleStep (α := α) (· * ·) (· / ·) id Struct4.sumL (params cpt) tree x0 tg msgs) s
          = (row, s.2 * lprod (B.map (fun j => drawFactor cpt x0 tg msgs (pvOf tree tg j) j))) ∧ row.length = n ∧
        (∀ j, j < n → (j = r ∨ j ∈ A ∨ j ∈ B ∨ x0.getD j none ≠ none) → row.getD j none = tg.getD j none) := by
  intro B A s hB hpar hl hinv
  obtain ⟨row, h1, h2, h3⟩ := fold_steps_done cpt tree x0 tg msgs n hx0 htg (fun j => j = r ∨ j ∈ A) s hl
    (fun j hj h => hinv j hj (or_assoc.1 h)) B hB (fun A' j B' hBB => by
      obtain ⟨p, hp, hpn, hpA⟩ := hpar A' j B' hBB
      exact ⟨p, hp, hpn, or_assoc.2 hpA⟩)
  exact ⟨row, h1, h2, fun j hj h => h3 j hj (or_assoc.2 h)⟩

/-- the step before the loop: the root entry, when missing, receives the target; the weight is the root's factor -/
theorem root_step (cpt : List (List (List α))) (x0 tg : List (Option Nat)) (msgs : Int → List α) (n r : Nat) (hr : r < n)
    (hx0 : x0.length = n) (htg : ∀ j, j < n → ∃ v, tg.getD j none = some v)
    (hag : ∀ j, j < n → x0.getD j none ≠ none → x0.getD j none = tg.getD j none) :
    ∃ row, sampleRoot (α := α) (· * ·) (· / ·) id Struct4.sumL (params cpt) (r : Int) x0 tg msgs
        = (row, drawFactor cpt x0 tg msgs (0 : Int) r) ∧ row.length = n ∧
      (∀ j, j < n → (j = r ∨ x0.getD j none ≠ none) → row.getD j none = tg.getD j none) := by
  unfold sampleRoot drawFactor
  cases hflag : Py4.getI (x0.map Py3.isnan) (r : Int) false with
  | false =>
    refine ⟨x0, by rw [if_neg Bool.false_ne_true, if_neg Bool.false_ne_true], hx0, fun j hj hh => ?_⟩
    rcases hh with rfl | hh
    · exact hag j hr (flag_false x0 j (hx0 ▸ hr) hflag)
    · exact hag j hj hh
  | true =>
    obtain ⟨v, hv⟩ := htg r hr
    refine ⟨x0.set r (tg.getD r none), ?_, by rw [List.length_set, hx0], fun j hj hh => ?_⟩
    · rw [if_pos rfl, if_pos rfl, Py4.setI, Int.toNat_natCast, one_mul, Oblig.StructPy.getI_natCast, hv]
      rfl
    · rw [getD_set]
      split
      · rename_i hjr; rw [hjr.1]
      · rename_i hjr; exact hag j hj (hh.resolve_left (fun h' => hjr ⟨h', hx0 ▸ hr⟩))

section model
variable {tree : List Int} {r : Nat}

/-- the model's factor at `j` when its parent has value `l`: the local conditional on a missing entry, 1 on an observed one -/
def nodeFactor (scope : List Nat) (cpt : List (List (List α))) (tree : List Int) (e : Ev) (x : Nat → Nat) (l j : Nat) : α :=
  match e (scope.getD j 0) with
  | some _ => 1
  | none => localCond scope cpt j ((Clt.childrenOf tree j).map (build tree tree.length)) l (x (scope.getD j 0)) e

/-- the parent of `d` read off the predecessor vector -/
def parentNat (tree : List Int) (d : Nat) : Nat := (tree.getD d (-1)).toNat

theorem vars_build (h : GraphIo.WF tree r) (c : Nat) :
    (build tree tree.length c).vars =
      c :: ((Clt.childrenOf tree c).map (fun d => (build tree tree.length d).vars)).flatten := by
  rw [h.build_unfold c, RTree.vars, List.map_map]
  rfl

/-- **`Clt.samplePmf` is the product of the per-node factors** over the variables of the (unfolded) sub-tree, each node reading the
value `x` gives to its parent (`x` agrees with the evidence) -/
theorem samplePmf_build (h : GraphIo.WF tree r) (scope : List Nat) (cpt : List (List (List α))) (e : Ev) (x : Nat → Nat)
    (hag : ∀ j o, e (scope.getD j 0) = some o → x (scope.getD j 0) = o) :
    ∀ c, c < tree.length → ∀ l,
      samplePmf scope cpt (build tree tree.length c) l e x =
        nodeFactor scope cpt tree e x l c *
          lprod ((((Clt.childrenOf tree c).map (fun d => (build tree tree.length d).vars)).flatten).map
            (fun d => nodeFactor scope cpt tree e x (x (scope.getD (parentNat tree d) 0)) d)) := by
  refine h.children_induction (fun c _ ih l => ?_)
  -- the children's samplers, all read with the value `x` gives to `c`, are the products over the children's sub-trees
  have hprod : lprod (((Clt.childrenOf tree c).map (build tree tree.length)).map
        (fun ch => samplePmf scope cpt ch (x (scope.getD c 0)) e x)) =
      lprod ((((Clt.childrenOf tree c).map (fun d => (build tree tree.length d).vars)).flatten).map
        (fun d => nodeFactor scope cpt tree e x (x (scope.getD (parentNat tree d) 0)) d)) := by
    rw [List.map_map, List.map_flatten, lprod_flatten, List.map_map, List.map_map]
    refine congrArg lprod (List.map_congr_left (fun d hd => ?_))
    have hpd : parentNat tree d = c := by rw [parentNat, Clt.mem_childrenOf hd, Int.toNat_natCast]
    show samplePmf scope cpt (build tree tree.length d) (x (scope.getD c 0)) e x = lprod (List.map _ (build tree tree.length d).vars)
    rw [ih d hd, vars_build h d, List.map_cons, lprod, hpd]
  rw [h.build_unfold c, samplePmf, nodeFactor]
  cases he : e (scope.getD c 0) with
  | none => exact congrArg _ hprod
  | some o =>
    rw [← hag c o he, one_mul]
    exact hprod

theorem samplePmf_as_product (h : GraphIo.WF tree r) (scope : List Nat) (cpt : List (List (List α))) (e : Ev) (x : Nat → Nat)
    (hag : ∀ j o, e (scope.getD j 0) = some o → x (scope.getD j 0) = o) :
    ∀ k c, c < tree.length → tree.length - GraphIo.depthOf tree c ≤ k → ∀ l,
      samplePmf scope cpt (build tree tree.length c) l e x =
        nodeFactor scope cpt tree e x l c *
          lprod ((((Clt.childrenOf tree c).map (fun d => (build tree tree.length d).vars)).flatten).map
            (fun d => nodeFactor scope cpt tree e x (x (scope.getD (parentNat tree d) 0)) d)) :=
  fun _ c hc _ => samplePmf_build h scope cpt e x hag c hc

end model

theorem obs_mask_eq (x : List (Option Nat)) :
    (x.map Py3.isnan).map (fun b => !b) = x.map (fun o => !o.isNone) := by
  rw [List.map_map]; rfl

section model2
variable {tree : List Int} {r : Nat}

/-- **the `reduce='mar'` messages of the generated loop**: entry `j` holds, for both values of `j`, the product of the upward
messages of the children of `j` (`Clt.msgAt`) -/
theorem mar_slots (hwf : GraphIo.WellFormedPred tree) (h : GraphIo.WF tree r) (scope : List Nat) (cpt : List (List (List α)))
    (e : Ev) (mx : List α → α) (hbin : ∀ j, j < tree.length → ∀ o, e (scope.getD j 0) = some o → o < 2)
    (j : Nat) (hj : j < tree.length) :
    CltLoop.msgsOf (loopMp cpt tree r Struct4.sumL mx (rowList scope tree.length e)
        (((rowList scope tree.length e).map Py3.isnan).map (fun b => !b)) false "mar") (j : Int) =
      [msgAt scope cpt ((Clt.childrenOf tree j).map (build tree tree.length)) 0 e,
       msgAt scope cpt ((Clt.childrenOf tree j).map (build tree tree.length)) 1 e] := by
  rw [obs_mask_eq, loopMp_messages _ _ _ _ _ _ _ _ (Or.inl rfl)]
  show Py4.getI (genMessages cpt tree r Struct4.sumL mx (rowList scope tree.length e)
    ((rowList scope tree.length e).map (fun o => !o.isNone)) "mar") (j : Int) [] = _
  rw [Oblig.StructPy.getI_natCast, genMessages_mar_slots h scope cpt e mx hbin j hj, msgAt, msgAt, List.map_map, List.map_map]
  rfl

theorem factor_link (h : GraphIo.WF tree r) (scope : List Nat) (cpt : List (List (List α))) (e X : Ev)
    (msgs : Int → List α) (j p : Nat) (hj : j < tree.length)
    (hmsg : msgs (j : Int) = [msgAt scope cpt ((Clt.childrenOf tree j).map (build tree tree.length)) 0 e,
       msgAt scope cpt ((Clt.childrenOf tree j).map (build tree tree.length)) 1 e])
    (hX : (X (scope.getD j 0)).getD 0 < 2)
    (hden : e (scope.getD j 0) = none → up scope cpt (build tree tree.length j) p e ≠ 0) :
    drawFactor cpt (rowList scope tree.length e) (rowList scope tree.length X) msgs (p : Int) j =
      nodeFactor scope cpt tree e (fun v => (X v).getD 0) p j := by
  unfold drawFactor nodeFactor
  rw [getI_isnan _ _ (by rw [rowList_length]; exact hj), rowList_getD scope _ e j hj, GraphIo.rowOf]
  cases he : e (scope.getD j 0) with
  | some o => rfl
  | none =>
    have hd := hden he
    rw [h.build_unfold j, Struct4.up_unfold, he] at hd
    rw [Option.isNone_none, if_pos rfl, hmsg, Oblig.StructPy.getI_natCast, rowList_getD _ _ _ _ hj]
    exact draw_is_localCond scope cpt j _ p _ e hX (by rw [← add_zero (_ * msgAt scope cpt _ 1 e)]; exact hd)

/-- the `reduce='mar'` messages `sample` reads on the row `x0` -/
def marMsgs (cpt : List (List (List α))) (tree : List Int) (r : Nat) (mx : List α → α) (x0 : List (Option Nat)) : Int → List α :=
  CltLoop.msgsOf (loopMp cpt tree r Struct4.sumL mx x0 ((x0.map Py3.isnan).map (fun b => !b)) false "mar")

/-- `sample_loop_as_coded`, composed: the law of the extracted loops is the explicit product along the generated order -/
theorem loopSampleLaw_as_coded (cpt : List (List (List α))) (tree : List Int) (r : Nat) (mx : List α → α)
    (x0 tg : List (Option Nat)) :
    loopSampleLaw cpt tree r mx x0 tg =
      ((genBfs tree r).tail.map (fun (a : Nat) => (a : Int))).foldl
        (sampleStep (α := α) (· * ·) (· / ·) id Struct4.sumL (params cpt) tree x0 tg (marMsgs cpt tree r mx x0))
        (sampleRoot (α := α) (· * ·) (· / ·) id Struct4.sumL (params cpt) (r : Int) x0 tg (marMsgs cpt tree r mx x0)) := by
  have hdrop : Py.drop (genBfsI tree r) (1 : Int) = (genBfs tree r).tail.map (fun (a : Nat) => (a : Int)) := by
    rw [genBfsI, List.map_tail]; exact List.drop_one
  rw [loopSampleLaw, sample_loop_as_coded, hdrop]
  rfl

/-- **the law of the extracted loops on arbitrary rows**: when the target row is full and agrees with the input row where that is
observed, the loops return the target row, with the product along the generated order of the factors `drawFactor` — each
read with the TARGET's value at the parent, because the order lists every position after its parent -/
theorem loopSampleLaw_eq_factors (h : GraphIo.WF tree r) (cpt : List (List (List α))) (mx : List α → α)
    (x0 tg : List (Option Nat)) (hx0 : x0.length = tree.length) (htgl : tg.length = tree.length)
    (htg : ∀ j, j < tree.length → ∃ v, tg.getD j none = some v)
    (hag : ∀ j, j < tree.length → x0.getD j none ≠ none → x0.getD j none = tg.getD j none) :
    loopSampleLaw cpt tree r mx x0 tg =
      (tg, drawFactor cpt x0 tg (marMsgs cpt tree r mx x0) (0 : Int) r *
        lprod ((genBfs tree r).tail.map (fun j => drawFactor cpt x0 tg (marMsgs cpt tree r mx x0) (pvOf tree tg j) j))) := by
  obtain ⟨L, hL, hnd, hmem, hpf⟩ := genBfs_cons h
  -- every position of `L` has its parent at the root or earlier in `L`
  have hparents : ∀ (A' : List Nat) (j : Nat) (B' : List Nat), L = A' ++ j :: B' →
      ∃ p : Nat, Py4.getI tree (j : Int) 0 = (p : Int) ∧ p < tree.length ∧ (p = r ∨ p ∈ A') := by
    intro A' j B' hLL
    have hjL : j ∈ L := by rw [hLL]; exact List.mem_append_right _ List.mem_cons_self
    have hjn := (hmem j).1 (List.mem_cons_of_mem _ hjL)
    obtain ⟨p, hpp, _, hpn, hpe⟩ := h.parent_ne hjn (fun hh => (List.nodup_cons.1 hnd).1 (hh ▸ hjL))
    exact ⟨p, by rw [Oblig.StructPy.getI_natCast, CltFit.getD_irrel tree hjn 0 (-1)]; exact hpe, hpn, hpf A' j B' hLL p hpp⟩
  obtain ⟨row0, hroot0, hl0, hinv0⟩ := root_step cpt x0 tg (marMsgs cpt tree r mx x0) tree.length r h.r_lt hx0 htg hag
  obtain ⟨row, hfold, hlrow, hinv⟩ := fold_steps_done cpt tree x0 tg (marMsgs cpt tree r mx x0) tree.length hx0 htg
    (fun j => j = r) (row0, _) hl0 hinv0 L (fun j hj => (hmem j).1 (List.mem_cons_of_mem _ hj)) hparents
  -- every position has been visited: the row is the target
  have hrow : row = tg := by
    apply List.ext_getElem (hlrow.trans htgl.symm)
    intro j h1 h2
    have hj : j < tree.length := hlrow ▸ h1
    have := hinv j hj (or_assoc.1 (Or.inl (List.mem_cons.1 ((hmem j).2 hj))))
    rwa [List.getD_eq_getElem _ _ h1, List.getD_eq_getElem _ _ h2] at this
  rw [loopSampleLaw_as_coded, hL, List.tail_cons, hroot0, hfold, hrow]

/-- **the factors along the generated order multiply to the model's `samplePmfTree`**: the variables of the unfolded tree are
the positions of the order, and at each of them the loop's factor is the model's (`factor_link`) -/
theorem factors_eq_samplePmfTree (h : GraphIo.WF tree r) (scope : List Nat) (cpt : List (List (List α))) (e X : Ev)
    (msgs : Int → List α)
    (hmsgs : ∀ j, j < tree.length → msgs (j : Int) =
      [msgAt scope cpt ((Clt.childrenOf tree j).map (build tree tree.length)) 0 e,
       msgAt scope cpt ((Clt.childrenOf tree j).map (build tree tree.length)) 1 e])
    (hagx : ∀ j o, e (scope.getD j 0) = some o → (X (scope.getD j 0)).getD 0 = o)
    (hXlt : ∀ j, j < tree.length → (X (scope.getD j 0)).getD 0 < 2)
    (hden : ∀ j, j < tree.length → e (scope.getD j 0) = none → ∀ p, p < 2 →
      up scope cpt (build tree tree.length j) p e ≠ 0) :
    drawFactor cpt (rowList scope tree.length e) (rowList scope tree.length X) msgs (0 : Int) r *
      lprod ((genBfs tree r).tail.map (fun j => drawFactor cpt (rowList scope tree.length e) (rowList scope tree.length X) msgs
        (pvOf tree (rowList scope tree.length X) j) j)) =
      samplePmfTree scope tree cpt e (fun v => (X v).getD 0) := by
  obtain ⟨L, hL, hnd, hmem, _⟩ := genBfs_cons h
  rw [hL, List.tail_cons]
  have hrL : r ∉ L := (List.nodup_cons.1 hnd).1
  have hperm : (r :: L).Perm (List.range tree.length) := hL ▸ (genBfs_facts h).1
  -- the variables below the root are a permutation of `L`
  have hrest : ((Clt.childrenOf tree r).map (fun d => (build tree tree.length d).vars)).flatten.Perm L := by
    have hp1 := vars_build_perm_range h
    rw [vars_build h r] at hp1
    exact (hp1.trans hperm.symm).cons_inv
  simp only [samplePmfTree, h.rootOf]
  rw [samplePmf_build h scope cpt e (fun v => (X v).getD 0) hagx r h.r_lt 0,
    lprod_perm (hrest.map _)]
  have h0 : drawFactor cpt (rowList scope tree.length e) (rowList scope tree.length X) msgs ((0 : Nat) : Int) r =
      nodeFactor scope cpt tree e (fun v => (X v).getD 0) 0 r :=
    factor_link h scope cpt e X _ r 0 h.r_lt (hmsgs r h.r_lt) (hXlt r h.r_lt) (fun hn => hden r h.r_lt hn 0 Nat.zero_lt_two)
  refine congrArg₂ (· * ·) h0 (congrArg lprod (List.map_congr_left (fun j hjL => ?_)))
  have hjn := (hmem j).1 (List.mem_cons_of_mem _ hjL)
  obtain ⟨p, _, _, hpn, hpe⟩ := h.parent_ne hjn (fun hh => hrL (hh ▸ hjL))
  have hpar : parentNat tree j = p := by rw [parentNat, hpe, Int.toNat_natCast]
  have hpv : pvOf tree (rowList scope tree.length X) j = (((X (scope.getD p 0)).getD 0 : Nat) : Int) := by
    rw [pvOf, Oblig.StructPy.getI_natCast, CltFit.getD_irrel tree hjn 0 (-1), hpe, Oblig.StructPy.getI_natCast, rowList_getD _ _ _ _ hpn]
    rfl
  show _ = nodeFactor scope cpt tree e _ ((X (scope.getD (parentNat tree j) 0)).getD 0) j
  rw [hpv, hpar]
  exact factor_link h scope cpt e X _ j _ hjn (hmsgs j hjn) (hXlt j hjn) (fun hn => hden j hjn hn _ (hXlt p hpn))

end model2

/-- C07 for Chow-Liu trees, about the extracted LOOPS: for every well-formed predecessor
vector, evidence `e` with binary observed entries and every full binary assignment `X` that agrees with `e` on its observed
entries: the law of the generated `sample` — copy, messages of the generated `message_passing(…, return_lls=False, reduce='mar')`,
masked draw at the root, generated loop over `self.bfs[1:]` drawing `x[j]` from `x[self.tree[j]]` — puts on `X` the product
`Clt.samplePmfTree` of the model's local conditionals, and that probability is `value X / value e`.
Definedness hypotheses (no division by zero in the normalisations): `hden` (the normalisers `Σ_v cpt[j][p][v]·msgBelow(j, v)` of the
missing entries are non-zero), `hd` (`Clt.SampleDefined`, the same along the path of `X` for the recursive model), `he`.
All three follow from strictly positive tables: `e2e_sample_loop_law`. -/
theorem e2e_sample_loop_law_of_defined (tree : List Int) (hwf : GraphIo.WellFormedPred tree) (scope : List Nat)
    (cpt : List (List (List α))) (hlen : scope.length = tree.length) (e X : Ev) (mx : List α → α)
    (hbin : ∀ v ∈ scope, ∀ o, e v = some o → o < 2)
    (hagree : ∀ v, e v ≠ none → X v = e v)
    (hfull : ∀ v ∈ scope, ∃ k, k < 2 ∧ X v = some k)
    (hden : ∀ j, j < tree.length → e (scope.getD j 0) = none → ∀ p, p < 2 →
      up scope cpt (build tree tree.length j) p e ≠ 0)
    (hd : ∀ r, rootOf tree = some r → SampleDefined scope cpt (build tree tree.length r) 0 e (fun v => (X v).getD 0))
    (he : value scope tree cpt e ≠ 0) :
    ∃ r, GraphIo.rootIdx tree = some r ∧
      loopSampleLaw cpt tree r mx (rowList scope tree.length e) (rowList scope tree.length X) =
        (rowList scope tree.length X, samplePmfTree scope tree cpt e (fun v => (X v).getD 0)) ∧
      loopSampleProb cpt tree r mx (rowList scope tree.length e) (rowList scope tree.length X) =
        value scope tree cpt X / value scope tree cpt e := by
  obtain ⟨r, h⟩ := GraphIo.WF.of_wf hwf
  have hscope : ∀ j, j < tree.length → scope.getD j 0 ∈ scope := fun j hj => getD_mem (hlen ▸ hj) 0
  have hXsome : ∀ j, j < tree.length → ∃ k, k < 2 ∧ X (scope.getD j 0) = some k := fun j hj => hfull _ (hscope j hj)
  have hXlt : ∀ j, j < tree.length → (X (scope.getD j 0)).getD 0 < 2 := by
    intro j hj
    obtain ⟨k, hk, hXk⟩ := hXsome j hj
    rw [hXk]; exact hk
  -- the loops return the row of `X`, with the product of their factors …
  have hlaw := loopSampleLaw_eq_factors h cpt mx (rowList scope tree.length e) (rowList scope tree.length X)
    (rowList_length _ _ _) (rowList_length _ _ _)
    (fun j hj => by
      obtain ⟨k, _, hXk⟩ := hXsome j hj
      exact ⟨k, by rw [rowList_getD _ _ _ _ hj]; exact hXk⟩)
    (fun j hj hne => by
      rw [rowList_getD _ _ _ _ hj] at hne ⊢
      rw [rowList_getD _ _ _ _ hj]
      exact (hagree _ hne).symm)
  -- … which is the model's product of local conditionals
  rw [factors_eq_samplePmfTree h scope cpt e X (marMsgs cpt tree r mx (rowList scope tree.length e)) (fun j hj => mar_slots hwf h scope cpt e mx (bin_at hlen hbin) j hj)
    (fun j o ho => by rw [hagree _ (by rw [ho]; exact Option.some_ne_none o), ho]; rfl) hXlt hden] at hlaw
  refine ⟨r, h.root, hlaw, ?_⟩
  rw [loopSampleProb_eq, hlaw, if_pos rfl, eq_div_iff he]
  refine samplePmf_exact_value scope tree cpt r h.rootOf e X hagree (fun v hv => ?_) (hd r h.rootOf)
  obtain ⟨k, _, hXk⟩ := hfull v ((lab_perm_scope h scope hlen).mem_iff.1 hv)
  rw [hXk]; exact Option.some_ne_none k

end field

section ordfield
variable {α : Type} [Field α] [LinearOrder α] [IsStrictOrderedRing α]
variable {tree : List Int} {r : Nat}

theorem vars_build_lt (tree : List Int) (f : Nat) {c i : Nat} (hc : c < tree.length) (hi : i ∈ (build tree f c).vars) :
    i < tree.length := by
  rcases mem_vars_build tree f c i hc hi with rfl | ⟨p, _, hp⟩
  · exact hc
  · exact childrenOf_lt tree p i hp

/-- C07 for Chow-Liu trees, about the extracted LOOPS: strictly positive tables (at the positions of the
vector), well-formed predecessor vector, scope of the right length, evidence `e` with binary observed entries, full binary
assignment `X` agreeing with `e` where `e` is observed: the evidence has positive value, and the probability that the extracted
`sample` (generated sampling loop ∘ generated `message_passing`) returns the row of `X` is `value X / value e`. -/
theorem e2e_sample_loop_law (tree : List Int) (hwf : GraphIo.WellFormedPred tree) (scope : List Nat)
    (cpt : List (List (List α))) (hpos : ∀ i, i < tree.length → ∀ l < 2, ∀ k < 2, 0 < cptAt cpt i l k)
    (hlen : scope.length = tree.length) (e X : Ev) (mx : List α → α)
    (hbin : ∀ v ∈ scope, ∀ o, e v = some o → o < 2)
    (hagree : ∀ v, e v ≠ none → X v = e v)
    (hfull : ∀ v ∈ scope, ∃ k, k < 2 ∧ X v = some k) :
    0 < value scope tree cpt e ∧
    ∃ r, GraphIo.rootIdx tree = some r ∧
      loopSampleLaw cpt tree r mx (rowList scope tree.length e) (rowList scope tree.length X) =
        (rowList scope tree.length X, samplePmfTree scope tree cpt e (fun v => (X v).getD 0)) ∧
      loopSampleProb cpt tree r mx (rowList scope tree.length e) (rowList scope tree.length X) =
        value scope tree cpt X / value scope tree cpt e := by
  obtain ⟨r', h⟩ := GraphIo.WF.of_wf hwf
  have hlabs : ∀ j, j < tree.length → ∀ v ∈ lab scope (build tree tree.length j), v ∈ scope := by
    intro j hj v hv
    obtain ⟨i, hi, rfl⟩ := List.mem_map.1 hv
    exact getD_mem (hlen ▸ vars_build_lt tree _ hj hi) 0
  have hup : ∀ j, j < tree.length → ∀ p, p < 2 → 0 < up scope cpt (build tree tree.length j) p e :=
    fun j hj p hp => up_pos scope cpt e _ p hp (fun i hi => hpos i (vars_build_lt tree _ hj hi))
      (fun v hv o ho => hbin v (hlabs j hj v hv) o ho)
  have hval : 0 < value scope tree cpt e := by
    rw [value_eq_up scope tree cpt h.rootOf]; exact hup r' h.r_lt 0 Nat.zero_lt_two
  refine ⟨hval, e2e_sample_loop_law_of_defined tree hwf scope cpt hlen e X mx hbin hagree hfull
    (fun j hj _ p hp => ne_of_gt (hup j hj p hp)) (fun r0 hr0 => ?_) (ne_of_gt hval)⟩
  cases Option.some.inj (hr0.symm.trans h.rootOf)
  refine sampleDefined_of_pos scope cpt e _ _ 0 Nat.zero_lt_two (fun i hi => hpos i (vars_build_lt tree _ h.r_lt hi))
    (fun v hv o ho => hbin v (hlabs r' h.r_lt v hv) o ho) (fun v hv => ?_)
  obtain ⟨k, hk, hXk⟩ := hfull v (hlabs r' h.r_lt v hv)
  show (X v).getD 0 < 2
  rw [hXk]; exact hk

end ordfield

/-! non-vacuity: the regression tree `[3, 4, 1, -1, 0]`, one missing entry (column 0 = variable 7, an inner node) -/

/-- everything observed except variable 7 -/
def exE1 : Ev := fun v => if v = 7 then none else if v = 9 ∨ v = 2 then some 1 else some 0
/-- the completion that gives 1 to variable 7 -/
def exX1 : Ev := fun v => if v = 7 ∨ v = 9 ∨ v = 2 then some 1 else some 0

theorem exCpt_pos : ∀ i, i < exTree.length → ∀ l < 2, ∀ k < 2, (0 : ℚ) < cptAt exCpt i l k := by
  decide +kernel

example : 0 < value exScope exTree exCpt exE1 ∧
    ∃ r, GraphIo.rootIdx exTree = some r ∧
      loopSampleProb exCpt exTree r Struct4.maxL (rowList exScope exTree.length exE1) (rowList exScope exTree.length exX1) =
        value exScope exTree exCpt exX1 / value exScope exTree exCpt exE1 := by
  obtain ⟨h0, r, hr, _, hp⟩ := e2e_sample_loop_law exTree exTree_wf exScope exCpt exCpt_pos rfl exE1 exX1 Struct4.maxL
    (by intro v _ o h
        unfold exE1 at h
        split at h
        · cases h
        · split at h <;> cases h <;> decide)
    (by intro v hv
        unfold exE1 at hv ⊢
        unfold exX1
        by_cases h7 : v = 7
        · rw [if_pos h7] at hv; exact absurd rfl hv
        · rw [if_neg h7]
          by_cases h2 : v = 9 ∨ v = 2
          · rw [if_pos h2, if_pos (Or.inr h2)]
          · rw [if_neg h2, if_neg (not_or.2 ⟨h7, h2⟩)])
    (by intro v _
        unfold exX1
        by_cases h : v = 7 ∨ v = 9 ∨ v = 2
        · exact ⟨1, Nat.one_lt_two, if_pos h⟩
        · exact ⟨0, Nat.zero_lt_two, if_neg h⟩)
  exact ⟨h0, r, hr, hp⟩

/-- the rows, and the number the extracted loops compute (evaluated by the kernel): `P(X₇ = 1 | rest) = 3/8`, and `5/8` for `X₇ = 0` -/
example : rowList exScope exTree.length exE1 = [none, some 0, some 1, some 1, some 0] ∧
    rowList exScope exTree.length exX1 = [some 1, some 0, some 1, some 1, some 0] := by decide

example : loopSampleProb exCpt exTree 3 Struct4.maxL [none, some 0, some 1, some 1, some 0]
      [some 1, some 0, some 1, some 1, some 0] = 3 / 8 ∧
    loopSampleProb exCpt exTree 3 Struct4.maxL [none, some 0, some 1, some 1, some 0]
      [some 0, some 0, some 1, some 1, some 0] = 5 / 8 ∧
    loopSampleProb exCpt exTree 3 Struct4.maxL [none, some 0, some 1, some 1, some 0]
      [some 1, some 1, some 1, some 1, some 0] = 0 := by decide +kernel

end Deeprob.E2ECltSample
