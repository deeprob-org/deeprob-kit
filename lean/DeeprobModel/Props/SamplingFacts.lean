import DeeprobModel.Props.E2ECirc
import DeeprobModel.Spec.RealExpLog
import Mathlib.Probability.Moments.SubGaussian
import Mathlib.Probability.Independence.Basic
import Mathlib.MeasureTheory.Integral.IntegralEqImproper
import Mathlib.MeasureTheory.Constructions.Pi
import Mathlib.MeasureTheory.Measure.WithDensity
import Mathlib.Analysis.SpecialFunctions.ExpDeriv
import Mathlib.Analysis.Complex.ExponentialBounds
import Mathlib.NumberTheory.Real.Irrational
import Mathlib.Analysis.SpecialFunctions.Log.Basic
import Mathlib.Analysis.SpecialFunctions.Sqrt
set_option linter.unusedSimpArgs false
set_option linter.unusedVariables false
set_option linter.unnecessarySeqFocus false

/-
The two probabilistic facts the sampling checks of C07 / C16 rest on (DESIGN §4 item 6), proved with Mathlib:
Hoeffding's inequality with the union bound, in exactly the form `harness/c07.py` decides with (radius
`hoeffding_eps(n, m)`, family-wise level `δ`), and the Gumbel-max identity `P(np.argmax(s + G) = k) = softmax(s)_k` for
any number of children, first-maximum tie-breaking as coded, for the law `gumbel` with density `exp(−x − exp(−x))`;
the latter discharges the named hypothesis `hGumbelMax_trusted` of `Props/E2ECirc.lean` over `ℝ`.

Still trusted after this file: that NumPy's `gumbel` / SciPy's `gumbel_r.rvs` draw from the law `gumbel` independently
(a fact about the libraries), and the DKW inequality (uniform-in-threshold band for continuous variables: the harness picks
its thresholds from the sample itself, so the pointwise Hoeffding bound proved here does not cover that stream).
-/
namespace Deeprob.SamplingFacts
open MeasureTheory ProbabilityTheory Real Set Filter
open scoped NNReal ENNReal Topology

/-- the integrand `exp(−x − c·exp(−x))`; `c = 1` is the density of the standard right-skewed Gumbel law -/
noncomputable def gumbelKernel (c x : ℝ) : ℝ := Real.exp (-x - c * Real.exp (-x))

/-- its antiderivative `(1/c)·exp(−c·exp(−x))`; `c = 1` is the Gumbel cdf -/
noncomputable def gumbelAnti (c x : ℝ) : ℝ := c⁻¹ * Real.exp (-(c * Real.exp (-x)))

theorem gumbelKernel_pos (c x : ℝ) : 0 < gumbelKernel c x := Real.exp_pos _

theorem gumbelKernel_continuous (c : ℝ) : Continuous (gumbelKernel c) := by
  unfold gumbelKernel; fun_prop

theorem gumbelAnti_hasDerivAt {c : ℝ} (hc : c ≠ 0) (x : ℝ) :
    HasDerivAt (gumbelAnti c) (gumbelKernel c x) x := by
  refine ((((hasDerivAt_neg x).exp.const_mul c).neg).exp.const_mul c⁻¹).congr_deriv ?_
  rw [gumbelKernel, sub_eq_add_neg, Real.exp_add, Pi.neg_apply]
  field_simp

theorem gumbelAnti_tendsto_atTop {c : ℝ} : Tendsto (gumbelAnti c) atTop (𝓝 c⁻¹) := by
  have h1 : Tendsto (fun y : ℝ => Real.exp (-y)) atTop (𝓝 0) :=
    Real.tendsto_exp_atBot.comp tendsto_neg_atTop_atBot
  have h2 : Tendsto (fun y : ℝ => -(c * Real.exp (-y))) atTop (𝓝 (-(c * 0))) :=
    (h1.const_mul c).neg
  have h3 := ((Real.continuous_exp.tendsto _).comp h2).const_mul c⁻¹
  show Tendsto (fun x => c⁻¹ * Real.exp (-(c * Real.exp (-x)))) atTop (𝓝 c⁻¹)
  simpa [Function.comp_def] using h3

theorem gumbelAnti_tendsto_atBot {c : ℝ} (hc : 0 < c) : Tendsto (gumbelAnti c) atBot (𝓝 0) := by
  have h1 : Tendsto (fun y : ℝ => Real.exp (-y)) atBot atTop :=
    Real.tendsto_exp_atTop.comp tendsto_neg_atBot_atTop
  have h2 : Tendsto (fun y : ℝ => -(c * Real.exp (-y))) atBot atBot :=
    tendsto_neg_atTop_atBot.comp (h1.const_mul_atTop hc)
  have h3 := (Real.tendsto_exp_atBot.comp h2).const_mul c⁻¹
  show Tendsto (fun x => c⁻¹ * Real.exp (-(c * Real.exp (-x)))) atBot (𝓝 0)
  simpa [Function.comp_def] using h3

theorem gumbelKernel_integrable {c : ℝ} (hc : 0 < c) : Integrable (gumbelKernel c) := by
  refine integrable_of_intervalIntegral_norm_tendsto (l := atTop) (a := fun i : ℝ => -i) (b := fun i : ℝ => i)
    (c⁻¹ - 0) (fun i => (gumbelKernel_continuous c).integrableOn_Ioc) tendsto_neg_atTop_atBot tendsto_id ?_
  have h : ∀ i : ℝ, ∫ x in (-i)..i, ‖gumbelKernel c x‖ = gumbelAnti c i - gumbelAnti c (-i) := by
    intro i
    have : (fun x => ‖gumbelKernel c x‖) = gumbelKernel c := by
      funext x; exact abs_of_pos (gumbelKernel_pos c x)
    rw [this]
    exact intervalIntegral.integral_eq_sub_of_hasDerivAt (fun x _ => gumbelAnti_hasDerivAt hc.ne' x)
      ((gumbelKernel_continuous c).intervalIntegrable _ _)
  simp_rw [h]
  exact gumbelAnti_tendsto_atTop.sub ((gumbelAnti_tendsto_atBot hc).comp tendsto_neg_atTop_atBot)

/-- **the analytic core**: `∫ exp(−x − c·exp(−x)) dx = 1/c` over the whole line, for every `c > 0` (substitution
`u = exp(−x)`, done here through the antiderivative `(1/c)·exp(−c·exp(−x))`). -/
theorem integral_gumbelKernel {c : ℝ} (hc : 0 < c) : ∫ x, gumbelKernel c x = c⁻¹ := by
  have := integral_of_hasDerivAt_of_tendsto (fun x => gumbelAnti_hasDerivAt hc.ne' x)
    (gumbelKernel_integrable hc) (gumbelAnti_tendsto_atBot hc) gumbelAnti_tendsto_atTop
  simpa using this

/-- the partial integral: `∫_{−∞}^{a} exp(−x − c·exp(−x)) dx = (1/c)·exp(−c·exp(−a))` -/
theorem integral_Iic_gumbelKernel {c : ℝ} (hc : 0 < c) (a : ℝ) :
    ∫ x in Iic a, gumbelKernel c x = gumbelAnti c a := by
  have := integral_Iic_of_hasDerivAt_of_tendsto' (a := a) (fun x _ => gumbelAnti_hasDerivAt hc.ne' x)
    (gumbelKernel_integrable hc).integrableOn (gumbelAnti_tendsto_atBot hc)
  simpa using this

/-- non-vacuity: `∫ exp(−x − 3·exp(−x)) dx = 1/3` -/
example : ∫ x : ℝ, Real.exp (-x - 3 * Real.exp (-x)) = 1 / 3 := by
  have := integral_gumbelKernel (c := 3) (by norm_num)
  simpa [gumbelKernel] using this

/-- density of `scipy.stats.gumbel_r` / `numpy.random.gumbel(0, 1)`: `exp(−x − exp(−x))` -/
noncomputable def gumbelPdf (x : ℝ) : ℝ := Real.exp (-x - Real.exp (-x))

/-- its cdf `exp(−exp(−x))` -/
noncomputable def gumbelCdf (x : ℝ) : ℝ := Real.exp (-Real.exp (-x))

/-- the standard right-skewed Gumbel law, as the measure with density `gumbelPdf` w.r.t. Lebesgue measure -/
noncomputable def gumbel : Measure ℝ := volume.withDensity (fun x => ENNReal.ofReal (gumbelPdf x))

theorem gumbelPdf_eq_kernel : gumbelPdf = gumbelKernel 1 := by
  funext x; simp [gumbelPdf, gumbelKernel]

theorem gumbelCdf_eq_anti : gumbelCdf = gumbelAnti 1 := by
  funext x; simp [gumbelCdf, gumbelAnti]

theorem gumbelPdf_pos (x : ℝ) : 0 < gumbelPdf x := Real.exp_pos _
theorem gumbelCdf_pos (x : ℝ) : 0 < gumbelCdf x := Real.exp_pos _

theorem measurable_gumbelPdf : Measurable gumbelPdf := by
  rw [gumbelPdf_eq_kernel]; exact (gumbelKernel_continuous 1).measurable

theorem lintegral_gumbelKernel {c : ℝ} (hc : 0 < c) :
    ∫⁻ x, ENNReal.ofReal (gumbelKernel c x) = ENNReal.ofReal c⁻¹ := by
  rw [← ofReal_integral_eq_lintegral_ofReal (gumbelKernel_integrable hc)
    (Eventually.of_forall fun x => (gumbelKernel_pos c x).le), integral_gumbelKernel hc]

/-- **the Gumbel density integrates to one**: `gumbel` is a probability measure -/
instance gumbel_isProbabilityMeasure : IsProbabilityMeasure gumbel := by
  refine ⟨?_⟩
  rw [gumbel, withDensity_apply _ MeasurableSet.univ, Measure.restrict_univ, gumbelPdf_eq_kernel,
    lintegral_gumbelKernel one_pos]
  simp

theorem gumbel_absolutelyContinuous : gumbel ≪ volume := withDensity_absolutelyContinuous _ _

instance gumbel_nullSingleton : NullSingletonClass gumbel := ⟨fun x => gumbel_absolutelyContinuous (measure_singleton x)⟩

/-- **the cdf of the Gumbel law**: `P(G ≤ a) = exp(−exp(−a))` -/
theorem gumbel_Iic (a : ℝ) : gumbel (Iic a) = ENNReal.ofReal (gumbelCdf a) := by
  rw [gumbel, withDensity_apply _ measurableSet_Iic, gumbelPdf_eq_kernel, gumbelCdf_eq_anti,
    ← ofReal_integral_eq_lintegral_ofReal (gumbelKernel_integrable one_pos).integrableOn
      (Eventually.of_forall fun x => (gumbelKernel_pos 1 x).le), integral_Iic_gumbelKernel one_pos]

theorem gumbel_Iio (a : ℝ) : gumbel (Iio a) = ENNReal.ofReal (gumbelCdf a) := by
  rw [measure_congr (Iio_ae_eq_Iic (μ := gumbel) (a := a)), gumbel_Iic]

/-- integrals against the Gumbel law are integrals against its density -/
theorem lintegral_gumbel {f : ℝ → ℝ≥0∞} (hf : Measurable f) :
    ∫⁻ x, f x ∂gumbel = ∫⁻ x, ENNReal.ofReal (gumbelPdf x) * f x := by
  rw [gumbel, lintegral_withDensity_eq_lintegral_mul _ measurable_gumbelPdf.ennreal_ofReal hf]
  rfl

/-- non-vacuity: `P(G ≤ 0) = e⁻¹` -/
example : gumbel (Iic 0) = ENNReal.ofReal (Real.exp (-1)) := by
  simpa [gumbelCdf] using gumbel_Iic 0

theorem gumbel_real_Iic (a : ℝ) : gumbel.real (Iic a) = gumbelCdf a := by
  rw [Measure.real, gumbel_Iic, ENNReal.toReal_ofReal (gumbelCdf_pos a).le]

section GumbelMax
variable {n : ℕ}

/-- the joint law of `n` independent standard Gumbel variables (one per child of the sum node) -/
noncomputable def gumbelNoise (n : ℕ) : Measure (Fin n → ℝ) := Measure.pi fun _ => gumbel

instance (n : ℕ) : IsProbabilityMeasure (gumbelNoise n) := by unfold gumbelNoise; infer_instance

/-- density × product of shifted cdfs is again a kernel `exp(−x − C·exp(−x))` -/
theorem gumbelPdf_mul_prod_cdf (c : Fin n → ℝ) (x : ℝ) :
    gumbelPdf x * ∏ j, gumbelCdf (x + c j) = gumbelKernel (1 + ∑ j, Real.exp (-c j)) x := by
  unfold gumbelPdf gumbelCdf gumbelKernel
  rw [← Real.exp_sum, ← Real.exp_add]
  congr 1
  have : ∀ j, Real.exp (-(x + c j)) = Real.exp (-x) * Real.exp (-c j) := by
    intro j; rw [← Real.exp_add]; congr 1; ring
  simp_rw [this]
  rw [Finset.sum_neg_distrib, ← Finset.mul_sum]
  ring

/-- `∫ f(x)·Π_j F(x + c_j) dx = 1 / (1 + Σ_j exp(−c_j))` for the Gumbel density `f` and cdf `F` -/
theorem lintegral_gumbel_prod_cdf (c : Fin n → ℝ) :
    ∫⁻ x, ∏ j, ENNReal.ofReal (gumbelCdf (x + c j)) ∂gumbel
      = ENNReal.ofReal (1 + ∑ j, Real.exp (-c j))⁻¹ := by
  have hC : 0 < 1 + ∑ j, Real.exp (-c j) :=
    add_pos_of_pos_of_nonneg one_pos (Finset.sum_nonneg fun j _ => (Real.exp_pos _).le)
  have hm : Measurable fun x : ℝ => ∏ j, ENNReal.ofReal (gumbelCdf (x + c j)) := by
    refine Finset.measurable_prod _ fun j _ => ENNReal.measurable_ofReal.comp ?_
    unfold gumbelCdf
    exact (Real.continuous_exp.comp (Real.continuous_exp.comp
      ((continuous_id.add continuous_const).neg)).neg).measurable
  rw [lintegral_gumbel hm, ← lintegral_gumbelKernel hC]
  congr 1
  funext x
  rw [← ENNReal.ofReal_prod_of_nonneg (fun j _ => (gumbelCdf_pos _).le),
    ← ENNReal.ofReal_mul (gumbelPdf_pos x).le, gumbelPdf_mul_prod_cdf]

/-- **Gumbel-max, core statement.**  `k` is one of `n+1` positions with scores `s`; every other position `j` is compared
with `k` either strictly (`strict j`) or weakly.  Under independent standard Gumbel noise the probability that `k` beats
every other position is the soft-max weight `exp(s k) / Σ_j exp(s j)`. -/
theorem gumbel_win_core (k : Fin (n + 1)) (s : Fin (n + 1) → ℝ) (strict : Fin (n + 1) → Prop)
    [DecidablePred strict] :
    gumbelNoise (n + 1)
        {g | ∀ j, j ≠ k → if strict j then s j + g j < s k + g k else s j + g j ≤ s k + g k}
      = ENNReal.ofReal (Real.exp (s k) / ∑ j, Real.exp (s j)) := by
  set c : Fin n → ℝ := fun j => s k - s (k.succAbove j) with hc
  set A : Fin n → ℝ → Set ℝ :=
    fun j x => if strict (k.succAbove j) then Iio (x + c j) else Iic (x + c j) with hA
  set E' : Set (ℝ × (Fin n → ℝ)) := {p | ∀ j, p.2 j ∈ A j p.1} with hE'
  have hpre : {g : Fin (n + 1) → ℝ |
      ∀ j, j ≠ k → if strict j then s j + g j < s k + g k else s j + g j ≤ s k + g k}
      = (MeasurableEquiv.piFinSuccAbove (fun _ => ℝ) k) ⁻¹' E' := by
    ext g
    simp only [Set.mem_ofPred_eq, mem_preimage, hE', hA, MeasurableEquiv.piFinSuccAbove_apply]
    rw [Fin.forall_iff_succAbove k]
    simp only [ne_eq, not_true_eq_false, false_imp_iff, true_and]
    refine forall_congr' fun j => ?_
    have hne : k.succAbove j ≠ k := Fin.succAbove_ne k j
    simp only [hne, not_false_eq_true, true_imp_iff, Fin.insertNthEquiv, Equiv.coe_fn_symm_mk,
      Fin.removeNth, hc]
    split_ifs
    · rw [mem_Iio, ← add_sub_assoc, lt_sub_iff_add_lt', add_comm (g k)]
    · rw [mem_Iic, ← add_sub_assoc, le_sub_iff_add_le', add_comm (g k)]
  have hmeas : MeasurableSet E' := by
    simp only [hE', hA, Set.setOf_forall]
    refine MeasurableSet.iInter fun j => ?_
    have h1 : Measurable fun p : ℝ × (Fin n → ℝ) => p.2 j := (measurable_pi_apply j).comp measurable_snd
    have h2 : Measurable fun p : ℝ × (Fin n → ℝ) => p.1 + c j := measurable_fst.add_const _
    split_ifs
    exacts [measurableSet_lt h1 h2, measurableSet_le h1 h2]
  have hsec : ∀ x : ℝ, (Measure.pi fun _ : Fin n => gumbel) (Prod.mk x ⁻¹' E')
      = ∏ j, ENNReal.ofReal (gumbelCdf (x + c j)) := by
    intro x
    have : Prod.mk x ⁻¹' E' = Set.pi univ fun j => A j x := by
      ext h; simp only [hE', mem_preimage, Set.mem_ofPred_eq, Set.mem_pi, mem_univ, true_imp_iff]
    rw [this, Measure.pi_pi]
    refine Finset.prod_congr rfl fun j _ => ?_
    simp only [hA]
    split_ifs
    exacts [gumbel_Iio _, gumbel_Iic _]
  rw [hpre, gumbelNoise,
    (measurePreserving_piFinSuccAbove (fun _ : Fin (n + 1) => gumbel) k).measure_preimage_equiv,
    Measure.prod_apply hmeas]
  simp_rw [hsec]
  rw [lintegral_gumbel_prod_cdf]
  congr 1
  rw [Fin.sum_univ_succAbove _ k]
  have : ∀ j, Real.exp (-c j) = Real.exp (s (k.succAbove j)) / Real.exp (s k) := by
    intro j; rw [← Real.exp_sub]; congr 1; simp [hc]
  simp_rw [this]
  rw [← Finset.sum_div, one_add_div (Real.exp_pos (s k)).ne', inv_div]

/-- `k` is what `np.argmax(v)` returns: the first position holding the maximum of `v` -/
def IsFirstArgmax (v : Fin n → ℝ) (k : Fin n) : Prop := (∀ j, j < k → v j < v k) ∧ ∀ j, k < j → v j ≤ v k

theorem measurableSet_isFirstArgmax (s : Fin n → ℝ) (k : Fin n) :
    MeasurableSet {g : Fin n → ℝ | IsFirstArgmax (fun j => s j + g j) k} := by
  have hc : ∀ j : Fin n, Measurable fun g : Fin n → ℝ => s j + g j :=
    fun j => (measurable_pi_apply j).const_add _
  simp only [IsFirstArgmax, Set.setOf_and, Set.setOf_forall]
  exact (MeasurableSet.iInter fun j => MeasurableSet.iInter fun _ => measurableSet_lt (hc j) (hc k)).inter
    (MeasurableSet.iInter fun j => MeasurableSet.iInter fun _ => measurableSet_le (hc j) (hc k))

/-- **Gumbel-max for the selector as coded (`np.argmax`, first maximum), any number of children**: for scores
`s_0 … s_n` and independent standard Gumbel noise `G_j`, `P(np.argmax_j (s_j + G_j) = k) = exp(s_k) / Σ_j exp(s_j)`. -/
theorem gumbel_argmax_first (k : Fin (n + 1)) (s : Fin (n + 1) → ℝ) :
    gumbelNoise (n + 1) {g | IsFirstArgmax (fun j => s j + g j) k}
      = ENNReal.ofReal (Real.exp (s k) / ∑ j, Real.exp (s j)) := by
  classical
  rw [← gumbel_win_core k s (fun j => j < k)]
  congr 1
  ext g
  simp only [Set.mem_ofPred_eq, IsFirstArgmax]
  constructor
  · rintro ⟨h1, h2⟩ j hj
    split_ifs with hlt
    · exact h1 j hlt
    · exact h2 j (lt_of_le_of_ne (not_lt.1 hlt) (Ne.symm hj))
  · intro h
    refine ⟨fun j hj => ?_, fun j hj => ?_⟩
    · have := h j hj.ne; rwa [if_pos hj] at this
    · have := h j hj.ne'; rwa [if_neg (not_lt.2 hj.le)] at this

/-- the same for `Fin m` with any `m` that has a position `k` -/
theorem gumbel_argmax_first_fin {m : ℕ} (k : Fin m) (s : Fin m → ℝ) :
    gumbelNoise m {g | IsFirstArgmax (fun j => s j + g j) k}
      = ENNReal.ofReal (Real.exp (s k) / ∑ j, Real.exp (s j)) := by
  cases m with
  | zero => exact k.elim0
  | succ n => exact gumbel_argmax_first k s

/-- **Gumbel-max, weak form**: `P(s_k + G_k ≥ s_j + G_j for all j) = exp(s_k) / Σ_j exp(s_j)`. -/
theorem gumbel_max (k : Fin (n + 1)) (s : Fin (n + 1) → ℝ) :
    gumbelNoise (n + 1) {g | ∀ j, s j + g j ≤ s k + g k}
      = ENNReal.ofReal (Real.exp (s k) / ∑ j, Real.exp (s j)) := by
  classical
  rw [← gumbel_win_core k s (fun _ => False)]
  congr 1
  ext g
  simp only [Set.mem_ofPred_eq, if_false]
  exact ⟨fun h j _ => h j, fun h j => (eq_or_ne j k).elim (fun e => e ▸ le_rfl) (h j)⟩

/-- **Gumbel-max, strict form**: `P(s_k + G_k > s_j + G_j for all j ≠ k)` is the same number. -/
theorem gumbel_strict_max (k : Fin (n + 1)) (s : Fin (n + 1) → ℝ) :
    gumbelNoise (n + 1) {g | ∀ j, j ≠ k → s j + g j < s k + g k}
      = ENNReal.ofReal (Real.exp (s k) / ∑ j, Real.exp (s j)) := by
  classical
  rw [← gumbel_win_core k s (fun _ => True)]
  simp only [if_true]

/-- ties at the maximum have probability zero: almost surely the arg-max is unique (so the tie-breaking rule of
`np.argmax` does not influence the law) -/
theorem gumbel_argmax_ae_unique (s : Fin (n + 1) → ℝ) :
    ∀ᵐ g ∂gumbelNoise (n + 1), ∀ k, (∀ j, s j + g j ≤ s k + g k) → ∀ j, j ≠ k → s j + g j < s k + g k := by
  rw [ae_all_iff]
  intro k
  rw [ae_iff]
  have hc : ∀ j : Fin (n + 1), Measurable fun g : Fin (n + 1) → ℝ => s j + g j :=
    fun j => (measurable_pi_apply j).const_add _
  have hS : MeasurableSet {g : Fin (n + 1) → ℝ | ∀ j, j ≠ k → s j + g j < s k + g k} := by
    simp only [Set.setOf_forall]
    exact MeasurableSet.iInter fun j => MeasurableSet.iInter fun _ => measurableSet_lt (hc j) (hc k)
  have hsub : {g : Fin (n + 1) → ℝ | ∀ j, j ≠ k → s j + g j < s k + g k} ⊆ {g | ∀ j, s j + g j ≤ s k + g k} :=
    fun g h j => (eq_or_ne j k).elim (fun e => e ▸ le_rfl) fun hj => (h j hj).le
  have hset : {g : Fin (n + 1) → ℝ |
      ¬((∀ j, s j + g j ≤ s k + g k) → ∀ j, j ≠ k → s j + g j < s k + g k)}
      = {g | ∀ j, s j + g j ≤ s k + g k} \ {g | ∀ j, j ≠ k → s j + g j < s k + g k} := by
    ext g; simp only [Set.mem_ofPred_eq, Set.mem_sdiff, Classical.not_imp]
  rw [hset, measure_sdiff hsub hS.nullMeasurableSet (measure_ne_top _ _), gumbel_max, gumbel_strict_max, tsub_self]

/-- **the categorical form**: for positive (not necessarily normalised) weights `p_j`,
`P(np.argmax_j (log p_j + G_j) = k) = p_k / Σ_j p_j` — `argmax(log p + G) ~ Categorical(p / Σ p)`. -/
theorem gumbel_max_categorical (k : Fin (n + 1)) (p : Fin (n + 1) → ℝ) (hp : ∀ j, 0 < p j) :
    gumbelNoise (n + 1) {g | IsFirstArgmax (fun j => Real.log (p j) + g j) k}
      = ENNReal.ofReal (p k / ∑ j, p j) := by
  rw [gumbel_argmax_first k (fun j => Real.log (p j))]
  simp only [Real.exp_log (hp _)]

/-- the soft-max weights add up to one: the events `{np.argmax = k}` exhaust the probability -/
theorem softmax_sum_one (s : Fin (n + 1) → ℝ) : ∑ k, Real.exp (s k) / ∑ j, Real.exp (s j) = 1 := by
  have : 0 < ∑ j, Real.exp (s j) := Finset.sum_pos (fun j _ => Real.exp_pos _) Finset.univ_nonempty
  rw [← Finset.sum_div, div_self this.ne']

/-- **max-stability**: the maximum of independent shifted Gumbel variables is a Gumbel variable shifted by the
log-sum-exp: `P(max_j (s_j + G_j) ≤ x) = F(x − log Σ_j exp(s_j))`. -/
theorem gumbel_max_law (s : Fin (n + 1) → ℝ) (x : ℝ) :
    gumbelNoise (n + 1) {g | ∀ j, s j + g j ≤ x}
      = ENNReal.ofReal (gumbelCdf (x - Real.log (∑ j, Real.exp (s j)))) := by
  have hpos : 0 < ∑ j, Real.exp (s j) := Finset.sum_pos (fun j _ => Real.exp_pos _) Finset.univ_nonempty
  have : {g : Fin (n + 1) → ℝ | ∀ j, s j + g j ≤ x} = Set.pi univ fun j => Iic (x - s j) := by
    ext g; simp only [Set.mem_ofPred_eq, Set.mem_pi, mem_univ, true_imp_iff, mem_Iic]
    exact forall_congr' fun j => by constructor <;> intro h <;> linarith
  rw [this, gumbelNoise, Measure.pi_pi]
  simp_rw [gumbel_Iic]
  rw [← ENNReal.ofReal_prod_of_nonneg (fun j _ => (gumbelCdf_pos _).le)]
  congr 1
  unfold gumbelCdf
  rw [← Real.exp_sum]
  congr 1
  rw [Finset.sum_neg_distrib, neg_inj, neg_sub, Real.exp_sub, Real.exp_log hpos, div_eq_mul_inv, Finset.sum_mul]
  refine Finset.sum_congr rfl fun j _ => ?_
  rw [← Real.exp_neg x, ← Real.exp_add]
  congr 1; ring

/-- **Gumbel-max on an arbitrary probability space**: `G_0 … G_n` independent, each with the standard Gumbel law. -/
theorem gumbel_max_indep {Ω : Type*} {mΩ : MeasurableSpace Ω} {μ : Measure Ω} (G : Fin (n + 1) → Ω → ℝ)
    (hG : ∀ i, Measurable (G i)) (h_indep : iIndepFun G μ) (hlaw : ∀ i, μ.map (G i) = gumbel)
    (s : Fin (n + 1) → ℝ) (k : Fin (n + 1)) :
    μ {ω | IsFirstArgmax (fun j => s j + G j ω) k} = ENNReal.ofReal (Real.exp (s k) / ∑ j, Real.exp (s j)) := by
  have : IsProbabilityMeasure μ := h_indep.isProbabilityMeasure
  have hmap := (iIndepFun_iff_map_fun_eq_pi_map (fun i => (hG i).aemeasurable)).1 h_indep
  simp_rw [hlaw] at hmap
  rw [← gumbel_argmax_first k s, gumbelNoise, ← hmap,
    Measure.map_apply (measurable_pi_lambda _ hG) (measurableSet_isFirstArgmax s k)]
  rfl

/-- two children with scores `a`, `b`:
`P(a + G₀ ≥ b + G₁) = exp a / (exp a + exp b)`. -/
theorem gumbel_max_two (a b : ℝ) :
    gumbelNoise 2 {g | b + g 1 ≤ a + g 0} = ENNReal.ofReal (Real.exp a / (Real.exp a + Real.exp b)) := by
  have h := gumbel_max (n := 1) (0 : Fin 2) ![a, b]
  have hs : ∑ j : Fin 2, Real.exp (![a, b] j) = Real.exp a + Real.exp b := by simp [Fin.sum_univ_two]
  have hset : {g : Fin 2 → ℝ | b + g 1 ≤ a + g 0} = {g | ∀ j : Fin 2, ![a, b] j + g j ≤ ![a, b] 0 + g 0} := by
    ext g; simp only [Set.mem_ofPred_eq, Fin.forall_fin_two, Matrix.cons_val_zero, Matrix.cons_val_one, le_refl,
      true_and]
  rw [hset, ← hs]
  exact h

/-- non-vacuity (the weights of finding F4 of DESIGN.md, the noise law of `sum_sample`): `P(np.argmax(log(0.7, 0.2, 0.1) + G) = 0) = 0.7` -/
example : gumbelNoise 3 {g | IsFirstArgmax (fun j => Real.log (![7/10, 2/10, 1/10] j) + g j) 0}
    = ENNReal.ofReal (7/10) := by
  rw [gumbel_max_categorical (n := 2) 0 _ (by intro j; fin_cases j <;> simp)]
  congr 1
  simp [Fin.sum_univ_three]
  norm_num

/-- non-vacuity of `gumbel_max_two`: equal scores give one half -/
example : gumbelNoise 2 {g | 0 + g 1 ≤ 0 + g 0} = ENNReal.ofReal (1/2) := by
  rw [gumbel_max_two]; norm_num

end GumbelMax

section Hoeffding
variable {Ω : Type*} {mΩ : MeasurableSpace Ω} {μ : Measure Ω} {ι : Type*}

/-- the empirical mean of the variables indexed by `s` -/
noncomputable def empMean (X : ι → Ω → ℝ) (s : Finset ι) (ω : Ω) : ℝ := (∑ i ∈ s, X i ω) / s.card

/-- **Hoeffding, upper tail**: independent `X i` (`i ∈ s`) with values in `[0, 1]` and common mean `p`:
`P(mean − p ≥ ε) ≤ exp(−2·n·ε²)`, `n = s.card`. -/
theorem hoeffding_upper {X : ι → Ω → ℝ} (h_indep : iIndepFun X μ) (s : Finset ι) (hs : s.Nonempty)
    (hm : ∀ i ∈ s, AEMeasurable (X i) μ) (hb : ∀ i ∈ s, ∀ᵐ ω ∂μ, X i ω ∈ Icc (0 : ℝ) 1)
    {p : ℝ} (hmean : ∀ i ∈ s, μ[X i] = p) {ε : ℝ} (hε : 0 ≤ ε) :
    μ.real {ω | ε ≤ empMean X s ω - p} ≤ Real.exp (-2 * s.card * ε ^ 2) := by
  have : IsProbabilityMeasure μ := h_indep.isProbabilityMeasure
  have hn : (0 : ℝ) < s.card := by exact_mod_cast hs.card_pos
  have hY : iIndepFun (fun i ω => X i ω - μ[X i]) μ :=
    h_indep.comp (fun i x => x - ∫ ω, X i ω ∂μ) (fun i => measurable_id.sub_const _)
  have hsub : ∀ i ∈ s, HasSubgaussianMGF (fun ω => X i ω - μ[X i]) ((‖(1 : ℝ) - 0‖₊ / 2) ^ 2) μ :=
    fun i hi => hasSubgaussianMGF_of_mem_Icc (hm i hi) (hb i hi)
  have key := HasSubgaussianMGF.measure_sum_ge_le_of_iIndepFun hY (c := fun _ => (‖(1 : ℝ) - 0‖₊ / 2) ^ 2)
    (s := s) hsub (ε := s.card * ε) (by positivity)
  have hset : {ω | ε ≤ empMean X s ω - p} = {ω | s.card * ε ≤ ∑ i ∈ s, (X i ω - μ[X i])} := by
    ext ω
    simp only [Set.mem_ofPred_eq, empMean, Finset.sum_sub_distrib]
    rw [Finset.sum_congr rfl hmean, Finset.sum_const, nsmul_eq_mul, le_sub_iff_add_le, le_sub_iff_add_le,
      le_div_iff₀ hn, add_mul, mul_comm ε, mul_comm p]
  rw [hset]
  refine key.trans_eq ?_
  congr 1
  simp only [Finset.sum_const, nsmul_eq_mul, sub_zero, nnnorm_one, NNReal.coe_mul, NNReal.coe_natCast,
    NNReal.coe_pow, NNReal.coe_div, NNReal.coe_one, NNReal.coe_ofNat]
  rw [div_eq_iff (mul_pos two_pos (mul_pos hn (by norm_num))).ne']
  ring

/-- **Hoeffding, lower tail**: `P(p − mean ≥ ε) ≤ exp(−2·n·ε²)` (the upper tail of `1 − X i`). -/
theorem hoeffding_lower {X : ι → Ω → ℝ} (h_indep : iIndepFun X μ) (s : Finset ι) (hs : s.Nonempty)
    (hm : ∀ i ∈ s, AEMeasurable (X i) μ) (hb : ∀ i ∈ s, ∀ᵐ ω ∂μ, X i ω ∈ Icc (0 : ℝ) 1)
    {p : ℝ} (hmean : ∀ i ∈ s, μ[X i] = p) {ε : ℝ} (hε : 0 ≤ ε) :
    μ.real {ω | ε ≤ p - empMean X s ω} ≤ Real.exp (-2 * s.card * ε ^ 2) := by
  have : IsProbabilityMeasure μ := h_indep.isProbabilityMeasure
  have hn : (0 : ℝ) < s.card := by exact_mod_cast hs.card_pos
  have hY : iIndepFun (fun i ω => 1 - X i ω) μ :=
    h_indep.comp (fun i x => 1 - x) (fun i => measurable_const.sub measurable_id)
  have hint : ∀ i ∈ s, Integrable (X i) μ := fun i hi => Integrable.of_mem_Icc 0 1 (hm i hi) (hb i hi)
  have key := hoeffding_upper hY s hs (fun i hi => (hm i hi).const_sub 1)
    (fun i hi => by filter_upwards [hb i hi] with ω h; exact ⟨sub_nonneg.2 h.2, sub_le_self 1 h.1⟩)
    (p := 1 - p)
    (fun i hi => by
      show ∫ ω, (1 - X i ω) ∂μ = 1 - p
      rw [integral_sub (integrable_const _) (hint i hi), hmean i hi]; simp) hε
  refine le_trans (le_of_eq ?_) key
  congr 1
  ext ω
  simp only [Set.mem_ofPred_eq, empMean, Finset.sum_sub_distrib, Finset.sum_const, nsmul_eq_mul, mul_one]
  rw [sub_div, div_self hn.ne', sub_sub_sub_cancel_left]

/-- **Hoeffding's inequality for a bounded mean (two-sided)**: for independent `X i`, `i ∈ s`, with values in `[0, 1]`
and mean `p` each (i.i.d. Bernoulli(`p`) indicators in C07 / C16), `P(|mean − p| ≥ ε) ≤ 2·exp(−2·n·ε²)`. -/
theorem hoeffding_two_sided {X : ι → Ω → ℝ} (h_indep : iIndepFun X μ) (s : Finset ι) (hs : s.Nonempty)
    (hm : ∀ i ∈ s, AEMeasurable (X i) μ) (hb : ∀ i ∈ s, ∀ᵐ ω ∂μ, X i ω ∈ Icc (0 : ℝ) 1)
    {p : ℝ} (hmean : ∀ i ∈ s, μ[X i] = p) {ε : ℝ} (hε : 0 ≤ ε) :
    μ.real {ω | ε ≤ |empMean X s ω - p|} ≤ 2 * Real.exp (-2 * s.card * ε ^ 2) := by
  have hsub : {ω | ε ≤ |empMean X s ω - p|} ⊆ {ω | ε ≤ empMean X s ω - p} ∪ {ω | ε ≤ p - empMean X s ω} := by
    intro ω h
    simp only [Set.mem_ofPred_eq, mem_union] at h ⊢
    rcases le_abs'.1 h with h | h
    · right; linarith
    · left; exact h
  have : IsProbabilityMeasure μ := h_indep.isProbabilityMeasure
  calc μ.real {ω | ε ≤ |empMean X s ω - p|}
      ≤ μ.real ({ω | ε ≤ empMean X s ω - p} ∪ {ω | ε ≤ p - empMean X s ω}) := measureReal_mono hsub
    _ ≤ μ.real {ω | ε ≤ empMean X s ω - p} + μ.real {ω | ε ≤ p - empMean X s ω} := measureReal_union_le _ _
    _ ≤ Real.exp (-2 * s.card * ε ^ 2) + Real.exp (-2 * s.card * ε ^ 2) :=
        add_le_add (hoeffding_upper h_indep s hs hm hb hmean hε) (hoeffding_lower h_indep s hs hm hb hmean hε)
    _ = 2 * Real.exp (-2 * s.card * ε ^ 2) := by ring

/-- `harness/c07.py: hoeffding_eps(n, m_pairs)` with `FWER = δ`: `sqrt(log(2·m / δ) / (2·n))` -/
noncomputable def hoeffdingEps (n m : ℕ) (δ : ℝ) : ℝ := Real.sqrt (Real.log (2 * m / δ) / (2 * n))

theorem hoeffdingEps_nonneg (n m : ℕ) (δ : ℝ) : 0 ≤ hoeffdingEps n m δ := Real.sqrt_nonneg _

/-- with the harness's radius the two-sided Hoeffding bound is exactly `δ / m` -/
theorem two_exp_hoeffdingEps {n m : ℕ} (hn : 0 < n) (hm : 0 < m) {δ : ℝ} (hδ : 0 < δ) (hδm : δ ≤ 2 * m) :
    2 * Real.exp (-2 * n * hoeffdingEps n m δ ^ 2) = δ / m := by
  have hn' : 2 * (n : ℝ) ≠ 0 := mul_ne_zero two_ne_zero (Nat.cast_ne_zero.2 hn.ne')
  have hx : 0 < 2 * (m : ℝ) / δ := div_pos (mul_pos two_pos (Nat.cast_pos.2 hm)) hδ
  have hlog : 0 ≤ Real.log (2 * m / δ) := Real.log_nonneg ((one_le_div hδ).2 hδm)
  rw [hoeffdingEps, Real.sq_sqrt (div_nonneg hlog (by positivity)), neg_mul, neg_mul, mul_div_cancel₀ _ hn',
    Real.exp_neg, Real.exp_log hx, inv_div, ← mul_div_assoc, mul_div_mul_left _ _ two_ne_zero]

/-- **each statistic fails with probability at most `δ / m`** at the harness's radius -/
theorem hoeffding_harness_single {X : ι → Ω → ℝ} (h_indep : iIndepFun X μ) (s : Finset ι) (hs : s.Nonempty)
    (hm : ∀ i ∈ s, AEMeasurable (X i) μ) (hb : ∀ i ∈ s, ∀ᵐ ω ∂μ, X i ω ∈ Icc (0 : ℝ) 1)
    {p : ℝ} (hmean : ∀ i ∈ s, μ[X i] = p) {m : ℕ} (hm0 : 0 < m) {δ : ℝ} (hδ : 0 < δ) (hδm : δ ≤ 2 * m) :
    μ.real {ω | hoeffdingEps s.card m δ ≤ |empMean X s ω - p|} ≤ δ / m :=
  (hoeffding_two_sided h_indep s hs hm hb hmean (hoeffdingEps_nonneg _ _ _)).trans_eq
    (two_exp_hoeffdingEps hs.card_pos hm0 hδ hδm)

/-- **the union-bound step**, over a finite family of events: if each of at most `m` events has probability at most
`δ / m`, the probability that any of them happens is at most `δ`.  No independence between the events is needed. -/
theorem union_bound {α : Type*} (t : Finset α) (E : α → Set Ω) {m : ℕ} (hm0 : 0 < m) (htm : t.card ≤ m)
    {δ : ℝ} (hδ : 0 ≤ δ) (h : ∀ a ∈ t, μ.real (E a) ≤ δ / m) :
    μ.real (⋃ a ∈ t, E a) ≤ δ := by
  have hm' : (0 : ℝ) < m := by exact_mod_cast hm0
  calc μ.real (⋃ a ∈ t, E a) ≤ ∑ a ∈ t, μ.real (E a) := measureReal_biUnion_finset_le t E
    _ ≤ ∑ _a ∈ t, δ / m := Finset.sum_le_sum h
    _ = t.card * (δ / m) := by rw [Finset.sum_const, nsmul_eq_mul]
    _ ≤ m * (δ / m) := by
        have : (t.card : ℝ) ≤ m := by exact_mod_cast htm
        exact mul_le_mul_of_nonneg_right this (by positivity)
    _ = δ := mul_div_cancel₀ δ hm'.ne'

/-- **the statistical decision of C07 / C16 at family-wise level `δ`**: `t` is a family of at most `m` statistics; statistic
`a` is the mean of `n = s.card` variables `X a i` with values in `[0, 1]`, independent in `i` (not assumed independent across
`a`: the indicators of different outcomes are computed from the same draws), each with mean `p a` (the exact probability
computed by the model).  The probability that any empirical mean is at distance `≥ hoeffding_eps(n, m)` from its exact
value is at most `δ` — so a reported deviation is, with probability `≥ 1 − δ`, not a sampling accident. -/
theorem hoeffding_family {α : Type*} (t : Finset α) (X : α → ι → Ω → ℝ) (p : α → ℝ) (s : Finset ι) (hs : s.Nonempty)
    (h_indep : ∀ a ∈ t, iIndepFun (X a) μ)
    (hm : ∀ a ∈ t, ∀ i ∈ s, AEMeasurable (X a i) μ) (hb : ∀ a ∈ t, ∀ i ∈ s, ∀ᵐ ω ∂μ, X a i ω ∈ Icc (0 : ℝ) 1)
    (hmean : ∀ a ∈ t, ∀ i ∈ s, μ[X a i] = p a)
    {m : ℕ} (hm0 : 0 < m) (htm : t.card ≤ m) {δ : ℝ} (hδ : 0 < δ) (hδm : δ ≤ 2 * m) :
    μ.real {ω | ∃ a ∈ t, hoeffdingEps s.card m δ ≤ |empMean (X a) s ω - p a|} ≤ δ := by
  have hset : {ω | ∃ a ∈ t, hoeffdingEps s.card m δ ≤ |empMean (X a) s ω - p a|}
      = ⋃ a ∈ t, {ω | hoeffdingEps s.card m δ ≤ |empMean (X a) s ω - p a|} := by
    ext ω; simp only [Set.mem_ofPred_eq, Set.mem_iUnion, exists_prop]
  rw [hset]
  exact union_bound t _ hm0 htm hδ.le fun a ha =>
    hoeffding_harness_single (h_indep a ha) s hs (hm a ha) (hb a ha) (hmean a ha) hm0 hδ hδm

/-- non-vacuity of `two_exp_hoeffdingEps` at the harness's numbers (N = 200000 draws, m = 10000 statistics, δ = 1e-9) -/
example : 2 * Real.exp (-2 * (200000 : ℕ) * hoeffdingEps 200000 10000 (1e-9) ^ 2) = 1e-9 / (10000 : ℕ) :=
  two_exp_hoeffdingEps (by norm_num) (by norm_num) (by norm_num) (by norm_num)

/-- the radius at the harness's numbers is below 0.009 (the harness prints 0.0087 for its own `m`) -/
theorem hoeffdingEps_harness_value : hoeffdingEps 200000 10000 (1e-9) ≤ 9 / 1000 := by
  unfold hoeffdingEps
  rw [Real.sqrt_le_left (by norm_num)]
  have hx : (0 : ℝ) < 2 * (10000 : ℕ) / 1e-9 := by norm_num
  have hlog : Real.log (2 * (10000 : ℕ) / 1e-9) ≤ 32 := by
    rw [Real.log_le_iff_le_exp hx]
    have h1 : (2.7 : ℝ) ≤ Real.exp 1 := by linarith [Real.exp_one_gt_d9]
    have h2 : Real.exp 32 = Real.exp 1 ^ 32 := by rw [← Real.exp_nat_mul]; norm_num
    rw [h2]
    calc (2 * (10000 : ℕ) / 1e-9 : ℝ) ≤ 2.7 ^ 32 := by norm_num
      _ ≤ Real.exp 1 ^ 32 := pow_le_pow_left₀ (by norm_num) h1 32
  calc Real.log (2 * (10000 : ℕ) / 1e-9) / (2 * (200000 : ℕ)) ≤ 32 / (2 * (200000 : ℕ)) := by gcongr
    _ ≤ (9 / 1000) ^ 2 := by norm_num

/-- non-vacuity of `union_bound`: three events of probability at most `δ/3` each under the Gumbel law -/
example (E : Fin 3 → Set ℝ) (h : ∀ a, gumbel.real (E a) ≤ (3/100) / (3 : ℕ)) :
    gumbel.real (⋃ a ∈ (Finset.univ : Finset (Fin 3)), E a) ≤ 3/100 :=
  union_bound Finset.univ E (by norm_num) (by simp) (by norm_num) (fun a _ => h a)

end Hoeffding

section Frequencies
variable {S : Type*} [MeasurableSpace S]

/-- the relative frequency of the outcome set `A` among the `n` draws `ω 0 … ω (n−1)` -/
noncomputable def empFreq {n : ℕ} (A : Set S) (ω : Fin n → S) : ℝ := (∑ i, A.indicator (1 : S → ℝ) (ω i)) / n

/-- the mean of the indicator of `A` at draw `i` is the probability of `A` -/
theorem integral_indicator_eval (ν : Measure S) [IsProbabilityMeasure ν] {n : ℕ} (i : Fin n) {A : Set S}
    (hA : MeasurableSet A) :
    ∫ ω, A.indicator (1 : S → ℝ) (ω i) ∂(Measure.pi fun _ : Fin n => ν) = ν.real A := by
  have hmp := measurePreserving_eval (fun _ : Fin n => ν) i
  have := integral_map (μ := Measure.pi fun _ : Fin n => ν) (φ := Function.eval i)
    hmp.measurable.aemeasurable (f := A.indicator (1 : S → ℝ))
    (by rw [hmp.map_eq]; exact (measurable_one.indicator hA).aestronglyMeasurable)
  rw [hmp.map_eq, integral_indicator_one hA] at this
  exact this.symm

/-- **the C07 / C16 decision**: `n` i.i.d. draws from a law `ν` (the sampler's law on rows); `t` a family of at most `m`
measurable outcome sets (the (case, outcome) pairs).  With probability at least `1 − δ` every relative frequency is within
`hoeffding_eps(n, m)` of the probability `ν(A)` of its outcome.  Hence, if the sampler's law is the exact conditional law
computed by the model, the check reports a deviation with probability at most `δ` (= 1e-9 in the harness). -/
theorem hoeffding_empirical_frequencies (ν : Measure S) [IsProbabilityMeasure ν] {n : ℕ} (hn : 0 < n)
    {α : Type*} (t : Finset α) (A : α → Set S) (hA : ∀ a ∈ t, MeasurableSet (A a))
    {m : ℕ} (hm0 : 0 < m) (htm : t.card ≤ m) {δ : ℝ} (hδ : 0 < δ) (hδm : δ ≤ 2 * m) :
    (Measure.pi fun _ : Fin n => ν).real
        {ω | ∃ a ∈ t, hoeffdingEps n m δ ≤ |empFreq (A a) ω - ν.real (A a)|} ≤ δ := by
  have hne : (Finset.univ : Finset (Fin n)).Nonempty := by
    have : Nonempty (Fin n) := ⟨⟨0, hn⟩⟩
    exact Finset.univ_nonempty
  have hmeasf : ∀ a ∈ t, Measurable ((A a).indicator (1 : S → ℝ)) :=
    fun a ha => measurable_one.indicator (hA a ha)
  have key := hoeffding_family (μ := Measure.pi fun _ : Fin n => ν) t
    (fun a i ω => (A a).indicator (1 : S → ℝ) (ω i)) (fun a => ν.real (A a)) Finset.univ hne
    (fun a ha => iIndepFun_pi (μ := fun _ : Fin n => ν) (X := fun _ x => (A a).indicator (1 : S → ℝ) x)
      (fun _ => (hmeasf a ha).aemeasurable))
    (fun a ha i _ => ((hmeasf a ha).comp (measurable_pi_apply i)).aemeasurable)
    (fun a ha i _ => Eventually.of_forall fun ω => by
      by_cases h : ω i ∈ A a <;> simp [Set.indicator, h])
    (fun a ha i _ => integral_indicator_eval ν i (hA a ha))
    hm0 htm hδ hδm
  simpa only [empMean, empFreq, Finset.card_univ, Fintype.card_fin] using key

/-- non-vacuity at the harness's numbers: 200000 independent standard Gumbel draws, the two outcomes `{G ≤ 0}`
(probability `e⁻¹`) and `{G ≤ 1}`: both relative frequencies are within `hoeffding_eps(200000, 10000)` (< 0.009) of the
exact probabilities, except with probability at most 1e-9 -/
example : (Measure.pi fun _ : Fin 200000 => gumbel).real
    {ω | ∃ a ∈ ({0, 1} : Finset ℝ),
      hoeffdingEps 200000 10000 (1e-9) ≤ |empFreq (Iic a) ω - gumbelCdf a|} ≤ 1e-9 := by
  have := hoeffding_empirical_frequencies gumbel (n := 200000) (by norm_num) ({0, 1} : Finset ℝ) (fun a => Iic a)
    (fun a _ => measurableSet_Iic) (m := 10000) (by norm_num) (Finset.card_le_two.trans (by norm_num))
    (δ := 1e-9) (by norm_num) (by norm_num)
  simpa only [gumbel_real_Iic] using this

/-- non-vacuity of `hoeffding_two_sided`: the frequency of `{G ≤ 0}` in 3 independent Gumbel draws -/
example (ε : ℝ) (hε : 0 ≤ ε) :
    (Measure.pi fun _ : Fin 3 => gumbel).real
      {ω | ε ≤ |empMean (fun i ω => (Iic (0 : ℝ)).indicator (1 : ℝ → ℝ) (ω i)) Finset.univ ω - Real.exp (-1)|}
      ≤ 2 * Real.exp (-2 * 3 * ε ^ 2) := by
  have hmeas : Measurable ((Iic (0 : ℝ)).indicator (1 : ℝ → ℝ)) := measurable_one.indicator measurableSet_Iic
  have key := hoeffding_two_sided (μ := Measure.pi fun _ : Fin 3 => gumbel)
    (X := fun i ω => (Iic (0 : ℝ)).indicator (1 : ℝ → ℝ) (ω i))
    (iIndepFun_pi (μ := fun _ : Fin 3 => gumbel) (X := fun _ x => (Iic (0 : ℝ)).indicator (1 : ℝ → ℝ) x)
      (fun _ => hmeas.aemeasurable))
    Finset.univ Finset.univ_nonempty (fun i _ => (hmeas.comp (measurable_pi_apply i)).aemeasurable)
    (fun i _ => Eventually.of_forall fun ω => by
      by_cases h : ω i ≤ 0 <;> simp [Set.indicator, h])
    (p := Real.exp (-1))
    (fun i _ => by
      rw [integral_indicator_eval gumbel i measurableSet_Iic, gumbel_real_Iic]; simp [gumbelCdf]) hε
  simpa using key

end Frequencies

section Bridge
open Deeprob.E2E

/-- the law of `np.argmax(s + G)` for a list of scores (one per child of the sum node): entry `k` is the probability,
under independent standard Gumbel noise `G`, that `k` is the position `np.argmax` returns.  This is the object the
parameter `argmaxLaw` of `E2E.ssGumbelMaxIdentity` stands for. -/
noncomputable def gumbelArgmaxLaw (s : List ℝ) : List ℝ :=
  List.ofFn fun k : Fin s.length =>
    (gumbelNoise s.length).real {g | IsFirstArgmax (fun j => s[j.1] + g j) k}

/-- **the Gumbel-max identity in the form `Props/E2ECirc.lean` assumes it**: the law of the arg-max of the noisy scores is
the soft-max of the scores, for every list of real scores. -/
theorem gumbelArgmaxLaw_eq_softmax (s : List ℝ) :
    gumbelArgmaxLaw s = s.map (fun a => Real.exp a / Deeprob.tsum (s.map Real.exp)) := by
  rw [← List.ofFn_getElem_eq_map, gumbelArgmaxLaw, tsum_eq_sum, ← Fin.sum_univ_fun_getElem]
  congr 1
  funext k
  rw [Measure.real, gumbel_argmax_first_fin k (fun j => s[j.1]), ENNReal.toReal_ofReal]
  exact div_nonneg (Real.exp_pos _).le (Finset.sum_nonneg fun j _ => (Real.exp_pos _).le)

/-- `E2E.ssGumbelMaxIdentity` holds for the real exponential and the actual arg-max law: the hypothesis
`hGumbelMax_trusted` is a theorem when `F = ℝ`. -/
theorem gumbelMaxIdentity_real : ssGumbelMaxIdentity Deeprob.realExpLog gumbelArgmaxLaw :=
  fun s => gumbelArgmaxLaw_eq_softmax s

/-- `E2E.e2e_sum_sample_branch` with its hypothesis `hGumbelMax_trusted` discharged (C07, over ℝ): at a sum node with positive weights `ws`
whose children have positive values `ls`, the probability that `np.argmax` of the generated scores plus independent
standard Gumbel noise returns child `i` is the exact conditional branch probability `wᵢ·Lᵢ / Σⱼ wⱼ·Lⱼ`. -/
theorem e2e_sum_sample_branch_real (ws ls : List ℝ) (hw : ∀ w ∈ ws, 0 < w) (hl : ∀ l ∈ ls, 0 < l) :
    gumbelArgmaxLaw (ssGenScore0 Deeprob.realExpLog ws ls) = Deeprob.TCirc.branchPmf (Deeprob.wsum ws ls) ws ls :=
  e2e_sum_sample_branch Deeprob.realExpLog gumbelArgmaxLaw gumbelMaxIdentity_real ws ls hw hl

/-- `E2E.e2e_sum_sample_branch_exact` with its hypothesis `hGumbelMax_trusted` discharged (C07, over ℝ): the sampler whose sum nodes return
`np.argmax` of the generated scores plus standard Gumbel noise draws from the exact conditional distribution. -/
theorem e2e_sum_sample_exact_real (dom : Nat → Nat) (c : Deeprob.TCirc ℝ) (hv : Deeprob.Circ.Valid dom c.toCirc)
    (hn : Deeprob.TCirc.NonNeg c) (hl : Deeprob.TCirc.LeafExact c) (e x : Deeprob.Ev) (hpos : ssPos e c)
    (hx : Deeprob.Completes c.scope e x) :
    ssGenTopDownPmf Deeprob.realExpLog gumbelArgmaxLaw e x c * Deeprob.TCirc.eval e c = Deeprob.TCirc.eval x c :=
  e2e_sum_sample_branch_exact Deeprob.realExpLog gumbelArgmaxLaw gumbelMaxIdentity_real dom c hv hn hl e x hpos hx

/-- non-vacuity: the law of `np.argmax(log(0.7, 0.2, 0.1) + G)` is `(0.7, 0.2, 0.1)` (the library as received drew the
noise from `gumbel_l`, the left-skewed law, and was measured as `(0.739, 0.195, 0.066)`: finding F4 of DESIGN.md;
this is why `gumbel` is the right-skewed law `gumbel_r`) -/
example : gumbelArgmaxLaw [Real.log (7/10), Real.log (2/10), Real.log (1/10)] = [7/10, 2/10, 1/10] := by
  rw [gumbelArgmaxLaw_eq_softmax]
  have h7 : Real.exp (Real.log (7/10)) = 7/10 := Real.exp_log (by norm_num)
  have h2 : Real.exp (Real.log (2/10)) = 2/10 := Real.exp_log (by norm_num)
  have h1 : Real.exp (Real.log (1/10)) = 1/10 := Real.exp_log (by norm_num)
  simp only [List.map_cons, List.map_nil, Deeprob.tsum, h7, h2, h1]
  norm_num

/-- non-vacuity of `e2e_sum_sample_branch_real`: weights `(1/4, 3/4)`, child values `(1/3, 1/10)` -/
example : gumbelArgmaxLaw (ssGenScore0 Deeprob.realExpLog [1/4, 3/4] [1/3, 1/10])
    = Deeprob.TCirc.branchPmf (Deeprob.wsum [1/4, 3/4] [1/3, 1/10]) [1/4, 3/4] [1/3, 1/10] :=
  e2e_sum_sample_branch_real _ _ (MCirc.forall_mem_two (by norm_num) (by norm_num))
    (MCirc.forall_mem_two (by norm_num) (by norm_num))

/-! ### a real-valued witness for `e2e_sum_sample_exact_real`

The witness of `Props/E2ECirc.lean` (`ssExT`) lives over `ℚ` and quantifies over `E : ExpLog ℚ`.  There is no such `E`
(`expLog_rat_empty` below: `exp (log 2 / 2)` would be a rational square root of 2), so that `example` does not show the
hypotheses to be satisfiable.  The same circuit over `ℝ`, with `realExpLog` and the actual law `gumbelArgmaxLaw`, does. -/

/-- **witness**: the interface `ExpLog` has no instance over `ℚ` -/
theorem expLog_rat_empty (E : Deeprob.ExpLog ℚ) : False := by
  set q : ℚ := E.exp (E.log 2 / 2) with hq
  have h2 : q * q = 2 := by
    rw [hq, ← E.exp_add, add_halves, E.exp_log 2 (by norm_num)]
  have hr : ((q : ℝ)) ^ 2 = 2 := by
    have : ((q * q : ℚ) : ℝ) = 2 := by rw [h2]; norm_num
    rw [pow_two]; exact_mod_cast this
  have hs : Real.sqrt 2 = ((|q| : ℚ) : ℝ) := by
    rw [← hr, Real.sqrt_sq_eq_abs]; push_cast; rfl
  exact irrational_sqrt_two.ne_rat _ hs

section RealWitness
open Deeprob Deeprob.TCirc

noncomputable def ssExTR : TCirc ℝ :=
  .sum [0, 1] [1/4, 3/4]
    [ .prod [0, 1] [bernT 0 [1/2, 1/2], bernT 1 [1/3, 2/3]],
      .prod [0, 1] [bernT 0 [1/5, 4/5], bernT 1 [9/10, 1/10]] ]

theorem ssExTR_ok : TDOK (fun _ => 2) ssExTR := by
  have leaf : ∀ (v : Nat) (a b : ℝ), a + (b + 0) = 1 → 0 ≤ a → 0 ≤ b → TDOK (fun _ => 2) (bernT v [a, b]) :=
    fun v a b hs ha hb => bernT_ok (fun _ => 2) v [a, b] rfl rfl hs (MCirc.forall_mem_two ha hb)
  have prod : ∀ t0 t1 : List ℝ, TDOK (fun _ => 2) (bernT 0 t0) → TDOK (fun _ => 2) (bernT 1 t1) →
      TDOK (fun _ => 2) (.prod [0, 1] [bernT 0 t0, bernT 1 t1]) :=
    fun t0 t1 h0 h1 => TDOK.prod _ _ _ (by decide : [0, 1].Nodup) (fun _ => Iff.rfl) (MCirc.forall_mem_two h0 h1)
  exact TDOK.sum _ _ _ _ (List.cons_ne_nil _ _) rfl (MCirc.forall_mem_two (by norm_num) (by norm_num))
    (MCirc.forall_mem_two (fun _ => Iff.rfl) (fun _ => Iff.rfl))
    (MCirc.forall_mem_two
      (prod _ _ (leaf 0 _ _ (by norm_num) (by norm_num) (by norm_num))
        (leaf 1 _ _ (by norm_num) (by norm_num) (by norm_num)))
      (prod _ _ (leaf 0 _ _ (by norm_num) (by norm_num) (by norm_num))
        (leaf 1 _ _ (by norm_num) (by norm_num) (by norm_num))))

theorem ssExTR_eval_e : eval ssExE ssExTR = 29/120 := by
  simp [ssExTR, eval, toCirc, Circ.eval, wsum, lprod, bernT, Circ.catLeafFn, ssExE, Ev.ofList]
  norm_num

theorem ssExTR_eval_x : eval ssExX ssExTR = 59/600 := by
  simp [ssExTR, eval, toCirc, Circ.eval, wsum, lprod, bernT, Circ.catLeafFn, ssExX, Ev.ofList]
  norm_num

theorem ssExTR_pos : ssPos ssExE ssExTR := by
  unfold ssExTR
  simp only [ssPos, List.mem_cons, List.not_mem_nil, or_false, forall_eq_or_imp, forall_eq, bernT, and_true,
    true_and, implies_true]
  refine ⟨⟨by norm_num, by norm_num⟩, ?_, ?_⟩ <;>
    (simp [toCirc, Circ.eval, lprod, Circ.catLeafFn, ssExE, Ev.ofList])

theorem ssExXR_completes : Completes ssExTR.scope ssExE ssExX := by
  constructor
  · intro v hv
    match v with
    | 0 => simp [ssExE, Ev.ofList] at hv
    | 1 => simp [ssExE, ssExX, Ev.ofList]
    | n + 2 => simp [ssExE, Ev.ofList] at hv
  · intro v hv
    simp only [ssExTR, scope, List.mem_cons, List.not_mem_nil, or_false] at hv
    rcases hv with rfl | rfl <;> simp [ssExX, Ev.ofList]

/-- **non-vacuity with nothing assumed**: on the two-component mixture over two binary variables with variable 1 observed,
the law of `np.argmax` of the generated root scores plus standard Gumbel noise is `(20/29, 9/29)`, and the sampler draws the
completion `(0, 1)` with the exact conditional probability: `P_sampler · 29/120 = 59/600`. -/
example :
    gumbelArgmaxLaw (ssGenScore0 realExpLog [1/4, 3/4] [2/3, 1/10]) = [20/29, 9/29] ∧
    ssGenTopDownPmf realExpLog gumbelArgmaxLaw ssExE ssExX ssExTR * eval ssExE ssExTR = eval ssExX ssExTR ∧
    eval ssExE ssExTR = 29/120 ∧ eval ssExX ssExTR = 59/600 := by
  refine ⟨?_, ?_, ssExTR_eval_e, ssExTR_eval_x⟩
  · rw [e2e_sum_sample_branch_real _ _
      (MCirc.forall_mem_two (by norm_num) (by norm_num))
      (MCirc.forall_mem_two (by norm_num) (by norm_num))]
    simp [branchPmf, wsum]; norm_num
  · exact e2e_sum_sample_exact_real (fun _ => 2) ssExTR ssExTR_ok.1 ssExTR_ok.2.2.1
      ssExTR_ok.2.2.2.2 ssExE ssExX ssExTR_pos ssExXR_completes

end RealWitness

end Bridge

end Deeprob.SamplingFacts
