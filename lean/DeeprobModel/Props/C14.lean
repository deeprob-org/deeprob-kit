import DeeprobModel.Lemmas.EmLemmas
import Mathlib.Algebra.Order.Field.Rat
set_option linter.unusedSimpArgs false
set_option linter.unusedVariables false
set_option linter.unusedSectionVars false
/-
C14 — EM keeps the model valid and applies the exact expected-statistics update.
The per-entry facts about the generated update formulas are in `Oblig/C14.lean`; here: the invariant along every
prefix of the iteration sequence, the backward pass on tree-shaped circuits (tables with sharing: Props/C14Net.lean)
and the responsibilities at a sum node.
-/
namespace Deeprob.C14
open Deeprob Deeprob.Oblig.C14

section inv
variable {F : Type} [Field F] [LinearOrder F] [IsStrictOrderedRing F]

/-- After every prefix of the iteration sequence — any number of iterations, any batches that fit
the model (responsibilities ≥ 0, data in the leaves' domains), any `0 ≤ η ≤ 1`, whatever `sqrt` returns —
sum weights and categorical probabilities are on the simplex, Bernoulli parameters in [0,1], Gaussian standard
deviations ≥ 10⁻⁵, every CLT row has two entries in (0,1) summing to one, and the shape (`em_structure_unchanged`)
is that of the initial model. -/
theorem em_prefix_inv (sqrt : F → F) (eta : F) (h0 : 0 ≤ eta) (h1 : eta ≤ 1) (cltPreds : List (List Int))
    (batches : Nat → EmBatch F) (p0 : EmParams F) (hp : EmInv p0)
    (n : Nat) (hb : ∀ t < n, BatchOK cltPreds (emIterate genEmFns sqrt eta cltPreds batches t p0) (batches t)) :
    EmInv (emIterate genEmFns sqrt eta cltPreds batches n p0) ∧
    EmShape (emIterate genEmFns sqrt eta cltPreds batches n p0) = EmShape p0 := by
  induction n with
  | zero => exact ⟨hp, rfl⟩
  | succ n ih =>
    have ih' := ih (fun t ht => hb t (by omega))
    have := em_step_inv sqrt eta h0 h1 cltPreds _ (batches n) ih'.1 (hb n (by omega))
    exact ⟨this.1, this.2.trans ih'.2⟩

/-! non-vacuity: one node of every kind, a three-row batch, η = 1/2 -/

def exP : EmParams ℚ :=
  { sums := [[1/2, 1/2]], berns := [1/2], cats := [[1/3, 2/3]], gauss := [(0, 1)],
    clts := [[[[1/2, 1/2], [1/2, 1/2]], [[1/4, 3/4], [2/3, 1/3]]]] }

def exB : EmBatch ℚ :=
  { sumStats := [[3/2, 1/2]], bern := [([1/2, 1/4, 1], [1, 0, 1])], cat := [([1/2, 1/4, 1], [0, 1, 1])],
    gauss := [([1/2, 1/4, 1], [3, -1, 2])], clt := [([1/2, 1/4, 1], [[1, 0], [0, 0], [1, 1]])] }

def exPreds : List (List Int) := [[-1, 0]]

theorem exP_inv : EmInv exP := by
  refine ⟨?_, ?_, ?_, ?_, ?_⟩
  · show ∀ ws ∈ exP.sums, ws ≠ [] ∧ (∀ w ∈ ws, 0 ≤ w) ∧ tsum ws = 1
    decide +kernel
  · decide +kernel
  · show ∀ ps ∈ exP.cats, ps ≠ [] ∧ (∀ p ∈ ps, 0 ≤ p) ∧ tsum ps = 1
    decide +kernel
  · decide +kernel
  · simp only [rowOK_iff]
    decide +kernel

theorem exB_ok : BatchOK exPreds exP exB := by
  refine ⟨?_, ?_, ?_, ?_, rfl, ?_⟩
  · exact List.Forall₂.cons (by decide +kernel) List.Forall₂.nil
  · exact List.Forall₂.cons (by decide +kernel) List.Forall₂.nil
  · exact List.Forall₂.cons (by decide +kernel) List.Forall₂.nil
  · exact List.Forall₂.cons trivial List.Forall₂.nil
  · exact List.Forall₂.cons ⟨rfl, by decide +kernel, Binary.of_mem (by decide +kernel)⟩ List.Forall₂.nil

example : EmInv (emIterate genEmFns (fun x => x) (1/2) exPreds (fun _ => exB) 1 exP) ∧
    EmShape (emIterate genEmFns (fun x => x) (1/2) exPreds (fun _ => exB) 1 exP) = EmShape exP :=
  em_prefix_inv (fun x => x) (1/2) (by norm_num) (by norm_num) exPreds (fun _ => exB) exP exP_inv 1
    (fun t ht => by have : t = 0 := by omega
                    subst this; exact exB_ok)

end inv

section backward
variable {α : Type} [CommSemiring α]
open Circ

/-- Tree-shaped circuits. For every circuit, every node of it (given by its
path from the root) and every evidence: the root value as a function of that node's value `x` is affine with slope
`grads[node]`, the number `eval_backward` computes (product of the factors sent down the path: `w_j` through a
sum, the product of the siblings' values through a product — the division-free form of `lls[node] − lls[c]`).
Trees only (hence `_partial`): in a tree every node has one parent, so `cached_grads[node]` has one entry; for DAGs the
table version `backward` (Model/Em.lean) adds the contributions of all parents, and the corresponding statement —
which also needs decomposability, otherwise the root is not affine in a shared node — is `backward_is_derivative`
(Props/C14Net.lean). -/
theorem backward_is_derivative_partial (e : Ev) : ∀ (path : List Nat) (c : Circ α), validPath path c → ∀ x : α,
    eval e (plug x path c) = eval e (plug 0 path c) + gradAlong e path c * x := by
  intro path
  induction path with
  | nil => intro c _ x; simp [plug, eval, gradAlong]
  | cons j p ih =>
    intro c hv x
    cases c with
    | leaf s f => simp [validPath] at hv
    | sum s ws cs =>
      simp only [validPath] at hv
      obtain ⟨hj, c', hc', hv'⟩ := hv
      simp only [plug, eval, gradAlong, hc']
      rw [wsum_modify₂ (eval e) (plug x p) (plug 0 p) (gradAlong e p c' * x) cs ws j c' hc' (ih c' hv' x)]
      ring
    | prod s cs =>
      simp only [validPath] at hv
      obtain ⟨c', hc', hv'⟩ := hv
      simp only [plug, eval, gradAlong, hc']
      rw [lprod_modify₂ (eval e) (plug x p) (plug 0 p) (gradAlong e p c' * x) cs j c' hc' (ih c' hv' x)]
      ring

theorem plug_own_value (e : Ev) : ∀ (path : List Nat) (c sub : Circ α), subAt path c = some sub →
    eval e (plug (eval e sub) path c) = eval e c := by
  intro path
  induction path with
  | nil => intro c sub h; simp only [subAt, Option.some.injEq] at h; subst h; simp [plug, eval]
  | cons j p ih =>
    intro c sub h
    cases c with
    | leaf s f => simp [subAt] at h
    | sum _ _ cs | prod _ cs =>
      simp only [subAt] at h
      cases hc : cs[j]? with
      | none => simp [hc] at h
      | some c' =>
        simp only [hc] at h
        simp only [plug, eval]
        rw [map_modify_same (eval e) _ cs j c' hc (ih c' sub h)]

/-- `root = (root with the node zeroed) + grads[node]·value[node]`: what makes
`value[node]·grads[node]/value[root]` the posterior responsibility of the node -/
theorem root_affine_in_node_partial (e : Ev) (path : List Nat) (c sub : Circ α) (hv : validPath path c)
    (hs : subAt path c = some sub) :
    eval e c = eval e (plug 0 path c) + gradAlong e path c * eval e sub := by
  rw [← backward_is_derivative_partial e path c hv, plug_own_value e path c sub hs]

end backward

section resp
variable {F : Type} [Field F]

/-- At the root sum node the responsibilities of the children, weighted by the current weights,
add up to one on every row with non-zero likelihood (`grads[root] = 1`, `value[root] = Σ_c w_c·value[c]`): the
E-step really distributes one unit of mass per row. For an inner sum node the same sum is
`grads[i]·value[i]/value[root]`, the posterior probability of reaching that node. -/
theorem resp_sum_one (vals grads : List F) (root i : Nat) (x : NNode F)
    (hval : vals.getD i 0 = wsum x.ws (x.ch.map (fun c => vals.getD c 0))) :
    wsum x.ws (respSum vals grads root i x) = vals.getD i 0 * grads.getD i 0 / vals.getD root 0 := by
  unfold respSum
  simp only [div_eq_mul_inv]
  rw [wsum_map_mul_const, wsum_map_mul_const, ← hval]

theorem resp_root_sum_one (vals grads : List F) (root : Nat) (x : NNode F)
    (hval : vals.getD root 0 = wsum x.ws (x.ch.map (fun c => vals.getD c 0)))
    (hg : grads.getD root 0 = 1) (hne : vals.getD root 0 ≠ 0) :
    wsum x.ws (respSum vals grads root root x) = 1 := by
  rw [resp_sum_one vals grads root root x hval, hg, mul_one, div_self hne]

end resp

/-! non-vacuity of the backward statements: a mixture of two products, the node reached by path [1, 0] -/

def exCirc : Circ ℚ :=
  .sum [0, 1] [1/4, 3/4]
    [.prod [0, 1] [Circ.catLeaf 0 [1/2, 1/2], Circ.catLeaf 1 [1/3, 2/3]],
     .prod [0, 1] [Circ.catLeaf 0 [1/5, 4/5], Circ.catLeaf 1 [1/10, 9/10]]]

theorem exCirc_path : Circ.validPath [1, 0] exCirc :=
  ⟨by decide, _, rfl, _, rfl, trivial⟩

example : Circ.validPath [1, 0] exCirc := exCirc_path

theorem exCirc_grad : Circ.gradAlong (Ev.ofList [some 1, some 0]) [1, 0] exCirc = 3/40 := by
  norm_num [exCirc, Circ.gradAlong, Circ.eval, Circ.catLeaf, Circ.catLeafFn, Ev.ofList, lprod]

/-- on the row (1, 0): `grads` of the first leaf of the second product is `w₁ · value(sibling) = 3/4 · 1/10` -/
example : Circ.gradAlong (Ev.ofList [some 1, some 0]) [1, 0] exCirc = 3/40 := exCirc_grad

example (x : ℚ) : Circ.eval (Ev.ofList [some 1, some 0]) (Circ.plug x [1, 0] exCirc)
    = Circ.eval (Ev.ofList [some 1, some 0]) (Circ.plug 0 [1, 0] exCirc) + 3/40 * x := by
  rw [backward_is_derivative_partial (Ev.ofList [some 1, some 0]) [1, 0] exCirc exCirc_path x, exCirc_grad]

/-- the same circuit stored as a node table (children first); the table version `backward` agrees on it -/
def exNet : Net ℚ :=
  [⟨5, .leaf, [0], [], [], .cat 0 [1/2, 1/2]⟩, ⟨4, .leaf, [1], [], [], .cat 1 [1/3, 2/3]⟩,
   ⟨3, .leaf, [0], [], [], .cat 0 [1/5, 4/5]⟩, ⟨2, .leaf, [1], [], [], .cat 1 [1/10, 9/10]⟩,
   ⟨1, .prod, [0, 1], [0, 1], [], .absent⟩, ⟨6, .prod, [0, 1], [2, 3], [], .absent⟩,
   ⟨0, .sum, [0, 1], [4, 5], [1/4, 3/4], .absent⟩]

example : backward exNet (evalNet (Ev.ofList [some 1, some 0]) [] exNet) 6
    = [1/4 * (1/3), 1/4 * (1/2), 3/4 * (1/10), 3/4 * (4/5), 1/4, 3/4, 1] := by
  decide +kernel

end Deeprob.C14
