import DeeprobModel.Lemmas.CheckLemmas
import DeeprobModel.Props.C02
/-
C03 — validation (`check_spn` of deeprob/spn/utils/validity.py, on the node list produced by
`collect_nodes` = `bfs` of deeprob/spn/structure/node.py) accepts exactly the well-labelled, smooth,
decomposable circuits; acceptance is sound for inference; with the union-only decomposability test the
library had before the fix of finding F2 (DESIGN.md §7) it is not.

`Net.isDecomposable` mirrors `is_decomposable` of the library after that fix (duplicate-free concatenation ∧
same set); `Net.isDecomposableUnionOnly` is the test as it was before (see `unionOnly_unsound`).
-/
namespace Deeprob
open Net
variable {α : Type}

namespace C03

theorem exNet_isLabeled : Net.isLabeled exNet (Net.collect exNet 5) = none := by decide +kernel
theorem exNet_isSmooth : Net.isSmooth exNet (Net.collect exNet 5) = none := by decide +kernel
theorem exNet_isDecomposable : Net.isDecomposable exNet (Net.collect exNet 5) = none := by decide +kernel

theorem exNet_accept : Net.checkSpn exNet 5 true true true = .accept :=
  (checkSpn_accept_iff_flags exNet 5 true true true).2
    ⟨fun _ => exNet_isLabeled, fun _ => exNet_isSmooth, fun _ => exNet_isDecomposable⟩

end C03

/-- `is_labeled` returns `None` iff the ids of the listed nodes are a permutation of `0..len-1`
(unique ∧ min = 0 ∧ max = len-1 ⇔ consecutive from 0). Holds for the empty list as well (where the
Python code would raise on `min(set())`; `collect` never returns it, see `collect_ne_nil`). -/
theorem isLabeled_iff_perm (n : Net α) (nodes : List Nat) :
    Net.isLabeled n nodes = none ↔ (nodes.map (idOf n)).Perm (List.range nodes.length) := by
  rw [isLabeled_eq_none_iff, labeled_list_iff, List.length_map]

example : Net.isLabeled C03.exNet (Net.collect C03.exNet 5) = none ∧
    ((Net.collect C03.exNet 5).map (idOf C03.exNet)).Perm (List.range 6) :=
  ⟨C03.exNet_isLabeled, (isLabeled_iff_perm C03.exNet _).1 C03.exNet_isLabeled⟩
example : ¬ ((Net.collect C03.badIdNet 5).map (idOf C03.badIdNet)).Perm (List.range (Net.collect C03.badIdNet 5).length) :=
  fun h => absurd ((isLabeled_iff_perm C03.badIdNet _).2 h) (by decide +kernel)

theorem validSpec_iff (n : Net α) (root : Nat) :
    ValidSpec n root ↔ LabeledSpec n root ∧ SmoothSpec n root ∧ DecompSpec n root := by
  unfold ValidSpec LabeledSpec SmoothSpec DecompSpec SumOK ProdOK
  constructor
  · rintro ⟨h1, h2⟩
    exact ⟨h1, fun i hi x hx => (h2 i hi x hx).1, fun i hi x hx => (h2 i hi x hx).2⟩
  · rintro ⟨h1, h2, h3⟩
    exact ⟨h1, fun i hi x hx => ⟨h2 i hi x hx, h3 i hi x hx⟩⟩

example : ValidSpec C03.exNet 5 ∧ LabeledSpec C03.exNet 5 ∧ SmoothSpec C03.exNet 5 ∧ DecompSpec C03.exNet 5 := by
  have h : LabeledSpec C03.exNet 5 ∧ SmoothSpec C03.exNet 5 ∧ DecompSpec C03.exNet 5 :=
    ⟨(isLabeled_iff_perm _ _).1 C03.exNet_isLabeled, (isSmooth_eq_none_iff _ _).1 C03.exNet_isSmooth,
      (isDecomposable_eq_none_iff _ _).1 C03.exNet_isDecomposable⟩
  exact ⟨(validSpec_iff _ _).2 h, h⟩

/-- the product clause of `ValidSpec` (each child scope duplicate-free ∧ pairwise disjoint) is the same
as a duplicate-free concatenation of the child scopes — the form used by `Circ.Valid` and `NodeOK` -/
theorem decompSpec_iff_flatten_nodup (n : Net α) (root : Nat) :
    DecompSpec n root ↔ ∀ i ∈ Net.collect n root, ∀ x, n[i]? = some x → x.kind = .prod →
      x.ch ≠ [] ∧ (x.ch.map (scopeOf n)).flatten.Nodup ∧ scopeEq (x.ch.map (scopeOf n)).flatten x.scope := by
  unfold DecompSpec
  simp only [← prodOK'_iff]
  rfl

example : ∀ i ∈ Net.collect C03.exNet 5, ∀ x, C03.exNet[i]? = some x → x.kind = .prod →
      x.ch ≠ [] ∧ (x.ch.map (scopeOf C03.exNet)).flatten.Nodup ∧
        scopeEq (x.ch.map (scopeOf C03.exNet)).flatten x.scope :=
  (decompSpec_iff_flatten_nodup _ _).1 ((isDecomposable_eq_none_iff _ _).1 C03.exNet_isDecomposable)

/-- the root is always collected, so the node list handed to the three tests is never empty -/
theorem collect_root (n : Net α) (root : Nat) : root ∈ Net.collect n root ∧ Net.collect n root ≠ [] :=
  ⟨root_mem_collect n root, collect_ne_nil n root⟩

example : 5 ∈ Net.collect C03.exNet 5 ∧ Net.collect C03.exNet 5 = [5, 3, 4, 0, 1, 2] := by decide +kernel

/-- C03: `check_spn(root, labeled=True, smooth=True, decomposable=True)` raises nothing
iff the collected nodes are well labelled, every sum is smooth and every product decomposable. -/
theorem checkSpn_accept_iff (n : Net α) (root : Nat) :
    Net.checkSpn n root true true true = .accept ↔ ValidSpec n root := by
  rw [checkSpn_accept_iff_flags, validSpec_iff]
  simp only [forall_const, isLabeled_iff_perm, isSmooth_eq_none_iff, isDecomposable_eq_none_iff]
  rfl

example : Net.checkSpn C03.exNet 5 true true true = .accept ∧ ValidSpec C03.exNet 5 :=
  ⟨C03.exNet_accept, (checkSpn_accept_iff _ _).1 C03.exNet_accept⟩
example : ¬ ValidSpec C03.witnessNet 3 :=
  fun h => absurd ((checkSpn_accept_iff _ _).2 h) (by decide +kernel)

/-- any combination of the three flags: exactly the enabled parts of the specification are required -/
theorem checkSpn_flags_accept_iff (n : Net α) (root : Nat) (l s d : Bool) :
    Net.checkSpn n root l s d = .accept ↔
      (l = true → LabeledSpec n root) ∧ (s = true → SmoothSpec n root) ∧ (d = true → DecompSpec n root) := by
  rw [checkSpn_accept_iff_flags]
  simp only [isLabeled_iff_perm, isSmooth_eq_none_iff, isDecomposable_eq_none_iff]
  rfl

example : Net.checkSpn C03.witnessNet 3 true true false = .accept ∧
    Net.checkSpn C03.witnessNet 3 false false true ≠ .accept := by decide +kernel

/-- `check_spn(root)` with the default flags (labeled only) -/
theorem checkSpn_labeled_only_iff (n : Net α) (root : Nat) :
    Net.checkSpn n root true false false = .accept ↔ LabeledSpec n root := by
  rw [checkSpn_flags_accept_iff]; simp

example : Net.checkSpn C03.badSmoothNet 5 true false false = .accept ∧ LabeledSpec C03.badSmoothNet 5 :=
  ⟨by decide +kernel, (checkSpn_labeled_only_iff _ _).1 (by decide +kernel)⟩

theorem checkSpn_smooth_only_iff (n : Net α) (root : Nat) :
    Net.checkSpn n root false true false = .accept ↔ SmoothSpec n root := by
  rw [checkSpn_flags_accept_iff]; simp

example : Net.checkSpn C03.badIdNet 5 false true false = .accept ∧ SmoothSpec C03.badIdNet 5 :=
  ⟨by decide +kernel, (checkSpn_smooth_only_iff _ _).1 (by decide +kernel)⟩

theorem checkSpn_decomposable_only_iff (n : Net α) (root : Nat) :
    Net.checkSpn n root false false true = .accept ↔ DecompSpec n root := by
  rw [checkSpn_flags_accept_iff]; simp

example : Net.checkSpn C03.badIdNet 5 false false true = .accept ∧ DecompSpec C03.badIdNet 5 :=
  ⟨by decide +kernel, (checkSpn_decomposable_only_iff _ _).1 (by decide +kernel)⟩

/-- **error class = first failing check**, in the order labeled, smooth, decomposable
(all three flags on; the verdict is one of the four classes and the classes are exclusive) -/
theorem checkSpn_reject_first (n : Net α) (root : Nat) :
    ((∃ w, Net.checkSpn n root true true true = .labeled w) ↔ ¬ LabeledSpec n root) ∧
    ((∃ w, Net.checkSpn n root true true true = .smooth w) ↔ LabeledSpec n root ∧ ¬ SmoothSpec n root) ∧
    ((∃ w, Net.checkSpn n root true true true = .decomposable w) ↔
        LabeledSpec n root ∧ SmoothSpec n root ∧ ¬ DecompSpec n root) := by
  have hL : LabeledSpec n root ↔ isLabeled n (collect n root) = none := (isLabeled_iff_perm n _).symm
  have hS : SmoothSpec n root ↔ isSmooth n (collect n root) = none := (isSmooth_eq_none_iff n _).symm
  have hD : DecompSpec n root ↔ isDecomposable n (collect n root) = none := (isDecomposable_eq_none_iff n _).symm
  simp only [checkSpn_labeled_iff, checkSpn_smooth_iff, checkSpn_decomposable_iff, hL, hS, hD, true_and,
    forall_const, exists_and_left, ← Option.isSome_iff_exists, Option.isSome_iff_ne_none]

example : (∃ w, Net.checkSpn C03.badIdNet 5 true true true = .labeled w) ∧
    (∃ w, Net.checkSpn C03.badSmoothNet 5 true true true = .smooth w) ∧ ¬ SmoothSpec C03.badSmoothNet 5 ∧
    ¬ DecompSpec C03.badSmoothNet 5 ∧
    (∃ w, Net.checkSpn C03.witnessNet 3 true true true = .decomposable w) :=
  ⟨⟨"repeated", by decide +kernel⟩, ⟨"weights", by decide +kernel⟩,
    fun h => absurd ((isSmooth_eq_none_iff _ _).2 h) (by decide +kernel),
    fun h => absurd ((isDecomposable_eq_none_iff _ _).2 h) (by decide +kernel), ⟨"scopes", by decide +kernel⟩⟩

/-- acceptance by `check_spn` with all three flags is the local condition `NodeOK` at every inner node of a table whose
entries are all collected from the root (the leaves are not inspected by `check_spn`: `hleaf`) -/
theorem nodeOK_of_checkSpn [CommSemiring α] (dom : Nat → Nat) (n : Net α) (dens : List α) (root : Nat)
    (hacc : Net.checkSpn n root true true true = .accept) (hall : ∀ i < n.length, i ∈ Net.collect n root)
    (hleaf : ∀ (i : Nat) (x : NNode α), n[i]? = some x → x.kind = .leaf →
      LeafOK dom x.scope (x.leaf.fn x.scope (dens.getD i 0))) :
    ∀ i (x : NNode α), n[i]? = some x → NodeOK dom n dens i x := by
  obtain ⟨_, hsm, hdc⟩ := (validSpec_iff n root).1 ((checkSpn_accept_iff n root).1 hacc)
  intro i x hx
  have hm := hall i (List.getElem?_eq_some_iff.1 hx).1
  unfold NodeOK
  cases hk : x.kind
  · exact hsm i hm x hx hk
  · exact ((prodOK'_iff n x).2 (hdc i hm x hx hk)).2
  · exact hleaf i x hx hk

/-- **acceptance is sound**: a children-first table all of whose entries are collected from the root,
accepted by `check_spn` with all three flags, with distribution leaves, normalised sum weights and
normalised leaves, has complete-evidence values summing to one over the domain of the root scope, and
evaluates to one when nothing is observed — sharing of sub-circuits included. -/
theorem checkSpn_sound [CommSemiring α] (dom : Nat → Nat) (n : Net α) (dens : List α) (root : Nat)
    (hw : WellOrdered n) (hacc : Net.checkSpn n root true true true = .accept)
    (hall : ∀ i < n.length, i ∈ Net.collect n root) (hroot : root < n.length)
    (hleaf : ∀ (i : Nat) (x : NNode α), n[i]? = some x → x.kind = .leaf →
      LeafOK dom x.scope (x.leaf.fn x.scope (dens.getD i 0)))
    (hnw : NetNormW n) (hln : NetLeafNorm n dens) :
    sumOver dom (scopeOf n root) (fun _ => none) (fun e => (evalNet e dens n).getD root 0) = 1 ∧
      (evalNet (fun _ => none) dens n).getD root 0 = 1 := by
  have hok := nodeOK_of_checkSpn dom n dens root hacc hall hleaf
  exact ⟨C01_normalised dom n dens hw hok hnw hln root hroot, C02_all_missing dom n dens hw hok hnw hln root hroot⟩

example :
    sumOver (fun _ => 2) (scopeOf C03.exNet 5) (fun _ => none) (fun e => (evalNet e [] C03.exNet).getD 5 0) = 1 ∧
      (evalNet (fun _ => none) [] C03.exNet).getD 5 0 = 1 :=
  checkSpn_sound (fun _ => 2) C03.exNet [] 5 C03.exNet_wellOrdered C03.exNet_accept (by decide +kernel) (by decide)
    C03.exNet_leafOK C03.exNet_normW C03.exNet_leafNorm

/-- **witness**: a 4-entry table (root = product over `[0,1]` of the Bernoulli leaf over variable 0 and
of a product of the leaves over variables 0 and 1; all tables `[1/2,1/2]`) that satisfies *every*
hypothesis of `checkSpn_sound` except acceptance (`Net.isDecomposable` rejects it) — it is well labelled, smooth and
accepted by the union-only test the library had before the fix of F2 — yet its complete-evidence values sum to `1/2`. -/
theorem unionOnly_unsound :
    ∃ (n : Net Rat) (root : Nat), WellOrdered n ∧ root < n.length ∧ (∀ i < n.length, i ∈ Net.collect n root) ∧
      Net.isLabeled n (Net.collect n root) = none ∧ Net.isSmooth n (Net.collect n root) = none ∧
      Net.isDecomposableUnionOnly n (Net.collect n root) = none ∧
      Net.isDecomposable n (Net.collect n root) = some "scopes" ∧
      Net.checkSpn n root true true true = .decomposable "scopes" ∧
      (∀ (i : Nat) (x : NNode Rat), n[i]? = some x → x.kind = .leaf →
        LeafOK (fun _ => 2) x.scope (x.leaf.fn x.scope (([] : List Rat).getD i 0))) ∧
      NetNormW n ∧ NetLeafNorm n [] ∧
      sumOver (fun _ => 2) (scopeOf n root) (fun _ => none) (fun e => (evalNet e [] n).getD root 0) = 1/2 :=
  ⟨C03.witnessNet, 3, C03.witnessNet_wellOrdered, by decide +kernel, by decide +kernel, by decide +kernel, by decide +kernel, by decide +kernel,
    by decide +kernel, by decide +kernel, C03.witnessNet_leafOK, C03.witnessNet_normW, C03.witnessNet_leafNorm,
    by decide +kernel⟩

/-- the witness, concretely: the four complete assignments each get `1/8` -/
example : (List.map (fun r => (evalNet (Ev.ofList r) [] C03.witnessNet).getD 3 (0 : Rat))
    [[some 0, some 0], [some 0, some 1], [some 1, some 0], [some 1, some 1]]) = [1/8, 1/8, 1/8, 1/8] := by
  decide +kernel

/-- with in-range child indices (in particular for every children-first table) the fuel `n.length+1`
suffices and `collect` returns exactly the nodes reachable from the root along child edges -/
theorem collect_reach (n : Net α) (root : Nat)
    (h : ∀ (i : Nat) (x : NNode α), n[i]? = some x → ∀ c ∈ x.ch, c < n.length) (i : Nat) :
    i ∈ Net.collect n root ↔ Relation.ReflTransGen (fun a b => b ∈ Net.chOf n a) root i :=
  mem_collect_iff_reach n root h i

example : (∀ (i : Nat) (x : NNode Rat), C03.exNet[i]? = some x → ∀ c ∈ x.ch, c < C03.exNet.length) ∧
    Relation.ReflTransGen (fun a b => b ∈ Net.chOf C03.exNet a) 5 0 := by
  have h : ∀ (i : Nat) (x : NNode Rat), C03.exNet[i]? = some x → ∀ c ∈ x.ch, c < C03.exNet.length :=
    fun i x hx c hc => lt_trans (C03.exNet_wellOrdered i x hx c hc) (List.getElem?_eq_some_iff.1 hx).1
  exact ⟨h, (collect_reach C03.exNet 5 h 0).1 (by decide +kernel)⟩

/-- BFS lists every node once (any table, cycles and dangling indices included); this is what makes
`len(ids) != len(nodes)` in `is_labeled` a test of id uniqueness -/
theorem collect_nodup (n : Net α) (root : Nat) : (Net.collect n root).Nodup := Net.collect_nodup n root

example : (Net.collect C03.exNet 5).Nodup ∧ (Net.collect C03.exNet 5).length = 6 :=
  ⟨collect_nodup _ _, by decide +kernel⟩

end Deeprob
