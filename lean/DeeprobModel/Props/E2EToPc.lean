import DeeprobModel.Props.E2EClt
import DeeprobModel.Oblig.Struct5ToPc
/-
End-to-end corollaries for `BinaryCLT.to_pc` and `BinaryCLT.get_scopes` (C12, C10, C04): the property stated about the LOOPS
EXTRACTED from the source (`Gen.S5toPcStep`, `Gen.S5getScopesStep`, iterated from `([root], None, [], [])` with
`root = build_tree_structure(tree, scope)`), closing the chain that `E2EClt.e2e_to_pc_partial` left open:

    source --(tools/listprog.py, every run)--> Gen.S5toPcStep --(Struct5.toPcStep_as_coded: simulation)--> PostOrder.step
      --(PostOrderLemmas.run_eq_fold: the explicit-stack walk computes the recursive fold, distinct node ids)--> fold
      --(Struct5.fold_toPc)--> Clt.pc --(Props/Clt.lean: toPc_eval, pc_valid, pc_structured, pc_deterministic)--> specification.

What stays outside: `assign_ids` (relabels ids, semantics unchanged — `Model/AssignIds.lean`), `build_tree_structure` (modelled by
`Clt.build`, tied by the C12 correspondence and by `CltOrder.wellFormedPred_iff_build`), NumPy's `exp` of the stored log-tables
(the tables `cpt` are the exponentiated ones).
-/
namespace Deeprob.E2EToPc
open Deeprob Deeprob.Clt Deeprob.PostOrder Deeprob.Oblig.Struct5
open Deeprob.GraphIo (exTree exCpt exScope exEv exTree_wf)

section
variable {α : Type} [CommSemiring α]

/-- C12: on every Chow-Liu tree (well-formed predecessor vector, scope without repetitions) the loop of
`to_pc` AS EXTRACTED FROM THE SOURCE returns exactly the circuit `Clt.toPc` of the model. -/
theorem e2e_to_pc_loop (tree : List Int) (hwf : GraphIo.WellFormedPred tree) (scope : List Nat) (cpt : List (List (List α)))
    (hlen : scope.length = tree.length) (hnd : scope.Nodup) :
    genToPcLoop scope tree cpt = some (toPc scope tree cpt) := by
  obtain ⟨r, h⟩ := GraphIo.WF.of_wf hwf
  obtain ⟨l, hl⟩ := toPcLoop_as_coded (fun t => scope.getD t.idx 0) (fun v p => Circ.catLeaf v (indicator p)) Circ.mkProd
    (fun cs w => Circ.mkSum w cs) (factorsOf scope cpt) (build tree tree.length r) (E2EClt.vars_build_nodup h)
  have hf := fold_toPc scope cpt hnd (build tree tree.length r)
    (fun i hi => hlen ▸ (E2EClt.mem_vars_build_iff h).1 hi)
  unfold pcComb at hf
  rw [hf] at hl
  simp only [genToPcLoop, h.root, hl, E2EClt.toPc_build h, List.head?_cons]

/-- C12, C10: everything `e2e_to_pc_partial` states about the hand-written unfolding holds for the circuit computed
by the EXTRACTED loop: it evaluates to the tree's value on every complete and marginal query, is smooth and decomposable with
indicator leaves, structured decomposable, deterministic on complete evidence — and the value the extracted `message_passing`
returns for a row is the value of that circuit. -/
theorem e2e_to_pc (dom : Nat → Nat) (tree : List Int) (hwf : GraphIo.WellFormedPred tree)
    (scope : List Nat) (cpt : List (List (List α))) (hlen : scope.length = tree.length) (hnd : scope.Nodup)
    (hdom : ∀ v ∈ scope, dom v = 2)
    (hroot : ∀ r, rootOf tree = some r → ∀ k, cptAt cpt r 0 k = cptAt cpt r 1 k) :
    ∃ r c, GraphIo.rootIdx tree = some r ∧ genToPcLoop scope tree cpt = some c ∧
      (∀ e : Ev, Circ.eval e c = Clt.value scope tree cpt e) ∧
      (∀ e : Ev, Circ.eval e c = sumOver dom scope e (fun e' => Circ.eval e' c)) ∧
      Circ.Valid dom c ∧
      Laminar (Circ.prodScopes c) ∧
      (∀ e : Ev, (∀ v ∈ scope, e v ≠ none) → Circ.DetAt e c) ∧
      (∀ (e : Ev) (mx : List α → α), (∀ v ∈ scope, ∀ o, e v = some o → o < 2) →
        E2EClt.genValue cpt tree r Struct4.sumL mx (E2EClt.rowList scope tree.length e)
          ((E2EClt.rowList scope tree.length e).map (fun o => !o.isNone)) "mar" = some (Circ.eval e c)) := by
  obtain ⟨r, c, h1, _, h3, h4, h5, h6, h7, h8, h9⟩ := E2EClt.e2e_to_pc_partial dom tree hwf scope cpt hlen hnd hdom hroot
  subst h3
  exact ⟨r, _, h1, e2e_to_pc_loop tree hwf scope cpt hlen hnd, h4, h5, h6, h7, h8, h9⟩

/-- C12, C04: the loop of `get_scopes` AS EXTRACTED returns `Clt.getScopes` of the built tree: one list per inner
sub-tree, each a permutation of the scope stored at the corresponding product nodes of the circuit `to_pc` builds (`get_scopes_spec`)
— the list `are_compatible` / the XPC learner compare against. -/
theorem e2e_get_scopes (tree : List Int) (hwf : GraphIo.WellFormedPred tree) (scope : List Nat) (cpt : List (List (List α))) :
    ∃ r, GraphIo.rootIdx tree = some r ∧
      genGetScopesLoop scope tree = some (getScopes scope (build tree tree.length r)) ∧
      (∀ s ∈ getScopes scope (build tree tree.length r), ∃ s' ∈ Circ.prodScopes (toPc scope tree cpt), s.Perm s') ∧
      (∀ s' ∈ Circ.prodScopes (toPc scope tree cpt), ∃ s ∈ getScopes scope (build tree tree.length r), s.Perm s') := by
  obtain ⟨r, h⟩ := GraphIo.WF.of_wf hwf
  obtain ⟨l, hl⟩ := getScopesLoop_as_coded (fun t => scope.getD t.idx 0) (build tree tree.length r) (E2EClt.vars_build_nodup h)
  rw [fold_getScopes scope (build tree tree.length r)] at hl
  obtain ⟨_, h2, h3⟩ := get_scopes_spec scope cpt (build tree tree.length r) 1
  rw [E2EClt.toPc_build h]
  exact ⟨r, h.root, by simp only [genGetScopesLoop, h.root, hl], h2, h3⟩

end

/-! non-vacuity on the regression tree `[3, 4, 1, -1, 0]` of `Props/CltOrder.lean` -/
example : genToPcLoop exScope exTree exCpt = some (toPc exScope exTree exCpt) ∧
    Circ.eval exEv (toPc exScope exTree exCpt) = 3319 / 5000 := by
  refine ⟨e2e_to_pc_loop exTree exTree_wf exScope exCpt rfl (by decide), ?_⟩
  obtain ⟨r, c, _, _, h3, h4, _, _, _, _, _⟩ := E2EClt.e2e_to_pc_partial (fun _ => 2) exTree exTree_wf exScope exCpt rfl
    (by decide) (fun _ _ => rfl) E2EClt.exRoot
  rw [← h3, h4 exEv]; exact GraphIo.exValue

example : ∃ r, genGetScopesLoop exScope exTree = some (getScopes exScope (build exTree exTree.length r)) := by
  obtain ⟨r, _, h, _⟩ := e2e_get_scopes exTree exTree_wf exScope exCpt
  exact ⟨r, h⟩

end Deeprob.E2EToPc
