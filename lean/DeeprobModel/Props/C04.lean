import DeeprobModel.Model.Learn
import DeeprobModel.Spec.LearnSpec
import DeeprobModel.Lemmas.LearnInv
import DeeprobModel.Lemmas.LearnFinal
import Mathlib.Data.List.Range
/-
C04 — the LearnSPN structure learner returns a valid circuit over all features (machine `Model/Learn.lean`
with `front := true`: a deferred task is re-queued at the front of the deque, as the library does after the fix
of finding F3 of DESIGN.md §7; every data-dependent decision is an arbitrary oracle answer).

What the oracle must satisfy: nothing beyond what the machine itself checks (and what Python enforces by
raising): each consultation is answered by an entry of the kind asked for (`zeroVar` / `rows` / `cols`),
zero-variance positions are `< |scope|`, a row splitter returns exactly one label per row handed to it, a
column splitter exactly one label per column. Under these checks `np.unique` slicing automatically yields
non-empty clusters that partition the rows / columns (`slicesOf_perm`, `slicesOf_ne_nil`), so the theorems
below hold for every script on which the machine does not stop with `.error`.
-/
namespace Deeprob.Learn
open List

/-- the invariant of the whole machine (all five operations, any oracle script, any
number of iterations). `Inv s` (Lemmas/LearnInv.lean) says, for every node `i` of the table:
* Sum: `(rows of the children attached so far) ++ (rows of the pending tasks whose parent is i, in deque
  order) = parts i`, position by position, where `parts i = slicesOf labels (rows i)` are the label classes
  of the splitter's answer in `np.unique` order and `weights i = (|slice|, |rows i|)` in the same order
  (`SumStatic`); all those children / tasks have the sum's scope;
* Product: `(scopes of children) ++ (scopes of pending tasks) = parts i`, non-empty slices that partition
  `scope i` (`ProdStatic`); all those children / tasks have the product's rows;
* every node and every task has non-empty rows and a non-empty scope; task parents are inner nodes of the
  table; children indices are larger than their parent's (the table is acyclic). -/
theorem learn_inv (cfg : Cfg) (hf : cfg.front = true) (nRows nCols : Nat) (hr : 0 < nRows) (hc : 0 < nCols)
    (script : List Ans) (fuel : Nat) (s : St) (h : run cfg fuel (init nRows nCols script) = .ok s) : Inv s := by
  obtain ⟨k, hS, _⟩ := run_ok_iff.1 h
  exact hS.inv hf (inv_initOn _ _ script (by simpa using Nat.ne_of_gt hr) (by simpa using Nat.ne_of_gt hc))

/-- one step preserves the invariant (the inductive core of `learn_inv`) -/
theorem learn_inv_step (cfg : Cfg) (hf : cfg.front = true) (s s' : St) (hI : Inv s) (h : step cfg s = .ok s') :
    Inv s' := by
  cases hq : s.queue with
  | nil =>
    rw [step_nil cfg s hq] at h
    cases h
    exact hI
  | cons t q => exact ((step_ok_iff hq).1 h).inv hf hI hq

/-- when the deque is empty the machine returns (`root = tmp_node.children[0]`
exists) a structurally valid circuit: every sum has ≥ 1 child, one weight per child and children over the
sum's scope; every product has children with pairwise disjoint scopes whose union is the product's scope;
the root's scope is the list of all columns and it was learned on all rows; moreover (C05) the weights are
the row proportions and the rows are routed (`Tree.Proportions`, `Tree.Routed`). -/
theorem learn_final_valid (cfg : Cfg) (hf : cfg.front = true) (nRows nCols : Nat) (hr : 0 < nRows)
    (hc : 0 < nCols) (script : List Ans) (s : St) (h : learn cfg nRows nCols script = .ok s)
    (hq : s.queue = []) :
    ∃ t, result s = some t ∧ t.Valid ∧ t.scope = List.range nCols ∧ t.rows = List.range nRows ∧
      t.Proportions ∧ t.Routed := by
  obtain ⟨t, h1, h2, h3, h4⟩ := run_final cfg hf (List.range nRows) (List.range nCols) script _ s
    (by simpa using Nat.ne_of_gt hr) (by simpa using Nat.ne_of_gt hc) h hq
  exact ⟨t, h1, Tree.Good.valid t h2 (h4 ▸ nodup_range), h4, h3, Tree.Good.proportions t h2,
    Tree.Good.routed t h2⟩

/-- non-vacuity: a 3-slice history with one deferred task (the first slice's column split fails, then its
row split fails, so it is re-queued twice and becomes a leaf), plus a REM_FEATURES and a SPLIT_NAIVE step -/
def exScript : List Ans :=
  [.zeroVar [], .rows [0, 0, 0, 1, 1, 2, 2, 2],           -- root: SPLIT_ROWS into 3 slices
   .zeroVar [], .cols [0, 0, 0],                           -- slice 0: SPLIT_COLS fails   → front re-queue
   .zeroVar [], .rows [5, 5, 5],                           --          SPLIT_ROWS fails   → front re-queue
   .zeroVar [],                                            --          CREATE_LEAF
   .zeroVar [0, 1, 2],                                     -- slice 1: all constant       → SPLIT_NAIVE
   .zeroVar [1],                                           -- slice 2: column 1 constant  → REM_FEATURES
   .zeroVar [], .cols [7, -1],                             --          rest: SPLIT_COLS into 2
   .zeroVar [], .zeroVar []]                               --          two leaves (1 column < min_cols_slice)

example : ∃ s, learn ⟨3, 2, true⟩ 8 3 exScript = .ok s ∧ (s.queue = [] ∧ s.script = [] ∧ s.size = 9) :=
  exists_ok_of_check _ _ (by decide +kernel)

end Deeprob.Learn
