import DeeprobModel.Lemmas.NetValid
import DeeprobModel.Props.CircMarg
/-
C01 — complete-evidence inference is the circuit's mixture/product semantics and is normalised.
Property theorems only. The value table `evalNet` is what `eval_bottom_up` fills (children first).
-/
namespace Deeprob
variable {α : Type} [CommSemiring α]

/-- every entry of the bottom-up value table is the mixture/product semantics of that node's
unfolding — trees and DAGs with shared sub-circuits, any arity, any labelling, any evidence -/
theorem C01_semantics (net : Net α) (dens : List α) (e : Ev) (hw : WellOrdered net)
    (i : Nat) (hi : i < net.length) :
    (evalNet e dens net).getD i 0 = Circ.eval e (toTree net dens (i+1) i) :=
  evalNet_refines e dens net hw i hi

/-- the complete-evidence values of a valid circuit with normalised weights and leaves sum to one
over the whole (discrete) domain of the root scope -/
theorem C01_normalised (dom : Nat → Nat) (net : Net α) (dens : List α) (hw : WellOrdered net)
    (hok : ∀ i (x : NNode α), net[i]? = some x → NodeOK dom net dens i x)
    (hnw : NetNormW net) (hln : NetLeafNorm net dens) (root : Nat) (hr : root < net.length) :
    sumOver dom (scopeOf net root) (fun _ => none) (fun x => (evalNet x dens net).getD root 0) = 1 := by
  have hv := valid_toTree dom net dens hw hok root hr
  have h1 := Circ.normalised dom _ hv (normW_toTree net dens hw hnw root hr) (leafNorm_toTree dom net dens hw hln root hr)
  rw [scope_toTree net dens root root hr] at h1
  rw [← h1]
  apply sumOver_congr; intro e' _
  exact evalNet_refines e' dens net hw root hr

/-- a 2-variable DAG (a sum over two products sharing a leaf); the examples below compute that it is
children-first and two of its values — `NodeOK`, `NetNormW`, `NetLeafNorm` are not exhibited for it -/
def exNet : Net Rat :=
  [ { id := 3, kind := .leaf, scope := [0], ch := [], ws := [], leaf := .cat 0 [1/4, 3/4] },
    { id := 4, kind := .leaf, scope := [2], ch := [], ws := [], leaf := .cat 2 [1/2, 1/2] },
    { id := 5, kind := .leaf, scope := [2], ch := [], ws := [], leaf := .cat 2 [1/10, 9/10] },
    { id := 1, kind := .prod, scope := [0, 2], ch := [0, 1], ws := [], leaf := .absent },
    { id := 2, kind := .prod, scope := [2, 0], ch := [2, 0], ws := [], leaf := .absent },
    { id := 0, kind := .sum, scope := [0, 2], ch := [3, 4], ws := [1/3, 2/3], leaf := .absent } ]

example : Net.wellOrderedB exNet = true := by decide
example : (evalNet (fun _ => none) [] exNet).getD 5 0 = 1 := by decide +kernel
example : (evalNet (Ev.ofList [some 1, none, some 0]) [] exNet).getD 5 0 = 1/3 * (3/4 * (1/2)) + 2/3 * (1/10 * (3/4)) := by
  decide +kernel

end Deeprob
