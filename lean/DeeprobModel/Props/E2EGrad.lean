import DeeprobModel.Props.C14Backward
import DeeprobModel.Oblig.Struct5Grad
set_option linter.unusedSectionVars false
/-
End-to-end corollaries for the backward pass of EM (C14): the theorems of `Props/C14Backward.lean` stated about the pass ASSEMBLED FROM
THE RULES EXTRACTED from /repo/deeprob/spn/algorithms/gradient.py (`Oblig/Struct5Grad.lean: genBackward` — `Gen.S5gradRoot`,
`Gen.S5gradNode` / `Gen.S5gradAccum`, `Gen.S5gradSends` with `Gen.S5gradSum`, `Gen.S5gradProd`, at the float32 log-number carrier `LogV`),
closing the chain

    gradient.py --(tools/fragments.py `gradient.eval_backward.rules`, every run)--> Gen.S5grad*
      --(Struct5G.gradSum_as_coded, gradProd_as_coded, gradAccum_as_coded, gradRoot_as_coded, backwardC_as_coded)--> backwardC
      --(C14B.coded_grads_rel, resp_coded_exact, leaf_stat_coded_exact, resp_coded_exact_valid)--> linear-domain derivative / responsibilities.

What stays outside: the loop around the rules (`for node in nodes`, the cache as a dictionary of lists) is written out in Lean
(`genVisit`, `genBackward`) — the fragment checks its shape (iteration over the result of `topological_order(root)` itself, the guard
`node.id != root.id`, one append per child) but only the rules are generated; the visiting order is the children-first table order
(`WellOrdered`); the root has no parent (`NoParent`: `topological_order` returns `None` otherwise and `eval_backward` raises); the
operations of `LogV` are the model of float32 arithmetic next to the `-1e31` floor (tied by `demo_embackward`, entry-wise).
-/
namespace Deeprob.E2EGrad
open Deeprob Deeprob.Bwd Deeprob.LogV Deeprob.C14B Deeprob.Oblig.Struct5G

section main
variable {F : Type} [Field F] [LinearOrder F] [IsStrictOrderedRing F] [DecidableEq F]

/-- the table `eval_backward(root, lls)` returns for the row `e` when run from the GENERATED rules, `lls` being the floored logs of
the row's node values -/
abbrev genGrads (e : Ev) (dens : List F) (net : Net F) (root : Nat) : List (LogV F) :=
  genBackward net (codedLls (evalNet e dens net)) root

/-- the assembled pass is the model's pass -/
theorem genGrads_eq (e : Ev) (dens : List F) (net : Net F) (hw : WellOrdered net) (root : Nat) (hnp : NoParent net root) :
    genGrads e dens net root = codedGrads e dens net root :=
  backwardC_as_coded net _ root hw hnp

/-- … also when `lls` is produced by the forward pass as coded (`node_log_likelihood` with the floor active) -/
theorem genBackward_forwardC (e : Ev) (dens : List F) (net : Net F) (hw : WellOrdered net) (hnn : NonNegNet e dens net)
    (root : Nat) (hnp : NoParent net root) :
    genBackward net (forwardC e dens net) root = codedGrads e dens net root := by
  rw [backwardC_as_coded net _ root hw hnp, backwardC_forwardC e dens net hnn root]

/-- C14: `coded_grads_rel` for the extracted rules: every entry of the returned table is a number, and at
every node of non-zero value it is the linear-domain gradient -/
theorem e2e_coded_grads_rel (e : Ev) (dens : List F) (net : Net F) (hw : WellOrdered net) (hnn : NonNegNet e dens net)
    (root : Nat) (hnp : NoParent net root) (j : Nat) :
    Rel ((evalNet e dens net).getD j 0) ((genGrads e dens net root).getD j bot)
      ((backward net (evalNet e dens net) root).getD j 0) := by
  rw [genGrads_eq e dens net hw root hnp]
  exact coded_grads_evalNet e dens net hw hnn.1 (evalNet_getD_nonneg e dens net hnn) root j

/-- C14: `resp_coded_exact` for the pass assembled from the GENERATED rules: on every non-negative
children-first table whose root has no parent, every row of positive root value, every sum node `n` and every edge `n → c` of
weight `w`, what `Sum.em_step` makes of the statistics computed from the table `eval_backward` returns,
`weights * exp(children_ll - root_ll + grads[n])`, is exactly `w · value[c] · ∂root/∂node_n / value[root]` — zero-valued product
children, whose `grads` entries are wrong (`(g + F) - F = 0.0` in the association the source has), included. -/
theorem e2e_backward_coded (e : Ev) (dens : List F) (net : Net F) (hw : WellOrdered net)
    (hnn : NonNegNet e dens net) (root : Nat) (hnp : NoParent net root)
    (hroot : 0 < (evalNet e dens net).getD root 0) (n : Nat) (x : NNode F)
    (hn : net[n]? = some x) (hk : x.kind = .sum) (j c : Nat) (w : F) (hc : x.ch[j]? = some c)
    (hwj : x.ws[j]? = some w) :
    (respSumC (codedLls (evalNet e dens net)) (genGrads e dens net root) root n x)[j]?
      = some (some (w * ((evalNet e dens net).getD c 0 * (backward net (evalNet e dens net) root).getD n 0
          / (evalNet e dens net).getD root 0))) := by
  rw [genGrads_eq e dens net hw root hnp]
  exact resp_coded_exact e dens net hw hnn root hroot n x hn hk j c w hc hwj

/-- C14: `leaf_stat_coded_exact` for the extracted rules -/
theorem e2e_leaf_stat_coded (e : Ev) (dens : List F) (net : Net F) (hw : WellOrdered net)
    (hnn : NonNegNet e dens net) (root : Nat) (hnp : NoParent net root)
    (hroot : 0 < (evalNet e dens net).getD root 0) (i : Nat) :
    expL (statLeafC (codedLls (evalNet e dens net)) (genGrads e dens net root) root i)
      = some (respLeaf (evalNet e dens net) (backward net (evalNet e dens net) root) root i) := by
  rw [genGrads_eq e dens net hw root hnp]
  exact leaf_stat_coded_exact e dens net hw hnn root hroot i

/-- C14: `resp_coded_exact_valid` for the extracted rules: under what `check_spn` establishes there
is THE derivative `a = ∂root/∂node_n` such that the leaf statistic and every responsibility computed from the table the extracted
pass returns are `value·a/value[root]` -/
theorem e2e_backward_coded_valid (dom : Nat → Nat) (e : Ev) (dens : List F) (net : Net F) (hw : WellOrdered net)
    (hok : ∀ i (x : NNode F), net[i]? = some x → NodeOK dom net dens i x) (hnn : NonNegNet e dens net)
    (root n : Nat) (hnp : NoParent net root) (hr : root < net.length) (hn : n < net.length) (hne : scopeOf net n ≠ [])
    (hroot : 0 < (evalNet e dens net).getD root 0) :
    ∃ a : F,
      (∀ y : F, (evalNetWith e dens net n y).getD root 0 = (evalNetWith e dens net n 0).getD root 0 + a * y) ∧
      (expL (statLeafC (codedLls (evalNet e dens net)) (genGrads e dens net root) root n)
        = some ((evalNet e dens net).getD n 0 * a / (evalNet e dens net).getD root 0)) ∧
      ((net[n]).kind = .sum → ∀ (j c : Nat) (w : F), (net[n]).ch[j]? = some c → (net[n]).ws[j]? = some w →
        (respSumC (codedLls (evalNet e dens net)) (genGrads e dens net root) root n net[n])[j]?
          = some (some (w * ((evalNet e dens net).getD c 0 * a / (evalNet e dens net).getD root 0)))) := by
  rw [genGrads_eq e dens net hw root hnp]
  exact resp_coded_exact_valid dom e dens net hw hok hnn root n hr hn hne hroot

end main

/-! ### non-vacuity on `exZ` / `exW` of `Props/C14Backward.lean` -/

theorem exZ_noParent : NoParent exZ 5 := noParent_last exZ exZ_wo

theorem exW_wo : WellOrdered exW := (wellOrderedB_iff exW).1 (by decide)

theorem exW_noParent : NoParent exW 8 := noParent_last exW exW_wo

/-- the pass assembled from the generated rules, computed on `exZ` for the row `(1, 0)`: the table of the model, the wrong entry
`0.0` (`fin 1`, true gradient `1/6`) of the zero-valued product child 0 included -/
example : genGrads exZRow [] exZ 5 = [fin 1, fin (1/4), fin (1/2), fin (1/6), fin (1/2), fin 1] :=
  (genGrads_eq exZRow [] exZ exZ_wo 5 exZ_noParent).trans exZ_coded_grads

example : genGrads exZRow [] exZ 5 = codedGrads exZRow [] exZ 5 := genGrads_eq exZRow [] exZ exZ_wo 5 exZ_noParent

/-- … and from the forward pass as coded -/
example : genBackward exZ (forwardC exZRow [] exZ) 5 = [fin 1, fin (1/4), fin (1/2), fin (1/6), fin (1/2), fin 1] := by
  rw [genBackward_forwardC exZRow [] exZ exZ_wo exZ_nonneg 5 exZ_noParent, exZ_coded_grads]

/-- the messages of the zero-valued product 2 of `exZ` (its gradient is `log(1/2)`): the zero-valued child 0 receives
`(log(1/2) + F) - F = 0.0`, the positive child 1 receives `(log(1/2) + F) - log(1/3) = F` -/
example : genSends exZ (codedLls (evalNet exZRow [] exZ)) 2 (fin (1/2)) = some [(0, fin 1), (1, low 0)] := by decide +kernel

/-- non-vacuity of `e2e_backward_coded`: the edges of the root sum of `exZ` into the zero-valued product 2 and into product 4 -/
example : (respSumC (codedLls (evalNet exZRow [] exZ)) (genGrads exZRow [] exZ 5) 5 5 exZ[5])[0]?
    = some (some (1/2 * ((evalNet exZRow [] exZ).getD 2 0 * (backward exZ (evalNet exZRow [] exZ) 5).getD 5 0
        / (evalNet exZRow [] exZ).getD 5 0))) :=
  e2e_backward_coded exZRow [] exZ exZ_wo exZ_nonneg 5 exZ_noParent exZ_root_pos 5 exZ[5] rfl rfl 0 2 (1/2)
    rfl rfl

example : respSumC (codedLls (evalNet exZRow [] exZ)) (genGrads exZRow [] exZ 5) 5 5 exZ[5] = [some 0, some 1] := by
  decide +kernel

/-- non-vacuity of `e2e_leaf_stat_coded` at the node with the wrong entry (statistic `0`) and of `e2e_coded_grads_rel` there -/
example : expL (statLeafC (codedLls (evalNet exZRow [] exZ)) (genGrads exZRow [] exZ 5) 5 0)
    = some (respLeaf (evalNet exZRow [] exZ) (backward exZ (evalNet exZRow [] exZ) 5) 5 0) :=
  e2e_leaf_stat_coded exZRow [] exZ exZ_wo exZ_nonneg 5 exZ_noParent exZ_root_pos 0

example : Rel ((evalNet exZRow [] exZ).getD 1 0) ((genGrads exZRow [] exZ 5).getD 1 bot)
    ((backward exZ (evalNet exZRow [] exZ) 5).getD 1 0) :=
  e2e_coded_grads_rel exZRow [] exZ exZ_wo exZ_nonneg 5 exZ_noParent 1

/-- non-vacuity of `e2e_backward_coded_valid` at the zero-valued product child 0 of `exZ` -/
example : ∃ a : ℚ,
    (∀ y : ℚ, (evalNetWith exZRow [] exZ 0 y).getD 5 0 = (evalNetWith exZRow [] exZ 0 0).getD 5 0 + a * y) ∧
    (expL (statLeafC (codedLls (evalNet exZRow [] exZ)) (genGrads exZRow [] exZ 5) 5 0)
      = some ((evalNet exZRow [] exZ).getD 0 0 * a / (evalNet exZRow [] exZ).getD 5 0)) ∧
    ((exZ[0]).kind = .sum → ∀ (j c : Nat) (w : ℚ), (exZ[0]).ch[j]? = some c → (exZ[0]).ws[j]? = some w →
      (respSumC (codedLls (evalNet exZRow [] exZ)) (genGrads exZRow [] exZ 5) 5 0 exZ[0])[j]?
        = some (some (w * ((evalNet exZRow [] exZ).getD c 0 * a / (evalNet exZRow [] exZ).getD 5 0)))) :=
  e2e_backward_coded_valid (fun _ => 2) exZRow [] exZ exZ_wo exZ_nodeOK exZ_nonneg 5 0 exZ_noParent (by decide) (by decide)
    (by decide) exZ_root_pos

/-- `exW` (zero-weight edge below a zero-valued sum): the extracted pass returns the model's table — entry 2 is the wrong `0.0`
(true gradient `1/6`) —, the raw statistic of the zero-weight edge computed from it is the wrong `8`, the responsibility is `0` -/
example : genGrads exZRow [] exW 8 = codedGrads exZRow [] exW 8 := genGrads_eq exZRow [] exW exW_wo 8 exW_noParent

example : (genGrads exZRow [] exW 8).getD 2 bot = fin 1 ∧ (backward exW (evalNet exZRow [] exW) 8).getD 2 0 = 1/6 ∧
    (statSumC (codedLls (evalNet exZRow [] exW)) (genGrads exZRow [] exW 8) 8 2 exW[2]).map expL = [some 0, some 8] ∧
    respSumC (codedLls (evalNet exZRow [] exW)) (genGrads exZRow [] exW 8) 8 2 exW[2] = [some 0, some 0] := by
  decide +kernel

end Deeprob.E2EGrad
