import DeeprobModel.Lemmas.FlowsLemmas
import DeeprobModel.Lemmas.FlowsDet
import DeeprobModel.Spec.FlowRealInst
import DeeprobModel.Lemmas.FlowsExamples
/-
Property C15 — normalizing flows are bijections with exact log-determinants.

Model: `Model/Flows.lean` (mirrors /repo/deeprob/flows/**, cited there). Conditioner networks are
uninterpreted functions; `exp/log/sqrt/sigmoid` enter through `ExpLog F` / `ExpLogSig F` only.
Vectors / tensors are functions `Nat → F` on the flat index.

Scope notes (also in the doc comments of the theorems concerned):
* No derivative occurs in this file. The `*_is_logdet` theorems are statements about *any* matrix with
  the stated diagonal and vanishing pattern; that the Jacobian of the layer is such a matrix is proved
  over ℝ in `Props/C15Calculus.lean`.
* `DequantizeLayer` is not a bijection (it adds `torch.rand_like` noise / floors): only the logit part
  of the preprocessing is covered.
-/
open Matrix

namespace Deeprob.Flows

/-- For **any** degree lists (sequential, random or otherwise), a
path `input j → … → output i` through `build_masks(degrees)` forces `deg j < deg i` (and both indices
in range). -/
theorem masks_strictly_autoregressive (d0 : List Nat) (hidden : List (List Nat)) (j i : Nat)
    (h : Reach (buildMasks (d0 :: hidden)) j i) :
    j < d0.length ∧ i < d0.length ∧ d0.getD j 0 < d0.getD i 0 :=
  reach_chain d0 i hidden d0 j h

/-- Non-vacuity: in the sequential MADE with 3 inputs and one hidden layer of 4 units there is a path
from input 0 to output 2. -/
example : Reach (buildMasks (buildDegreesSequential 3 1 4 false)) 0 2 :=
  (reachB_iff _ _ _).1 (by decide)

/-- Sequential degrees (`build_degrees_sequential`): paths only go from earlier to later inputs
(later to earlier if `reverse`). -/
theorem masks_strictly_autoregressive_sequential (n depth units : Nat) (reverse : Bool) (j i : Nat)
    (h : Reach (buildMasks (buildDegreesSequential n depth units reverse)) j i) :
    j < n ∧ i < n ∧ (if reverse then i < j else j < i) := by
  obtain ⟨h1, h2, h3⟩ := masks_strictly_autoregressive _ _ j i h
  cases reverse
  · simp only [inputDegreesSeq, Bool.false_eq_true, if_false, List.length_range] at h1 h2 h3
    simp only [List.getD_eq_getElem?_getD, List.getElem?_range h1, List.getElem?_range h2,
      Option.getD_some] at h3
    exact ⟨h1, h2, by simpa using h3⟩
  · simp only [inputDegreesSeq, if_true, List.length_map, List.length_range] at h1 h2 h3
    simp only [List.getD_eq_getElem?_getD, List.getElem?_map, List.getElem?_range h1,
      List.getElem?_range h2, Option.map_some, Option.getD_some] at h3
    exact ⟨h1, h2, by simp only [if_true]; omega⟩

example : Reach (buildMasks (buildDegreesSequential 4 2 5 true)) 3 0 :=
  (reachB_iff _ _ _).1 (by decide)

/-- Random degrees (`build_degrees_random`, the draw being any assignment in the sampled ranges). -/
theorem masks_strictly_autoregressive_random (n depth units : Nat) (degs : List (List Nat))
    (hadm : DegreesRandomAdmissible n depth units degs) (j i : Nat)
    (h : Reach (buildMasks degs) j i) :
    j < n ∧ i < n ∧ (degs.headD []).getD j 0 < (degs.headD []).getD i 0 := by
  unfold DegreesRandomAdmissible degreesRandomOK at hadm
  cases degs with
  | nil => simp at hadm
  | cons d0 hs =>
    simp only [Bool.and_eq_true, List.isPerm_iff] at hadm
    have hl : d0.length = n := by simpa using hadm.1.1.length_eq
    have := masks_strictly_autoregressive d0 hs j i h
    rw [hl] at this
    exact this

/-- Non-vacuity: an admissible random assignment (3 features, 1 hidden layer of 3 units) with a path. -/
example : DegreesRandomAdmissible 3 1 3 [[2, 0, 1], [0, 1, 1]] ∧
    Reach (buildMasks [[2, 0, 1], [0, 1, 1]]) 1 0 :=
  ⟨by unfold DegreesRandomAdmissible; decide, (reachB_iff _ _ _).1 (by decide)⟩

/-- Hence both output heads `t` (rows `0..n-1`) and `s` (rows `n..2n-1`, tiled mask) of **any**
network whose layers respect the registered masks (`MaskedLinear` with arbitrary weights followed by
arbitrary pointwise activations) read only inputs of strictly smaller degree. -/
theorem made_output_depends_only_on_smaller_degree {α : Type} (d0 : List Nat) (hidden : List (List Nat))
    (fs : List ((Nat → α) → (Nat → α)))
    (hfs : List.Forall₂ RespectsMask fs (conditionerMasks (d0 :: hidden))) :
    Autoregressive d0.length (fun j => d0.getD j 0) (fun x i => chainLayers fs x i) ∧
    Autoregressive d0.length (fun j => d0.getD j 0) (fun x i => chainLayers fs x (d0.length + i)) := by
  -- a path to output row `o` of the tiled mask is a path to output `o mod n` of `build_masks`
  have key : ∀ o i j, (if o < d0.length then o else o - d0.length) = i →
      Reach (conditionerMasks (d0 :: hidden)) j o → j < d0.length ∧ d0.getD j 0 < d0.getD i 0 := by
    intro o i j hoi h
    have h' := reach_tile (maskLT ((d0 :: hidden).getLastD []) d0) o _ j h
    rw [show (maskLT ((d0 :: hidden).getLastD []) d0).length = d0.length by simp [maskLT], hoi] at h'
    exact ⟨(masks_strictly_autoregressive d0 hidden j i h').1, (masks_strictly_autoregressive d0 hidden j i h').2.2⟩
  constructor
  · intro i hi x x' hx
    refine chainLayers_depends fs _ hfs x x' _ (fun j hj => ?_)
    obtain ⟨h1, h2⟩ := key i i j (if_pos hi) hj
    exact hx j h1 h2
  · intro i hi x x' hx
    refine chainLayers_depends fs _ hfs x x' _ (fun j hj => ?_)
    obtain ⟨h1, h2⟩ := key (d0.length + i) i j (by rw [if_neg (by omega), Nat.add_sub_cancel_left]) hj
    exact hx j h1 h2

/-- `MaskedLinear` respects its mask for arbitrary weights and biases; so does its composition with
any pointwise activation. -/
theorem maskedLinear_respects_mask {α : Type} [MulZeroClass α] [Add α] (M : List (List Bool)) (nin : Nat)
    (W : Nat → Nat → α) (b : Nat → α) (act : α → α) :
    RespectsMask (maskedLinear M nin W b) M ∧
    RespectsMask (fun x o => act (maskedLinear M nin W b x o)) M :=
  ⟨maskedLinear_respects M nin W b,
    fun x x' o hx => congrArg act (maskedLinear_respects M nin W b x x' o hx)⟩

/-- Non-vacuity: a concrete masked two-layer conditioner over ℤ (all weights 1, activation `· * ·`). -/
example : List.Forall₂ RespectsMask
    [fun x o => (maskedLinear (maskLE [0, 1, 2] [0, 1, 0, 1]) 3 (fun _ _ => (1 : ℤ)) (fun _ => 0) x o)
        * (maskedLinear (maskLE [0, 1, 2] [0, 1, 0, 1]) 3 (fun _ _ => (1 : ℤ)) (fun _ => 0) x o),
     maskedLinear (tileMask (maskLT [0, 1, 0, 1] [0, 1, 2])) 4 (fun _ _ => (1 : ℤ)) (fun _ => 5)]
    (conditionerMasks [[0, 1, 2], [0, 1, 0, 1]]) :=
  .cons (maskedLinear_respects_mask _ 3 _ _ (fun a => a * a)).2
    (.cons (maskedLinear_respects_mask _ 4 _ _ id).1 .nil)

/-- Jacobian corollary: listing inputs/outputs in `argsort(ordering)` order, the dependency matrix
is strictly lower triangular (output at position `a` never reads the input at a position `b ≥ a`). -/
theorem dependency_strictly_lower_triangular (d0 : List Nat) (hidden : List (List Nat)) (n : Nat)
    (hp : d0.Perm (List.range n)) (a b : Nat) (hab : a ≤ b) (hb : b < n) :
    ¬ Reach (buildMasks (d0 :: hidden)) ((invOrdering d0).getD b 0) ((invOrdering d0).getD a 0) := by
  intro h
  have := (masks_strictly_autoregressive d0 hidden _ _ h).2.2
  rw [invOrdering_getD d0 n hp b hb, invOrdering_getD d0 n hp a (by omega)] at this
  omega

example : [2, 0, 1].Perm (List.range 3) := by decide

section Maf
variable {F : Type} [Field F] [LinearOrder F] (E : ExpLog F)
variable (ordering : List Nat) (n : Nat) (hp : ordering.Perm (List.range n))
variable (t s : (Nat → F) → Nat → F)
variable (ht : Autoregressive n (fun j => ordering.getD j 0) t)
variable (hs : Autoregressive n (fun j => ordering.getD j 0) s)
include hp ht hs

/-- `apply_forward (apply_backward x) = x`: the sequential loop over `inv_ordering = argsort(ordering)`
(network re-evaluated at every step, as in the code) recovers `x` from the one-pass image. -/
theorem maf_forward_backward (x : Nat → F) (i : Nat) (hi : i < n) :
    (mafForward E.exp n (invOrdering ordering) t s (mafBackward E.exp n t s x).1).1 i = x i := by
  obtain ⟨h1, h2, h3⟩ := invOrdering_props ordering n hp
  -- the loop's result and `x` both solve the fixed-point equation for `u = apply_backward x`
  exact maf_fixpoint_unique E.exp _ n t s ht hs (mafBackward E.exp n t s x).1 _ x
    (mafForward_spec E ht hs h1 h3 h2 _).1 (fun _ _ => (affine_fwd_bwd E _ _ _).symm) i hi

/-- `apply_backward (apply_forward u) = u`. -/
theorem maf_backward_forward (u : Nat → F) (i : Nat) (hi : i < n) :
    (mafBackward E.exp n t s (mafForward E.exp n (invOrdering ordering) t s u).1).1 i = u i := by
  obtain ⟨h1, h2, h3⟩ := invOrdering_props ordering n hp
  exact mafBackward_of_fixpoint E ((mafForward_spec E ht hs h1 h3 h2 u).1 i hi)

/-- The loop ends in the fixed point `x = u ⊙ exp(s(x)) + t(x)` and reports `Σ s(x)` at that fixed
point (not at the intermediate iterates). -/
theorem maf_forward_fixpoint (u : Nat → F) :
    (∀ i, i < n → (mafForward E.exp n (invOrdering ordering) t s u).1 i
        = u i * E.exp (s (mafForward E.exp n (invOrdering ordering) t s u).1 i)
          + t (mafForward E.exp n (invOrdering ordering) t s u).1 i) ∧
    (mafForward E.exp n (invOrdering ordering) t s u).2
      = sumVar n (s (mafForward E.exp n (invOrdering ordering) t s u).1) := by
  obtain ⟨h1, h2, h3⟩ := invOrdering_props ordering n hp
  exact ⟨(mafForward_spec E ht hs h1 h3 h2 u).1, (mafForward_spec E ht hs h1 h3 h2 u).2.1⟩

/-- Reported log-dets are antisymmetric in both directions. -/
theorem maf_ldj_antisymm (x u : Nat → F) :
    (mafForward E.exp n (invOrdering ordering) t s (mafBackward E.exp n t s x).1).2
      = -(mafBackward E.exp n t s x).2 ∧
    (mafBackward E.exp n t s (mafForward E.exp n (invOrdering ordering) t s u).1).2
      = -(mafForward E.exp n (invOrdering ordering) t s u).2 := by
  obtain ⟨h1, h2, h3⟩ := invOrdering_props ordering n hp
  refine ⟨?_, maf_ldj_antisymm_fwd E ht hs h1 h3 h2 u⟩
  -- `s` at `apply_forward (apply_backward x)` is `s` at `x`, because the two agree on the first `n` coordinates
  rw [(mafForward_spec E ht hs h1 h3 h2 _).2.1]
  show _ = - -(sumVar n (s x))
  rw [neg_neg]
  exact sumVar_congr_lt _ _ _ (fun i hi => hs i hi _ _ (fun j hj _ => maf_forward_backward E ordering n hp t s ht hs x j hj))

end Maf

example (x : Nat → ℝ) (i : Nat) (hi : i < 2) :
    (mafForward realExpLog.exp 2 (invOrdering [1, 0]) exT exS (mafBackward realExpLog.exp 2 exT exS x).1).1 i
      = x i :=
  maf_forward_backward realExpLog [1, 0] 2 (by decide) exT exS exT_ar exS_ar x i hi

example (u : Nat → ℝ) (i : Nat) (hi : i < 2) :
    (mafBackward realExpLog.exp 2 exT exS (mafForward realExpLog.exp 2 (invOrdering [1, 0]) exT exS u).1).1 i
      = u i :=
  maf_backward_forward realExpLog [1, 0] 2 (by decide) exT exS exT_ar exS_ar u i hi

example (u : Nat → ℝ) := maf_forward_fixpoint realExpLog [1, 0] 2 (by decide) exT exS exT_ar exS_ar u
example (x u : Nat → ℝ) := maf_ldj_antisymm realExpLog [1, 0] 2 (by decide) exT exS exT_ar exS_ar x u

/-- The buffers `mask` and `inv_mask = 1 - mask` are complementary 0/1 vectors;
and for each of the three mask families `reverse=True` is the complement of `reverse=False`
(so two consecutive couplings transform every coordinate once). -/
theorem masks_complementary {F : Type} [Field F] (m : Nat → Bool) (k : Nat) :
    ((maskVal m k : F) * invMaskVal m k = 0 ∧ (maskVal m k : F) + invMaskVal m k = 1 ∧
      ((maskVal m k : F) = 0 ∨ (maskVal m k : F) = 1)) ∧
    (∀ k, alternatingMask true k = !alternatingMask false k) ∧
    (∀ H W k, checkerboardMask H W true k = !checkerboardMask H W false k) ∧
    (∀ C H W k, channelwiseMask C H W true k = !channelwiseMask C H W false k) := by
  refine ⟨maskVal_complementary m k, ?_, ?_, ?_⟩
  · intro k; simp [alternatingMask]
  · intro H W k; simp [checkerboardMask]
  · intro C H W k
    by_cases h : k < C / 2 * H * W <;> simp [channelwiseMask, h, Nat.not_le.2, Nat.le_of_not_lt]

example : (maskVal (alternatingMask false) 3 : ℚ) = 1 ∧ (invMaskVal (alternatingMask false) 3 : ℚ) = 0 := by
  constructor <;> simp [maskVal, invMaskVal, alternatingMask]

/-- Coupling layers (1-d alternating and 2-d checkerboard masks — any mask —, affine and additive,
arbitrary conditioner): forward and backward are mutual inverses. -/
theorem coupling_inverse {F : Type} [Field F] [LinearOrder F] (E : ExpLog F) (affine : Bool) (n : Nat)
    (m : Nat → Bool) (T S : (Nat → F) → Nat → F) (x : Nat → F) :
    (couplingForward E.exp affine n m T S (couplingBackward E.exp affine n m T S x).1).1 = x ∧
    (couplingBackward E.exp affine n m T S (couplingForward E.exp affine n m T S x).1).1 = x :=
  ⟨(couplingBij E affine n m T S).fwd_bwd x, (couplingBij E affine n m T S).bwd_fwd x⟩

example (x : Nat → ℝ) := coupling_inverse realExpLog true 4 (alternatingMask true) exT exS x
example (x : Nat → ℝ) := coupling_inverse realExpLog false 12 (checkerboardMask 2 3 false) exT exS x

/-- `coupling_inverse` for the channel-wise branch of `CouplingLayer2d` (both `reverse` settings). -/
theorem coupling_inverse_channelwise {F : Type} [Field F] [LinearOrder F] (E : ExpLog F)
    (affine reverse : Bool) (half : Nat) (T S : (Nat → F) → Nat → F) (x : Nat → F) :
    (chanForward E.exp affine reverse half T S (chanBackward E.exp affine reverse half T S x).1).1 = x ∧
    (chanBackward E.exp affine reverse half T S (chanForward E.exp affine reverse half T S x).1).1 = x :=
  ⟨(chanBij E affine reverse half T S).fwd_bwd x, (chanBij E affine reverse half T S).bwd_fwd x⟩

example (x : Nat → ℝ) := coupling_inverse_channelwise realExpLog true false 8 exT exS x

/-- Coupling layers: the reported log-det is `± Σ` of `s` over the *transformed* coordinates
(`mask = 0`), `s` being evaluated on the untouched (masked) part only; `0` for additive couplings. -/
theorem coupling_ldj {F : Type} [Field F] [LinearOrder F] (E : ExpLog F) (n : Nat)
    (m : Nat → Bool) (T S : (Nat → F) → Nat → F) (x : Nat → F) :
    (couplingForward E.exp true n m T S x).2
      = sumVar n (fun k => if m k then 0 else S (fun j => maskVal m j * x j) k) ∧
    (couplingBackward E.exp true n m T S x).2
      = -(sumVar n (fun k => if m k then 0 else S (fun j => maskVal m j * x j) k)) ∧
    (couplingForward E.exp false n m T S x).2 = 0 ∧ (couplingBackward E.exp false n m T S x).2 = 0 := by
  refine ⟨?_, ?_, rfl, rfl⟩
  · exact sumVar_invMask n m _
  · show -(sumVar n _) = _
    rw [sumVar_invMask n m]

/-- Same for the channel-wise branch: `± Σ_{k < half} s(mx)_k`. -/
theorem coupling_ldj_channelwise {F : Type} [Field F] [LinearOrder F] (E : ExpLog F) (reverse : Bool)
    (half : Nat) (T S : (Nat → F) → Nat → F) (x : Nat → F) :
    (chanForward E.exp true reverse half T S x).2
      = sumVar half (S (if reverse then chunkFst half x else chunkSnd half x)) ∧
    (chanBackward E.exp true reverse half T S x).2
      = -(sumVar half (S (if reverse then chunkFst half x else chunkSnd half x))) ∧
    (chanForward E.exp false reverse half T S x).2 = 0 ∧
    (chanBackward E.exp false reverse half T S x).2 = 0 := by
  cases reverse <;> exact ⟨rfl, rfl, rfl, rfl⟩

example : (couplingForward realExpLog.exp true 2 (alternatingMask false) exT exS (fun _ => 2)).2 = 4 := by
  rw [(coupling_ldj realExpLog 2 (alternatingMask false) exT exS _).1]
  show (if alternatingMask false 0 then (0 : ℝ) else exS _ 0) + ((if alternatingMask false 1 then 0 else exS _ 1) + 0) = 4
  norm_num [alternatingMask, exS, maskVal]

/-- Antisymmetry of the reported log-dets of coupling layers (all variants, both directions). -/
theorem coupling_ldj_antisymm {F : Type} [Field F] [LinearOrder F] (E : ExpLog F) (affine reverse : Bool)
    (n half : Nat) (m : Nat → Bool) (T S : (Nat → F) → Nat → F) (x : Nat → F) :
    (couplingBackward E.exp affine n m T S (couplingForward E.exp affine n m T S x).1).2
      = -(couplingForward E.exp affine n m T S x).2 ∧
    (couplingForward E.exp affine n m T S (couplingBackward E.exp affine n m T S x).1).2
      = -(couplingBackward E.exp affine n m T S x).2 ∧
    (chanBackward E.exp affine reverse half T S (chanForward E.exp affine reverse half T S x).1).2
      = -(chanForward E.exp affine reverse half T S x).2 ∧
    (chanForward E.exp affine reverse half T S (chanBackward E.exp affine reverse half T S x).1).2
      = -(chanBackward E.exp affine reverse half T S x).2 :=
  ⟨(couplingBij E affine n m T S).ldj_antisymm x, (couplingBij E affine n m T S).ldj_antisymm' x,
   (chanBij E affine reverse half T S).ldj_antisymm x, (chanBij E affine reverse half T S).ldj_antisymm' x⟩

example (x : Nat → ℝ) := coupling_ldj_antisymm realExpLog true true 6 3 (alternatingMask false) exT exS x

/-- A square matrix over a commutative ring whose off-diagonal entry
`(i, j)` vanishes whenever `deg i ≤ deg j` has determinant `∏ᵢ Jᵢᵢ` (`det_triangular_by_degree'` of
Lemmas/FlowsDet.lean under the property's name; proved there by sorting the indices by degree, which makes the matrix
lower triangular). -/
theorem det_triangular_by_degree {n : Nat} {R : Type} [CommRing R] (J : Matrix (Fin n) (Fin n) R)
    (deg : Fin n → ℕ) (h : ∀ i j, i ≠ j → deg i ≤ deg j → J i j = 0) : J.det = ∏ i, J i i :=
  det_triangular_by_degree' J deg h

/-- A `2 × 2` matrix with `J 1 0 = 0` has every vanishing pattern that does not constrain the entry `(0, 1)`. -/
theorem fin2_pattern {R : Type} [Zero R] {J : Matrix (Fin 2) (Fin 2) R} {P : Fin 2 → Fin 2 → Prop}
    (h01 : ¬ P 0 1) (h10 : J 1 0 = 0) : ∀ i j, i ≠ j → P i j → J i j = 0 := by
  intro i j hij hd
  fin_cases i <;> fin_cases j
  · exact absurd rfl hij
  · exact absurd hd h01
  · exact h10
  · exact absurd rfl hij

/-- Non-vacuity: degrees `(1, 0)`, the only possibly non-zero off-diagonal entry is `(0, 1)`. -/
example : (!![2, 7; 0, 3] : Matrix (Fin 2) (Fin 2) ℤ).det = ∏ i, (!![2, 7; 0, 3] : Matrix (Fin 2) (Fin 2) ℤ) i i :=
  det_triangular_by_degree _ ![1, 0]
    (fin2_pattern (by decide) rfl)

section LogDet
variable {F : Type} [Field F] [LinearOrder F] [IsStrictOrderedRing F] (E : ExpLog F)

/-- Backward / density direction. For **any** matrix `J` — over ℝ the Jacobian of `apply_backward` at `x` is one:
`Calc.maf_backward_ldj_is_logabsdet`, Props/C15Calculus.lean — with diagonal `exp(-sᵢ(x))` and `J i j = 0` for `i ≠ j`,
`deg i ≤ deg j` (the pattern guaranteed by `masks_strictly_autoregressive`):
`det J = exp(ildj)` and `log|det J| = ildj`, `ildj` being the value reported by `apply_backward`. -/
theorem maf_ldj_is_logdet (n : Nat) (deg : Nat → Nat) (t s : (Nat → F) → Nat → F) (x : Nat → F)
    (J : Matrix (Fin n) (Fin n) F) (hdiag : ∀ i : Fin n, J i i = E.exp (-(s x i)))
    (hpat : ∀ i j : Fin n, i ≠ j → deg i ≤ deg j → J i j = 0) :
    J.det = E.exp (mafBackward E.exp n t s x).2 ∧ E.log |J.det| = (mafBackward E.exp n t s x).2 := by
  have e : (mafBackward E.exp n t s x).2 = ∑ i : Fin n, -(s x i) := by
    show -(sumVar n (s x)) = _
    rw [sumVar_eq_sum, Finset.sum_neg_distrib]
  rw [e]
  exact ⟨det_eq_exp_sum E J (fun i => deg i) _ hdiag hpat, logabsdet_eq_sum E J (fun i => deg i) _ hdiag hpat⟩

/-- Forward (sampling) direction: at the fixed point `y = apply_forward(u)` any matrix with diagonal
`exp(sᵢ(y))` and the degree-triangular pattern has `log|det J|` = the reported forward log-det. -/
theorem maf_forward_ldj_is_logdet (ordering : List Nat) (n : Nat) (hp : ordering.Perm (List.range n))
    (t s : (Nat → F) → Nat → F)
    (ht : Autoregressive n (fun j => ordering.getD j 0) t)
    (hs : Autoregressive n (fun j => ordering.getD j 0) s) (u : Nat → F)
    (J : Matrix (Fin n) (Fin n) F)
    (hdiag : ∀ i : Fin n, J i i = E.exp (s (mafForward E.exp n (invOrdering ordering) t s u).1 i))
    (hpat : ∀ i j : Fin n, i ≠ j → ordering.getD i 0 ≤ ordering.getD j 0 → J i j = 0) :
    E.log |J.det| = (mafForward E.exp n (invOrdering ordering) t s u).2 := by
  rw [(maf_forward_fixpoint E ordering n hp t s ht hs u).2, sumVar_eq_sum]
  exact logabsdet_eq_sum E J (fun i => ordering.getD i 0) _ hdiag hpat

/-- For **any** matrix `J` with diagonal `exp(-sₖ)` (`sₖ = inv_maskₖ·S(mask⊙x)ₖ`,
so `1` on untouched coordinates) and `J i j = 0` for `i ≠ j` unless row `i` is a transformed and
column `j` an untouched coordinate: `log|det J|` is the log-det reported by `apply_backward`; with
diagonal `1` (additive coupling) it is the reported `0`. -/
theorem coupling_ldj_is_logdet (n : Nat) (m : Nat → Bool) (T S : (Nat → F) → Nat → F) (x : Nat → F)
    (J : Matrix (Fin n) (Fin n) F)
    (hpat : ∀ i j : Fin n, i ≠ j → (m i = true ∨ m j = false) → J i j = 0) :
    ((∀ k : Fin n, J k k = E.exp (-(invMaskVal m k * S (fun j => maskVal m j * x j) k))) →
      E.log |J.det| = (couplingBackward E.exp true n m T S x).2) ∧
    ((∀ k : Fin n, J k k = 1) → E.log |J.det| = (couplingBackward E.exp false n m T S x).2) := by
  have hpat' : ∀ i j : Fin n, i ≠ j → (if m i then 0 else 1) ≤ (if m j then 0 else 1) → J i j = 0 :=
    fun i j hij hd => hpat i j hij (maskDeg_le hd)
  constructor
  · intro hdiag
    rw [couplingBackward_affine]
    exact (maf_ldj_is_logdet E n (fun i => if m i then 0 else 1) (maskedHead m T) (maskedHead m S) x J hdiag hpat').2
  · intro hdiag
    have := logabsdet_eq_sum E J (fun i => if m i then 0 else 1) (fun _ => 0)
      (fun i => by rw [hdiag i, E.exp_zero]) hpat'
    rw [this, Finset.sum_const_zero]
    rfl

/-- Chain rule: if two layers report `log|det J₁|` and `log|det J₂|`, the sum they
accumulate is `log|det (J₂ J₁)|` — the log-det of the Jacobian of the composite. -/
theorem compose_logdet {n : Nat} (J1 J2 : Matrix (Fin n) (Fin n) F) (h1 : J1.det ≠ 0) (h2 : J2.det ≠ 0) :
    E.log |(J2 * J1).det| = E.log |J1.det| + E.log |J2.det| := by
  rw [det_mul, abs_mul, E.log_mul (abs_pos.2 h2) (abs_pos.2 h1), add_comm]

end LogDet

/-- Non-vacuity for `maf_ldj_is_logdet`: ordering `[1, 0]`, a Jacobian-shaped matrix with an arbitrary
entry at the one admissible off-diagonal position `(0, 1)`. -/
example (x : Nat → ℝ) (a : ℝ) :
    Real.log |(!![Real.exp (-(exS x 0)), a; 0, Real.exp (-(exS x 1))] : Matrix (Fin 2) (Fin 2) ℝ).det|
      = (mafBackward realExpLog.exp 2 exT exS x).2 :=
  (maf_ldj_is_logdet realExpLog 2 (fun j => [1, 0].getD j 0) exT exS x _
    (by intro i; fin_cases i <;> rfl)
    (fin2_pattern (by decide) rfl)).2

example (x : Nat → ℝ) (a : ℝ) :
    Real.log |(!![Real.exp (-(invMaskVal (alternatingMask false) 0 * exS (fun j => maskVal (alternatingMask false) j * x j) 0)), a;
                  0, Real.exp (-(invMaskVal (alternatingMask false) 1 * exS (fun j => maskVal (alternatingMask false) j * x j) 1))] :
        Matrix (Fin 2) (Fin 2) ℝ).det|
      = (couplingBackward realExpLog.exp true 2 (alternatingMask false) exT exS x).2 :=
  (coupling_ldj_is_logdet realExpLog 2 (alternatingMask false) exT exS x _
    (fin2_pattern (by decide) rfl)).1
    (by intro k; fin_cases k <;> rfl)

example : realExpLog.log |((!![2, 0; 0, 3] : Matrix (Fin 2) (Fin 2) ℝ) * !![1, 1; 0, 5]).det|
    = realExpLog.log |(!![1, 1; 0, 5] : Matrix (Fin 2) (Fin 2) ℝ).det|
      + realExpLog.log |(!![2, 0; 0, 3] : Matrix (Fin 2) (Fin 2) ℝ).det| :=
  compose_logdet realExpLog _ _ (by rw [Matrix.det_fin_two_of]; norm_num) (by rw [Matrix.det_fin_two_of]; norm_num)

/-- `squeeze_depth2d(unsqueeze_depth2d(y)) = y` (as whole tensors, any batch and
channel count; spatial size `h × w` of the un-squeezed tensor with `h//2, w//2 > 0`). -/
theorem squeeze_unsqueeze {α : Type} (h w : Nat) (hh : 0 < h / 2) (hw : 0 < w / 2) (y : Nat → α) :
    squeeze h w (unsqueeze (h / 2) (w / 2) y) = y := squeeze_unsqueeze' h w hh hw y

/-- `unsqueeze_depth2d(squeeze_depth2d(x)) = x`. -/
theorem unsqueeze_squeeze {α : Type} (h w : Nat) (hh : 0 < h / 2) (hw : 0 < w / 2) (x : Nat → α) :
    unsqueeze (h / 2) (w / 2) (squeeze h w x) = x := unsqueeze_squeeze' h w hh hw x

example (x : Nat → ℚ) : unsqueeze (6 / 2) (4 / 2) (squeeze 6 4 x) = x := unsqueeze_squeeze 6 4 (by decide) (by decide) x

/-- For every channel count `c` (batch folded into `c`) and even `h`, `w`, the
flat-index map of `squeeze_depth2d` is a bijection from `[0, 4c·(h/2)·(w/2))` onto `[0, c·h·w)`, with
inverse the flat-index map of `unsqueeze_depth2d`. -/
theorem squeeze_bijective (c h w : Nat) (hh : h % 2 = 0) (hw : w % 2 = 0) :
    (∀ d, d < 4 * c * (h / 2) * (w / 2) → squeezeSrc h w d < c * h * w) ∧
    (∀ d d', d < 4 * c * (h / 2) * (w / 2) → d' < 4 * c * (h / 2) * (w / 2) →
        squeezeSrc h w d = squeezeSrc h w d' → d = d') ∧
    (∀ e, e < c * h * w → ∃ d, d < 4 * c * (h / 2) * (w / 2) ∧ squeezeSrc h w d = e) := by
  refine ⟨fun d hd => squeezeSrc_lt c h w d hh hw hd, ?_, ?_⟩
  · intro d d' hd _ he
    have hh2 : 0 < h / 2 := Nat.pos_of_lt_mul_left (Nat.pos_of_lt_mul_right hd)
    have hw2 : 0 < w / 2 := Nat.pos_of_lt_mul_left hd
    rw [← unsqueezeSrc_squeezeSrc h w d hh2 hw2, he, unsqueezeSrc_squeezeSrc h w d' hh2 hw2]
  · intro e he
    have hh2 : 0 < h / 2 := by have := Nat.pos_of_lt_mul_left (Nat.pos_of_lt_mul_right he); omega
    have hw2 : 0 < w / 2 := by have := Nat.pos_of_lt_mul_left he; omega
    exact ⟨unsqueezeSrc (h / 2) (w / 2) e, unsqueezeSrc_lt c h w e hh hw he,
      squeezeSrc_unsqueezeSrc h w e hh2 hw2⟩

example : squeezeSrc 2 4 1 = 2 ∧ squeezeSrc 2 4 2 = 1 := by decide

/-- For every channel count `c`, `build_permutation_matrix(c)` viewed as
a `4c × (c·2·2)` 0/1 matrix has exactly one 1 in every row and exactly one 1 in every column. -/
theorem permMatrix_is_permutation (c : Nat) :
    (∀ o, o < 4 * c → ∃! p : Nat × Nat × Nat,
        p.1 < c ∧ p.2.1 < 2 ∧ p.2.2 < 2 ∧ permWeight c o p.1 p.2.1 p.2.2 = true) ∧
    (∀ ci a b, ci < c → a < 2 → b < 2 → ∃! o, o < 4 * c ∧ permWeight c o ci a b = true) := by
  constructor
  · intro o ho
    have hc : 0 < c := by omega
    obtain ⟨b1, b2, b3⟩ := permSrc_lt c o hc
    refine ⟨permSrc c o, ⟨b1, b2, b3, (permWeight_iff c o _ _ _ ho).2 rfl⟩, ?_⟩
    rintro ⟨ci, a, b⟩ ⟨_, _, _, hp⟩
    exact (permWeight_iff c o ci a b ho).1 hp
  · intro ci a b hci ha hb
    have hq := posQuarter_lt a b
    have ho : posQuarter a b * c + ci < 4 * c := flat_lt hq hci
    refine ⟨posQuarter a b * c + ci, ⟨ho, (permWeight_col c _ ci a b ho hci ha hb).2 rfl⟩, ?_⟩
    rintro o ⟨ho', hp⟩
    exact (permWeight_col c o ci a b ho' hci ha hb).1 hp

example : permWeight 3 7 1 0 1 = true := by decide

/-- `F.conv_transpose2d(F.conv2d(x, P, stride=2), P, stride=2) = x` and
`F.conv2d(F.conv_transpose2d(y, P, stride=2), P, stride=2) = y` on tensors of size `(c, h, w)` resp.
`(4c, h/2, w/2)`, `h`, `w` even, over any commutative semiring (convolutions as explicit sums). -/
theorem convT_inverts_conv {α : Type} [CommSemiring α] (c h w : Nat) (hh : h % 2 = 0) (hw : w % 2 = 0) :
    (∀ (x : Nat → α) e, e < c * h * w → convTPerm c h w (convPerm c h w x) e = x e) ∧
    (∀ (y : Nat → α) d, d < 4 * c * (h / 2) * (w / 2) → convPerm c h w (convTPerm c h w y) d = y d) := by
  constructor
  · intro x e he
    rw [convTPerm_eq_gather c h w _ e he, convPerm_eq_gather c h w x _ (convTPermSrc_lt c h w e hh hw he),
      convPermSrc_convTPermSrc c h w e hh hw he]
  · intro y d hd
    rw [convPerm_eq_gather c h w _ d hd, convTPerm_eq_gather c h w y _ (convPermSrc_lt c h w d hh hw hd),
      convTPermSrc_convPermSrc c h w d hh hw hd]

example (x : Nat → ℚ) : convTPerm 2 4 6 (convPerm 2 4 6 x) 17 = x 17 :=
  (convT_inverts_conv 2 4 6 (by decide) (by decide)).1 x 17 (by decide)

/-- `torch.chunk(·, 2, dim=1)` / `torch.cat` bookkeeping is a bijection. -/
theorem chunk_cat_bijection {α : Type} [Zero α] (half : Nat) (x a z : Nat → α) :
    cat2 half (chunkFst half x) (chunkSnd half x) = x ∧
    chunkFst half (cat2 half a z) = chunkFst half a ∧ chunkSnd half (cat2 half a z) = z :=
  ⟨cat2_chunk half x, chunkFst_cat2 half a z, chunkSnd_cat2 half a z⟩

/-- The two-loop implementations of `RealNVP2d.apply_backward` /
`apply_forward` (slices pushed in the first loop, popped in the second) are mutual inverses with
antisymmetric log-dets, for any number of scales, given bijective blocks and the bookkeeping laws
(`conv_transpose2d ∘ conv2d = id`, `cat ∘ chunk = id`, and conversely) at every scale. -/
theorem multiscale_inverse {X Z F : Type} [AddCommGroup F] (ps : List (Bij X F × ScaleOps X Z))
    (last : Bij X F) (x : X) :
    (msForward (ps.map toFns) last.fwd (msBackward (ps.map toFns) last.bwd x).1).1 = x ∧
    (msBackward (ps.map toFns) last.bwd (msForward (ps.map toFns) last.fwd x).1).1 = x ∧
    (msBackward (ps.map toFns) last.bwd (msForward (ps.map toFns) last.fwd x).1).2
      = -(msForward (ps.map toFns) last.fwd x).2 := by
  simp only [msBackward_eq, msForward_eq]
  exact ⟨(Bij.multiScale ps last).fwd_bwd x, (Bij.multiScale ps last).bwd_fwd x,
    (Bij.multiScale ps last).ldj_antisymm x⟩

/-- `BatchNormLayer1d/2d` forward/backward are mutual inverses (running statistics; needs
`running_var + eps > 0`, otherwise the code takes the square root of a non-positive number). -/
theorem bn_inverse {F : Type} [Field F] [LinearOrder F] (E : ExpLog F) (half eps : F) (n C grid : Nat)
    (gridA : F) (w b mean var : Nat → F) (hv : ∀ k, 0 < var k + eps) (x : Nat → F) :
    (bn1dForward E.exp E.log E.sqrt half eps n w b mean var
        (bn1dBackward E.exp E.log E.sqrt half eps n w b mean var x).1).1 = x ∧
    (bn1dBackward E.exp E.log E.sqrt half eps n w b mean var
        (bn1dForward E.exp E.log E.sqrt half eps n w b mean var x).1).1 = x ∧
    (bn2dForward E.exp E.log E.sqrt half eps C grid gridA w b mean var
        (bn2dBackward E.exp E.log E.sqrt half eps C grid gridA w b mean var x).1).1 = x ∧
    (bn2dBackward E.exp E.log E.sqrt half eps C grid gridA w b mean var
        (bn2dForward E.exp E.log E.sqrt half eps C grid gridA w b mean var x).1).1 = x :=
  ⟨(bn1dBij E half eps n w b mean var hv).fwd_bwd x, (bn1dBij E half eps n w b mean var hv).bwd_fwd x,
   bn2d_forward_backward' E half eps w b mean var C grid gridA hv x,
   bn2d_backward_forward' E half eps w b mean var C grid gridA hv x⟩

/-- The two reported constants are negatives of each other (at any inputs). -/
theorem bn_ldj_antisymm {F : Type} [Field F] [LinearOrder F] (E : ExpLog F) (half eps : F) (n C grid : Nat)
    (gridA : F) (w b mean var : Nat → F) (x u : Nat → F) :
    (bn1dBackward E.exp E.log E.sqrt half eps n w b mean var x).2
      = -(bn1dForward E.exp E.log E.sqrt half eps n w b mean var u).2 ∧
    (bn2dBackward E.exp E.log E.sqrt half eps C grid gridA w b mean var x).2
      = -(bn2dForward E.exp E.log E.sqrt half eps C grid gridA w b mean var u).2 :=
  ⟨bn1d_ldj_antisymm' E half eps n w b mean var x u, bn2d_ldj_antisymm' E half eps w b mean var C grid gridA x u⟩

example (x : Nat → ℝ) := bn_inverse realExpLog (1 / 2) (1 / 100000) 3 2 4 4 (fun k => k) (fun _ => 1)
  (fun k => 2 * k) (fun k => k) (fun k => by positivity) x
example (x u : Nat → ℝ) := bn_ldj_antisymm realExpLog (1 / 2) (1 / 100000) 3 2 4 4 (fun k => k) (fun _ => 1)
  (fun k => 2 * k) (fun k => k) x u

/-- `LogitLayer` forward/backward are mutual inverses (`α ≠ 1/2`; the
`forward ∘ backward` direction on inputs whose affine image `α + (1-2α)x` lies in `(0, 1)`, the
domain of the two logarithms). Only `sigmoid a = 1 / (1 + exp(-a))` is assumed about `sigmoid`. -/
theorem logit_inverse {F : Type} [Field F] [LinearOrder F] [IsStrictOrderedRing F] (E : ExpLogSig F)
    (alpha dimsA : F) (n : Nat) (hα : 1 - (1 + 1) * alpha ≠ 0) :
    (∀ x : Nat → F, (∀ k, 0 < alpha + (1 - (1 + 1) * alpha) * x k ∧ alpha + (1 - (1 + 1) * alpha) * x k < 1) →
      (logitForward E.log E.sigmoid alpha dimsA n (logitBackward E.log alpha dimsA n x).1).1 = x) ∧
    (∀ u : Nat → F,
      (logitBackward E.log alpha dimsA n (logitForward E.log E.sigmoid alpha dimsA n u).1).1 = u) :=
  ⟨fun x hx => funext fun k => by
      simp only [logitBackward, logitForward, sigmoid_logit E (hx k).1 (hx k).2, add_sub_cancel_left,
        mul_div_cancel_left₀ _ hα],
   fun u => funext fun k => by
      simp only [logitBackward, logitForward, logit_affine_cancel alpha _ _ hα, logit_sigmoid]⟩

theorem logit_ldj_antisymm {F : Type} [Field F] [LinearOrder F] [IsStrictOrderedRing F] (E : ExpLogSig F)
    (alpha dimsA : F) (n : Nat) (hα : 1 - (1 + 1) * alpha ≠ 0) :
    (∀ u : Nat → F,
      (logitBackward E.log alpha dimsA n (logitForward E.log E.sigmoid alpha dimsA n u).1).2
        = -(logitForward E.log E.sigmoid alpha dimsA n u).2) ∧
    (∀ x : Nat → F, (∀ k, 0 < alpha + (1 - (1 + 1) * alpha) * x k ∧ alpha + (1 - (1 + 1) * alpha) * x k < 1) →
      (logitForward E.log E.sigmoid alpha dimsA n (logitBackward E.log alpha dimsA n x).1).2
        = -(logitBackward E.log alpha dimsA n x).2) :=
  ⟨fun u => by simp only [logitBackward, logitForward, logit_affine_cancel alpha _ _ hα],
   fun x hx => by
      simp only [logitBackward, logitForward, neg_neg]
      congr 1
      exact sumVar_congr _ _ _ (fun k => by rw [sigmoid_logit E (hx k).1 (hx k).2])⟩

/-- Non-vacuity: `α = 0.05` and the constant image `x ≡ 1/2`. -/
example : (logitForward realExpLogSig.log realExpLogSig.sigmoid (1 / 20) 3 3
    (logitBackward realExpLogSig.log (1 / 20) 3 3 (fun _ => 1 / 2)).1).1 = fun _ => (1 / 2 : ℝ) :=
  (logit_inverse realExpLogSig (1 / 20) 3 3 (by norm_num)).1 _ (fun _ => by norm_num)

example (u : Nat → ℝ) := (logit_ldj_antisymm realExpLogSig (1 / 20) 3 3 (by norm_num)).1 u

section DiagLayers
variable {F : Type} [Field F] [LinearOrder F] [IsStrictOrderedRing F]

/-- `BatchNormLayer1d`. For **any** diagonal matrix `J` with `J k k = exp(wₖ) / √(varₖ + ε)`
(the slope of `apply_backward` in coordinate `k`: `Calc.bn_backward_hasDerivAt`, Props/C15Calculus.lean),
`log|det J|` is the reported `Σ (wₖ − ½·log(varₖ + ε))` (`half` is the literal `0.5`). -/
theorem bn1d_ldj_is_logdet (E : ExpLog F) (half eps : F) (hhalf : half + half = 1) (n : Nat)
    (w b mean var : Nat → F) (hv : ∀ k, 0 < var k + eps) (x : Nat → F) (J : Matrix (Fin n) (Fin n) F)
    (hoff : ∀ i j, i ≠ j → J i j = 0)
    (hdiag : ∀ k : Fin n, J k k = E.exp (w k) / E.sqrt (var k + eps)) :
    E.log |J.det| = (bn1dBackward E.exp E.log E.sqrt half eps n w b mean var x).2 := by
  rw [logabsdet_diag E J _ hoff hdiag (fun k => div_pos (E.exp_pos _) (E.sqrt_pos (hv k)))]
  show _ = sumVar n _
  rw [sumVar_eq_sum]
  apply Finset.sum_congr rfl
  intro k _
  rw [E.log_div (E.exp_pos _) (E.sqrt_pos (hv k)), E.log_exp, E.log_sqrt half hhalf (hv k)]

/-- `BatchNormLayer2d`: `C` channels broadcast over a grid of `grid` positions
(`gridA = grid` as a field element): the reported `(Σ_c (w_c − ½ log(var_c + ε))) · grid`. -/
theorem bn2d_ldj_is_logdet (E : ExpLog F) (half eps : F) (hhalf : half + half = 1) (C grid : Nat)
    (w b mean var : Nat → F) (hv : ∀ c, 0 < var c + eps) (x : Nat → F)
    (J : Matrix (Fin (C * grid)) (Fin (C * grid)) F)
    (hoff : ∀ i j, i ≠ j → J i j = 0)
    (hdiag : ∀ k : Fin (C * grid), J k k = E.exp (w (k / grid)) / E.sqrt (var (k / grid) + eps)) :
    E.log |J.det| = (bn2dBackward E.exp E.log E.sqrt half eps C grid (grid : F) w b mean var x).2 := by
  rw [bn2dBackward_eq_bn1d]
  exact bn1d_ldj_is_logdet E half eps hhalf (C * grid) _ _ _ _ (fun _ => hv _) x J hoff hdiag

/-- For **any** diagonal matrix with `J k k = c / (x'ₖ (1 − x'ₖ))`,
`c = 1 − 2α > 0`, `x' = α + c·x ∈ (0,1)` (the derivative of `log x' − log(1 − x')` w.r.t. `x`:
`Calc.logit_backward_hasDerivAt`, Props/C15Calculus.lean),
`log|det J|` is the log-det reported by `LogitLayer.apply_backward` (`dims = n`). -/
theorem logit_ldj_is_logdet (E : ExpLog F) (alpha : F) (n : Nat) (hα : 0 < 1 - (1 + 1) * alpha)
    (x : Nat → F)
    (hx : ∀ k, 0 < alpha + (1 - (1 + 1) * alpha) * x k ∧ alpha + (1 - (1 + 1) * alpha) * x k < 1)
    (J : Matrix (Fin n) (Fin n) F) (hoff : ∀ i j, i ≠ j → J i j = 0)
    (hdiag : ∀ k : Fin n, J k k = (1 - (1 + 1) * alpha)
      / ((alpha + (1 - (1 + 1) * alpha) * x k) * (1 - (alpha + (1 - (1 + 1) * alpha) * x k)))) :
    E.log |J.det| = (logitBackward E.log alpha (n : F) n x).2 := by
  have h1 : ∀ k, 0 < 1 - (alpha + (1 - (1 + 1) * alpha) * x k) := fun k => sub_pos.2 (hx k).2
  rw [logabsdet_diag E J _ hoff hdiag (fun k => div_pos hα (mul_pos (hx k).1 (h1 k))),
    Finset.sum_congr rfl (fun (k : Fin n) _ => (E.log_div hα (mul_pos (hx k).1 (h1 k))).trans
      (congrArg _ (E.log_mul (hx k).1 (h1 k)))),
    Finset.sum_sub_distrib, Finset.sum_const, Finset.card_univ, Fintype.card_fin, nsmul_eq_mul]
  show _ = -(sumVar n _ + -((n : F) * E.log (1 - (1 + 1) * alpha)))
  rw [sumVar_eq_sum]
  ring

end DiagLayers

example (x : Nat → ℝ) :
    realExpLog.log |(Matrix.diagonal (fun k : Fin 2 =>
        realExpLog.exp ((k : ℕ) : ℝ) / realExpLog.sqrt (((k : ℕ) : ℝ) + 1 / 100000))).det|
      = (bn1dBackward realExpLog.exp realExpLog.log realExpLog.sqrt (1 / 2) (1 / 100000) 2
          (fun k => (k : ℝ)) (fun _ => 1) (fun k => 2 * k) (fun k => (k : ℝ)) x).2 :=
  bn1d_ldj_is_logdet realExpLog (1 / 2) (1 / 100000) (by norm_num) 2 _ _ _ _ (fun k => by positivity) x _
    (fun _ _ h => Matrix.diagonal_apply_ne _ h) (fun k => Matrix.diagonal_apply_eq _ k)

example (x : Nat → ℝ) :
    realExpLog.log |(Matrix.diagonal (fun k : Fin (2 * 3) =>
        realExpLog.exp (((k / 3 : ℕ) : ℕ) : ℝ) / realExpLog.sqrt ((((k / 3 : ℕ) : ℕ) : ℝ) + 1 / 100000))).det|
      = (bn2dBackward realExpLog.exp realExpLog.log realExpLog.sqrt (1 / 2) (1 / 100000) 2 3 ((3 : ℕ) : ℝ)
          (fun k => (k : ℝ)) (fun _ => 1) (fun k => 2 * k) (fun k => (k : ℝ)) x).2 :=
  bn2d_ldj_is_logdet realExpLog (1 / 2) (1 / 100000) (by norm_num) 2 3 _ _ _ _ (fun k => by positivity) x _
    (fun _ _ h => Matrix.diagonal_apply_ne _ h) (fun k => Matrix.diagonal_apply_eq _ k)

example :
    realExpLog.log |(Matrix.diagonal (fun _ : Fin 3 =>
        ((1 : ℝ) - (1 + 1) * (1 / 20)) / (((1 / 20) + (1 - (1 + 1) * (1 / 20)) * (1 / 2))
          * (1 - ((1 / 20) + (1 - (1 + 1) * (1 / 20)) * (1 / 2)))))).det|
      = (logitBackward realExpLog.log (1 / 20) ((3 : ℕ) : ℝ) 3 (fun _ => 1 / 2)).2 :=
  logit_ldj_is_logdet realExpLog (1 / 20) 3 (by norm_num) _ (fun _ => by norm_num) _
    (fun _ _ h => Matrix.diagonal_apply_ne _ h) (fun k => Matrix.diagonal_apply_eq _ k)

section Compose
variable {X F : Type} [AddCommGroup F]

/-- `NormalizingFlow.apply_forward` (layers reversed) inverts `apply_backward`
(layers in order) and conversely, for any list of bijectors. -/
theorem compose_inverse (ls : List (Bij X F)) (x : X) :
    (chainRun ((ls.map Bij.fwd).reverse) (chainRun (ls.map Bij.bwd) x).1).1 = x ∧
    (chainRun (ls.map Bij.bwd) (chainRun ((ls.map Bij.fwd).reverse) x).1).1 = x := by
  simp only [chain_bwd_eq, chain_fwd_eq]
  exact ⟨(Bij.chain ls).fwd_bwd x, (Bij.chain ls).bwd_fwd x⟩

/-- The accumulated log-det is the sum of the layers' reported log-dets along the
trajectory, and the composite's log-dets are antisymmetric. -/
theorem compose_ldj (ls : List (Bij X F)) (x : X) :
    (chainRun (ls.map Bij.bwd) x).2 = tsum (ldjTrace (ls.map Bij.bwd) x) ∧
    (chainRun ((ls.map Bij.fwd).reverse) x).2 = tsum (ldjTrace ((ls.map Bij.fwd).reverse) x) ∧
    (chainRun (ls.map Bij.bwd) (chainRun ((ls.map Bij.fwd).reverse) x).1).2
      = -(chainRun ((ls.map Bij.fwd).reverse) x).2 ∧
    (chainRun ((ls.map Bij.fwd).reverse) (chainRun (ls.map Bij.bwd) x).1).2
      = -(chainRun (ls.map Bij.bwd) x).2 := by
  refine ⟨chainRun_ldj_sum _ x, chainRun_ldj_sum _ x, ?_, ?_⟩
  · simp only [chain_bwd_eq, chain_fwd_eq]; exact (Bij.chain ls).ldj_antisymm x
  · simp only [chain_bwd_eq, chain_fwd_eq]; exact (Bij.chain ls).ldj_antisymm' x

/-- The model log-likelihood is the base log-density of the backward image plus the
sum of the inverse log-dets; evaluated at a sample `x = forward(u)` it is the change-of-variables
formula `log p_base(u) − ldj_forward(u)`. -/
theorem flow_log_prob (ls : List (Bij X F)) (base : X → F) (x u : X) :
    flowLogProb (chainRun (ls.map Bij.bwd)) base x
      = base (chainRun (ls.map Bij.bwd) x).1 + tsum (ldjTrace (ls.map Bij.bwd) x) ∧
    flowLogProb (chainRun (ls.map Bij.bwd)) base (chainRun ((ls.map Bij.fwd).reverse) u).1
      = base u - (chainRun ((ls.map Bij.fwd).reverse) u).2 := by
  constructor
  · unfold flowLogProb; rw [chainRun_ldj_sum]
  · unfold flowLogProb
    rw [(compose_inverse ls u).2, (compose_ldj ls u).2.2.1, sub_eq_add_neg]

end Compose

/-- Non-vacuity: a RealNVP1d-like stack (coupling, batch-norm, reversed coupling) over ℝ
(`exStack`, `Lemmas/FlowsExamples.lean`), a MAF-like stack on `Fin 2 → ℝ` (`exMafStack`) and a
`CouplingBlock2d`-like block with squeeze / channel-wise coupling / un-squeeze (`exBlock`). -/
example (x : Nat → ℝ) := compose_inverse exStack x
example (x : Nat → ℝ) := compose_ldj exStack x
example (x u : Nat → ℝ) := flow_log_prob exStack (fun z => -(z 0 * z 0)) x u

example (x : Fin 2 → ℝ) := compose_inverse exMafStack x

example (x : Nat → ℝ) := multiscale_inverse [(exBlock, exScale), (exBlock, exScale)] exBlock x

end Deeprob.Flows
