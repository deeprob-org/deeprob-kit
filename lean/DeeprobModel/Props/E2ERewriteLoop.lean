import DeeprobModel.Props.E2ECirc
import DeeprobModel.Oblig.Struct5Rewrite
/-
End-to-end corollary for `structure.marginalize` (C10), stated about the PASS skeleton extracted by tools/listprog.py,
`Gen.S5margPassLoop` (fragment `structure.marginalize.loop`).  `mgLoopMarginalize` is `E2E.mgGenMarginalize` with the hand-written fold
`Struct4.margPassGen` replaced by the generated skeleton (walked over the table in storage order, update = `Struct4.genStep`).

PARTIAL (see `Oblig/Struct5Rewrite.lean`): the instance of the skeleton covers the traversal, the initial dictionary, one update per
visited node and the `None` answer of `topological_order`; the read / write locality and the link between the generated
`topological_order` and the storage order are not composed in, and `prune` is the modelled `pruneNet` (its loop body is not
extracted).  The other theorems about `marginalize` of `Props/E2ECirc.lean` (`e2e_marginalize_rows / _total / _shape`) transfer by the same rewriting
(`mgLoopMarginalize_eq`).
-/
namespace Deeprob.E2ERewriteLoop
open Deeprob Deeprob.Net Deeprob.E2E

/-- the first pass of `marginalize` as the GENERATED skeleton renders it (`none`: `topological_order` returned `None`) -/
def loopMargPass {α : Type} (keep : List Nat) (net : Net α) (rootNode : NNode α) : Option (Net α × List (Option Nat)) :=
  Gen.S5margPassLoop (N := NNode α) (V := Net α × List (Option Nat)) (MAP := Net α × List (Option Nat)) (O := NNode α)
    (R := Net α × List (Option Nat))
    (fun x => x.id) (fun st _ => st) (fun st _ x => Struct4.genStep keep st x) (fun _ => some net.reverse)
    (fun _ => ([], [])) id (fun _ x => x) rootNode

/-- `marginalize(root, keep_scope)` around the generated pieces, with the generated PASS skeleton -/
def mgLoopMarginalize {α : Type} [Zero α] [Add α] [Mul α] (keep : List Nat) (net : Net α) (root : Nat) (rootNode : NNode α) :
    Except String (Net α × List Nat) :=
  match Gen.margGuardChain keep (scopeAt net root) with
  | some k => .error ("reject:" ++ Oblig.StructRewrite.margTag k)
  | none =>
    match margUnsupported net (collect net root) with
    | some why => .error ("unsupported:" ++ why)
    | none =>
      match loopMargPass keep net rootNode with
      | none => .error "cycle"
      | some st =>
        match st.2.getD root none with
        | none => .error "none"
        | some r1 =>
          match pruneNet st.1 r1 with
          | none => .error "cycle"
          | some res => .ok res

theorem mgLoopMarginalize_eq {α : Type} [Zero α] [Add α] [Mul α] (keep : List Nat) (net : Net α) (root : Nat) (rootNode : NNode α) :
    mgLoopMarginalize keep net root rootNode = mgGenMarginalize keep net root := by
  unfold mgLoopMarginalize mgGenMarginalize loopMargPass
  rw [Oblig.Struct5Rewrite.margPassLoop_shape_partial]
  rfl

variable {α : Type} [CommSemiring α]

/-- C10 at DAG level, value — about the extracted PASS skeleton: whenever the generated guards accept
and the generated pass skeleton followed by the modelled `prune` returns a table, its root has, under every evidence in which all
variables outside the kept set are missing, the value the original table has at `root`.  PARTIAL: see the header. -/
theorem e2e_marginalize_loop_partial (keep : List Nat) (net : Net α) (root : Nat) (rootNode : NNode α)
    (hw : WellOrdered net) (hs : NetSumOK net)
    (hn : ∀ (i : Nat) (x : NNode α), net[i]? = some x → MargNodeOK net x)
    (hr : root < net.length) (out : Net α) (order : List Nat)
    (h : mgLoopMarginalize keep net root rootNode = .ok (out, order))
    (e : Ev) (he : ∀ v, v ∉ keep → e v = none) (dens : List α) :
    out ≠ [] ∧ nval e (order.map (fun i => dens.getD i 0)) out (out.length - 1) = nval e dens net root := by
  rw [mgLoopMarginalize_eq] at h
  exact e2e_marginalize keep net root hw hs hn hr out order h e he dens

/-- non-vacuity on `C10w.net` (a DAG with a shared leaf), kept variable 1: the pass skeleton returns a table, and the value statement
applies to it -/
example (rootNode : NNode Rat) : ∀ (x : Ev) (dens : List Rat), ∃ out order,
    mgLoopMarginalize [1] C10w.net 5 rootNode = .ok (out, order) ∧ out ≠ [] ∧
    nval (x.restrict [1]) (order.map (fun i => dens.getD i 0)) out (out.length - 1) = nval (x.restrict [1]) dens C10w.net 5 := by
  intro x dens
  obtain ⟨res, hres⟩ := e2e_marginalize_total [1] C10w.net 5 C10w.wellOrdered (by decide) C10w.accept C10w.leafNoCh
    (by decide) (by decide) mgEx_tableOK
  have h : mgLoopMarginalize [1] C10w.net 5 rootNode = .ok (res.1, res.2) := by rw [mgLoopMarginalize_eq]; exact hres
  obtain ⟨h1, h2⟩ := e2e_marginalize_loop_partial [1] C10w.net 5 rootNode C10w.wellOrdered C10w.sumOK C10w.nodeOK (by decide)
    res.1 res.2 h (x.restrict [1]) (Ev.restrict_out x [1]) dens
  exact ⟨res.1, res.2, h, h1, h2⟩

example : (loopMargPass [1] C10w.net (default : NNode Rat)).map (fun st => st.2) =
    some [none, some 1, some 1, some 3, some 3, some 5] := by decide +kernel

end Deeprob.E2ERewriteLoop
