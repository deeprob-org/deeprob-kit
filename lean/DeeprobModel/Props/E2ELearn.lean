import DeeprobModel.Oblig.Struct3Learn
import DeeprobModel.Oblig.Struct4Learn
import DeeprobModel.Props.C05Term
import DeeprobModel.Oblig.Struct3Cnet
import DeeprobModel.Oblig.Struct4Cnet
import DeeprobModel.Props.C18
import DeeprobModel.Props.C18Learn
import DeeprobModel.Oblig.Struct4CltFit
import DeeprobModel.Oblig.StructCltFit
import DeeprobModel.Props.C11
/-
End-to-end corollaries, learners: the property theorems of `Props/*.lean` stated about machines whose iteration is
assembled from the definitions the translator extracts from the source, by composing the "as coded" obligations
(`Oblig/*.lean`) with the property theorems about the hand-written model.  Per section, what is generated and what is not:

* C04 / C05, `learn_spn` (/repo/deeprob/spn/learning/learnspn.py).  `genStep` is one iteration of `while tasks:` in which
  the operation is chosen by the GENERATED cascade `Gen.S4selectOp` on the record `toS3 t` with
  `task.data.shape = (len rows, len scope)`; SPLIT_ROWS / SPLIT_COLS slice with the GENERATED `Gen.S3splitRowsSlices` /
  `Gen.S3splitColsScopes`, test `Gen.S3learnRowsSingle` / `Gen.S3learnColsSingle`, re-queue the GENERATED records
  `Gen.S3learnRowsRequeue` / `Gen.S3learnColsRequeue` with the deque method named by `Gen.S3learn…RequeueAt`, create the node
  with the GENERATED weights `Gen.S3splitRowsWeights` and push the GENERATED sub-tasks; REM_FEATURES pushes the GENERATED
  record `Gen.S3learnRemSubtask`; the initial deque holds the GENERATED record `Gen.S3learnInitial`.  Not generated, taken
  from the model verbatim: the bookkeeping `attach` (new node gets the next index, `task.parent.children.append(node)`,
  sub-tasks pushed at the back), the CREATE_LEAF / SPLIT_NAIVE branches (the fragments `Gen.S3learnLeaf` / `Gen.S3learnNaive`
  only name the functions called), the three "the script does not answer the question" errors, and the oracle reading of
  `np.var` / the splitters.
* C18, `BinaryCNet.log_likelihood` (/repo/deeprob/spn/structure/cnet.py).  Generated: the OR-node part of one iteration of the
  routing loop (`Gen.S3cnetOrStep`), the position of the cut variable (`Gen.S3cnetNodeIdx`), the start (`Gen.S3cnetInit`).
  Not generated: the loop around it (only the string `Gen.S3cnetPop`) and the leaf branch (only the strings
  `Gen.S3cnetLeafAdds`).  `genCnetRun` is that loop written out: it carries the COLUMN indices next to the row indices, as
  the code does, and reads the cut value BY COLUMN POSITION — the model `cnetRun` reads the cut variable by name and carries
  no columns.  `genCnetRun_eq`: the two agree on networks whose children's scopes are the parent's scope with the cut
  variable erased (`CNetAligned`), started with `col_indices = scope`.
* C18, the learners `BinaryCNet.fit`, `learn_cnet_bd`, `learn_cnet_bic` (/repo/deeprob/spn/learning/cnet_bayesian.py).
  Generated: the body of one iteration of `while node_stack:` of each learner, executed symbolically (`Gen.S4cnetFitStep`,
  `Gen.S4cnetBdStep`, `Gen.S4cnetBicStep`), the initial stack of `fit`, the list of attributes copied from the temporary
  root, the number of candidates and the test under which `select_cand_cuts` returns a scalar.  SCORES are parameters of
  the generated iterations: the machine here reads them from a script of RAW ANSWERS (`ScoreAns`), the model
  (`Model/CnetLearn.lean`) a script of DECISIONS (`Dec.stop` / `Dec.cut v`).  Not generated, taken from the model verbatim:
  the bookkeeping of the node table, the test whether the iteration consults the oracle at all (`consults`), the three
  "the script is not the record of a run" errors.  The obligations cover one iteration; the property theorems are about
  whole runs of the decision-script machine; `genCStep_sim` / `genCRun_sim` / `e2e_cnet_learn_as_coded` close the gap: every
  run of the raw-answer machine is a run of the model on the script of the decisions it took.
* C11, Chow-Liu parameters (prefix `cp`).  Generated: the entry formulas of `estimate_priors_joints`, the entry of
  `compute_clt_parameters` (`Gen.S4cltParam`) and of `compute_mutual_information` (`Gen.S4mutualInfo`).  Not generated: the
  counts `np.dot(data.T, data)` (`CltFit.ones`, `CltFit.dot`: model), `maximum_spanning_tree` (SciPy; its result is
  checked), `message_passing` (`Clt.value`: model, tied to the source elsewhere).
-/
set_option linter.unusedSectionVars false
namespace Deeprob.E2E

section learnSpn
open Deeprob Deeprob.Learn Deeprob.LearnTerm Deeprob.Struct3 Deeprob.Struct4

/-- the weights returned by the GENERATED `split_rows_clusters`, as the exact pairs the model stores -/
def genWeights (rows : List Nat) (labels : List Int) : List (Nat × Nat) :=
  (Gen.S3splitRowsWeights rows labels).map (fun p => (p.1.toNat, p.2.toNat))

/-- the GENERATED selection cascade on the popped task -/
def genSelect (cfg : Cfg) (t : Task) (zv : List Bool) : Gen.S4OperationKind :=
  Gen.S4selectOp (toS3 t) ((t.rows.length : Int), (t.scope.length : Int)) zv (cfg.minRows : Int) (cfg.minCols : Int)

/-- one iteration of `while tasks:` assembled from the GENERATED pieces (see the header) -/
def genStep (cfg : Cfg) (s : St) : Except String St :=
  match s.queue with
  | [] => .ok s
  | t :: q =>
    match s.script with
    | .zeroVar pos :: sc =>
      if pos.any (fun i => decide (t.scope.length ≤ i)) then .error "zero_var position out of range" else
      let zv := zvMask pos t.scope.length
      match genSelect cfg t zv with
      | .SPLIT_NAIVE => .ok (attach s t q sc { kind := .naive, scope := t.scope, rows := t.rows } none [])
      | .CREATE_LEAF => .ok (attach s t q sc { kind := .leaf, scope := t.scope, rows := t.rows } none [])
      | .REM_FEATURES =>
          .ok (attach s t q sc
            { kind := .prod, scope := t.scope, rows := t.rows, children := [s.size + 1],
              parts := [selectBy zv t.scope true, selectBy zv t.scope false] }
            (some { kind := .naive, scope := selectBy zv t.scope true, rows := t.rows })
            [ofS3 (Gen.S3learnRemSubtask (toS3 t) (q.map toS3) s.size t.rows (selectBy zv t.scope false))])
      | .SPLIT_ROWS =>
          match sc with
          | .rows labels :: sc' =>
            if labels.length ≠ t.rows.length then .error "rows answer: wrong number of labels" else
            let slices := Gen.S3splitRowsSlices t.rows labels
            if Gen.S3learnRowsSingle slices then
              .ok { s with queue := requeue (Gen.S3learnRowsRequeueAt == "appendleft") q
                                      (ofS3 (Gen.S3learnRowsRequeue (toS3 t))),
                           script := sc' }
            else
              .ok (attach s t q sc'
                { kind := .sum, scope := t.scope, rows := t.rows, weights := genWeights t.rows labels, parts := slices } none
                ((Gen.S3learnRowsSubtasks (toS3 t) s.size slices).map ofS3))
          | _ => .error "expected a rows answer"
      | .SPLIT_COLS =>
          match sc with
          | .cols labels :: sc' =>
            if labels.length ≠ t.scope.length then .error "cols answer: wrong number of labels" else
            let scopes := Gen.S3splitColsScopes t.scope labels t.scope
            if Gen.S3learnColsSingle scopes then
              .ok { s with queue := requeue (Gen.S3learnColsRequeueAt == "appendleft") q
                                      (ofS3 (Gen.S3learnColsRequeue (toS3 t))),
                           script := sc' }
            else
              .ok (attach s t q sc' { kind := .prod, scope := t.scope, rows := t.rows, parts := scopes } none
                ((Gen.S3learnColsSubtasks (toS3 t) s.size (scopes.map (fun _ => t.rows)) scopes).map ofS3))
          | _ => .error "expected a cols answer"
    | _ => .error "expected a zero_var answer"

/-- `while tasks:` with fuel, counting the iterations — `LearnTerm.runCount` with the generated iteration -/
def genRunCount (cfg : Cfg) : Nat → St → Except String (St × Nat)
  | 0, s => .ok (s, 0)
  | f+1, s =>
    match s.queue with
    | [] => .ok (s, 0)
    | _ :: _ => match genStep cfg s with
      | .ok s' => match genRunCount cfg f s' with
        | .ok (s'', n) => .ok (s'', n + 1)
        | .error e => .error e
      | .error e => .error e

/-- `Learn.run` with the generated iteration -/
def genRun (cfg : Cfg) : Nat → St → Except String St
  | 0, s => .ok s
  | f+1, s =>
    match s.queue with
    | [] => .ok s
    | _ :: _ => match genStep cfg s with
      | .ok s' => genRun cfg f s'
      | .error e => .error e

/-- `tmp_node = Product(initial_scope)`; the deque holds the GENERATED initial record -/
def genInit (nRows nCols : Nat) (script : List Ans) : St :=
  { nodes := [{ kind := .prod, scope := List.range nCols, rows := List.range nRows, parts := [List.range nCols] }],
    queue := [ofS3 (Gen.S3learnInitial 0 (List.range nRows) (List.range nCols))],
    script := script }

/-- the consultations of iteration `k` on task `t` when the operation is chosen by the GENERATED cascade -/
def genAnswers (cfg : Cfg) (O : Oracle) (k : Nat) (t : Task) : List Ans :=
  match genSelect cfg t (zvMask (O.zv k t) t.scope.length) with
  | .SPLIT_ROWS => [.zeroVar (O.zv k t), .rows (O.rows k t)]
  | .SPLIT_COLS => [.zeroVar (O.zv k t), .cols (O.cols k t)]
  | _ => [.zeroVar (O.zv k t)]

/-- the script a splitter-level oracle produces while it feeds the GENERATED machine -/
def genTranscript (cfg : Cfg) (O : Oracle) : Nat → Nat → St → List Ans
  | 0, _, _ => []
  | n+1, k, s =>
    match s.queue with
    | [] => []
    | t :: _ =>
      match genStep cfg { s with script := genAnswers cfg O k t } with
      | .ok s' => genAnswers cfg O k t ++ genTranscript cfg O n (k+1) s'
      | .error _ => genAnswers cfg O k t

/-- the generated weights are the model's `weightsOf` (`weightsOf_as_coded` read backwards: the obligation compares
after a cast to `Int × Int`) -/
theorem genWeights_eq (rows : List Nat) (labels : List Int) :
    genWeights rows labels = weightsOf (slicesOf labels rows) rows.length := by
  unfold genWeights
  rw [← weightsOf_as_coded, List.map_map]
  exact (List.map_congr_left fun p _ => by simp).trans (List.map_id _)

theorem opOf_genSelect (cfg : Cfg) (t : Task) (zv : List Bool) : opOf (genSelect cfg t zv) = selectOp cfg t zv :=
  (selectOp_as_coded cfg t zv).symm

/-- the iteration assembled from the generated pieces IS the model's `step` (for the
re-queue discipline the source uses, `appendleft` = `front`).  This is the case analysis over the selected operation
that composes `selectOp_as_coded`, `step_splitRows_as_coded`, `step_splitCols_as_coded`, `step_remFeatures_as_coded`,
`weightsOf_as_coded` and `requeue_side_as_coded`; the branches no obligation covers (CREATE_LEAF, SPLIT_NAIVE, the
error exits) are identical text in both machines. -/
theorem e2e_step_as_coded (cfg : Cfg) (hf : cfg.front = true) (s : St) : genStep cfg s = step cfg s := by
  obtain ⟨nodes, queue, script⟩ := s
  -- without a popped task and a `zero_var` answer in range the two machines are the same text
  rcases queue with _ | ⟨t, q⟩
  · rfl
  rcases script with _ | ⟨pos | _ | _, sc⟩
  pick_goal 2
  · cases hpos : pos.any (fun i => decide (t.scope.length ≤ i))
    swap
    · simp only [genStep, step, hpos, if_true]
    have hsel := opOf_genSelect cfg t (zvMask pos t.scope.length)
    cases hg : genSelect cfg t (zvMask pos t.scope.length) <;> rw [hg] at hsel <;>
      simp only [genStep, hpos, hg, Bool.false_eq_true, if_false]
    · exact (step_remFeatures_as_coded cfg _ t q pos sc rfl rfl hpos hsel.symm).1.symm
    · simp only [step, hpos, ← hsel, opOf, Bool.false_eq_true, if_false]
    · simp only [step, hpos, ← hsel, opOf, Bool.false_eq_true, if_false]
    · -- SPLIT_ROWS: on a `rows` answer of the right length `step_splitRows_as_coded`, otherwise the same error
      rcases sc with _ | ⟨_ | labels | _, sc'⟩
      pick_goal 3
      · by_cases hl : labels.length = t.rows.length
        · rw [(step_splitRows_as_coded cfg _ t q pos labels sc' rfl rfl hpos hsel.symm hl).1]
          have h1 : (Gen.S3learnRowsRequeueAt == "appendleft") = true := by decide
          simp only [hl, ne_eq, not_true_eq_false, if_false, genWeights_eq, hf, h1, requeue, if_true,
            ← slicesOf_as_coded]
        · simp only [step, hpos, ← hsel, opOf, hl, ne_eq, not_false_eq_true, if_true, Bool.false_eq_true, if_false]
      all_goals simp only [step, hpos, ← hsel, opOf, Bool.false_eq_true, if_false]
    · -- SPLIT_COLS, likewise
      rcases sc with _ | ⟨_ | _ | labels, sc'⟩
      pick_goal 4
      · by_cases hl : labels.length = t.scope.length
        · rw [(step_splitCols_as_coded cfg _ t q pos labels sc' rfl rfl hpos hsel.symm hl).1]
          have h1 : (Gen.S3learnColsRequeueAt == "appendleft") = true := by decide
          simp only [hl, ne_eq, not_true_eq_false, if_false, hf, h1, requeue, if_true]
        · simp only [step, hpos, ← hsel, opOf, hl, ne_eq, not_false_eq_true, if_true, Bool.false_eq_true, if_false]
      all_goals simp only [step, hpos, ← hsel, opOf, Bool.false_eq_true, if_false]
  all_goals rfl

/-- non-vacuity of `e2e_step_as_coded`: on the root task of a 6 × 3 data set both machines perform the row split 4 + 2 -/
example : genStep ⟨2, 2, true⟩ (genInit 6 3 [.zeroVar [], .rows [0, 0, 1, 0, 1, 0]])
    = step ⟨2, 2, true⟩ (init 6 3 [.zeroVar [], .rows [0, 0, 1, 0, 1, 0]]) :=
  e2e_step_as_coded ⟨2, 2, true⟩ rfl _

theorem genRunCount_eq (cfg : Cfg) (hf : cfg.front = true) : ∀ (n : Nat) (s : St),
    genRunCount cfg n s = runCount cfg n s
  | 0, s => rfl
  | n+1, s => by simp only [genRunCount, runCount, e2e_step_as_coded cfg hf s, genRunCount_eq cfg hf n]; rfl

theorem genRun_eq (cfg : Cfg) (hf : cfg.front = true) : ∀ (n : Nat) (s : St), genRun cfg n s = run cfg n s
  | 0, s => rfl
  | n+1, s => by simp only [genRun, run, e2e_step_as_coded cfg hf s, genRun_eq cfg hf n]; rfl

/-- the initial state (`learn_loop_as_coded`) -/
theorem genInit_eq (nRows nCols : Nat) (script : List Ans) : genInit nRows nCols script = init nRows nCols script := rfl

theorem genAnswers_eq (cfg : Cfg) (O : Oracle) (k : Nat) (t : Task) : genAnswers cfg O k t = O.answers cfg k t := by
  unfold genAnswers Oracle.answers
  rw [← opOf_genSelect]
  cases genSelect cfg t (zvMask (O.zv k t) t.scope.length) <;> rfl

theorem genTranscript_eq (cfg : Cfg) (hf : cfg.front = true) (O : Oracle) : ∀ (n k : Nat) (s : St),
    genTranscript cfg O n k s = O.transcript cfg n k s
  | 0, _, _ => rfl
  | n+1, k, ⟨nodes, [], sc⟩ => rfl
  | n+1, k, ⟨nodes, t :: q, sc⟩ => by
    simp only [genTranscript, Oracle.transcript, e2e_step_as_coded cfg hf, genAnswers_eq,
      genTranscript_eq cfg hf O n (k+1)]
    rfl

/-- C04/C05, one iteration: from a state with a non-empty deque, on every proper answer to the
questions the iteration asks, the GENERATED iteration succeeds and the termination measure
`Σ_{pending tasks} (5·area − 4 + phase)` strictly decreases.  `cfg.front = true` says that the machine re-queues at the
front, which is what the source does (`Gen.S3learn…RequeueAt = "appendleft"`, `requeue_side_as_coded`). -/
theorem e2e_learn_step (cfg : Cfg) (hf : cfg.front = true) (s : St) (t : Task) (q : List Task)
    (hq : s.queue = t :: q) (hp : ProperHead cfg t s.script) :
    ∃ s', genStep cfg s = .ok s' ∧ measure s' < measure s := by
  rw [e2e_step_as_coded cfg hf s]
  exact step_proper_decreases cfg s t q hq hp

/-- `ProperHead` itself only depends on the model through the selected operation, which is the generated one -/
theorem properHead_gen (cfg : Cfg) (t : Task) (pos : List Nat) (sc : List Ans) :
    ProperHead cfg t (.zeroVar pos :: sc) ↔
      (ProperAns t (.zeroVar pos) ∧ ProperNext t (opOf (genSelect cfg t (zvMask pos t.scope.length))) sc) := by
  rw [opOf_genSelect]; rfl

/-- non-vacuity: the root task of a 6 × 3 data set; the generated iteration performs the row split 4 + 2 -/
example : ∃ s', genStep ⟨2, 2, true⟩ (genInit 6 3 [.zeroVar [], .rows [0, 0, 1, 0, 1, 0]]) = .ok s' ∧
    (measure (genInit 6 3 [.zeroVar [], .rows [0, 0, 1, 0, 1, 0]]) = 87 ∧ measure s' = 86 ∧
     sumView s' 1 = [] ∧ (s'.node 1).weights = [(4, 6), (2, 6)] ∧ s'.queue.map (·.rows) = [[0, 1, 3, 5], [2, 4]]) :=
  exists_ok_of_check _ _ (by decide +kernel)

/-- C04/C05, termination on a script: if the first `B` iterations find their questions
answered properly in the script (`ProperRun`: a hypothesis about the SCRIPT — kinds and lengths of the answers — along the
run; it mentions the machine only to know which task is popped next, and the two machines coincide), then with any fuel
`≥ B` the GENERATED machine returns with an empty deque after `k ≤ B` iterations: it neither exhausts the script, nor
raises, nor is cut off by the fuel. -/
theorem e2e_learn_terminates (cfg : Cfg) (hf : cfg.front = true) (nRows nCols : Nat) (script : List Ans) (fuel : Nat)
    (hp : ProperRun cfg (B nRows nCols cfg) (genInit nRows nCols script)) (hfuel : B nRows nCols cfg ≤ fuel) :
    ∃ s k, genRunCount cfg fuel (genInit nRows nCols script) = .ok (s, k) ∧
      genRun cfg fuel (genInit nRows nCols script) = .ok s ∧ s.queue = [] ∧ k ≤ B nRows nCols cfg := by
  rw [genRunCount_eq cfg hf, genRun_eq cfg hf, genInit_eq]
  exact learn_terminates cfg nRows nCols script fuel hp hfuel

/-- non-vacuity, and the bound is attained: on a 4 × 1 data set the adversarial oracle `tightScript 4` makes the GENERATED
loop run exactly `B 4 1 = 17` iterations -/
example : ProperRun ⟨1, 1, true⟩ (B 4 1 ⟨1, 1, true⟩) (genInit 4 1 (tightScript 4)) ∧
    ∃ p, genRunCount ⟨1, 1, true⟩ 17 (genInit 4 1 (tightScript 4)) = .ok p ∧ (p.2 = 17 ∧ p.1.queue = []) :=
  by rw [genRunCount_eq _ rfl, genInit_eq]; exact ⟨tightScript_four_run.1, tightScript_four_run.2.2⟩

/-- C04 + C05, total correctness: a machine whose iteration is the GENERATED one, started on
the GENERATED initial record and fed by ANY splitter-level oracle whose answers have the right shape, halts: with fuel
`B = 5·max(nRows,1)·max(nCols,1) − 3` (or any larger fuel) it returns a state with an empty deque after `k ≤ B`
iterations, having consumed the oracle's transcript exactly, and the returned structure is a valid circuit over all
columns, learned on all rows, in which the weights of EVERY sum node are the row proportions of the children they are
attached to, positive and summing to one, with all rows routed (`FinalSpec`). -/
theorem e2e_learn_total (cfg : Cfg) (hf : cfg.front = true) (nRows nCols : Nat) (hr : 0 < nRows) (hc : 0 < nCols)
    (O : Oracle) (hO : O.Proper) :
    ∃ script s k, script = genTranscript cfg O (B nRows nCols cfg) 0 (genInit nRows nCols []) ∧
      genRunCount cfg (B nRows nCols cfg) (genInit nRows nCols script) = .ok (s, k) ∧ k ≤ B nRows nCols cfg ∧
      (∀ fuel, B nRows nCols cfg ≤ fuel → genRun cfg fuel (genInit nRows nCols script) = .ok s) ∧
      s.script = [] ∧ FinalSpec nRows nCols s := by
  obtain ⟨script, s, k, h1, h2, h3, h4, _, h6, h7⟩ := learn_total cfg hf nRows nCols hr hc O hO
  refine ⟨script, s, k, ?_, ?_, h3, ?_, h6, h7⟩
  · rw [genTranscript_eq cfg hf, genInit_eq]; exact h1
  · rw [genRunCount_eq cfg hf, genInit_eq]; exact h2
  · intro fuel hfu; rw [genRun_eq cfg hf, genInit_eq]; exact h4 fuel hfu

/-- the C05 conclusion spelled out: in the tree the GENERATED machine returns, for every sum node, weight `i` is the
exact pair `(|rows routed to child i|, |rows of the sum|)`; as rationals the weights are positive and add up to one -/
theorem e2e_learn_final_proportions (cfg : Cfg) (hf : cfg.front = true) (nRows nCols : Nat) (hr : 0 < nRows)
    (hc : 0 < nCols) (O : Oracle) (hO : O.Proper) :
    ∃ s k t, genRunCount cfg (B nRows nCols cfg)
        (genInit nRows nCols (genTranscript cfg O (B nRows nCols cfg) 0 (genInit nRows nCols []))) = .ok (s, k) ∧
      k ≤ B nRows nCols cfg ∧ s.queue = [] ∧ result s = some t ∧
      ∀ r sc ws ch, Tree.sum r sc ws ch ∈ t.subtrees →
        ws = ch.map (fun c => (c.rows.length, r.length)) ∧
        (∀ w ∈ ws, (0 : ℚ) < (w.1 : ℚ) / (w.2 : ℚ)) ∧
        (ws.map (fun w => (w.1 : ℚ) / (w.2 : ℚ))).sum = 1 := by
  obtain ⟨script, s, k, h1, h2, h3, _, _, hq, t, ht, _, _, _, _, _, hw⟩ :=
    e2e_learn_total cfg hf nRows nCols hr hc O hO
  subst h1
  exact ⟨s, k, t, h2, h3, hq, ht, hw⟩

/-- non-vacuity of `e2e_learn_final_proportions`: the proper splitter behaviour `exOracle` on a 6 × 3 data set -/
example : ∃ s k t, genRunCount ⟨2, 2, true⟩ (B 6 3 ⟨2, 2, true⟩)
        (genInit 6 3 (genTranscript ⟨2, 2, true⟩ exOracle (B 6 3 ⟨2, 2, true⟩) 0 (genInit 6 3 []))) = .ok (s, k) ∧
      k ≤ B 6 3 ⟨2, 2, true⟩ ∧ s.queue = [] ∧ result s = some t ∧
      ∀ r sc ws ch, Tree.sum r sc ws ch ∈ t.subtrees →
        ws = ch.map (fun c => (c.rows.length, r.length)) ∧
        (∀ w ∈ ws, (0 : ℚ) < (w.1 : ℚ) / (w.2 : ℚ)) ∧
        (ws.map (fun w => (w.1 : ℚ) / (w.2 : ℚ))).sum = 1 :=
  e2e_learn_final_proportions ⟨2, 2, true⟩ rfl 6 3 (by decide) (by decide) exOracle exOracle_proper

/-- non-vacuity of `e2e_learn_total`: the splitter behaviour `exOracle` of `Props/C05Term.lean` on a 6 × 3 data set is
proper; the GENERATED machine runs 12 ≤ B = 87 iterations and returns
`S[3/6:L(rows=0 1 2), 3/6:S[1/3:L(rows=4), 2/3:P(L(rows=3 5;scope=0), L(rows=3 5;scope=1 2))]]` -/
example : exOracle.Proper ∧ 0 < 6 ∧ 0 < 3 ∧
    ∃ p, genRunCount ⟨2, 2, true⟩ (B 6 3 ⟨2, 2, true⟩)
          (genInit 6 3 (genTranscript ⟨2, 2, true⟩ exOracle (B 6 3 ⟨2, 2, true⟩) 0 (genInit 6 3 []))) = .ok p ∧
      (p.1.queue = [] ∧ p.1.script = [] ∧ p.2 = 12 ∧
       p.1.nodes.map (·.kind) = [.prod, .sum, .leaf, .sum, .leaf, .prod, .leaf, .leaf] ∧
       sumView p.1 1 = [((3, 6), [0, 1, 2]), ((3, 6), [3, 4, 5])] ∧
       sumView p.1 3 = [((1, 3), [4]), ((2, 3), [3, 5])] ∧ (p.1.node 5).children = [6, 7]) :=
  ⟨exOracle_proper, by decide, by decide,
   by rw [genRunCount_eq _ rfl, genTranscript_eq _ rfl, genInit_eq, genInit_eq]; exact exOracle_run⟩

end learnSpn

section cnetEval
open Deeprob Deeprob.Struct3

section eval
variable {α : Type} [Zero α] [One α] [Add α] [Mul α]

/-- the routing loop of `BinaryCNet.log_likelihood` (linear domain) with the GENERATED OR-node iteration: the work list
holds (node, `row_indices`, `col_indices`); the cut column is read by position -/
def genCnetRun (rows : Nat → Ev) : Nat → List (CNet α × List Nat × List Nat) → List α → List α
  | 0, _, acc => acc
  | _, [], acc => acc
  | fuel+1, (node, idxs, cols) :: q, acc => match node with
    | .leaf _ f => genCnetRun rows fuel q (mulAt acc idxs (fun r => f (rows r)))
    | .or s v w0 w1 c0 c1 =>
      let nodeIdx := Gen.S3cnetNodeIdx s v
      let st := Gen.S3cnetOrStep idxs cols nodeIdx (idxs.map (fun r => cutVal (rows r (cols.getD nodeIdx 0))))
      genCnetRun rows fuel (q ++ st.1.map (fun p => (if p.1 = 0 then c0 else c1, p.2.1, p.2.2)))
        (st.2.foldl (fun a p => mulAt a p.1 (fun _ => if p.2 = 0 then w0 else w1)) acc)

/-- `BinaryCNet.likelihood(x)` for a batch of `n` rows with `m` columns, started as the code starts it
(`Gen.S3cnetInit`: rows `arange(n)`, columns `arange(m)`, `log_likes = zeros`) -/
def genCnetBatch (rows : Nat → Ev) (n m : Nat) (c : CNet α) : List α :=
  genCnetRun rows c.size [(c, (Gen.S3cnetInit n m).1, (Gen.S3cnetInit n m).2)] (List.replicate n 1)

/-- the structural fact that makes reading by position and reading by name agree: at every OR node the cut variable is
in the scope and both children are over the scope with the cut variable erased (as lists) — what `cnetWellFormedB`
checks and what the learners produce (`del new_scope[best_or_idx]`) -/
def CNetAligned : CNet α → Prop
  | .leaf _ _ => True
  | .or s v _ _ c0 c1 => v ∈ s ∧ c0.scope = s.erase v ∧ c1.scope = s.erase v ∧ CNetAligned c0 ∧ CNetAligned c1

/-- **linking lemma**: the loop with the generated iteration and column bookkeeping is the model's loop, as long as
every queued node is aligned and queued with `col_indices = scope` (`cnetRun_or_as_coded` + `cols_aligned`, carried
through the whole run) -/
theorem genCnetRun_eq (rows : Nat → Ev) : ∀ (fuel : Nat) (q : List (CNet α × List Nat × List Nat)) (acc : List α),
    (∀ p ∈ q, p.2.2 = p.1.scope ∧ CNetAligned p.1) →
    genCnetRun rows fuel q acc = cnetRun rows fuel (q.map (fun p => (p.1, p.2.1))) acc := by
  intro fuel
  induction fuel with
  | zero => intro q acc _; rfl
  | succ fuel ih =>
    intro q acc hq
    cases q with
    | nil => rfl
    | cons hd q =>
      obtain ⟨node, idxs, cols⟩ := hd
      have hhd := hq (node, idxs, cols) List.mem_cons_self
      have hrest : ∀ p ∈ q, p.2.2 = p.1.scope ∧ CNetAligned p.1 := fun p hp => hq p (List.mem_cons_of_mem _ hp)
      cases node with
      | leaf s f =>
        simp only [genCnetRun, List.map_cons, cnetRun]
        exact ih q _ hrest
      | or s v w0 w1 c0 c1 =>
        obtain ⟨hcols, hv, h0, h1, ha0, ha1⟩ := hhd
        simp only [CNet.scope] at hcols
        subst hcols
        have hal := cols_aligned cols v hv
        simp only [List.map_cons]
        rw [cnetRun_or_as_coded rows fuel cols v w0 w1 c0 c1 idxs _ acc cols (Gen.S3cnetNodeIdx cols v)]
        simp only [genCnetRun, hal.1]
        rw [ih]
        · simp only [List.map_append, List.map_map, Function.comp_def]
        · intro p hp
          rcases List.mem_append.1 hp with hp | hp
          · exact hrest p hp
          · obtain ⟨x, hx, rfl⟩ := List.mem_map.1 hp
            have hx2 := hal.2 idxs _ x hx
            by_cases hx0 : x.1 = 0
            · simp only [hx0, if_true]; exact ⟨by rw [hx2, h0], ha0⟩
            · simp only [hx0, if_false]; exact ⟨by rw [hx2, h1], ha1⟩

theorem genCnetBatch_eq (rows : Nat → Ev) (n m : Nat) (c : CNet α) (hs : c.scope = List.range m) (ha : CNetAligned c) :
    genCnetBatch rows n m c = cnetBatch rows n c := by
  unfold genCnetBatch
  rw [genCnetRun_eq rows c.size _ _ (by
    intro p hp
    simp only [List.mem_singleton] at hp
    subst hp
    exact ⟨by simp only [Gen.S3cnetInit, hs], ha⟩)]
  rfl

end eval

/-- what the Boolean validator accepts is aligned -/
theorem cnetAligned_of_wellFormedB {α : Type} [Zero α] [One α] [Add α] [Mul α] [DecidableEq α] [LT α] [DecidableLT α]
    (dom : Nat → Nat) : (c : CNet α) → cnetWellFormedB dom c = true → CNetAligned c
  | .leaf _ _, _ => trivial
  | .or s v w0 w1 c0 c1, h => by
      simp only [cnetWellFormedB, Bool.and_eq_true, decide_eq_true_eq, beq_iff_eq, List.contains_eq_mem] at h
      obtain ⟨⟨⟨⟨⟨⟨⟨⟨⟨_, hv⟩, _⟩, e0⟩, e1⟩, _⟩, _⟩, _⟩, r0⟩, r1⟩ := h
      exact ⟨hv, e0, e1, cnetAligned_of_wellFormedB dom c0 r0, cnetAligned_of_wellFormedB dom c1 r1⟩

section semiring
variable {α : Type} [CommSemiring α]

/-- C18: for every aligned OR tree over the columns `0 .. m-1`, every batch and every row index
`r < n`, entry `r` of what the routing loop with the GENERATED OR iteration accumulates is the recursive semantics —
the product of the branch weights selected by the row at the cut variables times the value of the leaf reached. -/
theorem e2e_cnet_eval (rows : Nat → Ev) (n m : Nat) (c : CNet α) (hs : c.scope = List.range m) (ha : CNetAligned c)
    (r : Nat) (hr : r < n) :
    (genCnetBatch rows n m c)[r]? = some (cnetEval (rows r) c) := by
  rw [genCnetBatch_eq rows n m c hs ha]
  exact C18.cnet_eval rows n c r hr

/-- C18: the values the loop with the GENERATED iteration returns on the complete rows of
the scope of a well-formed, aligned network sum to one (each row evaluated as a batch of one). -/
theorem e2e_cnet_normalised (dom : Nat → Nat) (m : Nat) (c : CNet α) (hs : c.scope = List.range m) (ha : CNetAligned c)
    (hwf : C18.CNet.WF dom c) (e : Ev) (hm : Missing c.scope e) :
    sumOver dom c.scope e (fun x => (genCnetBatch (fun _ => x) 1 m c).getD 0 0) = 1 := by
  rw [← C18.cnet_normalised dom c hwf e hm]
  apply sumOver_congr; intro x _
  have := e2e_cnet_eval (fun _ => x) 1 m c hs ha 0 (by omega)
  rw [List.getD_eq_getElem?_getD, this]; rfl

end semiring

/-! non-vacuity: the network of `Props/C18.lean` (cut on X0, then on X2 in the left branch) -/

theorem exNet_aligned : CNetAligned C18.exNet := cnetAligned_of_wellFormedB C18.exDom C18.exNet C18.exNet_wellFormedB

example : C18.exNet.scope = List.range 3 ∧ CNetAligned C18.exNet ∧
    genCnetBatch C18.exRows 3 3 C18.exNet = [1/4 * (2/5) * (1/3), 3/4 * (4/5 * (7/10)), 1/4 * (3/5) * (1/2)] :=
  ⟨rfl, exNet_aligned, by rw [genCnetBatch_eq C18.exRows 3 3 C18.exNet rfl exNet_aligned]; decide +kernel⟩

example : (genCnetBatch C18.exRows 3 3 C18.exNet)[1]? = some (cnetEval (C18.exRows 1) C18.exNet) :=
  e2e_cnet_eval C18.exRows 3 3 C18.exNet rfl exNet_aligned 1 (by norm_num)

example : sumOver C18.exDom [0, 1, 2] (fun _ => none) (fun x => (genCnetBatch (fun _ => x) 1 3 C18.exNet).getD 0 0) = 1 :=
  e2e_cnet_normalised C18.exDom 3 C18.exNet rfl exNet_aligned
    (C18.cnetWellFormed_sound C18.exDom C18.exNet C18.exNet_wellFormedB C18.exNet_leavesOK) (fun _ => none) (fun _ _ => rfl)

end cnetEval

section cnetLearn
open Deeprob Deeprob.CnetLearn Deeprob.Struct4

section machine
variable {α : Type} [Field α] [LinearOrder α]

/-- one raw answer of the score computations of an iteration: `v` = `node.scope[best_or_idx]`;
`fit`: `a` = `mean_entropy`, `b` = `max_info_gain` (`c` unused);
`learn_cnet_bd` / `learn_cnet_bic`: `a` = `best_cnet_score`, `b` = `best_left_clt_score`, `c` = `best_right_clt_score` -/
structure ScoreAns (α : Type) where
  v : Nat
  a : α
  b : α
  c : α

/-- state of the raw-answer machine: the node table, the FIFO `node_stack` of (table index, `node_clt_score`) — the score
is carried by the two score-based learners only —, the rest of the script -/
structure GSt (α : Type) where
  nodes : List (Node α)
  queue : List (Nat × α)
  script : List (ScoreAns α)

/-- column `k` of the partition of node `nd`: `col_indices[k]` is the `k`-th entry of the scope -/
def partCol (data : List (List Nat)) (nd : Node α) (k : Int) : List Int :=
  cutcolOf data nd (nd.scope.getD k.toNat 0)

/-- what the GENERATED iteration does with node `nd` (popped with `score`) on the raw answer `ans`: `none` = the node is
left as it is; `some (v, w0, w1, cells)` = `node.or_id`, `node.weights`, and the two new objects as table cells, each
with the score it is queued with -/
def genOutcome (cfg : Cfg) (data : List (List Nat)) (mme : α) (nd : Node α) (score : α) (ans : ScoreAns α) :
    Option (Nat × α × α × List (Node α × α)) :=
  let idx : Int := ((nd.scope.idxOf ans.v : Nat) : Int)
  match cfg.kind with
  | .fit =>
    let G := Gen.S4cnetFitStep (toS4 nd) ([] : List (Gen.S4CNode Unit)) (partCol data nd) nd.par mme
      (cfg.minSamples : Int) (cfg.minFeatures : Int) idx ans.a ans.b
    if G.2.1.isEmpty then none
    else some ((G.2.2.2.1).getD 0, G.2.2.1.getD 0 0, G.2.2.1.getD 1 0,
               G.2.1.map (fun c => (ofS4 (childPar cfg.kind nd.par) c, score)))
  | .bd =>
    let G := Gen.S4cnetBdStep (toS4 nd) nd.par score nd.par ([] : List (Gen.S4CNode Unit × α × α)) (partCol data nd)
      (cfg.nCand : Int) ans.a idx () () ans.b ans.c
    if G.2.1.isEmpty then none
    else some ((G.2.2.2.1).getD 0, G.2.2.1.getD 0 0, G.2.2.1.getD 1 0,
               G.1.map (fun c => (ofS4 c.2.1 { c.1 with clt := none }, c.2.2)))
  | .bic =>
    let G := Gen.S4cnetBicStep (toS4 nd) score nd.par ([] : List (Gen.S4CNode Unit × α)) (partCol data nd)
      (cfg.nCand : Int) ans.a idx () () ans.b ans.c
    if G.2.1.isEmpty then none
    else some ((G.2.2.2.1).getD 0, G.2.2.1.getD 0 0, G.2.2.1.getD 1 0,
               G.1.map (fun c => (ofS4 nd.par { c.1 with clt := none }, c.2)))

/-- one iteration of `while node_stack:` of the learner `cfg.kind`, driven by raw answers -/
def genCStep (cfg : Cfg) (data : List (List Nat)) (mme : α) (s : GSt α) : Except String (GSt α) :=
  match s.queue with
  | [] => .ok s
  | (i, score) :: q =>
    let nd := getN s.nodes i
    if !consults cfg nd.rows.length nd.scope.length then .ok { s with queue := q }
    else if cfg.kind != .fit && Gen.S4selectCandScalar (Gen.S4cnetBdK (toS4 nd) (cfg.nCand : Int)) then
      .error "raises: TypeError ('numpy.int64' object is not iterable): n_cand_cuts == 1"
    else
      match s.script with
      | [] => .error "script exhausted"
      | ans :: sc =>
        if !nd.scope.contains ans.v then .error "the selected variable is not in the scope of the node" else
        match genOutcome cfg data mme nd score ans with
        | none => .ok { s with queue := q, script := sc }
        | some (v, w0, w1, cells) =>
          if cfg.kind != .fit && cells.any (fun c => c.1.rows.isEmpty) then
            .error "the selected variable has an empty side: the score-based learners skip such candidates"
          else
            let id := s.nodes.length
            .ok { nodes := s.nodes.set i { nd with split := some { v := v, w0 := w0, w1 := w1, l := id, r := id + 1 } }
                             ++ cells.map (·.1),
                  queue := q ++ (cells.zipIdx.map (fun c => (id + c.2, c.1.2))),
                  script := sc }

def genCRun (cfg : Cfg) (data : List (List Nat)) (mme : α) : Nat → GSt α → Except String (GSt α)
  | 0, s => .ok s
  | f+1, s =>
    match s.queue with
    | [] => .ok s
    | _ :: _ => match genCStep cfg data mme s with
      | .ok s' => genCRun cfg data mme f s'
      | .error e => .error e

/-- the stack before the loop: the GENERATED `Gen.S4cnetFitInit` (one root over all rows and all columns), queued with
the root's own score `score0` -/
def genCInit (nRows nCols : Nat) (p score0 : α) (script : List (ScoreAns α)) : GSt α :=
  { nodes := (Gen.S4cnetFitInit (nRows : Int) (nCols : Int)).map (ofS4 p), queue := [(0, score0)], script := script }

/-- what the learner returns: the unfolding of cell 0 once the stack is empty; `fit` copies the attributes named by the
GENERATED `Gen.S4cnetFitCopies` from the temporary root — without `"clt"` in that list an unsplit root would lose its
tree (finding F11, DESIGN.md §7) -/
def genCLearn (cfg : Cfg) (data : List (List Nat)) (nCols : Nat) (p score0 mme : α) (script : List (ScoreAns α)) :
    Except String (LTree α) :=
  match genCRun cfg data mme (2 * script.length + 1) (genCInit data.length nCols p score0 script) with
  | .error e => .error e
  | .ok s =>
    if !s.queue.isEmpty then .error "fuel exhausted" else
    if cfg.kind == .fit && !(Gen.S4cnetFitCopies.contains "clt") && (getN s.nodes 0).split.isNone then
      .error "raises: the root was never split and its Chow-Liu tree is not copied (F11)"
    else .ok (CnetLearn.toTree s.nodes s.nodes.length 0)

/-- the generated iterations read the partition only at the selected column, where the column-by-position reading is the
column of `v` when `v` is in the scope -/
theorem partCol_idxOf (data : List (List Nat)) (nd : Node α) (v : Nat) (hv : v ∈ nd.scope) :
    partCol data nd ((nd.scope.idxOf v : Nat) : Int) = cutcolOf data nd v := by
  unfold partCol
  have h := List.idxOf_lt_length_iff.2 hv
  simp [List.getD_eq_getElem?_getD, List.getElem?_eq_getElem h]

/-- the decision the generated iteration takes, as the model's script entry -/
def decOf (cfg : Cfg) (data : List (List Nat)) (mme : α) (nd : Node α) (score : α) (ans : ScoreAns α) : Dec :=
  match genOutcome cfg data mme nd score ans with
  | none => .stop
  | some _ => .cut ans.v

/-- does the generated iteration leave the node as it is? (`fit`: `mean_entropy < min_mean_entropy or max_info_gain <= 0`;
score-based: `not (best_cnet_score > node_clt_score)`) -/
def genStops (cfg : Cfg) (mme score : α) (ans : ScoreAns α) : Bool :=
  match cfg.kind with
  | .fit => decide (ans.a < mme) || decide (ans.b ≤ 0)
  | _ => !decide (score < ans.a)

/-- **closed form of the generated iteration** on a node at which the oracle is consulted (`fitStep_as_coded`,
`bdStep_as_coded`, `bicStep_as_coded` + `partCol_idxOf`): the cut variable, the model's `leftWeight` and its complement, and
the two cells the model's `step` creates, queued with the scores the code queues them with -/
theorem genOutcome_closed (cfg : Cfg) (data : List (List Nat)) (mme : α) (nd : Node α) (score : α) (ans : ScoreAns α)
    (hv : ans.v ∈ nd.scope) (hc : consults cfg nd.rows.length nd.scope.length = true) :
    genOutcome cfg data mme nd score ans =
      if genStops cfg mme score ans then none
      else
        let w0 := leftWeight cfg.kind nd.par (side data ans.v 0 nd.rows).length nd.rows.length
        some (ans.v, w0, 1 - w0,
          [({ rows := side data ans.v 0 nd.rows, scope := nd.scope.erase ans.v, par := childPar cfg.kind nd.par },
             match cfg.kind with | .fit => score | _ => ans.b),
           ({ rows := side data ans.v 1 nd.rows, scope := nd.scope.erase ans.v, par := childPar cfg.kind nd.par },
             match cfg.kind with | .fit => score | _ => ans.c)]) := by
  unfold genOutcome genStops
  cases hk : cfg.kind with
  | fit =>
    simp only
    rw [fitStep_as_coded cfg hk data nd [] ans.v hv mme ans.a ans.b (partCol data nd) (partCol_idxOf data nd ans.v hv)]
    simp only [hc, Bool.not_true, Bool.false_or]
    by_cases hst : (decide (ans.a < mme) || decide (ans.b ≤ 0)) = true
    · simp only [hst, ↓reduceIte, List.isEmpty_nil]
    · simp only [hst, Bool.false_eq_true, ↓reduceIte, cutOf, List.nil_append, List.isEmpty_cons, Option.getD_some,
        List.getD_cons_zero, List.getD_cons_succ, ofS4, List.map_cons, List.map_nil]
  | bd =>
    simp only
    rw [bdStep_as_coded data nd score nd.par [] ans.v hv (cfg.nCand : Int) ans.a ans.b ans.c (partCol data nd)
      (partCol_idxOf data nd ans.v hv)]
    have hsc : nd.scope.length ≠ 1 := by
      unfold consults at hc; simpa [hk] using hc
    by_cases hst : score < ans.a
    · simp only [scoreOutcome, hsc, hst, decide_true, Bool.true_eq_false, or_self, ↓reduceIte, cutOf, List.isEmpty_cons,
        Bool.false_eq_true, Option.getD_some, List.getD_cons_zero, List.getD_cons_succ, ofS4, childPar,
        List.zip_cons_cons, List.zip_nil_right, List.map_cons, List.map_nil, List.nil_append, Bool.not_true]
    · simp only [scoreOutcome, hsc, hst, decide_false, or_true, ↓reduceIte, List.isEmpty_nil, Bool.not_false]
  | bic =>
    simp only
    rw [bicStep_as_coded data nd score [] ans.v hv (cfg.nCand : Int) ans.a ans.b ans.c (partCol data nd)
      (partCol_idxOf data nd ans.v hv)]
    have hsc : nd.scope.length ≠ 1 := by
      unfold consults at hc; simpa [hk] using hc
    by_cases hst : score < ans.a
    · simp only [scoreOutcome, hsc, hst, decide_true, Bool.true_eq_false, or_self, ↓reduceIte, cutOf, List.isEmpty_cons,
        Bool.false_eq_true, Option.getD_some, List.getD_cons_zero, List.getD_cons_succ, ofS4, childPar,
        List.zip_cons_cons, List.zip_nil_right, List.map_cons, List.map_nil, List.nil_append, Bool.not_true]
    · simp only [scoreOutcome, hsc, hst, decide_false, or_true, ↓reduceIte, List.isEmpty_nil, Bool.not_false]

/-- the crash test through the GENERATED `select_cand_cuts` predicate is the model's `candCrash` (`candidates_as_coded`) -/
theorem genCrash_eq (cfg : Cfg) (nd : Node α) :
    (cfg.kind != .fit && Gen.S4selectCandScalar (Gen.S4cnetBdK (toS4 nd) (cfg.nCand : Int)))
      = candCrash cfg nd.scope.length := by
  by_cases hk : cfg.kind = .fit
  · simp [hk, candCrash]
  · rw [(candidates_as_coded cfg hk nd).2.1]
    have : (cfg.kind != Kind.fit) = true := by simpa using hk
    simp [this]

/-- **one iteration**: whenever the raw-answer iteration succeeds, the model's `step` on the decision it took (no entry
when the oracle is not consulted) reaches the same table and the same stack -/
theorem genCStep_sim (cfg : Cfg) (data : List (List Nat)) (mme : α) (s s' : GSt α)
    (h : genCStep cfg data mme s = .ok s') :
    ∃ d : List Dec, ∀ sc : List Dec,
      step cfg data ⟨s.nodes, s.queue.map (·.1), d ++ sc⟩ = .ok ⟨s'.nodes, s'.queue.map (·.1), sc⟩ := by
  obtain ⟨nodes, queue, script⟩ := s
  rcases queue with _ | ⟨⟨i, score⟩, q⟩
  · cases h
    exact ⟨[], fun sc => rfl⟩
  simp only [genCStep, genCrash_eq] at h
  cases hcons : consults cfg (getN nodes i).rows.length (getN nodes i).scope.length
  · -- the oracle is not consulted: the node is popped, no script entry
    simp only [hcons, Bool.not_false, if_true] at h
    cases h
    exact ⟨[], fun sc => by simp only [step, List.map_cons, hcons, Bool.not_false, if_true, List.nil_append]⟩
  cases hcr : candCrash cfg (getN nodes i).scope.length
  swap
  · simp only [hcons, hcr, Bool.not_true, Bool.false_eq_true, if_false, if_true] at h
    cases h
  rcases script with _ | ⟨ans, sc0⟩
  · simp only [hcons, hcr, Bool.not_true, Bool.false_eq_true, if_false] at h
    cases h
  cases hv : (getN nodes i).scope.contains ans.v
  · simp only [hcons, hcr, hv, Bool.not_true, Bool.not_false, Bool.false_eq_true, if_false, if_true] at h
    cases h
  have hv' : ans.v ∈ (getN nodes i).scope := by simpa using hv
  simp only [hcons, hcr, hv, Bool.not_true, Bool.false_eq_true, if_false,
    genOutcome_closed cfg data mme _ score ans hv' hcons] at h
  cases hst : genStops cfg mme score ans
  swap
  · simp only [hst, if_true] at h
    cases h
    exact ⟨[.stop], fun sc => by
      simp only [step, List.map_cons, hcons, hcr, Bool.not_true, Bool.false_eq_true, if_false, List.cons_append,
        List.nil_append]⟩
  simp only [hst, Bool.false_eq_true, if_false, List.any_cons, List.any_nil, Bool.or_false] at h
  cases hem : (cfg.kind != Kind.fit && ((side data ans.v 0 (getN nodes i).rows).isEmpty ||
      (side data ans.v 1 (getN nodes i).rows).isEmpty))
  swap
  · simp only [hem, if_true] at h
    cases h
  simp only [hem, Bool.false_eq_true, if_false] at h
  cases h
  exact ⟨[.cut ans.v], fun sc => by
    simp only [step, List.map_cons, hcons, Bool.not_true, Bool.false_eq_true, ↓reduceIte, hcr, List.cons_append,
      List.nil_append, List.contains_eq_mem, hv', decide_true, hem, List.map_nil, List.zipIdx, zero_add, add_zero,
      List.map_append]⟩

/-- **whole runs**: every successful run of the raw-answer machine is a run of the model on the script of the decisions
taken along it -/
theorem genCRun_sim (cfg : Cfg) (data : List (List Nat)) (mme : α) : ∀ (f : Nat) (s s' : GSt α),
    genCRun cfg data mme f s = .ok s' →
    ∃ ds : List Dec, ∀ sc : List Dec,
      run cfg data f ⟨s.nodes, s.queue.map (·.1), ds ++ sc⟩ = .ok ⟨s'.nodes, s'.queue.map (·.1), sc⟩ := by
  intro f
  induction f with
  | zero => intro s s' h; cases h; exact ⟨[], fun sc => rfl⟩
  | succ f ih =>
    intro s s' h
    obtain ⟨nodes, queue, script⟩ := s
    rcases queue with _ | ⟨hd, q⟩
    · cases h; exact ⟨[], fun sc => rfl⟩
    simp only [genCRun] at h
    cases hs : genCStep cfg data mme ⟨nodes, hd :: q, script⟩ with
    | error e => rw [hs] at h; cases h
    | ok s1 =>
      rw [hs] at h
      obtain ⟨d, hd1⟩ := genCStep_sim cfg data mme _ s1 hs
      obtain ⟨ds, hds⟩ := ih s1 s' h
      refine ⟨d ++ ds, fun sc => ?_⟩
      have h1 := hd1 (ds ++ sc)
      simp only [run, List.map_cons, List.append_assoc] at h1 ⊢
      rw [h1]
      exact hds sc

/-- a finished run of the model does not depend on the fuel, as long as the fuel covers the measure
`|stack| + 2·|script|` (`step_measure`) -/
theorem run_fuel_enough (cfg : Cfg) (data : List (List Nat)) (f : Nat) (s s' : St α)
    (h : run cfg data f s = .ok s') (hq' : s'.queue = []) :
    ∀ F, s.queue.length + 2 * s.script.length ≤ F → run cfg data F s = .ok s' := by
  refine run_induct (motive := fun _ s s' => s'.queue = [] → ∀ F, s.queue.length + 2 * s.script.length ≤ F →
    run cfg data F s = .ok s') ?_ ?_ f s s' h hq'
  · intro _ s _ hq F _
    exact run_nil hq
  · intro _ s s1 s' i q hq hs _ ih hq' F hF
    have hm := step_measure cfg data s s1 i q hq hs
    rw [hq, List.length_cons] at hF hm
    cases F with
    | zero => omega
    | succ F =>
      unfold run
      rw [hq]
      simp only [hs]
      exact ih hq' F (by omega)

/-- whatever the raw-answer machine with the GENERATED iterations returns, the model's
`learn` returns on the script of the decisions taken (`keepRootClt = true` is the model's name for `"clt"` being among
the copied attributes, `fit_frame_as_coded`) -/
theorem e2e_cnet_learn_as_coded (cfg : Cfg) (hkeep : cfg.keepRootClt = true) (data : List (List Nat)) (nCols : Nat)
    (p score0 mme : α) (script : List (ScoreAns α)) (t : LTree α)
    (h : genCLearn cfg data nCols p score0 mme script = .ok t) :
    ∃ ds : List Dec, learn cfg data nCols p ds = .ok t := by
  unfold genCLearn at h
  cases hr : genCRun cfg data mme (2 * script.length + 1) (genCInit data.length nCols p score0 script) with
  | error e => rw [hr] at h; cases h
  | ok s =>
    obtain ⟨nodes, queue, sc⟩ := s
    rcases queue with _ | ⟨hd, q⟩
    swap
    · rw [hr] at h; cases h
    have hcop : (Gen.S4cnetFitCopies.contains "clt") = true := by decide
    simp only [hr, hcop, List.isEmpty_nil, Bool.not_true, Bool.and_false, Bool.false_and, Bool.false_eq_true, if_false,
      Except.ok.injEq] at h
    obtain ⟨ds, hds⟩ := genCRun_sim cfg data mme _ _ _ hr
    have h0 : run cfg data (2 * script.length + 1) (init data.length nCols p ds) = .ok ⟨nodes, [], []⟩ := by
      simpa [genCInit, init, Gen.S4cnetFitInit, ofS4] using hds []
    refine ⟨ds, ?_⟩
    unfold learn learnSt
    rw [run_fuel_enough cfg data _ _ _ h0 rfl (2 * ds.length + 1) (by simp [init]; omega)]
    simpa [hkeep] using h

end machine

section props
variable {α : Type} [Field α] [LinearOrder α] [IsStrictOrderedRing α]

/-- C18, learners: for every data set, every script of raw score answers and every leaf oracle
that is a distribution at the leaves, what the machine with the GENERATED iterations of `BinaryCNet.fit` /
`learn_cnet_bd` / `learn_cnet_bic` returns is over all rows and all columns, is a well-formed cutset network, and
 * its values over all `2^nCols` complete binary rows sum to one (`learned_cnet_normalised`);
 * at every OR node, at depth `d`, the weights are the smoothed counts the code computes — `leftWeight` of the number of
   the node's rows with cut value 0 — and its complement, they sum to one and lie in `[0, 1]`, strictly inside when the
   smoothing parameter is positive or the learner is score-based (`learned_weights`). -/
theorem e2e_cnet_learn (cfg : Cfg) (hkeep : cfg.keepRootClt = true) (data : List (List Nat)) (nCols : Nat)
    (p score0 mme : α) (hp : 0 ≤ p) (script : List (ScoreAns α)) (t : LTree α)
    (h : genCLearn cfg data nCols p score0 mme script = .ok t)
    (dom : Nat → Nat) (hdom : ∀ v, v < nCols → dom v = 2)
    (lf : List Nat → List Nat → Ev → α) (hlf : LeavesDist dom lf t) :
    t.rows = List.range data.length ∧ t.scope = List.range nCols ∧
    C18.CNet.WF dom (toCNet lf t) ∧
    sumOver dom (List.range nCols) (fun _ => none) (fun x => cnetEval x (toCNet lf t)) = 1 ∧
    t.AllOr (fun d r _ v w0 w1 _ _ =>
      w0 = leftWeight cfg.kind (parAt cfg.kind p d) (side data v 0 r).length r.length ∧
      w1 = 1 - w0 ∧ w0 + w1 = 1 ∧ 0 ≤ w0 ∧ w0 ≤ 1 ∧ 0 ≤ w1 ∧ w1 ≤ 1 ∧
      ((0 < p ∨ cfg.kind ≠ .fit) → 0 < w0 ∧ w0 < 1 ∧ 0 < w1 ∧ w1 < 1)) 0 := by
  obtain ⟨ds, hds⟩ := e2e_cnet_learn_as_coded cfg hkeep data nCols p score0 mme script t h
  obtain ⟨_, h1, h2⟩ := learned_tree_good cfg data nCols p ds t hds
  exact ⟨h1, h2, (learned_cnet_wellFormed cfg data nCols p ds t hds dom hdom lf hlf).1,
    learned_cnet_normalised cfg data nCols p ds t hds dom hdom lf hlf,
    learned_weights cfg data nCols p hp ds t hds⟩

/-- the learned network is aligned (`Good`: children over the scope with the cut variable erased) -/
theorem good_aligned (cfg : Cfg) (data : List (List Nat)) (lf : List Nat → List Nat → Ev → α) :
    ∀ (t : LTree α) (p : α), Good cfg data p t → CNetAligned (toCNet lf t)
  | .leaf _ _, _, _ => trivial
  | .or r s v w0 w1 c0 c1, p, hg => by
      simp only [Good] at hg
      obtain ⟨hv, _, _, _, e0, e1, _, _, _, g0, g1⟩ := hg
      exact ⟨hv, by rw [toCNet_scope, e0], by rw [toCNet_scope, e1], good_aligned cfg data lf c0 _ g0,
        good_aligned cfg data lf c1 _ g1⟩

/-- C18, learner + evaluator: the routing loop with the GENERATED OR iteration, run on the
network the machine with the GENERATED learner iterations returns, gives every row of every batch its recursive value,
and these values sum to one over all complete binary rows. -/
theorem e2e_cnet_learn_eval (cfg : Cfg) (hkeep : cfg.keepRootClt = true) (data : List (List Nat)) (nCols : Nat)
    (p score0 mme : α) (script : List (ScoreAns α)) (t : LTree α)
    (h : genCLearn cfg data nCols p score0 mme script = .ok t)
    (dom : Nat → Nat) (hdom : ∀ v, v < nCols → dom v = 2)
    (lf : List Nat → List Nat → Ev → α) (hlf : LeavesDist dom lf t) :
    (∀ (rows : Nat → Ev) (n r : Nat), r < n →
      (genCnetBatch rows n nCols (toCNet lf t))[r]? = some (cnetEval (rows r) (toCNet lf t))) ∧
    sumOver dom (List.range nCols) (fun _ => none)
      (fun x => (genCnetBatch (fun _ => x) 1 nCols (toCNet lf t)).getD 0 0) = 1 := by
  obtain ⟨ds, hds⟩ := e2e_cnet_learn_as_coded cfg hkeep data nCols p score0 mme script t h
  obtain ⟨hg, _, hs⟩ := learned_tree_good cfg data nCols p ds t hds
  have hal := good_aligned cfg data lf t p hg
  have hsc : (toCNet lf t).scope = List.range nCols := by rw [toCNet_scope, hs]
  obtain ⟨hwf, _⟩ := learned_cnet_wellFormed cfg data nCols p ds t hds dom hdom lf hlf
  refine ⟨fun rows n r hr => e2e_cnet_eval rows n nCols _ hsc hal r hr, ?_⟩
  have := e2e_cnet_normalised dom nCols (toCNet lf t) hsc hal hwf (fun _ => none) (fun _ _ => rfl)
  rwa [hsc] at this

/-! ### non-vacuity: the data set and the trees of `Props/C18Learn.lean`, reached from RAW answers -/

/-- `fit`, `min_mean_entropy = 1/100`: mean entropy 1/2 and gain 1/5 at the root (cut on 0) and at the left child (cut on
2); at the right child the mean entropy 0 is below the threshold (stop) -/
def exRawFit : List (ScoreAns ℚ) := [⟨0, 1/2, 1/5, 0⟩, ⟨2, 1/2, 1/5, 0⟩, ⟨1, 0, 1/5, 0⟩]

/-- `learn_cnet_bd`: the root (own score 0) is beaten by the best candidate (1), children queued with scores 5 and 6; the
left child (5) is beaten by 7, the right child (6) is not beaten by 3 -/
def exRawBd : List (ScoreAns ℚ) := [⟨0, 1, 5, 6⟩, ⟨2, 7, 1, 1⟩, ⟨1, 3, 0, 0⟩]

theorem exGenLearnFit : genCLearn exCfg exData 3 (1/100 : ℚ) 0 (1/100) exRawFit = .ok exTree :=
  ok_of_toOption (by decide +kernel)

theorem exGenLearnBd : genCLearn exCfgBd exData 3 (1 : ℚ) 0 0 exRawBd = .ok exTreeBd :=
  ok_of_toOption (by decide +kernel)

example : genCLearn { kind := .bic } exData 3 (1/100 : ℚ) 0 0 exRawBd = .ok exTree :=
  ok_of_toOption (by decide +kernel)

example : ∃ ds, learn exCfg exData 3 (1/100 : ℚ) ds = .ok exTree :=
  e2e_cnet_learn_as_coded exCfg rfl exData 3 (1/100) 0 (1/100) exRawFit exTree exGenLearnFit

example : sumOver exDom (List.range 3) (fun _ => none) (fun x => cnetEval x (toCNet exLf exTree)) = 1 :=
  (e2e_cnet_learn exCfg rfl exData 3 (1/100 : ℚ) 0 (1/100) (by norm_num) exRawFit exTree exGenLearnFit exDom
    (fun _ _ => rfl) exLf exLf_dist).2.2.2.1

example : sumOver exDom (List.range 3) (fun _ => none)
    (fun x => (genCnetBatch (fun _ => x) 1 3 (toCNet exLf exTreeBd)).getD 0 0) = 1 :=
  (e2e_cnet_learn_eval exCfgBd rfl exData 3 (1 : ℚ) 0 0 exRawBd exTreeBd exGenLearnBd exDom (fun _ _ => rfl) exLf
    exLf_distBd).2

end props

end cnetLearn

section cltParams
open Deeprob

section cp
open Deeprob.CltFit Deeprob.Struct4 Deeprob.Oblig.StructCltFit

variable {F : Type} [Field F] [LinearOrder F]

/-- `priors[i, k]` as `estimate_priors_joints` fills it: the GENERATED `Gen.priorZero` / `Gen.priorOne` on the counts
`counts_features[i] = ones X i`, `n_samples = len X` (the value index is read as 0 / non-zero) -/
def cpGenPrior (X : List (List Nat)) (al : F) (i k : Nat) : F :=
  match k with
  | 0 => Gen.priorZero (ones X i : F) (X.length : F) al
  | _+1 => Gen.priorOne (ones X i : F) (X.length : F) al

/-- `joints[i, j, a, b]` as `estimate_priors_joints` fills it: off the diagonal the GENERATED smoothing `Gen.jointSmooth`
of the GENERATED inclusion–exclusion cell `Gen.jointCell00 … 11` (`counts_cols[i,j] = ones X j`,
`counts_rows[i,j] = ones X i`, `counts_ones[i,j] = CltFit.dot X i j`), on the diagonal the GENERATED overwrite
`Gen.jointDiag00 … 11` of the generated priors -/
def cpGenJoint (X : List (List Nat)) (al : F) (i j a b : Nat) : F :=
  if i = j then
    match a, b with
    | 0, 0 => Gen.jointDiag00 (cpGenPrior X al i 0) (cpGenPrior X al i 1)
    | 0, _+1 => Gen.jointDiag01 (cpGenPrior X al i 0) (cpGenPrior X al i 1)
    | _+1, 0 => Gen.jointDiag10 (cpGenPrior X al i 0) (cpGenPrior X al i 1)
    | _+1, _+1 => Gen.jointDiag11 (cpGenPrior X al i 0) (cpGenPrior X al i 1)
  else
    match a, b with
    | 0, 0 => Gen.jointSmooth (Gen.jointCell00 (X.length : F) (ones X j) (ones X i) (CltFit.dot X i j)) (X.length : F) al
    | 0, _+1 => Gen.jointSmooth (Gen.jointCell01 (X.length : F) (ones X j) (ones X i) (CltFit.dot X i j)) (X.length : F) al
    | _+1, 0 => Gen.jointSmooth (Gen.jointCell10 (X.length : F) (ones X j) (ones X i) (CltFit.dot X i j)) (X.length : F) al
    | _+1, _+1 => Gen.jointSmooth (Gen.jointCell11 (X.length : F) (ones X j) (ones X i) (CltFit.dot X i j)) (X.length : F) al

/-- `params[i, l, k]` of `compute_clt_parameters(bfs, tree, priors, joints)`: the GENERATED `Gen.S4cltParam` applied to
the generated arrays `cpGenPrior`, `cpGenJoint`; the arrays have `len pred` rows and a row index that may be `-1`
(`tree[root]`) is read as NumPy reads it (`Struct4.wrap`: the last row) -/
def cpGenParam (X : List (List Nat)) (al : F) (pred : List Int) (root i l k : Nat) : F :=
  Gen.S4cltParam (fun p k => cpGenPrior X al (wrap pred.length p) k)
    (fun a b k l => cpGenJoint X al a.toNat (wrap pred.length b) k l)
    (fun a => pred.getD a.toNat (-1)) (root : Int) (i : Int) l k

/-- the `(N, 2, 2)` tensor of generated entries (linear domain; the source stores its `np.log`) -/
def cpGenTable (X : List (List Nat)) (al : F) (pred : List Int) (root : Nat) : List (List (List F)) :=
  (List.range pred.length).map (fun i => [0, 1].map (fun l => [0, 1].map (fun k => cpGenParam X al pred root i l k)))

/-- `compute_mutual_information(priors, joints)[i, j]`: the GENERATED `Gen.S4mutualInfo` on the generated arrays -/
def cpGenMI (E : ExpLog F) (X : List (List Nat)) (al : F) (i j : Nat) : F :=
  Gen.S4mutualInfo E 2 (cpGenPrior X al) (cpGenJoint X al) i j

/-- the generated priors are the model's (`prior_as_coded`; the obligation states the two cells `k = 0, 1`) -/
theorem cpGenPrior_eq (X : List (List Nat)) (al : F) (i k : Nat) : cpGenPrior X al i k = prior X al i k := by
  cases k with
  | zero => exact (prior_as_coded X al i).2.symm
  | succ k => exact (prior_as_coded X al i).1.symm

/-- the generated joints are the model's (`cell_as_coded` inside `joint_offdiag_as_coded`, `joint_diag_as_coded`); a
value index `a + 1` is read as `1` on both sides, by reduction -/
theorem cpGenJoint_eq (X : List (List Nat)) (al : F) (i j a b : Nat) : cpGenJoint X al i j a b = joint X al i j a b := by
  unfold cpGenJoint
  by_cases h : i = j
  · subst h
    obtain ⟨h00, h01, h10, h11⟩ := joint_diag_as_coded X al i
    simp only [if_true, cpGenPrior_eq]
    rcases a with _ | a <;> rcases b with _ | b
    exacts [h00.symm, h01.symm, h10.symm, h11.symm]
  · obtain ⟨h00, h01, h10, h11⟩ := cell_as_coded (F := F) X i j
    simp only [h, if_false, joint_offdiag_as_coded X al i j a b h]
    rcases a with _ | a <;> rcases b with _ | b
    exacts [congrArg (Gen.jointSmooth · _ _) h00.symm, congrArg (Gen.jointSmooth · _ _) h01.symm,
      congrArg (Gen.jointSmooth · _ _) h10.symm, congrArg (Gen.jointSmooth · _ _) h11.symm]

/-- **the generated table entry is the model's `cpt`** (`cpt_as_coded` on the generated arrays) -/
theorem cpGenParam_eq (X : List (List Nat)) (al : F) (pred : List Int) (root i l k : Nat) :
    cpGenParam X al pred root i l k = cpt X al pred root i l k := by
  unfold cpGenParam
  rw [cpt_as_coded]
  simp only [cpGenPrior_eq, cpGenJoint_eq]

theorem cpGenTable_eq (X : List (List Nat)) (al : F) (pred : List Int) (root : Nat) :
    cpGenTable X al pred root = cptTable X al pred root := by
  unfold cpGenTable cptTable
  simp only [cpGenParam_eq]

/-- the generated mutual-information matrix is the specification's (`mutualInfo_as_coded` on the generated arrays) -/
theorem cpGenMI_eq (E : ExpLog F) (X : List (List Nat)) (al : F) : cpGenMI E X al = mutualInfo E X al := by
  funext i j
  unfold cpGenMI
  rw [mutualInfo_as_coded]
  have h1 : cpGenPrior X al = fun i k => prior X al i k := by funext i k; exact cpGenPrior_eq X al i k
  have h2 : cpGenJoint X al = fun i j k l => joint X al i j k l := by
    funext i j k l; exact cpGenJoint_eq X al i j k l
  rw [h1, h2]

variable [IsStrictOrderedRing F]

/-- C11: for 0/1 data and `α > 0`, the GENERATED table entry `params[i, l, k]`
(`Gen.S4cltParam` on the arrays filled by the GENERATED `Gen.priorOne/priorZero/jointCell…/jointSmooth/jointDiag…`) of a
non-root variable `i` with parent `pa = tree[i] ≠ i` is the smoothed conditional
`(#{x_i = k ∧ x_pa = l} + α) / (#{x_pa = l} + 2α)`. -/
theorem e2e_cpt {X : List (List Nat)} (hX : Binary X) {al : F} (hal : 0 < al)
    (pred : List Int) (root : Nat) {i : Nat} (hi : i ≠ root) (hpa : paIdx pred i ≠ i)
    (l k : Nat) (hl : l < 2) (hk : k < 2) :
    cpGenParam X al pred root i l k =
      ((cnt2 X i (paIdx pred i) k l : F) + al) / ((cnt1 X (paIdx pred i) l : F) + 2 * al) := by
  rw [cpGenParam_eq]
  exact C11.cpt_is_smoothed_conditional hX hal pred root hi hpa l k hl hk

/-- the root rows of the GENERATED table are the smoothed prior `(#{x_root = k} + 2α) / (n + 4α)`
(`C11.cpt_root_is_smoothed_prior`) -/
theorem e2e_cpt_root {X : List (List Nat)} (hX : Binary X) {al : F} (hal : 0 < al)
    (pred : List Int) (root : Nat) (l k : Nat) (hl : l < 2) (hk : k < 2) :
    cpGenParam X al pred root root l k = ((cnt1 X root k : F) + 2 * al) / ((X.length : F) + 4 * al) := by
  rw [cpGenParam_eq]
  exact C11.cpt_root_is_smoothed_prior hX hal pred root l k hl hk

/-- C11: every row of the GENERATED table sums to one, for any predecessor vector and root,
any 0/1 data and any `α > 0`. -/
theorem e2e_cpt_rows_sum_one {X : List (List Nat)} (hX : Binary X) {al : F} (hal : 0 < al)
    (pred : List Int) (root i l : Nat) (hl : l < 2) :
    cpGenParam X al pred root i l 0 + cpGenParam X al pred root i l 1 = 1 := by
  rw [cpGenParam_eq, cpGenParam_eq]
  exact C11.cpt_rows_sum_one hX hal pred root i l hl

/-- every entry of the GENERATED table is positive (so the stored `np.log(params)` is finite) — `C11.cpt_pos` -/
theorem e2e_cpt_pos {X : List (List Nat)} (hX : Binary X) {al : F} (hal : 0 < al)
    (pred : List Int) (root : Nat) (i : Nat) (hpa : i = root ∨ paIdx pred i ≠ i)
    (l k : Nat) (hl : l < 2) (hk : k < 2) : 0 < cpGenParam X al pred root i l k := by
  rw [cpGenParam_eq]
  exact C11.cpt_pos hX hal pred root i hpa l k hl hk

/-- C11: a CLT over a rooted spanning tree whose tables are the GENERATED ones evaluates
the all-missing row to one (`message_passing` of `Model/Clt.lean`, which is hand-written: its tie to the source is
`Oblig/Struct4CltMsg.lean`, not composed here). -/
theorem e2e_cpt_fit_normalised {X : List (List Nat)} (hX : Binary X) {al : F} (hal : 0 < al) (scope : List Nat)
    {pred : List Int} {root : Nat} (hT : isRootedSpanningTree pred root = true) :
    Clt.value scope pred (cpGenTable X al pred root) (fun _ => none) = 1 := by
  rw [cpGenTable_eq]
  exact C11.fit_normalised hX hal scope hT

/-- C11, structure: with the GENERATED mutual-information matrix
(`Gen.S4mutualInfo` on the generated arrays) as weights, a returned rooted spanning tree that passes the cycle
certificate has maximal total weight among all rooted spanning trees.  (`maximum_spanning_tree` itself calls SciPy and
is not generated: its result is CHECKED, as in `C11.fit_tree_maximal`.) -/
theorem e2e_cpt_tree_maximal (E : ExpLog F) (X : List (List Nat)) (al : F) {pred : List Int} {root : Nat}
    (hT : isRootedSpanningTree pred root = true) (hc : cycleOK (cpGenMI E X al) pred = true) :
    ∀ (pred' : List Int) (root' : Nat), pred'.length = pred.length →
      isRootedSpanningTree pred' root' = true →
      treeWeight (cpGenMI E X al) pred' ≤ treeWeight (cpGenMI E X al) pred := by
  rw [cpGenMI_eq] at hc ⊢
  exact C11.fit_tree_maximal E X al hT hc

/-! ### non-vacuity: the 4 × 3 data set `C11.X0`, `α = 1/10`, the star rooted at variable 2 -/

/-- all hypotheses hold, and the generated definitions compute: `params[0, 1, 0] = (1 + α)/(3 + 2α)` with
`pa(0) = 2`, `#{x_0 = 0 ∧ x_2 = 1} = 1`, `#{x_2 = 1} = 3` -/
example : Binary C11.X0 ∧ (0 : ℚ) < 1/10 ∧ isRootedSpanningTree [2, 2, -1] 2 = true ∧ (0 : Nat) ≠ 2 ∧
    paIdx [2, 2, -1] 0 ≠ 0 ∧
    cpGenParam C11.X0 (1/10 : ℚ) [2, 2, -1] 2 0 1 0 = (1 + 1/10) / (3 + 2 * (1/10)) ∧
    cpGenParam C11.X0 (1/10 : ℚ) [2, 2, -1] 2 0 1 0 + cpGenParam C11.X0 (1/10 : ℚ) [2, 2, -1] 2 0 1 1 = 1 ∧
    cpGenParam C11.X0 (1/10 : ℚ) [2, 2, -1] 2 2 0 1 = (3 + 2 * (1/10)) / (4 + 4 * (1/10)) :=
  ⟨C11.X0_binary, by norm_num, by decide, by decide, by decide, by decide +kernel, by decide +kernel, by decide +kernel⟩

example : Clt.value [5, 3, 8] [2, 2, -1] (cpGenTable C11.X0 (1/10 : ℚ) [2, 2, -1] 2) (fun _ => none) = 1 :=
  e2e_cpt_fit_normalised C11.X0_binary (by norm_num) _ (by decide)

example : cpGenParam C11.X0 (1/10 : ℚ) [2, 2, -1] 2 0 1 0
    = ((cnt2 C11.X0 0 (paIdx [2, 2, -1] 0) 0 1 : ℚ) + 1/10) / ((cnt1 C11.X0 (paIdx [2, 2, -1] 0) 1 : ℚ) + 2 * (1/10)) :=
  e2e_cpt C11.X0_binary (by norm_num) _ _ (by decide) (by decide) 1 0 (by omega) (by omega)

/-- on two variables every spanning tree passes the certificate (there is no non-tree pair), for any `log` -/
example (E : ExpLog F) (X : List (List Nat)) (al : F) :
    isRootedSpanningTree [-1, 0] 0 = true ∧ cycleOK (cpGenMI E X al) [-1, 0] = true :=
  ⟨by decide, by
    have : cyclePairs [-1, 0] = [] := by decide
    simp [cycleOK, this]⟩

end cp

end cltParams

end Deeprob.E2E
