import DeeprobModel.Lemmas.RatSampleLeafRow
import DeeprobModel.Props.C16
import DeeprobModel.Props.C06
import DeeprobModel.Props.C07
set_option linter.unusedSimpArgs false
set_option linter.unusedVariables false
set_option linter.unusedSectionVars false
/-
C16, sampling / MPE clause — "MPE and sampling return complete in-domain rows of the input width that
keep observed entries, and samples follow the model's distribution."

Model: `Model/RatSample.lean` — the layer-wise top-down pass of `RatSpn.mpe` / `RatSpn.sample` on the index
pair `(idx_group, idx_offset)` as the layers propagate it (`mpeRow`, `sampleRow`), and its law as a pmf
transformer (`samplePmf` = the coded `sample`, which takes no evidence; `condPmf` = the same pass with the
branch draws conditioned on the forward values under evidence, i.e. `RatSpn.mpe` with the arg-max replaced
by a draw).  `unrollT S y` is `RatSpn.unroll` with the top-down data of the leaves.

What the code computes, exactly:
* `sample`: ancestral sampling with the soft-max weights — its law is the circuit polynomial itself
  (`ratspn_sample_law`, no hypothesis), hence the model's distribution when the weights are normalised;
* `mpe`: bottom-up values are the ordinary (sum, not max) forward values `lls`; top-down every sum node
  follows `argmax wᵢ·valueᵢ` (first maximiser), leaves write their mode (`p ≥ 0.5 → 1`).  This is the
  same arg-max descent as `deeprob.spn.algorithms.inference.mpe` (`TCirc.mpeDescent`), proved here; it is
  not a max-product (Viterbi) evaluation, and C16 does not claim that it is.
-/
namespace Deeprob
namespace RatSample
open RatSpn TCirc

/-! ### non-vacuity: a padded Bernoulli RAT-SPN (5 features, depth 2, pad 3, 2 repetitions, batch 2,
2 sums per region, 2 classes) with non-uniform parameters -/

def exS : Spec Rat where
  ρ := revOracle
  n := 5
  depth := 2
  reps := 2
  batch := 2
  rgSum := 2
  classes := 2
  tbl := fun i c _ => if (i + c) % 2 = 0 then [1/4, 3/4] else [2/3, 1/3]
  w := fun _ _ o => if o = 0 then [1/10, 2/10, 3/10, 4/10] else [1/4, 1/4, 1/4, 1/4]
  wroot := fun y => if y = 0 then [1/8, 1/8, 1/8, 1/8, 1/8, 1/8, 1/8, 1/8]
                    else [1/16, 3/16, 1/16, 3/16, 1/8, 1/8, 1/8, 1/8]

theorem exS_wf : exS.WF where
  perm := revOracle_perm
  acc := by decide
  reps_pos := by decide
  batch_pos := by decide
  sum_pos := by decide
  w_len := by
    intro l j o
    show (if o = 0 then _ else _ : List Rat).length = if l = 0 then 2 * 2 else 2 * 2
    split <;> split <;> rfl
  root_len := by
    intro y
    show (if y = 0 then _ else _ : List Rat).length = _
    split <;> rfl
  w_nonneg := by
    intro l j o
    show ∀ a ∈ (if o = 0 then _ else _ : List Rat), 0 ≤ a
    split <;> decide +kernel
  root_nonneg := by
    intro y
    show ∀ a ∈ (if y = 0 then _ else _ : List Rat), 0 ≤ a
    split <;> decide +kernel
  tbl_len := by
    intro i c k
    show (if (i + c) % 2 = 0 then _ else _ : List Rat).length = 2
    split <;> rfl
  tbl_sum := by
    intro i c k
    show tsum (if (i + c) % 2 = 0 then _ else _ : List Rat) = 1
    split <;> decide +kernel
  tbl_nonneg := by
    intro i c k
    show ∀ a ∈ (if (i + c) % 2 = 0 then _ else _ : List Rat), 0 ≤ a
    split <;> decide +kernel

theorem exS_normalised : exS.Normalised where
  w_sum := by
    intro l j o
    show tsum (if o = 0 then _ else _ : List Rat) = 1
    split <;> decide +kernel
  root_sum := by
    intro y
    show tsum (if y = 0 then _ else _ : List Rat) = 1
    split <;> decide +kernel

/-- evidence: variables 1 and 3 observed -/
def exRow : List (Option Nat) := [none, some 1, none, some 0, none]
def exEv : Ev := Ev.ofList exRow
/-- a completion -/
def exCompl : Ev := Ev.ofList [some 1, some 1, some 0, some 0, some 1]

theorem exCompl_completes : Completes (List.range exS.n) exEv exCompl := by
  constructor
  · intro v hv
    match v with
    | 1 | 3 => rfl
    | 0 | 2 | 4 | n + 5 => exact absurd rfl hv
  · decide

section law
variable {α : Type} [Field α] [LinearOrder α] [IsStrictOrderedRing α]

/-- **simulation**: the layer-wise pass — joint independent draws of a whole row of `idx_offset` per sum
layer, index routing by the product layers, per-column draws at the base layer — has the same law as
the node-wise top-down sampler `topDownPmf` of the unrolled circuit, and that circuit is
`RatSpn.unroll` (the one `unroll_valid`, `ratspn_marg`, `ratspn_normalised` are about).  No hypothesis. -/
theorem ratspn_pass_is_topdown (S : Spec α) (y : Nat) (e x : Ev) :
    condPmf S y e x = topDownPmf e x (unrollT S y) ∧ (unrollT S y).toCirc = circ S y ∧
    forward S y e = Circ.eval e (circ S y) :=
  ⟨condPmf_eq_topDownPmf S y e x, unrollT_toCirc S y, by rw [forward_eq_eval, eval_unrollT]⟩

example : condPmf exS 1 exEv exCompl = topDownPmf exEv exCompl (unrollT exS 1) ∧
    (unrollT exS 1).toCirc = circ exS 1 ∧ forward exS 1 exEv = Circ.eval exEv (circ exS 1) :=
  ratspn_pass_is_topdown exS 1 exEv exCompl

/-- the values of the witness evidence and of its completion, computed by the layer-wise forward pass -/
theorem exS_forward : forward exS 1 exEv = 749 / 3072 ∧ forward exS 1 exCompl = 2396297 / 63700992 := by
  decide +kernel

/-- the evidence of the witness has positive value (computed through the layer-wise forward pass) -/
theorem exEv_pos : Circ.eval exEv (circ exS 1) ≠ 0 := by
  rw [← (ratspn_pass_is_topdown exS 1 exEv exEv).2.2, exS_forward.1]
  decide +kernel

/-- for every accepted architecture (padded or not) and every evidence `e`, the
pmf of the evidence-conditioned layer-wise pass is the exact conditional distribution of the unrolled
circuit given the observed entries (division-free form; with `ratspn_marg` the value under `e` is the sum
over the completions, so this is `P(x | e)` of the RAT-SPN itself).  Route: simulation lemma +
`C07.topDownPmf_exact` on `unrollT`. -/
theorem ratspn_sample_exact (S : Spec α) (h : S.WF) (y : Nat) (e x : Ev)
    (hx : Completes (List.range S.n) e x) :
    condPmf S y e x * Circ.eval e (circ S y) = Circ.eval x (circ S y) := by
  rw [condPmf_eq_topDownPmf, ← eval_unrollT, ← eval_unrollT]
  exact C07.topDownPmf_exact (fun _ => 2) (unrollT S y) (unrollT_valid S h y) (unrollT_nonneg S h y)
    (unrollT_leafExact S y) e x hx

example : condPmf exS 1 exEv exCompl * Circ.eval exEv (circ exS 1) = Circ.eval exCompl (circ exS 1) :=
  ratspn_sample_exact exS exS_wf 1 exEv exCompl exCompl_completes

/-- the same with the division: `condPmf = P(x | observed entries of e)` when the evidence has positive value -/
theorem ratspn_sample_eq_cond (S : Spec α) (h : S.WF) (y : Nat) (e x : Ev)
    (hx : Completes (List.range S.n) e x) (he : Circ.eval e (circ S y) ≠ 0) :
    condPmf S y e x = Circ.eval x (circ S y) / Circ.eval e (circ S y) := by
  rw [eq_div_iff he]
  exact ratspn_sample_exact S h y e x hx

example : condPmf exS 1 exEv exCompl = Circ.eval exCompl (circ exS 1) / Circ.eval exEv (circ exS 1) :=
  ratspn_sample_eq_cond exS exS_wf 1 exEv exCompl exCompl_completes exEv_pos

/-- the law of the evidence-conditioned pass sums to one over the completions of the evidence -/
theorem ratspn_sample_sums_to_one (S : Spec α) (h : S.WF) (y : Nat) (e : Ev)
    (he : Circ.eval e (circ S y) ≠ 0) :
    sumOver (fun _ => 2) (List.range S.n) e (fun x => condPmf S y e x) = 1 := by
  have h1 := C07.topDownPmf_sums_to_one (fun _ => 2) (unrollT S y) (unrollT_valid S h y) (unrollT_nonneg S h y)
    (unrollT_leafExact S y) e (by rw [eval_unrollT]; exact he)
  rw [unrollT_scope] at h1
  rw [← h1]
  apply sumOver_congr
  intro x _
  exact condPmf_eq_topDownPmf S y e x

example : sumOver (fun _ => 2) (List.range exS.n) exEv (fun x => condPmf exS 1 exEv x) = 1 :=
  ratspn_sample_sums_to_one exS exS_wf 1 exEv exEv_pos

/-- the law of the coded `RatSpn.sample(·, y)` (weights only, no evidence) is the
polynomial of the unrolled circuit: for every row `x`, `P(sample agrees with x on its observed entries) =
value(x)`.  No hypothesis on the parameters. -/
theorem ratspn_sample_law (S : Spec α) (y : Nat) (x : Ev) : samplePmf S y x = Circ.eval x (circ S y) := by
  rw [samplePmf_eq_eval, eval_unrollT]

example : samplePmf exS 1 exCompl = Circ.eval exCompl (circ exS 1) := ratspn_sample_law exS 1 exCompl

/-- with normalised soft-max rows the coded sampler draws from the model's distribution: its law is the
conditional law given no evidence (= `topDownPmf` of the unrolled circuit from the all-missing row) and it
sums to one over the complete rows. -/
theorem ratspn_sample_law_normalised (S : Spec α) (h : S.WF) (hn : S.Normalised) (y : Nat) :
    (∀ x, (∀ v ∈ List.range S.n, x v ≠ none) →
        samplePmf S y x = condPmf S y (fun _ => none) x ∧
        samplePmf S y x = topDownPmf (fun _ => none) x (unrollT S y)) ∧
    sumOver (fun _ => 2) (List.range S.n) (fun _ => none) (fun x => samplePmf S y x) = 1 := by
  obtain ⟨_, hd, _⟩ := (accepted_iff S.n S.depth).1 h.acc
  have hl1 : ∀ i c k, lfOf S i c k (fun _ => none) = 1 := fun i c k => rfl
  have hnorm := ratspn_normalised (fun _ => 2) S.ρ h.perm S.n S.depth S.reps S.batch S.rgSum h.acc h.reps_pos
    h.batch_pos h.sum_pos (lfOf S) (lfOf_leafOK S h) hl1 S.w h.w_len hn.w_sum (S.wroot y) (h.root_len y)
    (hn.root_sum y)
  constructor
  · intro x hx
    have hc : Completes (List.range S.n) (fun _ => none) x := ⟨fun v hv => absurd rfl hv, hx⟩
    have h1 := ratspn_sample_exact S h y (fun _ => none) x hc
    have h0 : Circ.eval (fun _ => none) (circ S y) = 1 := hnorm.1
    rw [h0, mul_one] at h1
    refine ⟨by rw [ratspn_sample_law, h1], ?_⟩
    rw [ratspn_sample_law, ← h1, condPmf_eq_topDownPmf]
  · have := hnorm.2
    rw [← this]
    apply sumOver_congr
    intro x _
    exact ratspn_sample_law S y x

example : sumOver (fun _ => 2) (List.range exS.n) (fun _ => none) (fun x => samplePmf exS 1 x) = 1 :=
  (ratspn_sample_law_normalised exS exS_wf exS_normalised 1).2

/-- the law of the row *returned* by the coded `RatSpn.sample(·, y)` — every
column of every selected leaf drawn, dummy columns included, the padded row reordered and un-padded by
`unpad_samples` of the repetition `idx_group[:, 0] // 2**rg_depth` — is the model's distribution:
for every complete in-domain row of the input width, `P(sample = xrow) = value(xrow)` of the unrolled
circuit (hence a normalised distribution by `ratspn_normalised` when the soft-max rows sum to one). -/
theorem ratspn_sample_rowlaw (S : Spec α) (h : S.WF) (y : Nat) (xrow : List Nat) (hx : xrow.length = S.n)
    (hx2 : ∀ v ∈ xrow, v < 2) :
    sampleRowPmf S y xrow = Circ.eval (Ev.ofList (xrow.map some)) (circ S y) := by
  rw [sampleRowPmf_eq S h y xrow hx hx2, ratspn_sample_law]

example : sampleRowPmf exS 1 [1, 1, 0, 0, 1] = Circ.eval (Ev.ofList ([1, 1, 0, 0, 1].map some)) (circ exS 1) :=
  ratspn_sample_rowlaw exS exS_wf 1 [1, 1, 0, 0, 1] rfl (by decide)

/-- `RatSpn.sample(n)` without a class draws the class uniformly: the law is the uniform mixture of the
class distributions -/
theorem ratspn_sample_law_anyclass (S : Spec α) (x : Ev) :
    sampleAnyClassPmf S x = sumVar S.classes (fun y => Circ.eval x (circ S y)) / sumVar S.classes (fun _ => 1) := by
  unfold sampleAnyClassPmf
  congr 1
  apply sumVar_congr
  intro y
  exact ratspn_sample_law S y x

example : sampleAnyClassPmf exS exCompl =
    sumVar exS.classes (fun y => Circ.eval exCompl (circ exS y)) / sumVar exS.classes (fun _ => 1) :=
  ratspn_sample_law_anyclass exS exCompl

end law


section contract
variable {α : Type} [Field α] [LinearOrder α] [IsStrictOrderedRing α]

/-- every outcome of the pass — whatever flat index `r` the root draws (within
its `reps · in_nodes` entries), whatever offsets `ch` the sum layers draw and whatever values `dr` the
selected leaves draw in `{0, 1}` (dummy columns included) — is a row of the input width whose entries are
in the domain; combined with the evidence as `RegionGraphLayer.mpe` does (`torch.where(isnan(x), ·, x)`)
it is complete, of the input width, and keeps every observed entry. -/
theorem ratspn_sample_contract (S : Spec α) (h : S.WF) (r : Nat) (ch : Nat → Nat → Nat) (dr : Nat → Nat → Nat)
    (hr : r < S.reps * (if S.depth = 1 then S.batch * S.batch else S.rgSum * S.rgSum))
    (hdr : ∀ j k, dr j k < 2) (row : List (Option Nat)) (hrow : row.length = S.n) :
    (sampleRow S r ch dr).length = S.n ∧
    (∀ (i k : Nat), (sampleRow S r ch dr)[i]? = some k → k < 2) ∧
    (completeRow row (sampleRow S r ch dr)).length = S.n ∧
    (∀ (i v : Nat), row[i]? = some (some v) → (completeRow row (sampleRow S r ch dr))[i]? = some v) := by
  obtain ⟨_, hd, _⟩ := (accepted_iff S.n S.depth).1 h.acc
  have ht := Nat.div_lt_of_lt_mul (Nat.mul_comm _ _ ▸ hr)
  -- the padded row of draws has `n + pad` entries, all of them in `{0, 1}`
  have hcore : (sampleRow S r ch dr).length = S.n ∧ ∀ (i k : Nat), (sampleRow S r ch dr)[i]? = some k → k < 2 := by
    unfold sampleRow
    simp only
    rw [sampleDown_groups, leafGroups_head]
    generalize r / (if S.depth = 1 then S.batch * S.batch else S.rgSum * S.rgSum) = t at ht ⊢
    refine unpad_in_domain S.ρ h.perm S.n S.depth S.reps t h.acc ht _ ?_ (fun _ v => v < 2) ?_
    · rw [flatMap_range_length _ (dimOf S.n S.depth), leafGroups_eq, List.length_map, List.length_range, pad_total]
      intro j
      rw [List.length_map, List.length_range, leafGroups_eq]
      refine (mrow_len S (leafRows S.ρ h.perm S.n S.depth S.reps hd) _ ?_).1
      by_cases hj : j < 2 ^ S.depth
      · rw [List.getD_eq_getElem _ _ (by simpa using hj), List.getElem_map, List.getElem_range]
        exact block_index_lt _ _ _ _ ht hj
      · rw [getD_of_le (by simpa using hj)]
        exact Nat.mul_pos h.reps_pos (Nat.two_pow_pos _)
    · intro p v _ _ hv
      obtain ⟨j, _, hm⟩ := List.mem_flatMap.1 (List.mem_of_getElem? hv)
      obtain ⟨k, _, rfl⟩ := List.mem_map.1 hm
      exact hdr j k
  have hk := mpe_keeps_observed row _ (hcore.1.trans hrow.symm)
  exact ⟨hcore.1, hcore.2, hk.1.trans hrow, hk.2⟩

/-- one outcome: the root draws flat index 5 (repetition 1, node 1), every sum-layer draw is 3, every leaf draws 1 -/
example : (sampleRow exS 5 (fun _ _ => 3) (fun _ _ => 1)).length = exS.n ∧
    (∀ (i k : Nat), (sampleRow exS 5 (fun _ _ => 3) (fun _ _ => 1))[i]? = some k → k < 2) ∧
    (completeRow exRow (sampleRow exS 5 (fun _ _ => 3) (fun _ _ => 1))).length = exS.n ∧
    (∀ (i v : Nat), exRow[i]? = some (some v) → (completeRow exRow (sampleRow exS 5 (fun _ _ => 3) (fun _ _ => 1)))[i]? = some v) :=
  ratspn_sample_contract exS exS_wf 5 (fun _ _ => 3) (fun _ _ => 1) (by decide) (fun _ _ => by decide) exRow rfl

/-- for every accepted architecture (any feature count incl. padding, depth,
repetitions, batch and sum sizes), every permutation draw, all parameters and every evidence row of the
input width, the row returned by the layer-wise pass of `RatSpn.mpe(x, y)` — forward values `lls`, root
arg-max over the flattened `(repetition, node)` table, per-region arg-max of `weights × child values` in
the sum layers, index routing in the product layers, modes of the selected leaves, `unpad_samples`,
`torch.where(isnan(x), samples, x)` — is exactly the row that the arg-max descent `mpeDescent` (the model of
`deeprob.spn.algorithms.inference.mpe`, C06) produces on the unrolled circuit.  No hypothesis on the
weights or the leaf tables. -/
theorem ratspn_mpe_is_descent (S : Spec α) (y : Nat) (row : List (Option Nat))
    (hρ : ∀ t r, (S.ρ t r).Perm r) (hacc : accepted S.n S.depth = true) (hreps : 0 < S.reps)
    (hb : 0 < S.batch) (hs : 0 < S.rgSum) (hrow : row.length = S.n) :
    (mpeRow S y row).map some = (List.range S.n).map (mpeDescent (Ev.ofList row) (unrollT S y)) :=
  mpeRow_eq_descent S y row hρ hacc hreps hb hs hrow

example : (mpeRow exS 1 exRow).map some = (List.range exS.n).map (mpeDescent (Ev.ofList exRow) (unrollT exS 1)) :=
  ratspn_mpe_is_descent exS 1 exRow revOracle_perm (by decide) (by decide) (by decide) (by decide) rfl

/-- **MPE contract** (through the descent and C06): the row has the input width, keeps every observed
entry, and a missing entry receives a value of the domain `{0, 1}`. -/
theorem ratspn_mpe_contract (S : Spec α) (y : Nat) (row : List (Option Nat))
    (hρ : ∀ t r, (S.ρ t r).Perm r) (hacc : accepted S.n S.depth = true) (hreps : 0 < S.reps)
    (hb : 0 < S.batch) (hs : 0 < S.rgSum) (hrow : row.length = S.n) :
    (mpeRow S y row).length = S.n ∧
    (∀ (i v : Nat), row[i]? = some (some v) → (mpeRow S y row)[i]? = some v) ∧
    (∀ (i k : Nat), (mpeRow S y row)[i]? = some k → row[i]? = some (some k) ∨ (row[i]? = some none ∧ k < 2)) := by
  have hd := ratspn_mpe_is_descent S y row hρ hacc hreps hb hs hrow
  have hlen : (mpeRow S y row).length = S.n := by
    have := congrArg List.length hd
    rwa [List.length_map, List.length_map, List.length_range] at this
  -- entry `i` of the returned row is entry `i` of the descent
  have hent : ∀ i, i < S.n → ∃ k, (mpeRow S y row)[i]? = some k ∧
      mpeDescent (Ev.ofList row) (unrollT S y) i = some k := by
    intro i hi
    have h := congrArg (fun l => l[i]?) hd
    simp only [List.getElem?_map, List.getElem?_range hi, Option.map_some] at h
    obtain ⟨k, hk, hk'⟩ := Option.map_eq_some_iff.1 h
    exact ⟨k, hk, hk'.symm⟩
  have hev : ∀ i (hi : i < row.length), Ev.ofList row i = row[i] := fun i hi => List.getD_eq_getElem _ none hi
  refine ⟨hlen, ?_, ?_⟩
  · intro i v hiv
    obtain ⟨hil, hv⟩ := List.getElem?_eq_some_iff.1 hiv
    obtain ⟨k, hk, hk'⟩ := hent i (hrow ▸ hil)
    have he : Ev.ofList row i = some v := (hev i hil).trans hv
    rw [C06.mpe_keeps_observed (fun _ => 2) (unrollT S y) (unrollT_modeOK S y) _ i
      (by rw [he]; exact Option.some_ne_none v), he] at hk'
    rw [hk, hk']
  · intro i k hik
    have hi : i < S.n := hlen ▸ (List.getElem?_eq_some_iff.1 hik).1
    obtain ⟨k', hk, hk'⟩ := hent i hi
    rw [hik] at hk
    cases hk
    have hil : i < row.length := hrow ▸ hi
    rw [List.getElem?_eq_getElem hil, ← hev i hil]
    rcases C06.mpe_in_domain (fun _ => 2) (unrollT S y) (unrollT_modeOK S y) _ i k hk' with h1 | ⟨h1, h2⟩
    · exact Or.inl (congrArg some h1)
    · exact Or.inr ⟨congrArg some h1, h2⟩

example : (mpeRow exS 1 exRow).length = exS.n ∧
    (∀ (i v : Nat), exRow[i]? = some (some v) → (mpeRow exS 1 exRow)[i]? = some v) ∧
    (∀ (i k : Nat), (mpeRow exS 1 exRow)[i]? = some k → exRow[i]? = some (some k) ∨ (exRow[i]? = some none ∧ k < 2)) :=
  ratspn_mpe_contract exS 1 exRow revOracle_perm (by decide) (by decide) (by decide) (by decide) rfl

end contract

/-- concrete values on the witness (computed by the kernel): the MPE row, the conditional probability of
`exCompl` given `exEv`, and the probability that the coded sampler returns `exCompl` -/
theorem exS_values : mpeRow exS 1 exRow = [1, 1, 1, 0, 1] ∧ condPmf exS 1 exEv exCompl = 2396297 / 15531264 ∧
    samplePmf exS 1 exCompl = 2396297 / 63700992 := by
  have hc : Circ.eval exCompl (circ exS 1) = 2396297 / 63700992 :=
    (ratspn_pass_is_topdown exS 1 exCompl exCompl).2.2 ▸ exS_forward.2
  have he : Circ.eval exEv (circ exS 1) = 749 / 3072 := (ratspn_pass_is_topdown exS 1 exEv exEv).2.2 ▸ exS_forward.1
  refine ⟨by decide +kernel, ?_, (ratspn_sample_law exS 1 exCompl).trans hc⟩
  rw [ratspn_sample_eq_cond exS exS_wf 1 exEv exCompl exCompl_completes exEv_pos, hc, he]
  decide +kernel

example : mpeRow exS 1 exRow = [1, 1, 1, 0, 1] ∧ condPmf exS 1 exEv exCompl = 2396297 / 15531264 ∧
    samplePmf exS 1 exCompl = 2396297 / 63700992 := exS_values

/-! ### what `RatSpn.mpe` is not: a most-probable completion -/

/-- smallest witness architecture: 2 features, depth 1, 2 repetitions, one leaf per region, one class;
repetition 0 has both leaves at `p = 3/5`, repetition 1 puts all its mass on `(0, 0)`; root weights
`3/5, 2/5` -/
def wS : Spec Rat where
  ρ := revOracle
  n := 2
  depth := 1
  reps := 2
  batch := 1
  rgSum := 1
  classes := 1
  tbl := fun i _ _ => if i < 2 then [2/5, 3/5] else [1, 0]
  w := fun _ _ _ => [1]
  wroot := fun _ => [3/5, 2/5]

/-- observation: with
nothing observed the pass follows the heavier repetition and returns `(1, 1)` of probability `27/125`,
while `(0, 0)` has probability `62/125`.  The coded MPE is the arg-max descent on sum-values (as C06 states
for general circuits), not a max-product evaluation. -/
theorem mpe_descent_not_maximal :
    accepted wS.n wS.depth = true ∧ mpeRow wS 0 [none, none] = [1, 1] ∧
    forward wS 0 (Ev.ofList [some 1, some 1]) = 27 / 125 ∧
    forward wS 0 (Ev.ofList [some 0, some 0]) = 62 / 125 := by decide +kernel

end RatSample
end Deeprob
