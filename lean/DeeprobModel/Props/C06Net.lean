import DeeprobModel.Lemmas.NetTDOK
import DeeprobModel.Props.C06
/-
C06 at the level of the stored node table (what `eval_top_down` really runs on: shared sub-circuits,
one mask per node).  `mpeNet` (Model/TopDownNet.lean) propagates reach flags over the table in reverse
storage order; the theorems say it computes the tree-level descent of the unfolding, hence inherits
every C06 theorem.  Witness: `exNet` (9 nodes, 3 variables, root = 3-child sum, node 4 shared by two
products, leaves 0,1,2 shared as well).
-/
namespace Deeprob
namespace C06
open TCirc

section general
variable {α : Type} [CommSemiring α] [LinearOrder α]

/-- **observed entries are never overwritten** — for every table (valid or not), every visiting
order, every root -/
theorem mpeNetOrd_keeps_observed (ord : List Nat) (e : Ev) (dens : List α) (net : Net α) (root : Nat)
    (isBern : Nat → Bool) : ∀ v, e v ≠ none → (mpeNetOrd ord e dens net root isBern).row v = e v :=
  fun v h => foldl_tdStep_keeps net _ isBern ord ⟨fun j => j == root, e⟩ v h

theorem mpeNet_keeps_observed (e : Ev) (dens : List α) (net : Net α) (root : Nat) (isBern : Nat → Bool) :
    ∀ v, e v ≠ none → mpeNet e dens net root isBern v = e v :=
  mpeNetOrd_keeps_observed _ e dens net root isBern

/-- **DAG ⇒ tree refinement of the top-down pass, for every topological visiting order.** On a
children-first table whose nodes satisfy the local validity conditions, for ANY order `ord` that lists
the root, lists no node twice and lists every node before its children (`TopoOrd` — what
`topological_order(root)` returns), the completed row computed by mask propagation over the table
(shared nodes visited once) is the tree-level descent `mpeDescent` of the unfolding of the root. In
particular the result does not depend on which topological order is used. -/
theorem mpeNetOrd_refines (dom : Nat → Nat) (net : Net α) (dens : List α) (isBern : Nat → Bool) (hw : WellOrdered net)
    (hok : ∀ i (x : NNode α), net[i]? = some x → NodeOK dom net dens i x)
    (ord : List Nat) (hord : TopoOrd net ord) (root : Nat) (hroot : root ∈ ord) (e : Ev) :
    (mpeNetOrd ord e dens net root isBern).row = mpeDescent e (toTTree net dens isBern (root+1) root) := by
  have hr : root < net.length := hord.lt_length root hroot
  unfold mpeNetOrd
  apply inv_run dom net dens isBern e hw hok _ ord hord
  refine ⟨?_, ?_, ?_⟩
  · intro a b _ _ ha hb hab
    simp only [beq_iff_eq] at ha hb
    exact absurd (ha.trans hb.symm) hab
  · intro j _ hj v _
    simp only [beq_iff_eq] at hj
    subst hj; rfl
  · intro v hv
    have hvr : v ∉ scopeOf net root := hv root hroot (by simp)
    unfold mpeDescent
    exact pass_outside (mpeBr e) mpeFill dom v _ (TT_valid dom net dens isBern hw hok root hr) [] e
      (by rw [TT_scope net dens isBern root]; exact hvr)

/-- the instance used by the driver: reverse storage order -/
theorem mpeNet_refines (dom : Nat → Nat) (net : Net α) (dens : List α) (isBern : Nat → Bool) (hw : WellOrdered net)
    (hok : ∀ i (x : NNode α), net[i]? = some x → NodeOK dom net dens i x)
    (root : Nat) (hr : root < net.length) (e : Ev) :
    mpeNet e dens net root isBern = mpeDescent e (toTTree net dens isBern (root+1) root) :=
  mpeNetOrd_refines dom net dens isBern hw hok _ (topoOrd_range_reverse net hw net.length (le_refl _)) root
    (by simp [hr]) e

end general

section ordered
variable {α : Type} [CommSemiring α] [LinearOrder α] [IsStrictOrderedRing α]

/-- table-level MPE: the completed row is a completion of the evidence on the root scope, with
domain values only, and nothing outside the root scope is touched -/
theorem mpeNet_completes (dom : Nat → Nat) (net : Net α) (dens : List α) (isBern : Nat → Bool) (hw : WellOrdered net)
    (hok : ∀ i (x : NNode α), net[i]? = some x → NodeOK dom net dens i x)
    (hcat : CatLeaves dom net isBern) (hnw : NonNegW net) (root : Nat) (hr : root < net.length) (e : Ev) :
    Completes (scopeOf net root) e (mpeNet e dens net root isBern) ∧
    (∀ v, FillsVar dom e (mpeNet e dens net root isBern) v) ∧
    (∀ v, v ∉ scopeOf net root → mpeNet e dens net root isBern v = e v) := by
  have hT := tdok_toTTree dom net dens isBern hw hok hcat hnw root hr
  rw [mpeNet_refines dom net dens isBern hw hok root hr e, ← TT_scope net dens isBern root]
  exact ⟨mpe_completes dom _ hT.1 hT.2.1 e, mpe_entrywise dom _ hT.2.1 e,
    mpe_outside_scope_unchanged dom _ hT.1 e⟩

/-- table-level `mpe_positive`: the value table of the completed row is positive at the root whenever
that of the evidence is -/
theorem mpeNet_positive (dom : Nat → Nat) (net : Net α) (dens : List α) (isBern : Nat → Bool) (hw : WellOrdered net)
    (hok : ∀ i (x : NNode α), net[i]? = some x → NodeOK dom net dens i x)
    (hcat : CatLeaves dom net isBern) (hnw : NonNegW net) (root : Nat) (hr : root < net.length) (e : Ev)
    (h : 0 < (evalNet e dens net).getD root 0) :
    0 < (evalNet (mpeNet e dens net root isBern) dens net).getD root 0 := by
  have hT := tdok_toTTree dom net dens isBern hw hok hcat hnw root hr
  rw [evalNet_refines _ dens net hw root hr, ← toCirc_toTTree net dens isBern] at h ⊢
  rw [mpeNet_refines dom net dens isBern hw hok root hr e]
  exact mpe_positive dom _ hT.1 hT.2.2.1 hT.2.2.2.1 e h

end ordered

def cat (i v : Nat) (tbl : List Rat) : NNode Rat :=
  { id := i, kind := .leaf, scope := [v], ch := [], ws := [], leaf := .cat v tbl }
def prd (i : Nat) (sc ch : List Nat) : NNode Rat :=
  { id := i, kind := .prod, scope := sc, ch := ch, ws := [], leaf := .absent }

/-- nodes 0..3 leaves (0, 2, 3 Bernoulli), 4 = shared product over variables 1,2, 5..7 products over all
variables (5 and 6 share node 4; 5 and 7 share leaf 0; 4 and 7 share leaves 1, 2), 8 = root sum of 5,6,7 -/
def exNet : Net Rat :=
  [ cat 0 0 [1/2, 1/2], cat 1 1 [1/10, 6/10, 3/10], cat 2 2 [9/10, 1/10], cat 3 0 [1/5, 4/5],
    prd 4 [1, 2] [1, 2], prd 5 [0, 1, 2] [0, 4], prd 6 [2, 1, 0] [3, 4], prd 7 [0, 1, 2] [0, 1, 2],
    { id := 8, kind := .sum, scope := [0, 1, 2], ch := [5, 6, 7], ws := [1/5, 1/2, 3/10], leaf := .absent } ]

def exBern : Nat → Bool := fun i => i == 0 || i == 2 || i == 3

theorem exNet_wo : WellOrdered exNet := (wellOrderedB_iff exNet).1 (by decide)

theorem exNet_ok : ∀ i (x : NNode Rat), exNet[i]? = some x → NodeOK exDom exNet [] i x := by
  have hleaf : ∀ (v : Nat) (tbl : List Rat), tbl.length = exDom v → tsum tbl = 1 →
      LeafOK exDom [v] (LeafP.fn [v] 0 (.cat v tbl)) := Circ.catLeaf_ok exDom
  nth_rewrite 1 [exNet]
  simp only [forall_idx_cons, forall_idx_nil]
  exact ⟨(nodeOK_leaf_iff rfl).2 (hleaf 0 _ rfl (by decide +kernel)), (nodeOK_leaf_iff rfl).2 (hleaf 1 _ rfl (by decide +kernel)),
    (nodeOK_leaf_iff rfl).2 (hleaf 2 _ rfl (by decide +kernel)), (nodeOK_leaf_iff rfl).2 (hleaf 0 _ rfl (by decide +kernel)),
    (nodeOK_prod_iff rfl).2 (by decide), (nodeOK_prod_iff rfl).2 (by decide), (nodeOK_prod_iff rfl).2 (by decide),
    (nodeOK_prod_iff rfl).2 (by decide), (nodeOK_sum_iff rfl).2 (by decide), trivial⟩

theorem exNet_cat : CatLeaves exDom exNet exBern := by
  unfold CatLeaves exNet
  simp only [forall_idx_cons, forall_idx_nil]
  exact ⟨fun _ => ⟨0, _, rfl, rfl, rfl, by decide +kernel, by decide +kernel, fun _ => rfl⟩,
    fun _ => ⟨1, _, rfl, rfl, rfl, by decide +kernel, by decide +kernel, fun h => absurd h (by decide)⟩,
    fun _ => ⟨2, _, rfl, rfl, rfl, by decide +kernel, by decide +kernel, fun _ => rfl⟩,
    fun _ => ⟨0, _, rfl, rfl, rfl, by decide +kernel, by decide +kernel, fun _ => rfl⟩,
    nofun, nofun, nofun, nofun, nofun, trivial⟩

theorem exNet_nw : NonNegW exNet := by
  unfold NonNegW exNet
  simp only [forall_idx_cons, forall_idx_nil]
  exact ⟨nofun, nofun, nofun, nofun, nofun, nofun, nofun, nofun, fun _ => by decide +kernel, trivial⟩

example : ∀ v, exE v ≠ none → mpeNet exE [] exNet 8 exBern v = exE v :=
  mpeNet_keeps_observed exE [] exNet 8 exBern

example : mpeNet exE [] exNet 8 exBern = mpeDescent exE (toTTree exNet [] exBern 9 8) :=
  mpeNet_refines exDom exNet [] exBern exNet_wo exNet_ok 8 (by simp [exNet]) exE

/-- another topological order of the witness (the Kahn / BFS order the code would use: 8,5,6,7,3,4,0,1,2) -/
example : (mpeNetOrd [8, 5, 6, 7, 3, 4, 0, 1, 2] exE [] exNet 8 exBern).row = mpeDescent exE (toTTree exNet [] exBern 9 8) :=
  mpeNetOrd_refines exDom exNet [] exBern exNet_wo exNet_ok _ (by simp only [TopoOrd]; decide) 8 (by decide) exE

example : Completes (scopeOf exNet 8) exE (mpeNet exE [] exNet 8 exBern) :=
  (mpeNet_completes exDom exNet [] exBern exNet_wo exNet_ok exNet_cat exNet_nw 8 (by simp [exNet]) exE).1

theorem exNet_val : (evalNet exE [] exNet).getD 8 0 = 1/10 := by decide +kernel

example : 0 < (evalNet (mpeNet exE [] exNet 8 exBern) [] exNet).getD 8 0 :=
  mpeNet_positive exDom exNet [] exBern exNet_wo exNet_ok exNet_cat exNet_nw 8 (by simp [exNet]) exE
    (by rw [exNet_val]; norm_num)

end C06
end Deeprob
