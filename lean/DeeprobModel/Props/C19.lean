import DeeprobModel.Lemmas.MomentNet
import DeeprobModel.Lemmas.NetValid
import Mathlib.Algebra.Order.Field.Rat
import Mathlib.Tactic.NormNum
set_option linter.unusedSimpArgs false
set_option linter.unusedVariables false
set_option linter.unusedSectionVars false
/-
C19 — moment queries return exact moments (`deeprob/spn/algorithms/moments.py`).
The derived statistics (variance / skewness / kurtosis) are obligations on generated formulas: `Oblig/C19.lean`
(on the moments of a circuit: `e2e_moment_variance` / `_skewness` / `_kurtosis` in `Props/E2ECirc.lean`).
-/
namespace Deeprob.C19
open Deeprob MCirc Circ
variable {α : Type} [CommSemiring α]

/-- **C19, discrete circuits.** For every valid (smooth, decomposable) circuit with normalised
weights and leaves, whose leaves report their own exact raw moments, and every variable `v` of the root scope,
the recursion of `moment(root, k)` returns `E[X_v^k] = Σ_x x_v^k · c(x)`, the sum ranging over all complete
rows of the scope. Any arity, depth, commutative semiring. -/
theorem moment_exact (dom : Nat → Nat) (k v : Nat) (c : MCirc α)
    (hv : Valid dom c.toCirc) (hn : NormW c.toCirc) (hl : LeafNorm dom c.toCirc) (hm : MomOK dom k v c)
    (hin : v ∈ c.scope) :
    moment k v c = momentSpec dom k v c.toCirc := by
  unfold momentSpec
  rw [scope_toCirc]
  exact (moment_exact_aux dom k v c hv hn hl hm (fun _ => none) (fun _ _ => rfl) hin).symm

/-- closed-form raw moments of a table leaf (`rv_discrete.moment`): `Σ_j j^k·tbl[j]` is the exact raw moment -/
theorem cat_momOK (dom : Nat → Nat) (k v w : Nat) (tbl : List α) (hlen : tbl.length = dom w) :
    MomOK dom k v (MCirc.cat w tbl) := by
  unfold MCirc.cat MomOK
  intro hin
  have : v = w := by simpa using hin
  subst this
  simp only [sumOver, tblMoment, hlen]
  apply sumVar_congr; intro j
  simp [gPow, valC, catLeafFn, Ev.set_self]

/-- Bernoulli: every raw moment of order ≥ 1 is `p` (`scipy.stats.bernoulli.moment(k, p)`) -/
theorem bernoulli_moment (k : Nat) (q p : α) : tblMoment (k+1) [q, p] = p := by
  simp [tblMoment, sumVar, List.range_succ, natC, powN, MCirc.powN_one]

/-- **moment_exact on the stored table** (DAGs, sharing included): entry `root` of `momentNet` is the exact
moment of the circuit that `evalNet` evaluates (its tree unfolding `toTree`). -/
theorem momentNet_exact (dom : Nat → Nat) (k v : Nat) (dens : List α) (moms : Nat → List α) (net : Net α)
    (hw : WellOrdered net) (root : Nat) (hr : root < net.length)
    (hv : Valid dom (toTree net dens (root+1) root)) (hn : NormW (toTree net dens (root+1) root))
    (hl : LeafNorm dom (toTree net dens (root+1) root))
    (hm : MomOK dom k v (toMTree net dens moms (root+1) root))
    (hin : v ∈ (toTree net dens (root+1) root).scope) :
    (momentNet k v (moms k) net).getD root 0 = momentSpec dom k v (toTree net dens (root+1) root) := by
  rw [momentNet_refines k v dens moms net hw root hr]
  have ht := toCirc_toMTree net dens moms (root+1) root
  rw [← ht] at hv hn hl hin ⊢
  exact moment_exact dom k v _ hv hn hl hm (by simpa using hin)

/-- **general form** (continuous leaves): whatever "integration against `x_v^k`" means for the leaf
families at hand, if it is linear at sum nodes, factorises at (decomposable) product nodes, and at a leaf
returns that leaf's raw moment — or its total mass one when `v` is outside the leaf's scope — then it is what
`moment` computes. (For Gaussian / Uniform / histogram leaves the three hypotheses are linearity of the integral,
Fubini, and the raw moments of the leaf, which are proved in `Props/LeafTheory.lean` and `Props/GaussTheory.lean`.) -/
theorem moment_exact_abstract (k v : Nat) (J : MCirc α → α)
    (hleaf : ∀ s f mom, J (.leaf s f mom) = if s.contains v then mom k v else 1)
    (hsum : ∀ s ws cs, J (.sum s ws cs) = wsum ws (cs.map J))
    (hprod : ∀ s cs, J (.prod s cs) = lprod (cs.map J)) :
    (c : MCirc α) → J c = moment k v c := by
  intro c
  induction c using MCirc.induct with
  | leaf s f mom => rw [hleaf, moment]
  | sum s ws cs ih => rw [hsum, moment, List.map_congr_left ih]
  | prod s cs ih => rw [hprod, moment, List.map_congr_left ih]

/-- order 0 is answered with ones without any computation … -/
theorem moment_zero_api (c : MCirc α) : momentApi c 0 = some ((List.range c.scope.length).map (fun _ => 1)) := by
  simp [momentApi]

/-- … and one is the exact 0-th moment (the total mass) of a valid normalised circuit -/
theorem moment_zero (dom : Nat → Nat) (v : Nat) (c : Circ α) (hv : Valid dom c) (hn : NormW c) (hl : LeafNorm dom c) :
    momentSpec dom 0 v c = 1 := by
  unfold momentSpec
  simp only [gPow, powN, one_mul]
  exact normalised dom c hv hn hl

/-- negative orders are rejected, non-negative ones answered -/
theorem moment_negative (c : MCirc α) (order : Int) : momentApi c order = none ↔ order < 0 := by
  unfold momentApi; split <;> rename_i h
  · simp [h]
  · split <;> simp [h]

/-! ### non-vacuity: a mixture of two products over a Bernoulli and a 3-valued Categorical variable -/

def exDom : Nat → Nat := fun v => if v = 0 then 2 else 3
def exCof (t4 : List ℚ) : MCirc ℚ :=
  .sum [0, 1] [2/5, 3/5]
    [.prod [0, 1] [MCirc.cat 0 [4/5, 1/5], MCirc.cat 1 [1/5, 3/10, 1/2]],
     .prod [1, 0] [MCirc.cat 1 [1/10, 1/10, 4/5], MCirc.cat 0 t4]]
def exC : MCirc ℚ := exCof [3/10, 7/10]

theorem exCof_valid (t4 : List ℚ) (h1 : t4.length = 2) (h2 : tsum t4 = 1) : Valid exDom (exCof t4).toCirc :=
  have leaf := cat_valid (α := ℚ) exDom
  valid_sum.2 ⟨List.cons_ne_nil _ _, rfl,
    forall_mem_two (fun _ => Iff.rfl) (fun _ => (List.Perm.swap 0 1 []).mem_iff),
    forall_mem_two
      (valid_prod.2 ⟨by decide, fun _ => Iff.rfl,
        forall_mem_two (leaf 0 _ rfl (by decide +kernel)) (leaf 1 _ rfl (by decide +kernel))⟩)
      (valid_prod.2 ⟨(by decide : [1, 0].Nodup), fun _ => Iff.rfl,
        forall_mem_two (leaf 1 _ rfl (by decide +kernel)) (leaf 0 _ h1 h2)⟩)⟩

theorem exCof_normW (t4 : List ℚ) : NormW (exCof t4).toCirc :=
  normW_sum.2 ⟨by decide +kernel,
    forall_mem_two (normW_prod.2 (forall_mem_two (cat_normW _ _) (cat_normW _ _)))
      (normW_prod.2 (forall_mem_two (cat_normW _ _) (cat_normW _ _)))⟩

theorem exCof_leafNorm (t4 : List ℚ) : LeafNorm exDom (exCof t4).toCirc :=
  leafNorm_sum.2 (forall_mem_two
    (leafNorm_prod.2 (forall_mem_two (cat_leafNorm _ _ _) (cat_leafNorm _ _ _)))
    (leafNorm_prod.2 (forall_mem_two (cat_leafNorm _ _ _) (cat_leafNorm _ _ _))))

theorem exCof_momOK (t4 : List ℚ) (h1 : t4.length = 2) (k v : Nat) : MomOK exDom k v (exCof t4) := by
  simp only [exCof, MomOK]
  exact forall_mem_two (by rw [MomOK]; exact forall_mem_two (cat_momOK _ k v 0 _ rfl) (cat_momOK _ k v 1 _ rfl))
    (by rw [MomOK]; exact forall_mem_two (cat_momOK _ k v 1 _ rfl) (cat_momOK _ k v 0 _ h1))

theorem exC_valid : Valid exDom exC.toCirc := exCof_valid _ rfl (by norm_num [tsum])
theorem exC_normW : NormW exC.toCirc := exCof_normW _
theorem exC_leafNorm : LeafNorm exDom exC.toCirc := exCof_leafNorm _
theorem exC_momOK (k v : Nat) : MomOK exDom k v exC := exCof_momOK _ rfl k v

/-- all hypotheses of `moment_exact` hold for `exC`, for every order and both variables -/
example (k : Nat) : moment k 1 exC = momentSpec exDom k 1 exC.toCirc :=
  moment_exact exDom k 1 exC exC_valid exC_normW exC_leafNorm (exC_momOK k 1) (by simp [exC, exCof, MCirc.scope])

/-- the numbers of the differential run: E[X₁] = 77/50 (float32 1.5400001), E[X₁²] = 29/10, E[X₀] = 1/2 -/
example : moment 1 1 exC = 77/50 ∧ moment 2 1 exC = 29/10 ∧ moment 1 0 exC = 1/2 := by
  simp only [exC, exCof, moment, MCirc.cat, List.map]
  decide +kernel

example : momentApi exC 0 = some [1, 1] := by simp [moment_zero_api, exC, exCof, MCirc.scope]
example : momentSpec exDom 0 1 exC.toCirc = 1 := moment_zero exDom 1 _ exC_valid exC_normW exC_leafNorm

/-! non-vacuity of `momentNet_exact`: the same mixture stored as a node table in which the two products share the
Bernoulli leaf of X₀ (node 0) — a DAG; its unfolding is `exCof [4/5, 1/5]` -/

def exNet : Net ℚ :=
  [⟨3, .leaf, [0], [], [], .cat 0 [4/5, 1/5]⟩, ⟨4, .leaf, [1], [], [], .cat 1 [1/5, 3/10, 1/2]⟩,
   ⟨5, .leaf, [1], [], [], .cat 1 [1/10, 1/10, 4/5]⟩,
   ⟨1, .prod, [0, 1], [0, 1], [], .absent⟩, ⟨2, .prod, [1, 0], [2, 0], [], .absent⟩,
   ⟨0, .sum, [0, 1], [3, 4], [2/5, 3/5], .absent⟩]

theorem exNet_unfold : toMTree exNet [] (fun _ => []) 6 5 = exCof [4/5, 1/5] := by
  rfl

theorem exNet_wellOrdered : WellOrdered exNet := by
  rw [← wellOrderedB_iff]; decide

example (k : Nat) : (momentNet k 1 [] exNet).getD 5 0 = momentSpec exDom k 1 (toTree exNet [] 6 5) := by
  have hu := exNet_unfold
  have ht := toCirc_toMTree exNet [] (fun _ => []) 6 5
  refine momentNet_exact exDom k 1 [] (fun _ => []) exNet exNet_wellOrdered 5 (by simp [exNet]) ?_ ?_ ?_ ?_ ?_
  · rw [← ht, hu]; exact exCof_valid _ rfl (by norm_num [tsum])
  · rw [← ht, hu]; exact exCof_normW _
  · rw [← ht, hu]; exact exCof_leafNorm _
  · rw [hu]; exact exCof_momOK _ rfl k 1
  · rw [← ht, hu]; simp [exCof, MCirc.toCirc, Circ.scope]

example : (momentNet 2 1 [] exNet).getD 5 0 = 29/10 := by decide +kernel

/-- witness of finding F12 (DESIGN.md): `skewness` of the library as received had the numerator
`m3 − m1·(3·m2 + 2·m1²)`; on Bernoulli(1/5) (m1 = m2 = m3 = 1/5) it is 8/125, while the third central moment
`m3 − 3·m1·m2 + 2·m1³` is 12/125 (skewness 1.0 instead of 1.5).  That today's `skewness` is the third central moment
over σ³ is `Oblig.C19.skewness_is_central3`. -/
theorem old_skewness_wrong :
    let m : ℚ := 1/5
    m - m * (3 * m + 2 * m ^ 2) = 8/125 ∧ m - 3 * m * m + 2 * m ^ 3 = 12/125 := by
  norm_num

end Deeprob.C19
