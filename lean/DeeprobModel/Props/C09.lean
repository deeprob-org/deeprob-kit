import DeeprobModel.Lemmas.RewriteLemmas
import DeeprobModel.Props.CircMarg
import Mathlib.Algebra.Ring.Rat
import Mathlib.Tactic.NormNum
set_option linter.unusedSectionVars false
set_option linter.unusedSimpArgs false
/-
C09 — pruning preserves the distribution and yields a normal form (tree level).
Model: `Circ.prune` (Model/Rewrite.lean) mirrors structure.py `prune` bottom-up on trees.
The DAG-faithful model with sharing, merging of coinciding children and `assign_ids` is
`pruneNet` (Model/RewriteNet.lean); its theorems are in Props/C09Net.lean.
-/
namespace Deeprob
namespace Circ

/-! ### a concrete circuit used by the non-vacuity examples
`P[0,1]( S[0]{½,½}( S[0]{1}(B₀), B₀' ), P[1]( P[1](B₁) ) )`: a single-child sum under a sum, a chain of
single-child products. -/
namespace C09ex
def dom : Nat → Nat := fun _ => 2
def l0 : Circ Rat := catLeaf 0 [1/2, 1/2]
def l0' : Circ Rat := catLeaf 0 [1/4, 3/4]
def l1 : Circ Rat := catLeaf 1 [1/3, 2/3]
def c : Circ Rat :=
  .prod [0, 1] [ .sum [0] [1/2, 1/2] [ .sum [0] [1] [l0], l0' ], .prod [1] [ .prod [1] [l1] ] ]
/-- what `prune` makes of it -/
def pruned : Circ Rat := .prod [0, 1] [ .sum [0] [1/2, 1/2] [l0, l0'], l1 ]

theorem valid_leaf (v : Nat) (tbl : List Rat) (hl : tbl.length = 2) (hs : tsum tbl = 1) :
    Valid dom (catLeaf v tbl) := by
  unfold catLeaf Valid; exact catLeaf_ok dom v tbl hl hs

@[simp] theorem scope_l0 : scope l0 = [0] := rfl
@[simp] theorem scope_l0' : scope l0' = [0] := rfl
@[simp] theorem scope_l1 : scope l1 = [1] := rfl
theorem valid_l0 : Valid dom l0 := valid_leaf 0 _ rfl (by norm_num [tsum])
theorem valid_l0' : Valid dom l0' := valid_leaf 0 _ rfl (by norm_num [tsum])
theorem valid_l1 : Valid dom l1 := valid_leaf 1 _ rfl (by norm_num [tsum])

theorem valid_c : Valid dom c := by
  simp only [c, one_div, Valid, List.map_cons, scope_sum, scope_prod, List.map_nil, List.flatten_cons,
    List.flatten_nil, List.append_nil, List.cons_append, List.nil_append, List.nodup_cons, List.mem_cons, zero_ne_one,
    List.not_mem_nil, or_self, not_false_eq_true, List.nodup_nil, and_self, scopeEq, or_false, implies_true,
    forall_eq_or_imp, ne_eq, reduceCtorEq, List.length_cons, List.length_nil, zero_add, Nat.reduceAdd, forall_eq,
    scope_l0', List.cons_ne_self, scope_l0, valid_l0, valid_l0', scope_l1, valid_l1]

theorem normW_c : NormW c := by
  simp only [c, NormW, List.forall_mem_cons, List.not_mem_nil, false_imp_iff, implies_true, and_true, l0, l0', l1,
    normW_catLeaf]
  norm_num [tsum]

theorem leafNorm_c : LeafNorm dom c := by
  simp only [c, LeafNorm, List.forall_mem_cons, List.not_mem_nil, false_imp_iff, implies_true, and_true, l0, l0', l1,
    leafNorm_catLeaf]

theorem scopesNodup_c : ScopesNodup c := by
  simp only [c, ScopesNodup, List.forall_mem_cons, List.not_mem_nil, false_imp_iff, implies_true, and_true, l0, l0',
    l1, scopesNodup_catLeaf]
  decide

theorem prodNE_c : ProdNE c := by
  simp only [c, ProdNE, List.forall_mem_cons, List.not_mem_nil, false_imp_iff, implies_true, and_true, l0, l0', l1,
    prodNE_catLeaf, ne_eq, reduceCtorEq, not_false_eq_true]

theorem prune_c : prune c = pruned := by
  simp only [c, one_div, l0, catLeaf, l0', l1, prune, rwProd, List.map_cons, rwSum, List.map_nil, absorbSum, sumKids,
    List.zip_cons_cons, List.zip_nil_right, List.flatten_cons, List.flatten_nil, List.append_nil, List.cons_append,
    List.nil_append, absorbProd, prodKids, pruned]
end C09ex

variable {α : Type} [CommSemiring α]

/-- **pruning preserves the value** under every evidence `e` (complete or with missing entries).
Only hypothesis: a sum node with a single child carries the weight list `[1]`. -/
theorem prune_preserves_eval : (c : Circ α) → UnitSingle c → ∀ e, eval e (prune c) = eval e c := by
  intro c
  induction c using ind with
  | hl s f => intro _ e; rw [prune]
  | hs s ws cs ih =>
    intro h e
    unfold UnitSingle at h
    rw [prune, eval_mkSum e s ws _ (by simpa only [List.length_map] using h.1), eval, List.map_map]
    exact congrArg _ (List.map_congr_left fun c hc => ih c hc (h.2 c hc) e)
  | hp s cs ih =>
    intro h e
    unfold UnitSingle at h
    rw [prune, eval_mkProd, eval, List.map_map]
    exact congrArg _ (List.map_congr_left fun c hc => ih c hc (h c hc) e)

/-- the same for valid circuits whose sum weights sum to one (what `Sum.__init__` enforces) -/
theorem prune_preserves_eval_valid (dom : Nat → Nat) (c : Circ α) (hv : Valid dom c) (hn : NormW c) (e : Ev) :
    eval e (prune c) = eval e c :=
  prune_preserves_eval c (unitSingle_of_normW c (lenOK_of_valid dom c hv) hn) e

example : ∀ e, eval e (prune C09ex.c) = eval e C09ex.c :=
  prune_preserves_eval_valid C09ex.dom _ C09ex.valid_c C09ex.normW_c

/-- the hypothesis cannot be dropped: a one-child sum with weight 2 changes value -/
example : eval (fun _ => none) (prune (.sum [0] [2] [C09ex.l0])) ≠ eval (fun _ => none) (.sum [0] [2] [C09ex.l0] : Circ Rat) := by
  simp only [C09ex.l0, catLeaf, one_div, prune, rwSum, List.map_cons, List.map_nil, eval, catLeafFn, wsum, mul_one,
    add_zero, ne_eq, OfNat.one_ne_ofNat, not_false_eq_true]

theorem prune_valid (dom : Nat → Nat) (c : Circ α) (hv : Valid dom c) (hd : ScopesNodup c) :
    Valid dom (prune c) := (prune_ok dom c hv hd).1

theorem prune_scopesNodup (dom : Nat → Nat) (c : Circ α) (hv : Valid dom c) (hd : ScopesNodup c) :
    ScopesNodup (prune c) := (prune_ok dom c hv hd).2.1

theorem prune_scope (dom : Nat → Nat) (c : Circ α) (hv : Valid dom c) (hd : ScopesNodup c) :
    scopeEq (scope (prune c)) (scope c) := (prune_ok dom c hv hd).2.2

/-- weights still sum to one at every sum, leaves still have total mass one -/
theorem prune_normalised (dom : Nat → Nat) (c : Circ α) (hv : Valid dom c) (hn : NormW c) (hl : LeafNorm dom c) :
    NormW (prune c) ∧ LeafNorm dom (prune c) :=
  (prune_norm dom c (lenOK_of_valid dom c hv) hn hl).2

example : Valid C09ex.dom (prune C09ex.c) ∧ ScopesNodup (prune C09ex.c) ∧
    scopeEq (scope (prune C09ex.c)) [0, 1] ∧ NormW (prune C09ex.c) ∧ LeafNorm C09ex.dom (prune C09ex.c) :=
  ⟨prune_valid _ _ C09ex.valid_c C09ex.scopesNodup_c, prune_scopesNodup _ _ C09ex.valid_c C09ex.scopesNodup_c,
   prune_scope _ _ C09ex.valid_c C09ex.scopesNodup_c,
   prune_normalised _ _ C09ex.valid_c C09ex.normW_c C09ex.leafNorm_c⟩

/-- the duplicate-free-scope hypothesis (`Node.__init__` enforces it) cannot be dropped: `Valid`
compares scopes as sets, so a one-child sum may hide a child whose scope *list* repeats a variable -/
example : ∃ c : Circ Rat, (∀ dom, Valid dom c → ¬ Valid dom (prune c)) ∧ ¬ ScopesNodup c :=
  ⟨.prod [0, 1] [.sum [0] [1] [.leaf [0, 0] (fun _ => 1)], .leaf [1] (fun _ => 1)], by
    intro dom _ h
    simp only [prune, rwProd, List.map_cons, rwSum, List.map_nil, absorbProd, prodKids, List.flatten_cons,
      List.flatten_nil, List.append_nil, List.cons_append, List.nil_append, Valid, scope, List.nodup_cons,
      List.mem_cons, zero_ne_one, List.not_mem_nil, or_self, or_false, not_true_eq_false, not_false_eq_true,
      List.nodup_nil, and_self, and_true, forall_eq_or_imp, forall_eq, false_and] at h, by
    simp only [ScopesNodup, List.nodup_cons, List.mem_cons, zero_ne_one, List.not_mem_nil, or_self, not_false_eq_true,
      List.nodup_nil, and_self, or_false, forall_eq_or_imp, forall_eq, not_true_eq_false, and_true, and_false]⟩

/-- **normal form** of the result, from the structural part of `check_spn` alone -/
theorem prune_normal_form_of_shape (c : Circ α) (h : Shape c) : NormalForm (prune c) :=
  (prune_shape_nf c h).2

/-- **normal form**: after pruning no inner node has fewer than two children, no sum is a child of a
sum, no product a child of a product. (`ProdNE`: every product has a child — `Valid` alone accepts the
empty product over the empty scope, `is_decomposable` does not.) -/
theorem prune_normal_form (dom : Nat → Nat) (c : Circ α) (hv : Valid dom c) (hp : ProdNE c) :
    NormalForm (prune c) :=
  prune_normal_form_of_shape c (shape_of_valid dom c hv hp)

example : NormalForm (prune C09ex.c) ∧ ¬ NormalForm C09ex.c :=
  ⟨prune_normal_form _ _ C09ex.valid_c C09ex.prodNE_c, by simp only [C09ex.c, one_div, NormalForm, List.length_cons,
    List.length_nil, zero_add, Nat.reduceAdd, Std.le_refl, List.mem_cons, List.not_mem_nil, or_false,
    forall_eq_or_imp, forall_eq, Nat.not_ofNat_le_one, false_and, and_false, and_self, not_false_eq_true]⟩

/-- `ProdNE` cannot be dropped: an empty product child is absorbed and leaves a one-child product -/
example : ∃ c : Circ Rat, Valid C09ex.dom c ∧ ¬ NormalForm (prune c) :=
  ⟨.prod [0] [C09ex.l0, .prod [] []], by
    simp only [Valid, List.map_cons, C09ex.scope_l0, scope_prod, List.map_nil, List.flatten_cons, List.flatten_nil,
      List.append_nil, List.nodup_cons, List.not_mem_nil, not_false_eq_true, List.nodup_nil, and_self, scopeEq,
      List.mem_cons, or_false, implies_true, forall_eq_or_imp, C09ex.valid_l0, forall_eq, IsEmpty.forall_iff], by
    simp only [C09ex.l0, catLeaf, one_div, prune, rwProd, List.map_cons, List.map_nil, absorbProd, List.flatten_nil,
      prodKids, List.flatten_cons, List.append_nil, NormalForm, List.length_cons, List.length_nil, zero_add,
      Nat.not_ofNat_le_one, List.mem_cons, List.not_mem_nil, or_false, forall_eq, and_true, false_and,
      not_false_eq_true]⟩

/-- **a circuit in normal form is a fixed point** of `prune` (on trees: literally equal) -/
theorem prune_fix_tree (c : Circ α) (hn : NormalForm c) (hl : LenOK c) : prune c = c := prune_fix c hn hl

example : prune C09ex.pruned = C09ex.pruned :=
  prune_fix_tree _
    (by simp only [C09ex.pruned, NormalForm, List.forall_mem_cons, List.not_mem_nil, false_imp_iff, implies_true,
          and_true, C09ex.l0, C09ex.l0', C09ex.l1, normalForm_catLeaf, isSum_catLeaf, isProd_catLeaf, isProd]
        decide)
    (by simp only [C09ex.pruned, LenOK, List.forall_mem_cons, List.not_mem_nil, false_imp_iff, implies_true,
          and_true, C09ex.l0, C09ex.l0', C09ex.l1, lenOK_catLeaf]
        decide)

/-- **pruning again changes nothing** -/
theorem prune_idem_of_shape (c : Circ α) (h : Shape c) : prune (prune c) = prune c :=
  prune_fix _ (prune_shape_nf c h).2 (lenOK_of_shape _ (prune_shape_nf c h).1)

theorem prune_idem (dom : Nat → Nat) (c : Circ α) (hv : Valid dom c) (hp : ProdNE c) :
    prune (prune c) = prune c :=
  prune_idem_of_shape c (shape_of_valid dom c hv hp)

example : prune (prune C09ex.c) = prune C09ex.c ∧ prune C09ex.c ≠ C09ex.c :=
  ⟨prune_idem _ _ C09ex.valid_c C09ex.prodNE_c, by rw [C09ex.prune_c]; simp only [C09ex.pruned, one_div, C09ex.l0,
    catLeaf, C09ex.l1, C09ex.c, ne_eq, prod.injEq, List.cons.injEq, sum.injEq, reduceCtorEq, and_true, and_false,
    and_self, not_false_eq_true]⟩

end Circ
end Deeprob
