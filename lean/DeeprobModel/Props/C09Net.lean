import DeeprobModel.Lemmas.RewriteNetLabel
import Mathlib.Algebra.Ring.Rat
import Mathlib.Tactic.NormNum
set_option linter.unusedSectionVars false
set_option linter.unusedSimpArgs false
set_option linter.unusedVariables false
/-
C09 at the level the code works on: the node table with sharing (`Model/RewriteNet.lean`).
`pruneNetWith true` (`pruneNet`) mirrors `prune` of the library after the fix of finding F7 of DESIGN.md §7 (a sum
left with one distinct child is replaced by that child), `pruneNetWith false` (`pruneNetOld`) the code before that fix.
-/
namespace Deeprob
open Net Circ

/-! ### the witness circuit: a root sum over two single-child sums that share one leaf -/
namespace C09w
def net : Net Rat :=
  [ { id := 3, kind := .leaf, scope := [0], ch := [], ws := [], leaf := .cat 0 [1/2, 1/2] },
    { id := 1, kind := .sum, scope := [0], ch := [0], ws := [1], leaf := .absent },
    { id := 2, kind := .sum, scope := [0], ch := [0], ws := [1], leaf := .absent },
    { id := 0, kind := .sum, scope := [0], ch := [1, 2], ws := [1/2, 1/2], leaf := .absent } ]

/-- what is compared: kind, new id, children, weights of every exported node -/
def view (r : Option (Net Rat × List Nat)) : List (Kind × Nat × List Nat × List Rat) :=
  match r with
  | some p => p.1.map (fun x => (x.kind, x.id, x.ch, x.ws))
  | none => []
/-- for every exported node, its index in the input table (object identity) -/
def origin (r : Option (Net Rat × List Nat)) : List Nat := match r with | some p => p.2 | none => []

theorem wellOrdered : WellOrdered net := (wellOrderedB_iff net).1 (by decide)

theorem sumOK : NetSumOK net := netSumOK_of_forall_mem net (by decide +kernel)
end C09w

/-- witness of the defect F7: on the checked circuit
`S{½,½}( S{1}(B), S{1}(B) )` with one shared leaf `B`, both children of the root are replaced by `B`, the
`children_weights` dictionary merges them into the single entry `B ↦ 1`, and the code before the fix keeps the root as a
sum with one child; the code after the fix returns the leaf. The accepted input passes `check_spn`. -/
theorem old_prune_single_child :
    Net.checkSpn C09w.net 3 true true true = .accept ∧
    C09w.view (pruneNetOld C09w.net 3) = [(.leaf, 1, [], []), (.sum, 0, [0], [1])] ∧
    C09w.origin (pruneNetOld C09w.net 3) = [0, 3] ∧
    C09w.view (pruneNet C09w.net 3) = [(.leaf, 0, [], [])] ∧
    C09w.origin (pruneNet C09w.net 3) = [0] ∧
    (∀ r ∈ pruneNetOld C09w.net 3, normalFormB r.1 (r.1.length - 1) = false) ∧
    (∀ r ∈ pruneNet C09w.net 3, normalFormB r.1 (r.1.length - 1) = true) := by
  refine ⟨by decide, by decide +kernel, by decide +kernel, by decide +kernel, by decide +kernel, ?_, ?_⟩ <;> decide +kernel

variable {α : Type} [CommSemiring α]

/-- **coinciding children are merged**: the children of a rebuilt sum node are pairwise distinct objects -/
theorem prune_keeps_sharing (t : Net α) (rep : List Nat) (x : NNode α) : ((sumAcc t rep x).map Prod.fst).Nodup :=
  foldl_accAdd_keys_nodup _ [] List.nodup_nil

/-- **C09 at DAG level, value**: the table returned by `prune` (before or after the fix) followed by `assign_ids` and the
canonical export has, at its root (last entry), the value the original table has at `root` — for every
evidence, shared sub-circuits and merged coinciding children included. `dens` are the supplied densities of
continuous leaves, indexed by node; the exported table reads them through `order`. -/
theorem pruneNetWith_eval (b : Bool) (net : Net α) (root : Nat) (hw : WellOrdered net) (hs : NetSumOK net)
    (hr : root < net.length) (out : Net α) (order : List Nat)
    (h : pruneNetWith b net root = some (out, order)) (e : Ev) (dens : List α) :
    out.length = order.length ∧ out ≠ [] ∧
    nval e (order.map (fun i => dens.getD i 0)) out (out.length - 1) = nval e dens net root := by
  have S := prunePass_sol b net hw
  obtain ⟨ko, hk, ho, he⟩ := pruneNetWith_unpack b net root hw hr out order h
  have hlen : out.length = order.length := by rw [he]; exact exportTable_length _ _ _
  have hpos : order.length - 1 < order.length := Nat.sub_lt (List.length_pos_iff.2 ho.ne) Nat.one_pos
  have hroot : order[order.length - 1] = (prunePass b net).2.getD root root := by
    have := ho.last
    rw [List.getElem?_eq_getElem hpos] at this
    exact Option.some.inj this
  refine ⟨hlen, fun h0 => ho.ne (List.eq_nil_of_length_eq_zero (by rw [← hlen, h0]; rfl)), ?_⟩
  rw [hlen, he, export_eval _ S.wellOrdered order (posIn ko) ho.closed ho.lt e dens _ hpos, hroot]
  exact (sol_val b net _ _ hw hs S e dens root hr).1

/-- `pruneNetWith_eval` for `prune` after the fix -/
theorem pruneNet_eval (net : Net α) (root : Nat) (hw : WellOrdered net) (hs : NetSumOK net)
    (hr : root < net.length) (out : Net α) (order : List Nat)
    (h : pruneNet net root = some (out, order)) (e : Ev) (dens : List α) :
    nval e (order.map (fun i => dens.getD i 0)) out (out.length - 1) = nval e dens net root :=
  (pruneNetWith_eval true net root hw hs hr out order h e dens).2.2

/-- `prune` before the fix preserves the value as well (its defect concerns the shape of the result) -/
theorem pruneNetOld_eval (net : Net α) (root : Nat) (hw : WellOrdered net) (hs : NetSumOK net)
    (hr : root < net.length) (out : Net α) (order : List Nat)
    (h : pruneNetOld net root = some (out, order)) (e : Ev) (dens : List α) :
    nval e (order.map (fun i => dens.getD i 0)) out (out.length - 1) = nval e dens net root :=
  (pruneNetWith_eval false net root hw hs hr out order h e dens).2.2

example : ∃ out order, pruneNet C09w.net 3 = some (out, order) ∧
    ∀ (e : Ev) (dens : List Rat), nval e (order.map (fun i => dens.getD i 0)) out (out.length - 1) = nval e dens C09w.net 3 := by
  obtain ⟨r, h⟩ := pruneNetWith_isSome true C09w.net 3 C09w.wellOrdered
  exact ⟨r.1, r.2, h, fun e dens =>
    (pruneNetWith_eval true C09w.net 3 C09w.wellOrdered C09w.sumOK (by decide) r.1 r.2 h e dens).2.2⟩

/-- on the witness, `prune` before the fix preserves the value as well (the defect is about the shape, not the value) -/
example : ∃ out order, pruneNetOld C09w.net 3 = some (out, order) ∧
    ∀ (e : Ev) (dens : List Rat), nval e (order.map (fun i => dens.getD i 0)) out (out.length - 1) = nval e dens C09w.net 3 := by
  obtain ⟨r, h⟩ := pruneNetWith_isSome false C09w.net 3 C09w.wellOrdered
  exact ⟨r.1, r.2, h, fun e dens =>
    (pruneNetWith_eval false C09w.net 3 C09w.wellOrdered C09w.sumOK (by decide) r.1 r.2 h e dens).2.2⟩

end Deeprob
