import DeeprobModel.Props.C09NetMore
import DeeprobModel.Lemmas.KahnLemmas
import DeeprobModel.Lemmas.KahnRename
set_option linter.unusedSectionVars false
set_option linter.unusedSimpArgs false
set_option linter.unusedVariables false
/-
C09 at DAG level: what needs the correctness of `topological_order` (`Net.kahn_spec`, `Lemmas/KahnLemmas.lean`) and its
invariance under the relabelling of the export (`Lemmas/KahnRename.lean`).
-/
namespace Deeprob
open Net
variable {α : Type} [CommSemiring α]

/-- **C09 at DAG level, the result of `prune` (after the fix of F7, `pruneNet`) passes `check_spn` with all three flags**, every
exported entry is reachable from the new root, and `prune` does not fail (no cycle is reported). Hypotheses: the
input is a children-first table accepted by `check_spn`, leaves have no children, stored scopes are duplicate-free. -/
theorem pruneNet_checkSpn (net : Net α) (root : Nat) (hw : WellOrdered net) (hr : root < net.length)
    (hacc : Net.checkSpn net root true true true = .accept)
    (hleaf : ∀ i ∈ collect net root, ∀ x, net[i]? = some x → x.kind = .leaf → x.ch = [])
    (hnd : ∀ i ∈ collect net root, (scopeOf net i).Nodup) :
    ∃ out order, pruneNet net root = some (out, order) ∧
      Net.checkSpn out (out.length - 1) true true true = .accept ∧
      normalFormB out (out.length - 1) = true ∧
      scopeEq (scopeOf out (out.length - 1)) (scopeOf net root) ∧
      (∀ p, p < out.length → p ∈ collect out (out.length - 1)) := by
  obtain ⟨⟨out, order⟩, h⟩ := pruneNetWith_isSome true net root hw
  have h1 := pruneNet_labeled net root hw hr hacc hleaf hnd out order h
  have h2 := pruneNet_normal_form net root hw hr hacc hleaf out order h
  have h3 := pruneNet_valid net root hw hr hacc hleaf hnd out order h
  exact ⟨out, order, h, h1.1, h2.1, h3.2.1, h1.2⟩

example : ∃ out order, pruneNet C09x.net 9 = some (out, order) ∧
      Net.checkSpn out (out.length - 1) true true true = .accept ∧ normalFormB out (out.length - 1) = true ∧
      scopeEq (scopeOf out (out.length - 1)) (scopeOf C09x.net 9) ∧
      (∀ p, p < out.length → p ∈ collect out (out.length - 1)) :=
  pruneNet_checkSpn C09x.net 9 C09x.wellOrdered (by decide) C09x.accept C09x.leafNoCh C09x.scopesNodup

/-- **`prune` as coded (`reversed(topological_order(root))`) = `prune` in storage order**, on every children-first
table; before and after the fix of F7 alike. In particular the run-time comparison of the two passes in the driver
can never fail. -/
theorem pruneNetKahn_eq' (b : Bool) (net : Net α) (hw : WellOrdered net) (root : Nat) (hr : root < net.length) :
    pruneNetKahn b net root = pruneNetWith b net root := by
  obtain ⟨ko, hk⟩ := Net.kahn_some_of net root (Net.chLt_of_wellOrdered net hw)
  exact pruneNetKahn_eq b net hw root hr ko hk (kahnOrdOK_of_wellOrdered net hw root ko hk)

example : pruneNetKahn true C09x.net 9 = pruneNet C09x.net 9 ∧ pruneNetKahn false C09x.net 9 = pruneNetOld C09x.net 9 :=
  ⟨pruneNetKahn_eq' true C09x.net C09x.wellOrdered 9 (by decide),
   pruneNetKahn_eq' false C09x.net C09x.wellOrdered 9 (by decide)⟩

/-- **C09 at DAG level, value, for the pass as coded**: `pruneNetWith_eval` lifted to `pruneNetKahn` -/
theorem pruneNetKahn_eval (b : Bool) (net : Net α) (root : Nat) (hw : WellOrdered net) (hs : NetSumOK net)
    (hr : root < net.length) (out : Net α) (order : List Nat)
    (h : pruneNetKahn b net root = some (out, order)) (e : Ev) (dens : List α) :
    out.length = order.length ∧ out ≠ [] ∧
    nval e (order.map (fun i => dens.getD i 0)) out (out.length - 1) = nval e dens net root := by
  rw [pruneNetKahn_eq' b net hw root hr] at h
  exact pruneNetWith_eval b net root hw hs hr out order h e dens

example : ∃ out order, pruneNetKahn true C09x.net 9 = some (out, order) ∧
    ∀ (e : Ev) (dens : List Rat),
      nval e (order.map (fun i => dens.getD i 0)) out (out.length - 1) = nval e dens C09x.net 9 := by
  obtain ⟨r, h⟩ := pruneNetWith_isSome true C09x.net 9 C09x.wellOrdered
  rw [← pruneNetKahn_eq' true C09x.net C09x.wellOrdered 9 (by decide)] at h
  exact ⟨r.1, r.2, h, fun e dens =>
    (pruneNetKahn_eval true C09x.net 9 C09x.wellOrdered C09x.sumOK (by decide) r.1 r.2 h e dens).2.2⟩

/-- idempotence, for an arbitrary set `P` of nodes that contains the root, is closed under children and has the shape
`check_spn` asks for -/
theorem pruneNet_idem_of (net : Net α) (root : Nat) (hw : WellOrdered net) (hr : root < net.length)
    (P : Nat → Prop) (hPcl : ∀ i, P i → ∀ c ∈ chOf net i, P c) (hPr : P root) (hsh : ShapeOK net P)
    (out : Net α) (order : List Nat) (h : pruneNet net root = some (out, order)) :
    pruneNet out (out.length - 1) = some (out, List.range out.length) := by
  obtain ⟨hwo, hnf⟩ := pruneNet_netNF_of net root hw hr P hPcl hPr hsh out order h
  rw [(pruneNet_fix out (out.length - 1) hwo hnf).2]
  have S := prunePass_sol true net hw
  exact exportFrom_export_ids _ S.wellOrdered _ (S.lt ▸ Nat.lt_of_le_of_lt (S.basic root hr).rep_le hr) out order h

/-- **C09 at DAG level, idempotence** (`prune` after the fix of F7, ids included): pruning the result again returns exactly
the same table in the same storage order — `nodes_map` of the second run is the identity, and the second
`assign_ids` writes the ids of the first (Kahn's order commutes with the relabelling of the export, `kahn_export`). -/
theorem pruneNet_idem (net : Net α) (root : Nat) (hw : WellOrdered net) (hr : root < net.length)
    (hacc : Net.checkSpn net root true true true = .accept)
    (hleaf : ∀ i ∈ collect net root, ∀ x, net[i]? = some x → x.kind = .leaf → x.ch = [])
    (out : Net α) (order : List Nat) (h : pruneNet net root = some (out, order)) :
    pruneNet out (out.length - 1) = some (out, List.range out.length) :=
  pruneNet_idem_of net root hw hr (fun i => i ∈ collect net root)
    (collect_closed_of_wellOrdered net hw root)
    (root_mem_collect net root) (shapeOK_of_accept net root true hacc hleaf) out order h

example : ∃ out order, pruneNet C09x.net 9 = some (out, order) ∧
    pruneNet out (out.length - 1) = some (out, List.range out.length) := by
  obtain ⟨r, h⟩ := pruneNetWith_isSome true C09x.net 9 C09x.wellOrdered
  exact ⟨r.1, r.2, h, pruneNet_idem C09x.net 9 C09x.wellOrdered (by decide) C09x.accept C09x.leafNoCh r.1 r.2 h⟩

/-- idempotence in one line: `prune ∘ prune = prune` on the table component -/
theorem pruneNet_idem' (net : Net α) (root : Nat) (hw : WellOrdered net) (hr : root < net.length)
    (hacc : Net.checkSpn net root true true true = .accept)
    (hleaf : ∀ i ∈ collect net root, ∀ x, net[i]? = some x → x.kind = .leaf → x.ch = []) :
    ((pruneNet net root).bind (fun r => pruneNet r.1 (r.1.length - 1))).map Prod.fst
      = (pruneNet net root).map Prod.fst := by
  cases h : pruneNet net root with
  | none => rfl
  | some r =>
    simp only [Option.bind_some, Option.map_some]
    rw [pruneNet_idem net root hw hr hacc hleaf r.1 r.2 h]
    rfl

example : ((pruneNet C09x.net 9).bind (fun r => pruneNet r.1 (r.1.length - 1))).map Prod.fst
    = (pruneNet C09x.net 9).map Prod.fst :=
  pruneNet_idem' C09x.net 9 C09x.wellOrdered (by decide) C09x.accept C09x.leafNoCh

end Deeprob
