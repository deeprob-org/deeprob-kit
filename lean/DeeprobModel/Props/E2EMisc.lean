import DeeprobModel.Oblig.Struct3Io
import DeeprobModel.Oblig.C13
import DeeprobModel.Props.C13
import DeeprobModel.Props.C13Gen
import DeeprobModel.Oblig.Struct3Posterior
import DeeprobModel.Oblig.StructTopDown
import DeeprobModel.Props.C20
import DeeprobModel.Oblig.Struct4RatSpn
import DeeprobModel.Props.C16Sample
/-
End-to-end corollaries, io / facade / tensorised circuits: the property theorems of `Props/*.lean` stated about the
definitions the translator extracts from the source, by composing the "as coded" obligations (`Oblig/*.lean`) with the
property theorems about the hand-written model.  Per section, what is generated and what is not:

### C13, `deeprob/spn/structure/io.py` (prefix `io`)
Generated: the rounding of the sum weights of one node (`Gen.S3ioSumWeights`), the number of decimals (`Gen.jsonDigits`),
the `add_edge` calls of ONE node (`Gen.S3ioEdges`), the update of `parent.children` for ONE edge on the reading side
(`Gen.S3ioPlace`), the constructor guard of `Sum` (`Gen.sumCtorRejects`).
Not generated (written out below, calling the generated definitions and nothing else of substance): the loop
`for node in topological_order(root)` of `spn_to_digraph` (`ioGenEncode`), the loop `for u, v, idx in graph.edges` of
`digraph_to_spn` (`ioGenChildrenOf`, `ioGenDecode`).  Not generated and taken from the model verbatim: the semantics of
`nx.DiGraph.add_edge` (`addEdge`: a simple digraph), the test that every child slot was filled (`allSome`), the float
casts of the constructors (`Io32.storeNode`), and the conversion of the LEAF parameters: the translator only extracts the
names of the conversions (`Gen.S3ioLeafParamConv`: "around8.tolist" / "round8"), not a function, so `ioGenEncodeNode`
rounds the parameters with `roundN Gen.jsonDigits`.

### C20 `SPNClassifier.predict_proba` / `predict_log_proba` / `predict` (prefix `pp`)
Generated: `Gen.S3predictLogProba` (the last two statements of `predict_log_proba` on one row of `X`), `Gen.S3predictProba`
(`np.exp` of it), `Gen.sumMpeScore` / `Gen.sumMpeSelector` / `Gen.sumMpeAxis` (the reduction `sum_mpe` performs),
`Gen.S3predictSteps` (names of the three steps of `predict`).  Not generated: the forward pass that produces the class
log-likelihoods `lls` (they enter as the logarithms of positive class likelihoods, column `r` of the class-major table
`L`), `np.argmax` (the model's `argmaxL`: first maximal index), and `predict` beyond its step names — `ppSumMpe` is the
root step of `mpe` written out (arg-max of the generated score over the children).

### C16, top-down pass of the RAT-SPN (prefix `rt`)
Generated: one row of `ProductLayer.sample/mpe` (`Gen.S4ratProdSample`), `SumLayer.mpe` (`Gen.S4ratSumMpe`),
`RootLayer.mpe` (`Gen.S4ratRootMpe`), `RootLayer.sample` index split (`Gen.S4ratRootSample`), the rows `SumLayer.sample`
draws from (`Gen.S4ratSumSampleLogits`), `unpad_samples` (`Gen.S4ratUnpad`), `RegionGraphLayer.mpe` (`Gen.S4ratBaseMpe`),
the pad (`Gen.ratPad`); the ORDER of the calls in `RatSpn.mpe` / `RatSpn.sample` only as statement listings
(`Gen.S4ratModelMpe`, `Gen.S4ratModelSample`).  Not generated: the loops themselves (`rtGenDown`, `rtGenPmfDown` write them
out: generated layer methods and nothing else), the forward values `lls` (`prodVal`, `sumVal`, `baseVal`: model), the
index buffers `inv_mask` / `inv_pad_mask` (model), the Bernoulli modes, the law of the base layer (`basePmf`: model), the
evidence-conditioned branch rows (`lawCond`: there is no such code).  The generated methods work on rows of `long`s
(`rtIdx`), in the linear-domain reading of `Oblig/Struct4RatSpn.lean` (`+ ↦ *`, `log_softmax(weight) ↦` soft-max row).
-/
set_option linter.unusedSectionVars false
set_option linter.unusedVariables false
namespace Deeprob.E2E

section io
open Deeprob

/-- `graph.add_node(node.id, **attr)` for one node: the sum weights through the GENERATED `Gen.S3ioSumWeights` (with the
exact decimal rounding `roundN` as the reading of `round(float(w), ·)`), the leaf parameters rounded to the GENERATED number
of decimals `Gen.jsonDigits` (the conversion itself is not generated as a function, see the header); class and scope are
copied (`Gen.S3ioSumAttr` / `Gen.S3ioProductAttr` / `Gen.S3ioLeafAttr` list exactly these attributes) -/
def ioGenEncodeNode (n : MNode) : DocNode :=
  { id := n.id, cls := n.cls, scope := n.scope,
    weights := Gen.S3ioSumWeights roundN n.weights,
    params := n.params.map (roundN Gen.jsonDigits) }

/-- the `add_edge` calls of one node: the GENERATED `Gen.S3ioEdges` (nodes are their ids: `nid = id`, the children of the
node are `n.ch`), each triple `(u, v, idx)` stored as the link `u → v` with attribute `idx` -/
def ioGenNodeEdges (n : MNode) : List Edge :=
  (Gen.S3ioEdges (N := Nat) id (fun _ => n.ch) n.id).map
    (fun t => ({ child := t.1, parent := t.2.1, idx := t.2.2.toNat } : Edge))

/-- the loop `for node in topological_order(root)` of `spn_to_digraph` written out: one call of the generated node writer
and of the generated edge writer per node, the edges inserted into a simple digraph (`addEdge`, the model of
`nx.DiGraph.add_edge`) -/
def ioGenEncode (m : Model) : Doc :=
  { nodes := m.map ioGenEncodeNode, edges := (m.flatMap ioGenNodeEdges).foldl addEdge [] }

/-- the loop `for u, v, idx in graph.edges` of `digraph_to_spn` written out for the parent with id `p`: one call of the
GENERATED `Gen.S3ioPlace` per link into `p`, in document order (links into other nodes do not touch this list, which is
how the model's `childrenOf` splits the single loop of the code) -/
def ioGenChildrenOf (es : List Edge) (p : Nat) : List (Option Nat) :=
  (es.filter (fun e => e.parent == p)).foldl (fun l e => Gen.S3ioPlace l (e.idx : Int) e.child) []

/-- `digraph_to_spn` with the generated placement of children (`none`: a child slot stayed `None`) -/
def ioGenDecode (d : Doc) : Option Model :=
  d.nodes.mapM (fun n => (allSome (ioGenChildrenOf d.edges n.id)).map (fun ch =>
    ({ id := n.id, cls := n.cls, scope := n.scope, weights := n.weights, params := n.params, ch := ch } : MNode)))

/-- `load_spn_json`: the generated reader followed by the constructors' float casts (`Io32.storeNode`, not generated) -/
def ioGenLoadDoc (d : Doc) : Option Model := (ioGenDecode d).map (fun m => m.map Io32.storeNode)

/-- total version (an unloadable document gives the empty model), as `Io32.loadModel` -/
def ioGenLoadModel (d : Doc) : Model := (ioGenLoadDoc d).getD []

/-- the generated node writer is the model's (`encodeNode_as_coded`, `round8_is_generated`) -/
theorem ioGenEncodeNode_eq (n : MNode) : ioGenEncodeNode n = encodeNode n := by
  obtain ⟨hw, hid, hc, hs, hp, _⟩ := Struct3.encodeNode_as_coded n
  cases h : encodeNode n with
  | mk id cls scope weights params =>
    rw [h] at hw hid hc hs hp
    simp only at hw hid hc hs hp
    subst hw hid hc hs hp
    rfl

/-- the generated edge writer is the model's (`nodeEdges_as_coded` read backwards: the obligation compares after a cast of
`idx` to `Int`) -/
theorem ioGenNodeEdges_eq (n : MNode) : ioGenNodeEdges n = nodeEdges n := by
  unfold ioGenNodeEdges
  rw [← Struct3.nodeEdges_as_coded, List.map_map]
  exact (List.map_congr_left fun e _ => by simp).trans (List.map_id _)

/-- **the written-out writer loop equals the model's encoder** -/
theorem ioGenEncode_eq (m : Model) : ioGenEncode m = encode m := by
  unfold ioGenEncode encode insertedEdges
  rw [funext ioGenEncodeNode_eq, funext ioGenNodeEdges_eq]

/-- the written-out reader loop equals the model's `childrenOf` (`place_as_coded`) -/
theorem ioGenChildrenOf_eq (es : List Edge) (p : Nat) : ioGenChildrenOf es p = childrenOf es p := by
  unfold ioGenChildrenOf childrenOf
  simp only [Struct3.place_as_coded]

theorem ioGenDecode_eq (d : Doc) : ioGenDecode d = decode d := by
  unfold ioGenDecode decode
  simp only [ioGenChildrenOf_eq]

theorem ioGenLoadDoc_eq (d : Doc) : ioGenLoadDoc d = Io32.loadDoc d := by
  unfold ioGenLoadDoc Io32.loadDoc
  rw [ioGenDecode_eq]

theorem ioGenLoadModel_eq (d : Doc) : ioGenLoadModel d = Io32.loadModel d := by
  unfold ioGenLoadModel Io32.loadModel
  rw [ioGenLoadDoc_eq]

/-- C13: for every model with distinct ids in which no node lists the same child twice, reading — with
the GENERATED placement of children — what the GENERATED node / edge writers wrote, the links taken in ANY order, succeeds
and returns exactly the model with its float parameters rounded to 8 decimals. -/
theorem e2e_io_decode (m : Model) (h : NoRepeat m) (es : List Edge) (hp : es.Perm (ioGenEncode m).edges) :
    ioGenDecode { nodes := (ioGenEncode m).nodes, edges := es } = some (m.map roundNode) := by
  rw [ioGenEncode_eq] at hp ⊢
  rw [ioGenDecode_eq]
  exact decode_perm_encode m h es hp

/-- C13, the property as `C13.decode_encode` states it: the reload through the generated writer and reader
has the same ids, classes, scopes and children (in the same order) as the model, and every weight / parameter is within
½·10⁻⁸ of the original. -/
theorem e2e_io (m : Model) (h : NoRepeat m) (es : List Edge) (hp : es.Perm (ioGenEncode m).edges) :
    ∃ m', ioGenDecode { nodes := (ioGenEncode m).nodes, edges := es } = some m' ∧
      m'.map C13.shape = m.map C13.shape ∧ C13.Close8 m m' := by
  rw [ioGenEncode_eq] at hp ⊢
  rw [ioGenDecode_eq]
  exact C13.decode_encode m h es hp

/-- the document as written, links in insertion order -/
theorem e2e_io_id (m : Model) (h : NoRepeat m) : ioGenDecode (ioGenEncode m) = some (m.map roundNode) :=
  e2e_io_decode m h _ (List.Perm.refl _)

/-- non-vacuity: the DAG `C13.exM` (a sum over two products sharing a leaf).  The generated writers produce the rounded
weights `0.33333333, 0.66666667`, the Gaussian parameters `0.33333333, 0.00001`, and six links; the hypotheses of
`e2e_io_decode` / `e2e_io` hold, also for the links re-ordered as a digraph iterates them (grouped by child). -/
example : NoRepeat C13.exM ∧
    ((ioGenEncode C13.exM).nodes.map (·.weights)).head? = some [33333333 / 100000000, 66666667 / 100000000] ∧
    ((ioGenEncode C13.exM).nodes.map (·.params))[4]? = some [33333333 / 100000000, 1 / 100000] ∧
    (ioGenEncode C13.exM).edges = [⟨1, 0, 0⟩, ⟨2, 0, 1⟩, ⟨3, 1, 0⟩, ⟨4, 1, 1⟩, ⟨5, 2, 0⟩, ⟨3, 2, 1⟩] ∧
    C13.exEdgesByChild.Perm (ioGenEncode C13.exM).edges ∧
    ioGenChildrenOf C13.exEdgesByChild 2 = [some 5, some 3] :=
  ⟨C13.exM_noRepeat, by decide +kernel, by decide +kernel, by decide +kernel, by decide +kernel, by decide +kernel⟩

example : ioGenDecode { nodes := (ioGenEncode C13.exM).nodes, edges := C13.exEdgesByChild }
    = some (C13.exM.map roundNode) :=
  e2e_io_decode C13.exM C13.exM_noRepeat _ (by decide +kernel)

example : ∃ m', ioGenDecode (ioGenEncode C13.exM) = some m' ∧ m'.map C13.shape = C13.exM.map C13.shape ∧
    C13.Close8 C13.exM m' :=
  e2e_io C13.exM C13.exM_noRepeat _ (List.Perm.refl _)

/-- C13, "× repeated save / load generations", single-precision storage modelled: with the
GENERATED writers and the GENERATED reader (followed by the constructors' float casts), the document of generation 3
equals the document of generation 2 — nodes, rounded numbers and links. -/
theorem e2e_io_gen_stable (m : Model) (h : NoRepeat m) :
    ioGenEncode (ioGenLoadModel (ioGenEncode (ioGenLoadModel (ioGenEncode m))))
      = ioGenEncode (ioGenLoadModel (ioGenEncode m)) := by
  simp only [ioGenEncode_eq, ioGenLoadModel_eq]
  exact Io32.gen_stable m h

/-- C13: the first reload through the generated writer / reader succeeds, keeps ids, classes,
scopes and child order, and yields a model that save + load reproduces EXACTLY. -/
theorem e2e_io_reload_fixed (m : Model) (h : NoRepeat m) :
    ∃ m1, ioGenLoadDoc (ioGenEncode m) = some m1 ∧ m1.map C13.shape = m.map C13.shape ∧
      ioGenLoadDoc (ioGenEncode m1) = some m1 := by
  simp only [ioGenEncode_eq, ioGenLoadDoc_eq]
  exact Io32.reload_is_fixed_point m h

/-- non-vacuity: `Io32.exM` (parameters 1/3, 2/3, 1/7, 0.7 … none of them a float32); generation 2 DIFFERS from generation
1 (the weight 0.33333333 becomes 0.33333334), generation 3 equals generation 2 -/
example : NoRepeat Io32.exM ∧
    ioGenEncode (ioGenLoadModel (ioGenEncode Io32.exM)) ≠ ioGenEncode Io32.exM ∧
    ((ioGenEncode (ioGenLoadModel (ioGenEncode Io32.exM))).nodes.map (·.weights)).head?
      = some [33333334 / 100000000, 66666669 / 100000000] ∧
    ioGenEncode (ioGenLoadModel (ioGenEncode (ioGenLoadModel (ioGenEncode Io32.exM))))
      = ioGenEncode (ioGenLoadModel (ioGenEncode Io32.exM)) :=
  ⟨Io32.exM_noRepeat, by decide +kernel, by decide +kernel, e2e_io_gen_stable Io32.exM Io32.exM_noRepeat⟩

example : ∃ m1, ioGenLoadDoc (ioGenEncode Io32.exM) = some m1 ∧ m1.map C13.shape = Io32.exM.map C13.shape ∧
    ioGenLoadDoc (ioGenEncode m1) = some m1 := e2e_io_reload_fixed Io32.exM Io32.exM_noRepeat

/-- C13, writer against constructor: the weights the GENERATED writer stores for a sum node
with at most 10³ children whose weights sum to one pass the GENERATED guard of `Sum.__init__`. -/
theorem e2e_io_weights_loadable (ws : List ℚ) (hsum : tsum ws = 1) (hn : ws.length ≤ 1000) :
    ¬ Gen.sumCtorRejects (tsum (Gen.S3ioSumWeights roundN ws)) :=
  Oblig.C13.weights_loadable ws hsum hn

example : tsum ([1/3, 2/3] : List ℚ) = 1 ∧ ¬ Gen.sumCtorRejects (tsum (Gen.S3ioSumWeights roundN [1/3, 2/3])) :=
  ⟨by norm_num [tsum], e2e_io_weights_loadable _ (by norm_num [tsum]) (by decide)⟩

/-- finding F15 about the generated writers: the hypothesis "no node lists the same child
twice" is needed — for the sum node of `C13.exRepeated` the GENERATED edge writer makes two `add_edge` calls for the
pair (child 1, parent 0), the simple digraph keeps one link with the last `idx`, and the GENERATED placement leaves slot 0
empty: the reload fails. -/
theorem e2e_io_repeated_child :
    (C13.exRepeated.flatMap ioGenNodeEdges).length = 2 ∧ (ioGenEncode C13.exRepeated).edges = [⟨1, 0, 1⟩] ∧
    ioGenChildrenOf (ioGenEncode C13.exRepeated).edges 0 = [none, some 1] ∧
    ioGenDecode (ioGenEncode C13.exRepeated) = none := by
  have h : ioGenNodeEdges = nodeEdges := funext ioGenNodeEdges_eq
  simp only [ioGenEncode_eq, ioGenDecode_eq, ioGenChildrenOf_eq, h]
  exact C13.repeated_child_loses_edge

example : ¬ NoRepeat C13.exRepeated := fun h => by
  have := h.children _ (List.mem_cons_self)
  revert this
  decide

end io

section predict
open Deeprob

section predictProba
variable {F : Type} [Field F] [LinearOrder F] [IsStrictOrderedRing F]

theorem pp_wsum_pos (w ls : List F) (hwn : w ≠ []) (hln : ls ≠ []) (hw : ∀ x ∈ w, 0 < x) (hl : ∀ x ∈ ls, 0 < x) :
    0 < wsum w ls := by
  obtain ⟨a, w, rfl⟩ := List.exists_cons_of_ne_nil hwn
  obtain ⟨l, ls, rfl⟩ := List.exists_cons_of_ne_nil hln
  exact lt_of_lt_of_le (mul_pos (hw a List.mem_cons_self) (hl l List.mem_cons_self))
    (TD.le_wsum _ _ (fun x hx => (hw x hx).le) (fun x hx => (hl x hx).le) (k := 0) rfl rfl)

/-- the evidence hypothesis of `C20.posterior_rows_normalised` / `C20.predict_is_argmax` follows from the positivity
hypotheses of `predict_proba_as_coded` as soon as there is at least one class -/
theorem pp_evidence_pos (w : List F) (L : List (List F)) (r : Nat) (hwn : w ≠ []) (hLn : L ≠ [])
    (hw : ∀ x ∈ w, 0 < x) (hl : ∀ x ∈ colOf L r, 0 < x) : 0 < evidenceOf w L r := by
  unfold evidenceOf
  apply pp_wsum_pos w (colOf L r) hwn _ hw hl
  unfold colOf
  intro h
  exact hLn (List.map_eq_nil_iff.1 h)

/-- the scores `sum_mpe` reduces (`lls + np.log(node.weights)`, one entry per child) are the class log-likelihoods
`class_ll` of `predict_log_proba` (`lls[class_ids].T + np.log(weights)`): same numbers, the two summands swapped -/
theorem pp_scores_eq_classLL (E : ExpLog F) (w lls : List F) :
    List.zipWith (fun ll wk => Gen.sumMpeScore E ll wk) lls w = classLL E w lls := by
  unfold classLL
  rw [List.zipWith_comm]
  simp only [Gen.sumMpeScore, add_comm]

/-- subtracting the normaliser does not move `np.argmax` -/
theorem pp_argmax_logSoftmax (E : ExpLog F) (zs : List F) : argmaxL (logSoftmax E zs) = argmaxL zs := by
  unfold logSoftmax
  exact C20.argmaxL_map (fun z => z - E.log (tsum (zs.map E.exp))) (fun a b => (sub_lt_sub_iff_right _).symm) zs

/-- C20: the row the GENERATED `predict_proba` returns on the logarithms of positive
class likelihoods (column `r` of the class-major table `L`) with positive priors sums to one. -/
theorem e2e_predict_proba_normalised (E : ExpLog F) (w : List F) (L : List (List F)) (r : Nat)
    (hw : ∀ x ∈ w, 0 < x) (hl : ∀ x ∈ colOf L r, 0 < x) (h : evidenceOf w L r ≠ 0) :
    tsum (Gen.S3predictProba E w ((colOf L r).map E.log)) = 1 := by
  rw [Struct3.predict_proba_as_coded E w L r hw hl]
  exact C20.posterior_rows_normalised w L r h

/-- the same with the evidence hypothesis discharged (`pp_evidence_pos`): at least one class -/
theorem e2e_predict_proba_normalised' (E : ExpLog F) (w : List F) (L : List (List F)) (r : Nat)
    (hwn : w ≠ []) (hLn : L ≠ []) (hw : ∀ x ∈ w, 0 < x) (hl : ∀ x ∈ colOf L r, 0 < x) :
    tsum (Gen.S3predictProba E w ((colOf L r).map E.log)) = 1 :=
  e2e_predict_proba_normalised E w L r hw hl (ne_of_gt (pp_evidence_pos w L r hwn hLn hw hl))

/-- normalisation does not depend on the model at all — for ANY weights and ANY
log-values (no positivity, `log` of a non-positive weight being whatever `E.log` returns) the generated row sums to one as
soon as it is non-empty. -/
theorem e2e_predict_proba_normalised_any (E : ExpLog F) (w lls : List F) (hwn : w ≠ []) (hln : lls ≠ []) :
    tsum (Gen.S3predictProba E w lls) = 1 := by
  have h0 : Gen.S3predictProba E w lls = (logSoftmax E (classLL E w lls)).map E.exp := by
    unfold Gen.S3predictProba
    rw [Struct3.predict_log_proba_as_coded]
  have hne : classLL E w lls ≠ [] := by
    obtain ⟨a, w, rfl⟩ := List.exists_cons_of_ne_nil hwn
    obtain ⟨l, ls, rfl⟩ := List.exists_cons_of_ne_nil hln
    exact List.cons_ne_nil _ _
  rw [h0, C20.exp_logSoftmax, C20.tsum_map_div]
  exact div_self (ne_of_gt (C20.tsum_exp_pos E _ hne))

/-- C20: entry `k` of the row the GENERATED `predict_proba` returns is the posterior
`w_k · L_k(x_r) / Σ_j w_j · L_j(x_r)`. -/
theorem e2e_predict_proba_entry (E : ExpLog F) (w : List F) (L : List (List F)) (r k : Nat)
    (hw : ∀ x ∈ w, 0 < x) (hl : ∀ x ∈ colOf L r, 0 < x) (hk : k < w.length) (hL : k < L.length) :
    (Gen.S3predictProba E w ((colOf L r).map E.log)).getD k 0 = w[k] * (L[k]).getD r 0 / evidenceOf w L r := by
  rw [Struct3.predict_proba_as_coded E w L r hw hl]
  exact C20.posterior_def w L r k hk hL

/-- C20: the arg-max (first maximal index, `np.argmax`) of the row the GENERATED
`predict_proba` returns is the arg-max of `w_k · L_k(x_r)`, the class `predict` answers. -/
theorem e2e_predict_argmax (E : ExpLog F) (w : List F) (L : List (List F)) (r : Nat)
    (hw : ∀ x ∈ w, 0 < x) (hl : ∀ x ∈ colOf L r, 0 < x) (h : 0 < evidenceOf w L r) :
    argmaxL (Gen.S3predictProba E w ((colOf L r).map E.log)) = predictBranch w L r := by
  rw [Struct3.predict_proba_as_coded E w L r hw hl]
  exact C20.predict_is_argmax w L r h

/-- C20, summary: with at least one class, positive priors and positive class likelihoods, the
row the GENERATED `predict_proba` returns on the logarithms of the class likelihoods sums to one, entry `k` is the posterior
`w_k · L_k(x_r) / Σ_j w_j · L_j(x_r)`, and its arg-max is the arg-max of `w_k · L_k(x_r)` (the class `predict` answers). -/
theorem e2e_predict_proba (E : ExpLog F) (w : List F) (L : List (List F)) (r : Nat)
    (hwn : w ≠ []) (hLn : L ≠ []) (hw : ∀ x ∈ w, 0 < x) (hl : ∀ x ∈ colOf L r, 0 < x) :
    tsum (Gen.S3predictProba E w ((colOf L r).map E.log)) = 1 ∧
    (∀ k (hk : k < w.length) (hL : k < L.length),
      (Gen.S3predictProba E w ((colOf L r).map E.log)).getD k 0 = w[k] * (L[k]).getD r 0 / evidenceOf w L r) ∧
    argmaxL (Gen.S3predictProba E w ((colOf L r).map E.log)) = predictBranch w L r :=
  ⟨e2e_predict_proba_normalised' E w L r hwn hLn hw hl,
   fun k hk hL => e2e_predict_proba_entry E w L r k hw hl hk hL,
   e2e_predict_argmax E w L r hw hl (pp_evidence_pos w L r hwn hLn hw hl)⟩

/-- C20, log domain: the same for the row the GENERATED `predict_log_proba` returns; needs
`exp` strictly increasing. -/
theorem e2e_predict_argmax_log (E : ExpLogMono F) (w : List F) (L : List (List F)) (r : Nat)
    (hw : ∀ x ∈ w, 0 < x) (hl : ∀ x ∈ colOf L r, 0 < x) (h : 0 < evidenceOf w L r) :
    argmaxL (Gen.S3predictLogProba E.toExpLog w ((colOf L r).map E.log)) = predictBranch w L r := by
  rw [Struct3.predict_log_proba_as_coded, pp_argmax_logSoftmax, C20.predict_is_argmax_log E w L r hw hl h]
  exact C20.predict_is_argmax w L r h

/-- `sum_mpe` at the root on one row, written out: `np.argmax` (`Gen.sumMpeSelector`, along the children axis
`Gen.sumMpeAxis`) of the GENERATED score `Gen.sumMpeScore` of every child — this is the branch `predict` follows
(`Gen.S3predictSteps`: the label is missing, `inference.mpe` completes it).  Nothing but the generated score and the
model's `np.argmax`. -/
def ppSumMpe (E : ExpLog F) (w lls : List F) : Nat :=
  argmaxL (List.zipWith (fun ll wk => Gen.sumMpeScore E ll wk) lls w)

/-- C20: `predict` and `predict_proba` agree — the branch the GENERATED `sum_mpe` score
selects at the root is the arg-max of the GENERATED `predict_proba` row and of the GENERATED `predict_log_proba` row. -/
theorem e2e_predict_is_sum_mpe (E : ExpLogMono F) (w : List F) (L : List (List F)) (r : Nat)
    (hw : ∀ x ∈ w, 0 < x) (hl : ∀ x ∈ colOf L r, 0 < x) (h : 0 < evidenceOf w L r) :
    Gen.sumMpeSelector = "argmax" ∧ Gen.sumMpeAxis = some 1 ∧
    ppSumMpe E.toExpLog w ((colOf L r).map E.log) = argmaxL (Gen.S3predictProba E.toExpLog w ((colOf L r).map E.log)) ∧
    ppSumMpe E.toExpLog w ((colOf L r).map E.log)
      = argmaxL (Gen.S3predictLogProba E.toExpLog w ((colOf L r).map E.log)) ∧
    ppSumMpe E.toExpLog w ((colOf L r).map E.log) = predictBranch w L r := by
  have hs : ppSumMpe E.toExpLog w ((colOf L r).map E.log) = predictBranch w L r := by
    unfold ppSumMpe
    rw [pp_scores_eq_classLL, C20.predict_is_argmax_log E w L r hw hl h]
    exact C20.predict_is_argmax w L r h
  refine ⟨by decide, by decide, ?_, ?_, hs⟩
  · rw [hs, e2e_predict_argmax E.toExpLog w L r hw hl h]
  · rw [hs, e2e_predict_argmax_log E w L r hw hl h]

/-! ### non-vacuity at ℝ (usual `exp` / `log`): 2 classes, `w = (1/4, 3/4)`, `L_0 = (1/2, 1/2)`, `L_1 = (1/8, 7/8)` -/

theorem ppEx_evidence0 : evidenceOf C20.exWR C20.exLR 0 = 7/32 := by
  simp only [evidenceOf, C20.exWR, C20.exLR, colOf, wsum, List.map_cons, List.map_nil, List.getD_cons_zero]
  norm_num

theorem ppEx_evidence1 : evidenceOf C20.exWR C20.exLR 1 = 25/32 := by
  simp only [evidenceOf, C20.exWR, C20.exLR, colOf, wsum, List.map_cons, List.map_nil, List.getD_cons_zero,
    List.getD_cons_succ]
  norm_num

/-- all hypotheses hold; the generated row 0 sums to one and its entries are `4/7`, `3/7` -/
example : tsum (Gen.S3predictProba realExpLog C20.exWR ((colOf C20.exLR 0).map realExpLog.log)) = 1 ∧
    (Gen.S3predictProba realExpLog C20.exWR ((colOf C20.exLR 0).map realExpLog.log)).getD 0 0 = 4/7 ∧
    (Gen.S3predictProba realExpLog C20.exWR ((colOf C20.exLR 0).map realExpLog.log)).getD 1 0 = 3/7 := by
  refine ⟨e2e_predict_proba_normalised realExpLog _ _ 0 C20.exWR_pos (C20.exLR_pos 0 (by decide))
      (by rw [ppEx_evidence0]; norm_num), ?_, ?_⟩
  all_goals
    rw [e2e_predict_proba_entry realExpLog _ _ 0 _ C20.exWR_pos (C20.exLR_pos 0 (by decide)) (by decide) (by decide),
      ppEx_evidence0]
    simp only [C20.exWR, C20.exLR, List.getElem_cons_zero, List.getElem_cons_succ, List.getD_cons_zero]
    norm_num

example : tsum (Gen.S3predictProba realExpLog C20.exWR ((colOf C20.exLR 1).map realExpLog.log)) = 1 :=
  e2e_predict_proba_normalised' realExpLog _ _ 1 (by decide) (by decide) C20.exWR_pos
    (C20.exLR_pos 1 (by decide))

example : tsum (Gen.S3predictProba realExpLog C20.exWR ((colOf C20.exLR 1).map realExpLog.log)) = 1 ∧
    (∀ k (hk : k < C20.exWR.length) (hL : k < C20.exLR.length),
      (Gen.S3predictProba realExpLog C20.exWR ((colOf C20.exLR 1).map realExpLog.log)).getD k 0
        = C20.exWR[k] * (C20.exLR[k]).getD 1 0 / evidenceOf C20.exWR C20.exLR 1) ∧
    argmaxL (Gen.S3predictProba realExpLog C20.exWR ((colOf C20.exLR 1).map realExpLog.log))
      = predictBranch C20.exWR C20.exLR 1 :=
  e2e_predict_proba realExpLog _ _ 1 (by decide) (by decide) C20.exWR_pos
    (C20.exLR_pos 1 (by decide))

/-- no positivity needed: weights `(-1, 2)`, arbitrary log-values -/
example : tsum (Gen.S3predictProba realExpLog [-1, 2] [5, -3]) = 1 :=
  e2e_predict_proba_normalised_any realExpLog _ _ (by simp) (by simp)

/-- row 1 of the example: all three readings of the prediction give class 1 -/
example : argmaxL (Gen.S3predictProba realExpLog C20.exWR ((colOf C20.exLR 1).map realExpLog.log)) = 1 ∧
    argmaxL (Gen.S3predictLogProba realExpLog C20.exWR ((colOf C20.exLR 1).map realExpLog.log)) = 1 ∧
    ppSumMpe realExpLog C20.exWR ((colOf C20.exLR 1).map realExpLog.log) = 1 := by
  have hev : (0:ℝ) < evidenceOf C20.exWR C20.exLR 1 := by rw [ppEx_evidence1]; norm_num
  have hb : predictBranch C20.exWR C20.exLR 1 = 1 := by
    simp only [predictBranch, classScores, C20.exWR, C20.exLR, colOf, List.map, List.getD, List.zipWith, argmaxL,
      postArgmaxAux, List.getElem?_cons_succ, List.getElem?_cons_zero, Option.getD_some]
    norm_num
  have h := e2e_predict_is_sum_mpe realExpLogMono C20.exWR C20.exLR 1 C20.exWR_pos (C20.exLR_pos 1 (by decide)) hev
  refine ⟨?_, ?_, ?_⟩
  · exact (e2e_predict_argmax realExpLog _ _ 1 C20.exWR_pos (C20.exLR_pos 1 (by decide)) hev).trans hb
  · exact (e2e_predict_argmax_log realExpLogMono _ _ 1 C20.exWR_pos (C20.exLR_pos 1 (by decide)) hev).trans hb
  · exact h.2.2.2.2.trans hb

end predictProba

end predict

section ratSpn
open Deeprob

section rt
open Deeprob.RatSpn Deeprob.RatSample Deeprob.TCirc Deeprob.Tensor Deeprob.Struct4

/-- one row of `(idx_group, idx_offset)` as the GENERATED layer methods see it (torch `long` entries) -/
abbrev rtIdx := List Int × List Int

/-- the model's row of indices as a row of `long`s -/
def rtCast (io : Idx) : rtIdx := (castL io.1, castL io.2)
/-- … and back (`Int.toNat` entry-wise) -/
def rtUncast (io : rtIdx) : Idx := (io.1.map Int.toNat, io.2.map Int.toNat)

theorem rtUncast_cast (io : Idx) : rtUncast (rtCast io) = io := by
  unfold rtUncast rtCast castL
  simp only [List.map_map]
  refine Prod.ext ?_ ?_ <;> simp [Function.comp_def]

/-- `ProductLayer.mpe` / `ProductLayer.sample` on one row: the GENERATED `Gen.S4ratProdSample` -/
def rtGenProd (inNodes : Nat) (io : rtIdx) : rtIdx := Gen.S4ratProdSample (inNodes : Int) io.1 io.2

theorem rtGenProd_eq (m : Nat) (io : Idx) : rtGenProd m (rtCast io) = rtCast (prodDownI m io) :=
  prodSample_as_coded m io.1 io.2

section mpe
variable {α : Type} [Zero α] [One α] [Add α] [Mul α] [LT α] [DecidableLT α]

/-- `SumLayer.mpe(lls[i], idx_group, idx_offset)` on one row: the GENERATED `Gen.S4ratSumMpe` in the linear-domain reading
of `Oblig/Struct4RatSpn.lean` (`+ ↦ *`, `log_softmax(weight[g, o]) ↦ w g o`, the model's soft-max row); `V` = the input
the layer received in the forward pass -/
def rtGenSumMpe (w : Nat → Nat → List α) (V : Tab α) (io : rtIdx) : rtIdx :=
  @Gen.S4ratSumMpe α ⟨(· * ·)⟩ _ _ (fun v => v) (fun g => (List.range V.nodes).map (fun t => V.at_ g.toNat t))
    (fun g o => w g.toNat o.toNat) io.1 io.2

/-- `RootLayer.mpe(x, y)` on one row: the GENERATED `Gen.S4ratRootMpe` (same reading; `wroot c` = soft-max row of
class `c`, `V` = input of the root layer) -/
def rtGenRootMpe (wroot : Nat → List α) (V : Tab α) (y : Nat) : rtIdx :=
  @Gen.S4ratRootMpe α ⟨(· * ·)⟩ _ _ (fun v => v)
    ((List.range V.groups).map (fun g => (List.range V.nodes).map (fun t => V.at_ g t)))
    (fun c => wroot c.toNat) (V.nodes : Int) (y : Int)

/-- the loop `for i in range(len(self.layers) - 1, -1, -1): idx = self.layers[i].mpe(lls[i], idx)` of `RatSpn.mpe`
(`Gen.S4ratModelMpe`, `Struct4.modelMpe_as_coded`) written out: every step is a GENERATED layer method
(`rtGenProd`, `rtGenSumMpe`) and nothing else; the recursion visits the upper layers first, each sum layer on the input
it received in the forward pass (`Struct4.mpeDown_order`).  The stored forward values `lls` (`prodVal`, `sumVal`) are
the model's — the forward pass of the layers is not a generated fragment. -/
def rtGenDown (w : Nat → Nat → Nat → List α) (rgSum : Nat) : Nat → Nat → Tab α → rtIdx → rtIdx
  | 0, _, _, io => io
  | 1, _, V, io => rtGenProd V.nodes io
  | k + 2, l, V, io =>
      rtGenProd V.nodes
        (rtGenSumMpe (w l) (prodVal V) (rtGenDown w rgSum (k + 1) (l + 1) (sumVal (w l) rgSum (prodVal V)) io))

/-- index pair reaching the base layer: GENERATED root step, then the GENERATED loop -/
def rtGenMpeIdx (S : Spec α) (y : Nat) (e : Ev) : rtIdx :=
  rtGenDown S.w S.rgSum S.depth 0 (baseVal S e) (rtGenRootMpe S.wroot (topVal S e) y)

/-- `self.unpad_samples` of the base layer: the GENERATED `Gen.S4ratUnpad` with the GENERATED pad `Gen.ratPad` and the
model's index buffers `inv_mask`, `inv_pad_mask` (their construction is C16's tensor part, `Props/C16.lean`) -/
def rtGenUnpad (S : Spec α) (samples : List Nat) (idxGroup : List Int) : List Nat :=
  Gen.S4ratUnpad (S.depth : Int) (Gen.ratPad (S.n : Int) (S.depth : Int)) (S.n : Int)
    (fun t => castL (invMask S.n S.depth S.regs t.toNat)) (fun t => invPadMask S.n S.depth S.regs t.toNat) 1
    samples idxGroup

/-- `RatSpn.mpe(x, y)` on one row, top-down part: the GENERATED `RegionGraphLayer.mpe` (`Gen.S4ratBaseMpe`, with the
modes `probs >= 0.5` of `BernoulliLayer.distribution_mode` read from the model's tables — not a generated fragment)
on the index pair the GENERATED root step and loop deliver -/
def rtGenMpeRow (S : Spec α) (y : Nat) (row : List (Option Nat)) : List Nat :=
  let io := rtGenMpeIdx S y (Ev.ofList row)
  Gen.S4ratBaseMpe
    (fun g o => (List.range (S.mrow g.toNat).length).map (fun k => TCirc.bernIdx (S.tbl g.toNat o.toNat k)))
    (rtGenUnpad S) row io.1 io.2

end mpe

section mpeLink
variable {α : Type} [Field α] [LinearOrder α] [IsStrictOrderedRing α]

theorem rtGenSumMpe_eq (w : Nat → Nat → List α) (V : Tab α) (io : Idx) :
    rtGenSumMpe w V (rtCast io) = rtCast (sumMpe w V io) :=
  sumMpe_as_coded w V io

theorem rtGenRootMpe_eq (wroot : Nat → List α) (V : Tab α) (y : Nat) :
    rtGenRootMpe wroot V y = rtCast (rootMpe (wroot y) V) := by
  rw [rtCast, ← rootMpe_as_coded (wroot y) V (y : Int)]
  unfold rtGenRootMpe Gen.S4ratRootMpe
  simp only [Int.toNat_natCast]

/-- **the generated loop is the model's `mpeDown`** (`prodSample_as_coded` and `sumMpe_as_coded` at every layer, the order
by `mpeDown_order`) -/
theorem rtGenDown_eq (w : Nat → Nat → Nat → List α) (rgSum : Nat) : ∀ (k l : Nat) (V : Tab α) (io : Idx),
    rtGenDown w rgSum k l V (rtCast io) = rtCast (mpeDown w rgSum k l V io)
  | 0, _, _, _ => rfl
  | 1, _, V, io => rtGenProd_eq V.nodes io
  | k + 2, l, V, io => by
      rw [mpeDown_order]
      simp only [rtGenDown]
      rw [rtGenDown_eq w rgSum (k + 1) (l + 1), rtGenSumMpe_eq, rtGenProd_eq]

theorem rtGenMpeIdx_eq (S : Spec α) (y : Nat) (e : Ev) : rtGenMpeIdx S y e = rtCast (mpeIdx S y e) := by
  unfold rtGenMpeIdx mpeIdx
  rw [rtGenRootMpe_eq, rtGenDown_eq]

/-- **the generated pass returns the model's `mpeRow`** on an accepted architecture (`baseMpe_as_coded` with its
hypothesis on `unpad_samples` discharged by `unpadSamples_as_coded`, whose in-range side condition is
`RatSample.modes_cover`; `padOf_as_coded` for the pad) -/
theorem rtGenMpeRow_eq (S : Spec α) (y : Nat) (row : List (Option Nat))
    (hρ : ∀ t r, (S.ρ t r).Perm r) (hacc : accepted S.n S.depth = true) (hreps : 0 < S.reps)
    (hb : 0 < S.batch) (hs : 0 < S.rgSum) :
    rtGenMpeRow S y row = mpeRow S y row := by
  unfold rtGenMpeRow mpeRow
  simp only [rtGenMpeIdx_eq, rtCast]
  apply baseMpe_as_coded S (mpeIdx S y (Ev.ofList row)) row (rtGenUnpad S)
  unfold rtGenUnpad
  rw [Oblig.StructRatSpn.padOf_as_coded]
  exact unpadSamples_as_coded S.n S.depth S.regs _ _ 1 (modes_cover S y (Ev.ofList row) hρ hacc hreps hb hs)

/-- C16: for every accepted architecture, every permutation draw, all parameters and every
evidence row of the input width, the row returned by the top-down pass of `RatSpn.mpe(x, y)` whose steps are the
GENERATED layer methods (`RootLayer.mpe`, `SumLayer.mpe`, `ProductLayer.mpe`, `RegionGraphLayer.mpe` with
`unpad_samples`) is exactly the row the arg-max descent `mpeDescent` (C06) produces on the unrolled circuit. -/
theorem e2e_rat_topdown_mpe (S : Spec α) (y : Nat) (row : List (Option Nat))
    (hρ : ∀ t r, (S.ρ t r).Perm r) (hacc : accepted S.n S.depth = true) (hreps : 0 < S.reps)
    (hb : 0 < S.batch) (hs : 0 < S.rgSum) (hrow : row.length = S.n) :
    (rtGenMpeRow S y row).map some = (List.range S.n).map (mpeDescent (Ev.ofList row) (unrollT S y)) := by
  rw [rtGenMpeRow_eq S y row hρ hacc hreps hb hs]
  exact ratspn_mpe_is_descent S y row hρ hacc hreps hb hs hrow

/-- non-vacuity: the padded Bernoulli RAT-SPN `exS` of `Props/C16Sample.lean` (5 features, depth 2, pad 3, 2 repetitions),
variables 1 and 3 observed; the GENERATED pass returns `[1, 1, 1, 0, 1]`, reaching the four leaf regions of repetition 0
(`idx_group = [0, 1, 2, 3]`) at the nodes `idx_offset = [0, 0, 0, 1]` -/
example : (∀ t r, (exS.ρ t r).Perm r) ∧ accepted exS.n exS.depth = true ∧ exRow.length = exS.n ∧
    rtGenMpeRow exS 1 exRow = [1, 1, 1, 0, 1] ∧ rtGenMpeIdx exS 1 (Ev.ofList exRow) = ([0, 1, 2, 3], [0, 0, 0, 1]) :=
  ⟨revOracle_perm, by decide, rfl,
   by rw [rtGenMpeRow_eq exS 1 exRow revOracle_perm (by decide) (by decide) (by decide) (by decide)]; exact exS_values.1,
   by decide +kernel⟩

example : (rtGenMpeRow exS 1 exRow).map some
    = (List.range exS.n).map (mpeDescent (Ev.ofList exRow) (unrollT exS 1)) :=
  e2e_rat_topdown_mpe exS 1 exRow revOracle_perm (by decide) (by decide) (by decide) (by decide) rfl

end mpeLink

section sample
variable {α : Type} [Zero α] [One α] [Add α] [Mul α] [Div α]

/-- a sum layer of `RatSpn.sample` seen from above: the new offsets are independent draws from the rows `rows io`
(one pmf on the `m` input nodes per entry of the index row), `idx_group` is returned unchanged; `κ` = probability that
the rest of the pass yields the target row (`RatSample.sumStep` on rows of `long`s) -/
def rtGenSumStep (rows : rtIdx → List (List α)) (m : Nat) (κ : rtIdx → α) (io : rtIdx) : α :=
  expect m (rows io) (fun os' => κ (io.1, castL os'))

/-- the loop `for i in range(len(self.layers) - 1, -1, -1): idx = self.layers[i].sample(idx)` of `RatSpn.sample`
(`Gen.S4ratModelSample`, `Struct4.modelSample_as_coded`) as a pmf transformer: product layers route the indices with
the GENERATED `Gen.S4ratProdSample`; sum layer `l` draws from the rows `rows l V` (`V` = the layer's input) -/
def rtGenPmfDown (rows : Nat → Tab α → rtIdx → List (List α)) (w : Nat → Nat → Nat → List α) (rgSum : Nat) :
    Nat → Nat → Tab α → (rtIdx → α) → rtIdx → α
  | 0, _, _, κ, io => κ io
  | 1, _, V, κ, io => κ (rtGenProd V.nodes io)
  | k + 2, l, V, κ, io =>
      rtGenPmfDown rows w rgSum (k + 1) (l + 1) (sumVal (w l) rgSum (prodVal V))
        (rtGenSumStep (rows l (prodVal V)) (prodVal V).nodes (fun io' => κ (rtGenProd V.nodes io'))) io

/-- `RootLayer.sample`: flat index `idx ~ pm`, split by the GENERATED `Gen.S4ratRootSample` -/
def rtGenRootStep (pm : List α) (V : Tab α) (κ : rtIdx → α) : α :=
  sumVar (V.groups * V.nodes) (fun idx => pm.getD idx 0 * κ (Gen.S4ratRootSample (V.nodes : Int) [(idx : Int)]))

/-- the rows `SumLayer.sample` draws from: the GENERATED `Gen.S4ratSumSampleLogits` in the linear reading
(`Categorical(logits = log_softmax(weight[g, o]))` has pmf `w g o`) -/
def rtGenSampleRows (w : Nat → Nat → List α) (_V : Tab α) (io : rtIdx) : List (List α) :=
  Gen.S4ratSumSampleLogits (fun v => v) (fun g o => w g.toNat o.toNat) io.1 io.2

/-- the rows of the evidence-conditioned pass (`RatSample.lawCond`: `wᵢ·xᵢ / Σⱼ wⱼ·xⱼ` on the layer's input under the
evidence).  NOT a generated fragment: `RatSpn.sample` takes no evidence; this is `SumLayer.mpe` with the arg-max
replaced by a draw, the object `C16Sample.ratspn_sample_exact` is about. -/
def rtCondRows (w : Nat → Nat → List α) (V : Tab α) (io : rtIdx) : List (List α) :=
  List.zipWith (fun g o => lawCond w V g.toNat o.toNat) io.1 io.2

/-- **law of `RatSpn.sample(·, y)`** with the GENERATED index steps: root draw from the soft-max row of class `y`, split
by `Gen.S4ratRootSample`; sum layers draw from `Gen.S4ratSumSampleLogits`; product layers route with
`Gen.S4ratProdSample`; the law of the base layer on the selected leaves is the model's `basePmf`
(`RegionGraphLayer.sample` is not a generated fragment) -/
def rtGenSamplePmf (S : Spec α) (y : Nat) (x : Ev) : α :=
  let V0 := baseVal S (fun _ => none)
  rtGenRootStep (S.wroot y) (innerVal S.w S.rgSum S.depth 0 V0)
    (rtGenPmfDown (fun l => rtGenSampleRows (S.w l)) S.w S.rgSum S.depth 0 V0
      (fun io => basePmf S (fun _ => none) x (rtUncast io)))

/-- the evidence-conditioned pass (`RatSample.condPmf`) with the GENERATED index steps of the product layers and of the
root split; the branch rows `rtCondRows` and the base law are the model's -/
def rtGenCondPmf (S : Spec α) (y : Nat) (e x : Ev) : α :=
  let V0 := baseVal S e
  let Vt := innerVal S.w S.rgSum S.depth 0 V0
  rtGenRootStep (TCirc.branchPmf (rootVal (S.wroot y) Vt) (S.wroot y) (flat Vt)) Vt
    (rtGenPmfDown (fun l => rtCondRows (S.w l)) S.w S.rgSum S.depth 0 V0 (fun io => basePmf S e x (rtUncast io)))

theorem rtGenSampleRows_eq (w : Nat → Nat → List α) (V : Tab α) (io : Idx) :
    rtGenSampleRows w V (rtCast io) = List.zipWith (lawSample w V) io.1 io.2 :=
  (sumSample_as_coded w V io).1

theorem rtCondRows_eq (w : Nat → Nat → List α) (V : Tab α) (io : Idx) :
    rtCondRows w V (rtCast io) = List.zipWith (lawCond w V) io.1 io.2 := by
  unfold rtCondRows rtCast castL
  simp only [List.zipWith_map_left, List.zipWith_map_right, Int.toNat_natCast]

/-- **the generated pmf loop is the model's `pmfDown`** when the rows agree (`prodSample_as_coded` at every product layer) -/
theorem rtGenPmfDown_eq (rows : Nat → Tab α → rtIdx → List (List α)) (law : Nat → Tab α → Nat → Nat → List α)
    (hrows : ∀ l V (io : Idx), rows l V (rtCast io) = List.zipWith (law l V) io.1 io.2)
    (w : Nat → Nat → Nat → List α) (rgSum : Nat) : ∀ (k l : Nat) (V : Tab α) (κ : rtIdx → α) (io : Idx),
    rtGenPmfDown rows w rgSum k l V κ (rtCast io) = pmfDown law w rgSum k l V (fun io' => κ (rtCast io')) io
  | 0, _, _, _, _ => rfl
  | 1, _, V, κ, io => by simp only [rtGenPmfDown, pmfDown, rtGenProd_eq]
  | k + 2, l, V, κ, io => by
      simp only [rtGenPmfDown, pmfDown]
      rw [rtGenPmfDown_eq rows law hrows w rgSum (k + 1) (l + 1)]
      congr 1
      funext io'
      unfold rtGenSumStep sumStep
      rw [hrows]
      congr 1
      funext os'
      exact congrArg κ (rtGenProd_eq V.nodes (io'.1, os'))

theorem rtGenRootStep_eq (pm : List α) (V : Tab α) (κ : rtIdx → α) :
    rtGenRootStep pm V κ = rootStep pm V (fun io => κ (rtCast io)) := by
  unfold rtGenRootStep rootStep
  congr 1
  funext idx
  rw [rootSample_as_coded]
  rfl

theorem rtGenSamplePmf_eq (S : Spec α) (y : Nat) (x : Ev) : rtGenSamplePmf S y x = samplePmf S y x := by
  unfold rtGenSamplePmf samplePmf
  simp only [rtGenRootStep_eq]
  congr 1
  funext io
  rw [rtGenPmfDown_eq _ (fun l => lawSample (S.w l)) (fun l V io => rtGenSampleRows_eq (S.w l) V io)]
  simp only [rtUncast_cast]

theorem rtGenCondPmf_eq (S : Spec α) (y : Nat) (e x : Ev) : rtGenCondPmf S y e x = condPmf S y e x := by
  unfold rtGenCondPmf condPmf
  simp only [rtGenRootStep_eq]
  congr 1
  funext io
  rw [rtGenPmfDown_eq _ (fun l => lawCond (S.w l)) (fun l V io => rtCondRows_eq (S.w l) V io)]
  simp only [rtUncast_cast]

end sample

section sampleLaw
variable {α : Type} [Field α] [LinearOrder α] [IsStrictOrderedRing α]

/-- C16: the law of `RatSpn.sample(·, y)` whose index steps are the GENERATED ones
(`RootLayer.sample` split, `SumLayer.sample` rows, `ProductLayer.sample` routing) is the polynomial of the unrolled
circuit: `P(sample agrees with x on its observed entries) = value(x)`.  No hypothesis on the parameters. -/
theorem e2e_rat_topdown_sample (S : Spec α) (y : Nat) (x : Ev) :
    rtGenSamplePmf S y x = Circ.eval x (circ S y) := by
  rw [rtGenSamplePmf_eq]
  exact ratspn_sample_law S y x

/-- C16: the evidence-conditioned top-down pass with the GENERATED index steps draws
from the exact conditional distribution of the unrolled circuit given the observed entries (division-free form).
The branch rows are the model's `lawCond` (see `rtCondRows`: the source has no evidence-conditioned sampler for
RAT-SPNs; only the index routing and the root split of this pass are generated). -/
theorem e2e_rat_topdown_sample_exact (S : Spec α) (h : S.WF) (y : Nat) (e x : Ev)
    (hx : Completes (List.range S.n) e x) :
    rtGenCondPmf S y e x * Circ.eval e (circ S y) = Circ.eval x (circ S y) := by
  rw [rtGenCondPmf_eq]
  exact ratspn_sample_exact S h y e x hx

/-- C16, the three statements together, for a well-formed specification (`S.WF`: permutation draws,
accepted architecture, positive sizes, tables and soft-max rows of the right lengths and non-negative): on an evidence
row of the input width the GENERATED MPE pass is the arg-max descent of the unrolled circuit; the evidence-conditioned
pass with the generated index steps draws every completion `x` of the row with its exact conditional probability; and
the law of the GENERATED `sample` pass is the circuit polynomial. -/
theorem e2e_rat_topdown (S : Spec α) (h : S.WF) (y : Nat) (row : List (Option Nat)) (hrow : row.length = S.n)
    (x : Ev) (hx : Completes (List.range S.n) (Ev.ofList row) x) :
    (rtGenMpeRow S y row).map some = (List.range S.n).map (mpeDescent (Ev.ofList row) (unrollT S y)) ∧
    rtGenCondPmf S y (Ev.ofList row) x * Circ.eval (Ev.ofList row) (circ S y) = Circ.eval x (circ S y) ∧
    rtGenSamplePmf S y x = Circ.eval x (circ S y) :=
  ⟨e2e_rat_topdown_mpe S y row h.perm h.acc h.reps_pos h.batch_pos h.sum_pos hrow,
   e2e_rat_topdown_sample_exact S h y (Ev.ofList row) x hx, e2e_rat_topdown_sample S y x⟩

example : (rtGenMpeRow exS 1 exRow).map some = (List.range exS.n).map (mpeDescent (Ev.ofList exRow) (unrollT exS 1)) ∧
    rtGenCondPmf exS 1 (Ev.ofList exRow) exCompl * Circ.eval (Ev.ofList exRow) (circ exS 1)
      = Circ.eval exCompl (circ exS 1) ∧
    rtGenSamplePmf exS 1 exCompl = Circ.eval exCompl (circ exS 1) :=
  e2e_rat_topdown exS exS_wf 1 exRow rfl exCompl exCompl_completes

/-- non-vacuity on `exS`: the hypotheses hold and the generated passes compute the numbers of `Props/C16Sample.lean` -/
example : exS.WF ∧ Completes (List.range exS.n) exEv exCompl ∧
    rtGenCondPmf exS 1 exEv exCompl = 2396297 / 15531264 ∧ rtGenSamplePmf exS 1 exCompl = 2396297 / 63700992 :=
  ⟨exS_wf, exCompl_completes, by rw [rtGenCondPmf_eq]; exact exS_values.2.1,
   by rw [rtGenSamplePmf_eq]; exact exS_values.2.2⟩

example : rtGenCondPmf exS 1 exEv exCompl * Circ.eval exEv (circ exS 1) = Circ.eval exCompl (circ exS 1) :=
  e2e_rat_topdown_sample_exact exS exS_wf 1 exEv exCompl exCompl_completes

end sampleLaw

end rt

end ratSpn

end Deeprob.E2E
