import DeeprobModel.Lemmas.TopDownExample
set_option linter.unusedSectionVars false
/-
C07 (circuit part) — "Sampling fills exactly the missing entries of each row, leaves observed entries
untouched, and the filled values are distributed according to the model's exact conditional
distribution given the observed entries of that row (the joint when nothing is observed) … sum nodes
of any number of children … every leaf family."

* support: `sample` is the generic pass `TCirc.pass br fill` for *some* outcome `br` of the branch
  draws and `fill` of the leaf draws — the support theorems hold for every outcome;
* law: `topDownPmf e x c` is the probability that the pass completes `e` to `x`, given that a sum
  node draws branch `i` with probability `wᵢLᵢ/Σⱼ wⱼLⱼ` (the Gumbel-max identity for the right-skewed
  standard Gumbel law: taken as given here, proved over ℝ as `SamplingFacts.gumbelMaxIdentity_real` in
  Props/SamplingFacts.lean) and leaves draw from their own conditionals (`cond`).
Witness of every example: `TCirc.exT`, evidence `exE = [·,0,·]`, completion `exX = [1,0,1]`.
-/
namespace Deeprob
open TD
namespace C07
open TCirc

section support
variable {α : Type} [Zero α] [One α] [Add α] [Mul α]

/-- whatever branches are drawn (`br`) and whatever the leaves draw (`fill`, within the leaf
contract): **observed entries stay, missing entries only get domain values** … -/
theorem sample_entrywise (dom : Nat → Nat) (c : TCirc α)
    (br : List Nat → List α → List (TCirc α) → Nat) (fill : List Nat → (Ev → Ev) → Ev → Ev)
    (hf : FillOK dom fill c) (e : Ev) (v : Nat) : FillsVar dom e (pass br fill [] c e) v :=
  pass_step br fill dom v c hf [] e

/-- … **observed entries untouched** … -/
theorem sample_keeps_observed (dom : Nat → Nat) (c : TCirc α)
    (br : List Nat → List α → List (TCirc α) → Nat) (fill : List Nat → (Ev → Ev) → Ev → Ev)
    (hf : FillOK dom fill c) (e : Ev) : ∀ v, e v ≠ none → pass br fill [] c e v = e v :=
  fun v h => (sample_entrywise dom c br fill hf e v).keeps h

/-- … **every missing entry of the root scope is filled** (branch draws are child positions) … -/
theorem sample_fills_scope (dom : Nat → Nat) (c : TCirc α) (hv : Circ.Valid dom c.toCirc)
    (br : List Nat → List α → List (TCirc α) → Nat) (fill : List Nat → (Ev → Ev) → Ev → Ev)
    (hb : BrOK br c) (hf : FillOK dom fill c) (e : Ev) : ∀ v ∈ c.scope, pass br fill [] c e v ≠ none :=
  fun v h => pass_fills br fill dom v c hv hb hf [] e h

/-- … **and nothing else is written**. -/
theorem sample_outside_scope_unchanged (dom : Nat → Nat) (c : TCirc α) (hv : Circ.Valid dom c.toCirc)
    (br : List Nat → List α → List (TCirc α) → Nat) (fill : List Nat → (Ev → Ev) → Ev → Ev) (e : Ev) :
    ∀ v, v ∉ c.scope → pass br fill [] c e v = e v :=
  fun v h => pass_outside br fill dom v c hv [] e h

theorem sample_completes (dom : Nat → Nat) (c : TCirc α) (hv : Circ.Valid dom c.toCirc)
    (br : List Nat → List α → List (TCirc α) → Nat) (fill : List Nat → (Ev → Ev) → Ev → Ev)
    (hb : BrOK br c) (hf : FillOK dom fill c) (e : Ev) : Completes c.scope e (pass br fill [] c e) :=
  ⟨sample_keeps_observed dom c br fill hf e, sample_fills_scope dom c hv br fill hb hf e⟩

end support

/-- non-vacuity of the support theorems: the outcome "every sum draws its LAST child, every leaf
draws value 0" on the witness -/
def exBr : List Nat → List Rat → List (TCirc Rat) → Nat := fun _ _ cs => cs.length - 1
def exFill : List Nat → (Ev → Ev) → Ev → Ev := fun _ _ x => fun v => match x v with | none => some 0 | some k => some k

theorem exBr_ok : ∀ c : TCirc Rat, Circ.Valid exDom c.toCirc → BrOK exBr c :=
  brOK_of_valid exBr exDom fun _ _ _ hne _ => Nat.sub_lt (List.length_pos_of_ne_nil hne) Nat.one_pos

theorem exFill_ok : ∀ c : TCirc Rat, Circ.Valid exDom c.toCirc → (∀ v ∈ c.scope, v < 3) → FillOK exDom exFill c := by
  intro c
  induction c using TCirc.ind with
  | hl s f m cd =>
    intro _ hs; unfold FillOK
    refine fun p => ⟨fun x v hvs => ?_, fun x v _ => ?_⟩
    · cases hx : x v with
      | some k => exact Or.inl (by simp [exFill, hx])
      | none => exact Or.inr ⟨hx, 0, (by decide : ∀ v < 3, 0 < exDom v) v (hs v hvs), by simp [exFill, hx]⟩
    · unfold exFill; cases x v <;> simp
  | hs s ws cs ih =>
    intro hv hs
    obtain ⟨_, _, hsc, hvc⟩ := valid_sum.1 hv
    unfold FillOK
    exact fun c hc => ih c hc (hvc c hc) (fun v hvv => hs v ((hsc c hc v).1 hvv))
  | hp s cs ih =>
    intro hv hs
    obtain ⟨_, hsc, hvc⟩ := valid_prod.1 hv
    unfold FillOK
    exact fun c hc => ih c hc (hvc c hc)
      (fun v hvv => hs v ((hsc v).1 (List.mem_flatten_of_mem (List.mem_map_of_mem hc) hvv)))

theorem exT_scope_lt : ∀ v ∈ exT.scope, v < 3 := by decide

example : ∀ v, FillsVar exDom exE (pass exBr exFill [] exT exE) v :=
  sample_entrywise exDom exT exBr exFill (exFill_ok exT exT_ok.1 exT_scope_lt) exE
example : ∀ v, exE v ≠ none → pass exBr exFill [] exT exE v = exE v :=
  sample_keeps_observed exDom exT exBr exFill (exFill_ok exT exT_ok.1 exT_scope_lt) exE
example : ∀ v ∈ exT.scope, pass exBr exFill [] exT exE v ≠ none :=
  sample_fills_scope exDom exT exT_ok.1 exBr exFill (exBr_ok exT exT_ok.1) (exFill_ok exT exT_ok.1 exT_scope_lt) exE
example : ∀ v, v ∉ exT.scope → pass exBr exFill [] exT exE v = exE v :=
  sample_outside_scope_unchanged exDom exT exT_ok.1 exBr exFill exE
example : Completes exT.scope exE (pass exBr exFill [] exT exE) :=
  sample_completes exDom exT exT_ok.1 exBr exFill (exBr_ok exT exT_ok.1) (exFill_ok exT exT_ok.1 exT_scope_lt) exE
/-- the concrete outcome: third child of the root, second child of the nested sum, zeros: `[0,0,0]` -/
example : (List.range 4).map (pass exBr exFill [] exT exE) = [some 0, some 0, some 0, none] := by
  simp only [exT, pass, passAt_eq, exBr, bernT, catT, List.length_cons, List.length_nil, Nat.reduceAdd, Nat.reduceSub,
    List.getElem?_cons_succ, List.getElem?_cons_zero, passAll, List.range, List.range.loop, List.map_cons, List.map_nil]
  decide +kernel

section law
variable {α : Type} [Field α] [LinearOrder α] [IsStrictOrderedRing α]

/-- the branch law of `sum_sample` is a probability vector whenever the node's value is non-zero -/
theorem branchPmf_sums_to_one (ws ls : List α) (h : wsum ws ls ≠ 0) : tsum (branchPmf (wsum ws ls) ws ls) = 1 := by
  have hdiv : branchPmf (wsum ws ls) ws ls = (List.zipWith (· * ·) ws ls).map (· * (wsum ws ls)⁻¹) := by
    rw [branchPmf, List.map_zipWith]; simp only [div_eq_mul_inv]
  rw [hdiv, tsum_eq_sum, List.sum_map_mul_right, List.map_id', ← wsum_eq_sum, mul_inv_cancel₀ h]

example : tsum (branchPmf (wsum [(1:Rat)/5, 1/2, 3/10] [1/10, 1/3, 0]) [(1:Rat)/5, 1/2, 3/10] [1/10, 1/3, 0]) = 1 :=
  branchPmf_sums_to_one _ _ (by norm_num [wsum])

/-- **the sampler's law is the exact conditional** (division-free form): for every completion `x` of the
evidence `e` on the root scope, `P_sampler(x | e) · value(e) = value(x)`.  No hypothesis on `value(e)`:
if it is zero, both sides are zero. -/
theorem topDownPmf_exact (dom : Nat → Nat) (c : TCirc α) (hv : Circ.Valid dom c.toCirc) (hn : NonNeg c)
    (hl : LeafExact c) (e x : Ev) (hx : Completes c.scope e x) :
    topDownPmf e x c * eval e c = eval x c :=
  pmf_exact dom c hv hn hl e x hx

example : topDownPmf exE exX exT * eval exE exT = eval exX exT :=
  topDownPmf_exact exDom exT exT_ok.1 exT_ok.2.2.1 exT_ok.2.2.2.2 exE exX exX_completes

/-- the same with the division: the sampler's pmf *is* `P(x | observed entries of e)` -/
theorem topDownPmf_eq_cond (dom : Nat → Nat) (c : TCirc α) (hv : Circ.Valid dom c.toCirc) (hn : NonNeg c)
    (hl : LeafExact c) (e x : Ev) (hx : Completes c.scope e x) (he : eval e c ≠ 0) :
    topDownPmf e x c = condSpec c e x := by
  unfold condSpec
  rw [eq_div_iff he]
  exact pmf_exact dom c hv hn hl e x hx

/-- on the witness: `P([1,0,1] | x₁ = 0) = (101/1000)/(14/75) = 303/560` -/
example : topDownPmf exE exX exT = 303/560 := by
  rw [topDownPmf_eq_cond exDom exT exT_ok.1 exT_ok.2.2.1 exT_ok.2.2.2.2 exE exX exX_completes
    (by rw [exT_eval_e]; norm_num)]
  unfold condSpec; rw [exT_eval_e, exT_eval_x]; norm_num

/-- **the sampler's law sums to one** over all completions of the evidence on the root scope -/
theorem topDownPmf_sums_to_one (dom : Nat → Nat) (c : TCirc α) (hv : Circ.Valid dom c.toCirc) (hn : NonNeg c)
    (hl : LeafExact c) (e : Ev) (he : eval e c ≠ 0) :
    sumOver dom c.scope e (fun x => topDownPmf e x c) = 1 := by
  have h1 : sumOver dom c.scope e (fun x => eval e c * topDownPmf e x c) = sumOver dom c.scope e (fun x => eval x c) := by
    apply sumOver_congr_completes
    intro x hx
    rw [mul_comm]; exact pmf_exact dom c hv hn hl e x hx
  have h2 : sumOver dom c.scope e (fun x => eval x c) = eval e c := by
    have := Circ.marg dom c.toCirc hv e
    rw [scope_toCirc] at this
    exact this.symm
  rw [sumOver_mul, h2] at h1
  exact mul_left_cancel₀ he (by rw [h1, mul_one])

example : sumOver exDom exT.scope exE (fun x => topDownPmf exE x exT) = 1 :=
  topDownPmf_sums_to_one exDom exT exT_ok.1 exT_ok.2.2.1 exT_ok.2.2.2.2 exE (by rw [exT_eval_e]; norm_num)

/-- joint case (nothing observed): the sampler's law is the circuit's distribution itself when the
circuit is normalised -/
theorem topDownPmf_joint (dom : Nat → Nat) (c : TCirc α) (hv : Circ.Valid dom c.toCirc) (hn : NonNeg c)
    (hl : LeafExact c) (hw : Circ.NormW c.toCirc) (hln : Circ.LeafNorm dom c.toCirc)
    (x : Ev) (hx : ∀ v ∈ c.scope, x v ≠ none) : topDownPmf (fun _ => none) x c = eval x c := by
  have h := pmf_exact dom c hv hn hl (fun _ => none) x ⟨fun v h => absurd rfl h, hx⟩
  have h1 : eval (fun _ => none) c = 1 := Circ.all_missing_one dom c.toCirc hv hw hln
  rw [h1, mul_one] at h
  exact h

example : topDownPmf (fun _ => none) exX exT = eval exX exT :=
  topDownPmf_joint exDom exT exT_ok.1 exT_ok.2.2.1 exT_ok.2.2.2.2
    (by
      simp only [exT, toCirc, catT, bernT, List.map_cons, List.map_nil, Circ.normW_sum_iff, Circ.normW_prod_iff,
        List.forall_mem_cons, List.not_mem_nil, false_imp_iff, implies_true, and_true, Circ.normW_leaf]
      decide +kernel)
    (by
      simp only [exT, toCirc, catT, bernT, List.map_cons, List.map_nil, Circ.leafNorm_sum_iff, Circ.leafNorm_prod_iff,
        Circ.leafNorm_leaf_iff, List.forall_mem_cons, List.not_mem_nil, false_imp_iff, implies_true, and_true]
      decide)
    exX exX_completes.2

end law

section leaves
variable {α : Type} [CommSemiring α] [LT α] [DecidableLT α]

/-- the law of `Bernoulli.sample` / `Categorical.sample` (table entry for a missing value, the observed
value kept) is the exact conditional of the leaf -/
theorem cat_leaf_exact (v : Nat) (tbl : List α) : LeafExact (catT v tbl) ∧ LeafExact (bernT v tbl) := by
  constructor
  · unfold catT LeafExact; exact catCond_exact v tbl
  · unfold bernT LeafExact; exact catCond_exact v tbl

example : LeafExact (catT 1 [(1:Rat)/10, 6/10, 3/10]) := (cat_leaf_exact (α := Rat) 1 _).1

end leaves

end C07
end Deeprob
