import DeeprobModel.Props.E2ECirc
import DeeprobModel.Spec.RealExpLog
import DeeprobModel.Props.E2ELearn
import DeeprobModel.Oblig.StructClt
import DeeprobModel.Oblig.StructTopDown
import DeeprobModel.Oblig.Struct5Grad
import DeeprobModel.Oblig.C14
import DeeprobModel.Oblig.C19
import DeeprobModel.Oblig.Struct4CltFit
import Mathlib.Analysis.SpecialFunctions.Log.Basic
import Mathlib.Analysis.SpecialFunctions.Sqrt
import Mathlib.Tactic.NormNum
set_option linter.unusedSimpArgs false
set_option linter.unusedVariables false
set_option linter.unnecessarySeqFocus false

/-
Real-valued witnesses for theorems quantified over `ExpLog F`.

`Props/SamplingFacts.lean: expLog_rat_empty` shows that the interface `ExpLog` has no instance over `ℚ` (`exp (log 2 / 2)` would
be a rational square root of 2).  Every `example (E : ExpLog ℚ) …` of the development is therefore itself vacuous and does not
show the hypotheses of the theorem before it to be satisfiable.  The four places, each with its instance at `F = ℝ` with `Deeprob.realExpLog` (the usual `exp`, `log`, `sqrt`), nothing assumed:

* `Oblig/Struct4Sampling.lean`  (after `sumSampleEntry_as_coded`)          → `sumSampleEntry_real`
* `Oblig/Struct4Sampling.lean`  (after `branchPmf_as_coded`)               → `branchPmf_real`
* `Props/E2ECirc.lean`          (after `e2e_log_likelihood_linear`)        → `e2e_log_likelihood_real`
                                                                             (+ `real_log_floor`, `ll_exNetR_values`)
* `Props/E2ECirc.lean`          (after `e2e_sum_sample_branch_exact`)      → the last `example` of
                                                                             `Props/SamplingFacts.lean` (`ssExTR`)

The last part gives instances at `realExpLog` to theorems quantified over `ExpLog F` that have none at any concrete field
(`sample_as_coded`, `sum_mpe_as_coded`, `gaussian_em_sigma_pos`, `skewness_sigma`, `mutualInfo_as_coded`,
`gradRoot_denotes`), and a three-variable witness of `C11.fit_tree_maximal` / `E2E.e2e_cpt_tree_maximal` whose certificate is
about actual logarithms (the other instances have two variables, where the certificate is empty).
-/
namespace Deeprob.RealWitnesses
open Deeprob Deeprob.TCirc Deeprob.E2E

theorem realExpLog_exp (a : ℝ) : realExpLog.exp a = Real.exp a := rfl
theorem realExpLog_log (a : ℝ) : realExpLog.log a = Real.log a := rfl

/-- the side hypothesis `hE` of the example after `e2e_log_likelihood_linear`, for the real logarithm (in fact
`log a ≥ 1 - 1/a ≥ -5/3` on `[3/8, ∞)`) -/
theorem real_log_floor (a : ℝ) (ha : 3/8 ≤ a) : (-1000000 : ℝ) ≤ realExpLog.log a := by
  have h1 : 1 - a⁻¹ ≤ Real.log a := Real.one_sub_inv_le_log_of_pos (lt_of_lt_of_le (by norm_num) ha)
  have h2 : a⁻¹ ≤ (3/8 : ℝ)⁻¹ := inv_anti₀ (by norm_num) ha
  exact (by norm_num : (-1000000 : ℝ) ≤ 1 - (3/8 : ℝ)⁻¹).trans ((sub_le_sub_left h2 1).trans h1)

example : (-1000000 : ℝ) ≤ realExpLog.log (3/8) := real_log_floor _ le_rfl

/-- `sumSampleEntry_as_coded` of `Oblig/Struct4Sampling.lean` at the real `exp` / `log` -/
theorem sumSampleEntry_real :
    realExpLog.exp (Gen.S4sumSampleEntry realExpLog (realExpLog.log (1 / 2)) (1 / 4) 0) = 1 / 4 * (1 / 2) ∧
    ∀ g : ℝ, Gen.S4sumSampleEntry realExpLog (realExpLog.log (1 / 2)) (1 / 4) g
      = Gen.S4sumSampleEntry realExpLog (realExpLog.log (1 / 2)) (1 / 4) 0 + g :=
  ⟨(Struct4.sumSampleEntry_as_coded realExpLog (1 / 4) (1 / 2) 0 (by norm_num) (by norm_num)).2,
   fun g => (Struct4.sumSampleEntry_as_coded realExpLog (1 / 4) (1 / 2) g (by norm_num) (by norm_num)).1⟩

/-- `branchPmf_as_coded` of `Oblig/Struct4Sampling.lean` at the real `exp` / `log` -/
theorem branchPmf_real :
    branchPmf (1 / 4 : ℝ) [1 / 4, 3 / 4] [1 / 2, 1 / 6] =
      List.zipWith (fun w l => realExpLog.exp (Gen.S4sumSampleEntry realExpLog (realExpLog.log l) w 0) / (1 / 4))
        [1 / 4, 3 / 4] [1 / 2, 1 / 6] ∧
    branchPmf (1 / 4 : ℝ) [1 / 4, 3 / 4] [1 / 2, 1 / 6] = [1 / 2, 1 / 2] := by
  refine ⟨Struct4.branchPmf_as_coded realExpLog _ _ _
    (MCirc.forall_mem_two (by norm_num) (by norm_num))
    (MCirc.forall_mem_two (by norm_num) (by norm_num)), ?_⟩
  simp [branchPmf]; norm_num

noncomputable def exLeavesR : Nat → SrcLeaf ℝ := fun i =>
  [SrcLeaf.bernoulli 0 (3/4), .categorical 1 [1/2, 1/2], .categorical 1 [1/10, 9/10]].getD i (.bernoulli 0 0)

noncomputable def exNetR : Net ℝ :=
  [ { id := 3, kind := .leaf, scope := [0], ch := [], ws := [], leaf := (exLeavesR 0).toModel },
    { id := 4, kind := .leaf, scope := [1], ch := [], ws := [], leaf := (exLeavesR 1).toModel },
    { id := 5, kind := .leaf, scope := [1], ch := [], ws := [], leaf := (exLeavesR 2).toModel },
    { id := 1, kind := .prod, scope := [0, 1], ch := [0, 1], ws := [], leaf := .absent },
    { id := 2, kind := .prod, scope := [1, 0], ch := [2, 0], ws := [], leaf := .absent },
    { id := 0, kind := .sum, scope := [0, 1], ch := [3, 4], ws := [1/3, 2/3], leaf := .absent } ]

theorem exNetR_wellOrdered : WellOrdered exNetR := (wellOrderedB_iff exNetR).1 (by decide)

theorem exNetR_tableLeaves : TableLeaves exNetR exLeavesR := by
  intro i x hx
  obtain ⟨h, rfl⟩ := List.getElem?_eq_some_iff.1 hx
  have h6 : i < 6 := h
  interval_cases i <;> first | exact fun _ => rfl | exact fun hk => nomatch hk

/-- the row `(1, 1)` -/
def exRow : Ev := Ev.ofList [some 1, some 1]

/-- the exact semantic value of every node of `exNetR` on the row `(1, 1)` -/
theorem exNetR_values :
    (List.range 6).map (fun i => Circ.eval exRow (toTree exNetR [] (i+1) i)) = [3/4, 1/2, 9/10, 3/8, 27/40, 23/40] := by
  simp only [exRow, toTree, exNetR, SrcLeaf.toModel, exLeavesR, one_div, List.getD_eq_getElem?_getD,
    List.length_cons, List.length_nil, zero_add, Nat.reduceAdd, Nat.ofNat_pos, getElem?_pos, List.getElem_cons_zero,
    Option.getD_some, Nat.one_lt_ofNat, List.getElem_cons_succ, Nat.lt_add_one, LeafP.fn, not_lt_zero,
    not_false_eq_true, getElem?_neg, Option.getD_none, List.range_succ, List.range_zero, List.nil_append,
    List.cons_append, List.map_cons, Circ.eval, Circ.catLeafFn, Ev.ofList, Order.lt_two_iff, zero_le, Std.le_refl,
    Nat.reduceLT, List.map_const', List.map_nil, lprod, mul_one, wsum, add_zero, List.cons.injEq, and_true, true_and]
  norm_num

theorem exNetR_value (i : Nat) (hi : i < exNetR.length) :
    Circ.eval exRow (toTree exNetR [] (i+1) i) = ([3/4, 1/2, 9/10, 3/8, 27/40, 23/40] : List ℝ).getD i 0 := by
  have h := congrArg (fun l => l.getD i 0) exNetR_values
  have hi' : i < 6 := hi
  simpa [List.getD_eq_getElem?_getD, List.getElem?_map, List.getElem?_range hi'] using h

/-- on the row `(1, 1)` every node of `exNetR` has a value in `[3/8, ∞)` (real-valued mirror of `E2E.ll_exNet_values`) -/
theorem ll_exNetR_values : ∀ i, i < exNetR.length → (3/8 : ℝ) ≤ Circ.eval exRow (toTree exNetR [] (i+1) i) := by
  intro i hi
  have hb : ∀ x ∈ ([3/4, 1/2, 9/10, 3/8, 27/40, 23/40] : List ℝ), (3/8 : ℝ) ≤ x := by
    simp only [List.forall_mem_cons, List.not_mem_nil, false_imp_iff, implies_true, and_true]
    norm_num
  rw [exNetR_value i hi, List.getD_eq_getElem?_getD, List.getElem?_eq_getElem (show i < 6 from hi), Option.getD_some]
  exact hb _ (List.getElem_mem _)

/-- **real-valued witness of `e2e_log_likelihood_log`, `e2e_log_likelihood`, `e2e_log_likelihood_linear`** (the example
after `e2e_log_likelihood_linear` in `Props/E2ECirc.lean` quantifies over the empty type `ExpLog ℚ`): for the real `exp` / `log` all
hypotheses hold on `exNetR` and the row `(1, 1)` — nothing is assumed —, the generated log-domain pass stores
`log (23/40)` at the root, its exponential is `23/40 = 1/3·(3/4·1/2) + 2/3·(9/10·3/4)`, and that is the entry of the
generated linear-domain table. -/
theorem e2e_log_likelihood_real :
    (llTable realExpLog exRow exNetR exLeavesR).getD 5 0 = Real.log (23/40) ∧
    realExpLog.exp ((llTable realExpLog exRow exNetR exLeavesR).getD 5 0) = 23/40 ∧
    realExpLog.exp ((llTable realExpLog exRow exNetR exLeavesR).getD 5 0) = (genTable exRow exNetR exLeavesR).getD 5 0 := by
  have hpos : ∀ i, i < exNetR.length → (0 : ℝ) < Circ.eval exRow (toTree exNetR [] (i+1) i) :=
    fun i hi => lt_of_lt_of_le (by norm_num) (ll_exNetR_values i hi)
  have hfl : ∀ i, i < exNetR.length →
      (-1000000 : ℝ) ≤ realExpLog.log (Circ.eval exRow (toTree exNetR [] (i+1) i)) :=
    fun i hi => real_log_floor _ (ll_exNetR_values i hi)
  have h5 : Circ.eval exRow (toTree exNetR [] (5+1) 5) = 23/40 := by
    rw [exNetR_value 5 (by decide)]; norm_num
  refine ⟨?_, ?_, ?_⟩
  · rw [e2e_log_likelihood_log realExpLog exNetR exLeavesR [] exRow exNetR_wellOrdered exNetR_tableLeaves hpos hfl 5
      (by decide), h5]; rfl
  · rw [e2e_log_likelihood realExpLog exNetR exLeavesR [] exRow exNetR_wellOrdered exNetR_tableLeaves hpos hfl 5
      (by decide), h5]
  · exact e2e_log_likelihood_linear realExpLog exNetR exLeavesR [] exRow exNetR_wellOrdered exNetR_tableLeaves hpos hfl 5
      (by decide)

/-- the real-valued table is the cast of the rational one that `Props/E2ECirc.lean` computes with `decide +kernel`:
the root entries of the linear-domain tables over `ℚ` (`exNet`) and over `ℝ` (`exNetR`) agree -/
theorem genTable_real_eq_cast :
    (genTable exRow exNetR exLeavesR).getD 5 0 = (((genTable exRow exNet exLeaves).getD 5 0 : ℚ) : ℝ) := by
  have hq : (genTable exRow exNet exLeaves).getD 5 0 = 23/40 := by decide +kernel
  rw [hq, ← e2e_log_likelihood_real.2.2, e2e_log_likelihood_real.2.1]
  norm_num

/-- `Oblig/StructClt.sample_as_coded` over ℝ (C07): `a₀ = 1/6`, `a₁ = 1/3`, Bernoulli parameter `2/3` -/
theorem sample_as_coded_real :
    Gen.cltSampleBernParam realExpLog
      (Gen.cltSampleLogProb (realExpLog.log (1/3)) (realExpLog.log (1/6 + 1/3))) = 2/3 := by
  rw [(Oblig.StructClt.sample_as_coded realExpLog (1/6) (1/3) (by norm_num) (by norm_num)).2.2.2.2.2]
  norm_num

/-- `Oblig/StructTopDown.sum_mpe_as_coded` over ℝ (C06) -/
theorem sum_mpe_as_coded_real :
    Gen.sumMpeScore realExpLog (realExpLog.log (1/2)) (1/4) = Real.log (1/4 * (1/2)) :=
  (Oblig.StructTopDown.sum_mpe_as_coded realExpLog (1/4) (1/2) (by norm_num) (by norm_num)).2.2

/-- `Oblig/C14.gaussian_em_sigma_pos` over ℝ with the real square root (C14): step size `1/2`, `σ = 1`, statistics
`V = 2`, `T = 8` -/
theorem gaussian_em_sigma_pos_real :
    (1 / 100000 : ℝ) ≤ Gen.gaussEmStdNew realExpLog (1/2) 1 2 8 :=
  Oblig.C14.gaussian_em_sigma_pos realExpLog (1/2) 1 2 8 (by norm_num) (by norm_num) (by norm_num)

/-- `Oblig/C19.skewness_sigma` over ℝ (C19): raw moments of Bernoulli(1/4) -/
theorem skewness_sigma_real :
    Gen.skewness realExpLog (1/4) (1/4) (1/4) (1/4)
      = ((1/4 : ℝ) - 3 * (1/4) * (1/4) + 2 * (1/4) ^ 3) / (((1/4 : ℝ) - (1/4) ^ 2) * Real.sqrt ((1/4 : ℝ) - (1/4) ^ 2)) :=
  Oblig.C19.skewness_sigma realExpLog (1/4) (1/4) (1/4) (1/4) (by norm_num)

/-- `Oblig/Struct4CltFit.mutualInfo_as_coded` over ℝ (C11) -/
theorem mutualInfo_as_coded_real :
    CltFit.mutualInfo realExpLog [[1, 0], [1, 1], [0, 1], [1, 1]] (1 / 10 : ℝ) 0 1 =
      Gen.S4mutualInfo realExpLog 2 (fun i k => CltFit.prior [[1, 0], [1, 1], [0, 1], [1, 1]] (1 / 10 : ℝ) i k)
        (fun i j k l => CltFit.joint [[1, 0], [1, 1], [0, 1], [1, 1]] (1 / 10 : ℝ) i j k l) 0 1 :=
  Struct4.mutualInfo_as_coded realExpLog _ _ 0 1

/-- `Oblig/Struct5Grad.gradRoot_denotes` over ℝ (C14): the literal the backward pass starts from denotes `exp 0 = 1` -/
theorem gradRoot_denotes_real :
    LogV.expL (Gen.S5gradRoot Oblig.Struct5G.litLogV : LogV ℝ)
      = some (realExpLog.exp (Gen.S5gradRoot (fun q : Rat => (q : ℝ)))) ∧
    realExpLog.exp (Gen.S5gradRoot (fun q : Rat => (q : ℝ))) = 1 := by
  refine ⟨Oblig.Struct5G.gradRoot_denotes realExpLog, ?_⟩
  simp [Gen.S5gradRoot, realExpLog_exp]

/-- the data set with three identical columns -/
def X3 : List (List Nat) := [[1, 1, 1], [0, 0, 0], [1, 1, 1], [1, 1, 1]]

/-- the certificate of `fit_tree_maximal` holds for the chain `0 ← 1 ← 2` on `X3` with the real mutual information
(all three off-diagonal entries coincide, so the non-tree pair `(0, 2)` is no heavier than the tree edges) -/
theorem cycleOK_X3 (al : ℝ) : CltFit.cycleOK (CltFit.mutualInfo realExpLog X3 al) [-1, 0, 1] = true := by
  have hp : CltFit.cyclePairs [-1, 0, 1] = [(0, 2, some [2, 1])] := by decide
  -- the three columns are identical, so every pair has the mutual information of the pair `(0, 1)`
  have h10 : CltFit.mutualInfo realExpLog X3 al 1 0 = CltFit.mutualInfo realExpLog X3 al 0 1 := rfl
  have h21 : CltFit.mutualInfo realExpLog X3 al 2 1 = CltFit.mutualInfo realExpLog X3 al 0 1 := rfl
  have h02 : CltFit.mutualInfo realExpLog X3 al 0 2 = CltFit.mutualInfo realExpLog X3 al 0 1 := rfl
  have e1 : CltFit.edgeW (CltFit.mutualInfo realExpLog X3 al) [-1, 0, 1] 1
      = CltFit.mutualInfo realExpLog X3 al 1 0 := rfl
  have e2 : CltFit.edgeW (CltFit.mutualInfo realExpLog X3 al) [-1, 0, 1] 2
      = CltFit.mutualInfo realExpLog X3 al 2 1 := rfl
  simp only [CltFit.cycleOK, hp, List.all_cons, List.all_nil, Bool.and_true, e1, e2, h10, h21, h02, lt_irrefl,
    decide_false, Bool.not_false]

/-- **real-valued witness of `C11.fit_tree_maximal` and `E2E.e2e_cpt_tree_maximal`** (C11) on three variables, where the
certificate is about actual logarithms (the only instances in the development are on two variables, where there is no
non-tree pair, and quantify over an arbitrary `ExpLog F`): on `X3` the chain has maximal total real mutual information
among all rooted spanning trees, both for the specification's matrix and for the generated one. -/
theorem fit_tree_maximal_real (al : ℝ) (pred' : List Int) (root' : Nat) (hl : pred'.length = 3)
    (hT : CltFit.isRootedSpanningTree pred' root' = true) :
    CltFit.treeWeight (CltFit.mutualInfo realExpLog X3 al) pred'
      ≤ CltFit.treeWeight (CltFit.mutualInfo realExpLog X3 al) [-1, 0, 1] ∧
    CltFit.treeWeight (cpGenMI realExpLog X3 al) pred' ≤ CltFit.treeWeight (cpGenMI realExpLog X3 al) [-1, 0, 1] :=
  ⟨C11.fit_tree_maximal realExpLog X3 al (pred := [-1, 0, 1]) (root := 0) (by decide) (cycleOK_X3 al) pred' root' hl hT,
   e2e_cpt_tree_maximal realExpLog X3 al (pred := [-1, 0, 1]) (root := 0) (by decide)
     (by rw [cpGenMI_eq]; exact cycleOK_X3 al) pred' root' hl hT⟩

example (al : ℝ) := (fit_tree_maximal_real al [1, -1, 1] 1 rfl (by decide)).1

end Deeprob.RealWitnesses
