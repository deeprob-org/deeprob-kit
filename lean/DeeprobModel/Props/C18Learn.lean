import DeeprobModel.Lemmas.CnetLearnLemmas
import DeeprobModel.Spec.CnetLearn
import DeeprobModel.Props.C18
import Mathlib.Algebra.Order.Field.Basic
import Mathlib.Algebra.Order.Field.Rat
import Mathlib.Data.List.Nodup
import Mathlib.Data.List.Perm.Basic
import Mathlib.Tactic.Ring
import Mathlib.Tactic.Linarith
import Mathlib.Tactic.FieldSimp
import Mathlib.Tactic.NormNum
import Mathlib.Tactic.Positivity
set_option linter.unusedSectionVars false
/-
C18 — the three cutset-network learners (`BinaryCNet.fit`, `learn_cnet_bd`, `learn_cnet_bic`) inside the model.

All theorems quantify over every oracle script (the data-dependent choices: which variable to cut, whether to
stop) and every leaf oracle `lf` (the Chow-Liu tree fitted at a leaf), for the machine of Model/CnetLearn.lean.
-/
namespace Deeprob.CnetLearn
open Deeprob

/-! ### the running examples (non-vacuity)

Eight training rows over three binary variables; the oracle script is `[cut X0, cut X2, stop]`:
the root is cut on X0, its left child (rows with X0 = 0) on X2, its right child is consulted and kept.
`exTree` is what the entropy-based `fit` (`alpha = 1/100`, `min_n_samples = 2`) returns, `exTreeBd` what
`learn_cnet_bd` (`ess = 1`) returns: same shape, weights `(5 + 1/2)/(8 + 1)` at the root and
`(2 + 1/4)/(5 + 1/2)` one level down (`node_ess` halved). -/

def exData : List (List Nat) :=
  [[0,0,1],[0,1,1],[1,0,0],[1,1,0],[0,0,1],[1,1,1],[0,1,0],[0,0,0]]
def exCfg : Cfg := { kind := .fit, minSamples := 2 }
def exCfgBd : Cfg := { kind := .bd }
def exScript : List Dec := [.cut 0, .cut 2, .stop]

def exTree : LTree ℚ :=
  .or [0,1,2,3,4,5,6,7] [0,1,2] 0 (501/802) (301/802)
    (.or [0,1,4,6,7] [1,2] 2 (201/502) (301/502) (.leaf [6,7] [1]) (.leaf [0,1,4] [1]))
    (.leaf [2,3,5] [1,2])

def exTreeBd : LTree ℚ :=
  .or [0,1,2,3,4,5,6,7] [0,1,2] 0 (11/18) (7/18)
    (.or [0,1,4,6,7] [1,2] 2 (9/22) (13/22) (.leaf [6,7] [1]) (.leaf [0,1,4] [1]))
    (.leaf [2,3,5] [1,2])

theorem ok_of_toOption {ε β : Type} {e : Except ε β} {a : β} (h : e.toOption = some a) : e = .ok a := by
  cases e with
  | error _ => simp [Except.toOption] at h
  | ok b => simp only [Except.toOption, Option.some.injEq] at h; rw [h]

theorem exLearn : learn exCfg exData 3 (1/100 : ℚ) exScript = .ok exTree := ok_of_toOption (by decide +kernel)
theorem exLearnBd : learn exCfgBd exData 3 (1 : ℚ) exScript = .ok exTreeBd := ok_of_toOption (by decide +kernel)

/-- a data set whose column 1 is constant, and the (possible for `fit`, impossible for the score-based learners)
decision to cut on it: the left branch receives no row -/
def exDataC : List (List Nat) := [[0,1,1],[1,1,0],[0,1,0],[1,1,1]]
def exCfgC : Cfg := { kind := .fit, minSamples := 1 }
def exTreeC : LTree ℚ := .or [0,1,2,3] [0,1,2] 1 (1/42) (41/42) (.leaf [] [0,2]) (.leaf [0,1,2,3] [0,2])
theorem exLearnC : learn exCfgC exDataC 3 (1/10 : ℚ) [.cut 1, .stop] = .ok exTreeC := ok_of_toOption (by decide +kernel)

def exDom : Nat → Nat := fun _ => 2

/-- a leaf oracle that depends on the rows and on the scope: independent Bernoulli(1 / (|rows| + 2)) tables -/
def exLf : List Nat → List Nat → Ev → ℚ :=
  fun R S x => lprod (S.map (fun v => C18.tbl2 v (1 / ((R.length : ℚ) + 2)) x))

theorem exLf_dist1 (R : List Nat) (v : Nat) : LeafDist exDom [v] (exLf R [v]) := by
  have : exLf R [v] = C18.tbl2 v (1 / ((R.length : ℚ) + 2)) := funext fun x => mul_one _
  rw [this]
  exact C18.tbl2_dist exDom v rfl _

theorem exLf_dist2 (R : List Nat) (u v : Nat) (huv : u ≠ v) : LeafDist exDom [u, v] (exLf R [u, v]) := by
  have : exLf R [u, v] = fun x => C18.tbl2 u (1 / ((R.length : ℚ) + 2)) x * C18.tbl2 v (1 / ((R.length : ℚ) + 2)) x :=
    funext fun x => congrArg _ (mul_one _)
  rw [this]
  exact C18.tbl2_mul_dist exDom u v rfl rfl huv _ _

theorem exLf_dist : LeavesDist exDom exLf exTree := by
  intro x hx
  simp only [exTree, LTree.leaves, List.map_cons, List.map_nil, List.cons_append, List.nil_append, List.mem_cons,
    List.not_mem_nil, or_false] at hx
  rcases hx with rfl | rfl | rfl
  · exact exLf_dist1 _ 1
  · exact exLf_dist1 _ 1
  · exact exLf_dist2 _ 1 2 (by decide)

/-- `exTreeBd` has the leaves of `exTree` -/
theorem exLf_distBd : LeavesDist exDom exLf exTreeBd := exLf_dist

section field
variable {α : Type} [Field α] [LinearOrder α] [IsStrictOrderedRing α]

/-- for every oracle script: whatever `learn` returns is over all training rows and all
columns and satisfies `Good` at every OR node (Lemmas/CnetLearnLemmas.lean): the cut variable is in the node's
scope, the node passed the score-free stop rules, the children hold exactly the node's rows whose cut value is 0
resp. 1 (in data order) over the scope with the cut variable erased (the same scope for both), the weights are
`leftWeight` of the counts and `1 - leftWeight`, the children's smoothing parameter is `childPar` (halved for BDeu),
and — score-based learners — no child is empty. -/
theorem learned_tree_good (cfg : Cfg) (data : List (List Nat)) (nCols : Nat) (p : α) (script : List Dec) (t : LTree α)
    (h : learn cfg data nCols p script = .ok t) :
    Good cfg data p t ∧ t.rows = List.range data.length ∧ t.scope = List.range nCols := by
  unfold learn at h
  cases hs : learnSt cfg data nCols p script with
  | error e => simp only [hs] at h; cases h
  | ok s =>
    simp only [hs] at h
    have hinv := run_inv (inv_init data.length nCols p script) hs
    split at h
    · cases h
    split at h
    · cases h
    cases h
    refine ⟨?_, ?_, ?_⟩
    · rw [← hinv.root_par]
      exact toTree_good hinv.cells _ 0 hinv.pos (by omega)
    · rw [toTree_rows, hinv.root_rows]
    · rw [toTree_scope, hinv.root_scope]

example : Good exCfg exData (1/100 : ℚ) exTree ∧ exTree.rows = List.range exData.length ∧ exTree.scope = List.range 3 :=
  learned_tree_good exCfg exData 3 (1/100 : ℚ) exScript exTree exLearn

/-- `2 * |script| + 1` iterations of `while node_stack:` always suffice: whenever the loop
does not fail the queue is empty at the end (each iteration pops one node and pushes two only when it consumes a
script entry) -/
theorem learn_loop_terminates (cfg : Cfg) (data : List (List Nat)) (nCols : Nat) (p : α) (script : List Dec) (s : St α)
    (h : learnSt cfg data nCols p script = .ok s) : s.queue = [] :=
  run_queue_empty (by simp only [init, List.length_cons, List.length_nil]; omega) h

example : ((learnSt exCfg exData 3 (1/100 : ℚ) exScript).toOption.map (fun s => (s.queue, s.nodes.length, s.script)))
    = some ([], 5, []) := by decide +kernel

/-- at every OR node of what any of the three learners returns (any script), at depth `d`:
the weights are the exact rationals of the smoothed counts the code computes
(`(n0 + alpha) / (n + 2 alpha)` for `fit` / BIC, `(n0 + ess/2^(d+1)) / (n + ess/2^d)` for BDeu, with `n0` the number of
the node's rows whose cut value is 0 and `n` the number of the node's rows; right weight `1 - left`), they sum to
one and lie in `[0, 1]`; they lie strictly inside `(0, 1)` when the smoothing parameter is positive, and for the
score-based learners even when it is zero. -/
theorem learned_weights (cfg : Cfg) (data : List (List Nat)) (nCols : Nat) (p : α) (hp : 0 ≤ p)
    (script : List Dec) (t : LTree α) (h : learn cfg data nCols p script = .ok t) :
    t.AllOr (fun d r _ v w0 w1 _ _ =>
      w0 = leftWeight cfg.kind (parAt cfg.kind p d) (side data v 0 r).length r.length ∧
      w1 = 1 - w0 ∧ w0 + w1 = 1 ∧ 0 ≤ w0 ∧ w0 ≤ 1 ∧ 0 ≤ w1 ∧ w1 ≤ 1 ∧
      ((0 < p ∨ cfg.kind ≠ .fit) → 0 < w0 ∧ w0 < 1 ∧ 0 < w1 ∧ w1 < 1)) 0 := by
  have hg := (learned_tree_good cfg data nCols p script t h).1
  refine Good.allOr p _ ?_ t 0 hg
  intro d r s v w0 w1 c0 c1 hG
  obtain ⟨a1, a2, a3, a4, a5, a6, a7, a8⟩ := (Good.or_iff.1 hG).1.weights (parAt_nonneg cfg.kind p hp d)
  exact ⟨a1, a2, a3, a4, a5, a6, a7, fun hs => a8 (hs.imp_left fun hp => parAt_pos cfg.kind p hp d)⟩

/-- non-vacuity (fit, two OR nodes): the inner node's left weight is `(2 + 1/100) / (5 + 2/100)` -/
example : exTree.AllOr (fun d r _ v w0 w1 _ _ =>
      w0 = leftWeight Kind.fit (parAt Kind.fit (1/100 : ℚ) d) (side exData v 0 r).length r.length ∧
      w1 = 1 - w0 ∧ w0 + w1 = 1 ∧ 0 ≤ w0 ∧ w0 ≤ 1 ∧ 0 ≤ w1 ∧ w1 ≤ 1 ∧
      ((0 < (1/100 : ℚ) ∨ Kind.fit ≠ .fit) → 0 < w0 ∧ w0 < 1 ∧ 0 < w1 ∧ w1 < 1)) 0 :=
  learned_weights exCfg exData 3 (1/100 : ℚ) (by norm_num) exScript exTree exLearn

/-- non-vacuity (BDeu): the equivalent sample size is halved one level down: `(2 + 1/4) / (5 + 1/2) = 9/22` -/
example : exTreeBd.AllOr (fun d r _ v w0 w1 _ _ =>
      w0 = leftWeight Kind.bd (parAt Kind.bd (1 : ℚ) d) (side exData v 0 r).length r.length ∧
      w1 = 1 - w0 ∧ w0 + w1 = 1 ∧ 0 ≤ w0 ∧ w0 ≤ 1 ∧ 0 ≤ w1 ∧ w1 ≤ 1 ∧
      ((0 < (1 : ℚ) ∨ Kind.bd ≠ .fit) → 0 < w0 ∧ w0 < 1 ∧ 0 < w1 ∧ w1 < 1)) 0 :=
  learned_weights exCfgBd exData 3 (1 : ℚ) (by norm_num) exScript exTreeBd exLearnBd

example : leftWeight Kind.bd (parAt Kind.bd (1 : ℚ) 1) 2 5 = 9 / 22 := by
  rw [parAt_bd]; norm_num [leftWeight]

/-- what `BinaryCNet.fit` does when a branch receives no row (the cut variable is constant
on the node's rows; nothing in `fit` prevents the oracle from choosing it): the child is created, it is a leaf at
once (`0 <= min_n_samples`: its Chow-Liu tree is fitted on an empty partition), and its weight is the pure
smoothing mass `alpha / (n + 2 alpha)` (left) resp. `1 - (n0 + alpha) / (n + 2 alpha)` (right). -/
theorem fit_empty_branch (cfg : Cfg) (hk : cfg.kind = .fit) (data : List (List Nat)) (nCols : Nat) (p : α)
    (script : List Dec) (t : LTree α) (h : learn cfg data nCols p script = .ok t) :
    t.AllOr (fun _ r _ _ w0 _ c0 c1 =>
      (c0.rows = [] → c0.isLeaf = true ∧ w0 = p / ((r.length : α) + 2 * p)) ∧
      (c1.rows = [] → c1.isLeaf = true)) 0 := by
  have hg := (learned_tree_good cfg data nCols p script t h).1
  refine Good.allOr p _ ?_ t 0 hg
  intro d r s v w0 w1 c0 c1 hG
  obtain ⟨hS, g0, g1⟩ := Good.or_iff.1 hG
  refine ⟨fun he => ⟨g0.isLeaf_of_rows_nil he, ?_⟩, g1.isLeaf_of_rows_nil⟩
  rw [hS.weight0, he, parAt_of_ne_bd (by rw [hk]; decide)]
  simp [leftWeight, hk]

/-- non-vacuity: cutting `exDataC` on its constant column: the empty left child exists, is a leaf, and has weight
`(1/10) / (4 + 2/10) = 1/42` -/
example : exTreeC.AllOr (fun _ r _ _ w0 _ c0 c1 =>
      (c0.rows = [] → c0.isLeaf = true ∧ w0 = (1/10 : ℚ) / ((r.length : ℚ) + 2 * (1/10))) ∧
      (c1.rows = [] → c1.isLeaf = true)) 0 :=
  fit_empty_branch exCfgC rfl exDataC 3 (1/10 : ℚ) [.cut 1, .stop] exTreeC exLearnC

example : (exTreeC.leaves.map (fun x => x.2.1)) = [[], [0,1,2,3]] := by decide

/-- with `alpha = 0` the empty branch of `fit` gets weight 0 (its rows have likelihood 0; the Boolean validator,
which demands `0 < w`, rejects; `CNet.WF` and normalisation still hold) -/
theorem fit_zero_alpha_weight_zero :
    learn exCfgC exDataC 3 (0 : ℚ) [.cut 1, .stop]
      = .ok (.or [0,1,2,3] [0,1,2] 1 0 1 (.leaf [] [0,2]) (.leaf [0,1,2,3] [0,2])) :=
  ok_of_toOption (by decide +kernel)

/-- `learn_cnet_bd` / `learn_cnet_bic` never create an empty branch
(candidates with an empty side are skipped), so both children of every OR node hold at least one training row -/
theorem score_learners_no_empty_branch (cfg : Cfg) (hk : cfg.kind ≠ .fit) (data : List (List Nat)) (nCols : Nat) (p : α)
    (script : List Dec) (t : LTree α) (h : learn cfg data nCols p script = .ok t) :
    t.AllOr (fun _ _ _ _ _ _ c0 c1 => c0.rows ≠ [] ∧ c1.rows ≠ []) 0 := by
  have hg := (learned_tree_good cfg data nCols p script t h).1
  refine Good.allOr p _ ?_ t 0 hg
  intro d r s v w0 w1 c0 c1 hG
  exact (Good.or_iff.1 hG).1.nonempty hk

example : exTreeBd.AllOr (fun _ _ _ _ _ _ c0 c1 => c0.rows ≠ [] ∧ c1.rows ≠ []) 0 :=
  score_learners_no_empty_branch exCfgBd (by decide) exData 3 (1 : ℚ) exScript exTreeBd exLearnBd

/-- the score-based learners cannot take the decision of `exLearnC`: the script is not the record of a run -/
example : (learn { kind := .bic } exDataC 3 (1/10 : ℚ) [.cut 1, .stop]).toOption = none := by decide +kernel

/-- for every script: the rows on which the Chow-Liu tree of a leaf is fitted are
exactly the training rows (in data order) that agree with the path to the leaf at every cut variable, and the
leaf's scope is the full scope with the cut variables of the path removed. -/
theorem leaf_rows_are_path_filter (cfg : Cfg) (data : List (List Nat)) (nCols : Nat) (p : α)
    (script : List Dec) (t : LTree α) (h : learn cfg data nCols p script = .ok t) :
    ∀ x ∈ t.leaves, x.2.1 = (List.range data.length).filter (agrees data x.1) ∧
                    x.2.2 = scopeAfter (List.range nCols) x.1 := by
  obtain ⟨hg, hr, hs⟩ := learned_tree_good cfg data nCols p script t h
  exact hr ▸ hs ▸ good_leaves t p hg

/-- non-vacuity: the leaf reached by X0 = 0, X2 = 1 is fitted on rows 0, 1, 4 over the scope [1] -/
example : ([(0, 0), (2, 1)], [0, 1, 4], [1]) ∈ exTree.leaves ∧
    ([0, 1, 4] : List Nat) = (List.range exData.length).filter (agrees exData [(0, 0), (2, 1)]) ∧
    ([1] : List Nat) = scopeAfter (List.range 3) [(0, 0), (2, 1)] :=
  ⟨by decide, leaf_rows_are_path_filter exCfg exData 3 (1/100 : ℚ) exScript exTree exLearn
    ([(0, 0), (2, 1)], [0, 1, 4], [1]) (by decide)⟩

/-- membership form of `leaf_rows_are_path_filter` -/
theorem leaf_rows_mem_iff (cfg : Cfg) (data : List (List Nat)) (nCols : Nat) (p : α)
    (script : List Dec) (t : LTree α) (h : learn cfg data nCols p script = .ok t)
    (x : List (Nat × Nat) × List Nat × List Nat) (hx : x ∈ t.leaves) (r : Nat) :
    r ∈ x.2.1 ↔ r < data.length ∧ ∀ vb ∈ x.1, cellOf data r vb.1 = vb.2 := by
  rw [(leaf_rows_are_path_filter cfg data nCols p script t h x hx).1]
  simp [agrees, List.mem_filter]

example : 4 ∈ ([0, 1, 4] : List Nat) ↔ 4 < exData.length ∧ ∀ vb ∈ [(0, 0), (2, 1)], cellOf exData 4 vb.1 = vb.2 :=
  leaf_rows_mem_iff exCfg exData 3 (1/100 : ℚ) exScript exTree exLearn ([(0, 0), (2, 1)], [0, 1, 4], [1]) (by decide) 4

/-- on binary data the leaves partition the training set: every training row is in the
row set of exactly one leaf -/
theorem leaf_rows_partition (cfg : Cfg) (data : List (List Nat)) (hb : BinaryData data) (nCols : Nat) (p : α)
    (script : List Dec) (t : LTree α) (h : learn cfg data nCols p script = .ok t) :
    ((t.leaves.map (fun x => x.2.1)).flatten).Perm (List.range data.length) := by
  obtain ⟨hg, hr, _⟩ := learned_tree_good cfg data nCols p script t h
  exact hr ▸ good_leaves_perm hb t p hg

theorem exData_binary : BinaryData exData := binaryData_of_isBinaryB exData (by decide)

example : ((exTree.leaves.map (fun x => x.2.1)).flatten).Perm (List.range exData.length) :=
  leaf_rows_partition exCfg exData exData_binary 3 (1/100 : ℚ) exScript exTree exLearn

/-- for every script and every leaf oracle that is a distribution at the leaves: what
any of the three learners returns is a well-formed cutset network (S layer `CNet.WF`: cut variable in the scope and
binary, both children over the scope minus the cut variable, `w0 + w1 = 1`, leaves normalised over the remaining
scope). No hypothesis on the smoothing parameter is needed. -/
theorem learned_cnet_wellFormed (cfg : Cfg) (data : List (List Nat)) (nCols : Nat) (p : α)
    (script : List Dec) (t : LTree α) (h : learn cfg data nCols p script = .ok t)
    (dom : Nat → Nat) (hdom : ∀ v, v < nCols → dom v = 2)
    (lf : List Nat → List Nat → Ev → α) (hlf : LeavesDist dom lf t) :
    C18.CNet.WF dom (toCNet lf t) ∧ (toCNet lf t).scope = List.range nCols := by
  obtain ⟨hg, _, hs⟩ := learned_tree_good cfg data nCols p script t h
  exact ⟨good_WF t p hg (hs ▸ List.nodup_range) (fun v hv => hdom v (List.mem_range.1 (hs ▸ hv)))
    (leavesOK_of_leavesDist hlf), by rw [toCNet_scope, hs]⟩

example : C18.CNet.WF exDom (toCNet exLf exTree) ∧ (toCNet exLf exTree).scope = List.range 3 :=
  learned_cnet_wellFormed exCfg exData 3 (1/100 : ℚ) exScript exTree exLearn exDom (fun _ _ => rfl) exLf exLf_dist

/-- for every data set, every script (including the one that never splits) and every
leaf oracle that is a distribution at the leaves: the values of the learned cutset network over all `2^nCols`
complete binary rows sum to one. -/
theorem learned_cnet_normalised (cfg : Cfg) (data : List (List Nat)) (nCols : Nat) (p : α)
    (script : List Dec) (t : LTree α) (h : learn cfg data nCols p script = .ok t)
    (dom : Nat → Nat) (hdom : ∀ v, v < nCols → dom v = 2)
    (lf : List Nat → List Nat → Ev → α) (hlf : LeavesDist dom lf t) :
    sumOver dom (List.range nCols) (fun _ => none) (fun x => cnetEval x (toCNet lf t)) = 1 := by
  obtain ⟨hwf, hs⟩ := learned_cnet_wellFormed cfg data nCols p script t h dom hdom lf hlf
  exact hs ▸ C18.cnet_normalised dom (toCNet lf t) hwf (fun _ => none) (fun _ _ => rfl)

example : sumOver exDom (List.range 3) (fun _ => none) (fun x => cnetEval x (toCNet exLf exTree)) = 1 :=
  learned_cnet_normalised exCfg exData 3 (1/100 : ℚ) exScript exTree exLearn exDom (fun _ _ => rfl) exLf exLf_dist

example : sumOver exDom (List.range 3) (fun _ => none) (fun x => cnetEval x (toCNet exLf exTreeBd)) = 1 :=
  learned_cnet_normalised exCfgBd exData 3 (1 : ℚ) exScript exTreeBd exLearnBd exDom (fun _ _ => rfl) exLf exLf_distBd

/-- the breadth-first routing loop of `BinaryCNet.log_likelihood` run on the learned object
returns, for every row of any batch, the recursive value (instance of `C18.cnet_eval`) -/
theorem learned_cnet_batch (lf : List Nat → List Nat → Ev → α) (t : LTree α) (rows : Nat → Ev) (n r : Nat) (hr : r < n) :
    (cnetBatch rows n (toCNet lf t))[r]? = some (cnetEval (rows r) (toCNet lf t)) :=
  C18.cnet_eval rows n (toCNet lf t) r hr

example : (cnetBatch C18.exRows 3 (toCNet exLf exTree))[1]? = some (cnetEval (C18.exRows 1) (toCNet exLf exTree)) :=
  learned_cnet_batch exLf exTree C18.exRows 3 1 (by norm_num)

/-- the statement of C18 for a learned network, for every script: a complete
binary row `x` is evaluated to the product of the branch weights selected by its values at the cut variables
(`descend`: root first) times the value of the Chow-Liu tree of the leaf reached; the path recorded is the one `x`
follows, the leaf reached is a leaf of the learned tree, and that leaf's tree is the one fitted on exactly the
training rows agreeing with the path, over the scope without the path's variables. -/
theorem learned_eval_is_path_product (cfg : Cfg) (data : List (List Nat)) (nCols : Nat) (p : α)
    (script : List Dec) (t : LTree α) (h : learn cfg data nCols p script = .ok t)
    (lf : List Nat → List Nat → Ev → α) (x : Ev) (hx : BinaryRow (List.range nCols) x) :
    cnetEval x (toCNet lf t) = lprod (t.descend x).1 * lf (t.descend x).2.2.1 (t.descend x).2.2.2 x ∧
    ((t.descend x).2.1, (t.descend x).2.2) ∈ t.leaves ∧
    (∀ vb ∈ (t.descend x).2.1, x vb.1 = some vb.2) ∧
    (t.descend x).2.2.1 = (List.range data.length).filter (agrees data (t.descend x).2.1) ∧
    (t.descend x).2.2.2 = scopeAfter (List.range nCols) (t.descend x).2.1 := by
  obtain ⟨hg, _, hs⟩ := learned_tree_good cfg data nCols p script t h
  have hb : BinaryRow t.cutVars x := fun u hu => hx u (by rw [← hs]; exact good_cutVars_subset t p hg u hu)
  obtain ⟨e, m, a⟩ := cnetEval_descend lf hb
  have := leaf_rows_are_path_filter cfg data nCols p script t h _ m
  exact ⟨e, m, a, this.1, this.2⟩

/-- non-vacuity: the row (0, 1, 1) selects the weights 501/802 and 301/502 and reaches the leaf fitted on rows 0, 1, 4 -/
def exRow : Ev := Ev.ofList [some 0, some 1, some 1]

example : exTree.descend exRow = ([501/802, 301/502], [(0, 0), (2, 1)], [0, 1, 4], [1]) := by decide +kernel

example : cnetEval exRow (toCNet exLf exTree)
      = lprod (exTree.descend exRow).1 * exLf (exTree.descend exRow).2.2.1 (exTree.descend exRow).2.2.2 exRow :=
  (learned_eval_is_path_product exCfg exData 3 (1/100 : ℚ) exScript exTree exLearn exLf exRow
    (by unfold BinaryRow; decide)).1

section validator
variable [DecidableEq α]

/-- the executable validator `cnetWellFormedB` (the one the harness runs on every
learned object) accepts what any learner returns, for every script, as soon as the smoothing parameter is positive
(score-based learners: non-negative). With `alpha = 0` the entropy-based `fit` can give a branch weight 0
(`fit_zero_alpha_weight_zero`). -/
theorem learned_cnet_wellFormedB (cfg : Cfg) (data : List (List Nat)) (nCols : Nat) (p : α) (hp : 0 ≤ p)
    (hs : 0 < p ∨ cfg.kind ≠ .fit) (script : List Dec) (t : LTree α) (h : learn cfg data nCols p script = .ok t)
    (dom : Nat → Nat) (hdom : ∀ v, v < nCols → dom v = 2) (lf : List Nat → List Nat → Ev → α) :
    cnetWellFormedB dom (toCNet lf t) = true := by
  obtain ⟨hg, _, hsc⟩ := learned_tree_good cfg data nCols p script t h
  exact good_wellFormedB t p hg hp hs (hsc ▸ List.nodup_range) fun v hv => hdom v (List.mem_range.1 (hsc ▸ hv))

example : cnetWellFormedB exDom (toCNet exLf exTree) = true :=
  learned_cnet_wellFormedB exCfg exData 3 (1/100 : ℚ) (by norm_num) (Or.inl (by norm_num)) exScript exTree exLearn
    exDom (fun _ _ => rfl) exLf

end validator

/-- when the learner does not split the root — a score-free stop rule applies
there (`fit`: `n_samples <= min_n_samples or n_features <= min_n_features`; score-based learners: one variable) or
the scores tell it to stop — what it returns is one leaf: the Chow-Liu tree fitted on all rows over all columns
(`fit` of today's library, which copies `clt` from its temporary root; the two score-based learners return the root
object itself). -/
theorem learn_nosplit_is_single_clt (cfg : Cfg) (data : List (List Nat)) (nCols : Nat) (p : α) (script : List Dec)
    (hroot : consults cfg data.length nCols = false ∨ (candCrash cfg nCols = false ∧ script.head? = some .stop))
    (hkeep : cfg.kind = .fit → cfg.keepRootClt = true) :
    learn cfg data nCols p script = .ok (.leaf (List.range data.length) (List.range nCols)) := by
  obtain ⟨sc, hsc⟩ := learnSt_nosplit p hroot
  rw [learn, hsc]
  by_cases hk : cfg.kind = .fit
  · simp [hk, hkeep hk, toTree, getN]
  · simp [hk, toTree, getN]

/-- non-vacuity 1: thresholds that forbid any split (`min_n_samples = 8 = n_samples`): no oracle is consulted -/
example : learn { kind := .fit, minSamples := 8 } exData 3 (1/100 : ℚ) [] = .ok (.leaf (List.range 8) (List.range 3)) :=
  learn_nosplit_is_single_clt { kind := .fit, minSamples := 8 } exData 3 (1/100 : ℚ) [] (Or.inl (by decide)) (fun _ => rfl)

/-- non-vacuity 2: the BDeu learner's scores say "do not split" at the root -/
example : learn exCfgBd exData 3 (1 : ℚ) [.stop] = .ok (.leaf (List.range 8) (List.range 3)) :=
  learn_nosplit_is_single_clt exCfgBd exData 3 (1 : ℚ) [.stop] (Or.inr ⟨by decide, rfl⟩) (by decide)

/-- the value of that network is the leaf tree's value, and it is normalised when the tree is -/
theorem learn_nosplit_value (dom : Nat → Nat) (lf : List Nat → List Nat → Ev → α) (R S : List Nat) (x : Ev) :
    cnetEval x (toCNet lf (.leaf R S : LTree α)) = lf R S x ∧
    (LeafDist dom S (lf R S) → sumOver dom S (fun _ => none) (fun x => cnetEval x (toCNet lf (.leaf R S : LTree α))) = 1) :=
  ⟨rfl, fun h => h.2⟩

example : sumOver exDom [1, 2] (fun _ => none) (fun x => cnetEval x (toCNet exLf (.leaf [2, 3, 5] [1, 2] : LTree ℚ))) = 1 :=
  (learn_nosplit_value exDom exLf [2, 3, 5] [1, 2] (fun _ => none)).2 (exLf_dist2 _ 1 2 (by decide))

/-- witness of finding F11 of DESIGN.md (the root special case) — `fit` of the library as received
(`keepRootClt = false`: no `self.clt = root.clt`) returns, in exactly the situation of
`learn_nosplit_is_single_clt`, an object with neither children nor a tree: evaluation raises. -/
theorem old_fit_nosplit_loses_tree (cfg : Cfg) (hk : cfg.kind = .fit) (hkeep : cfg.keepRootClt = false)
    (data : List (List Nat)) (nCols : Nat) (p : α) (script : List Dec)
    (hroot : consults cfg data.length nCols = false ∨ (candCrash cfg nCols = false ∧ script.head? = some .stop)) :
    learn cfg data nCols p script =
      .error "raises: the root was never split and its Chow-Liu tree is not copied (F11)" := by
  obtain ⟨sc, hsc⟩ := learnSt_nosplit p hroot
  rw [learn, hsc]
  simp [hk, hkeep, getN]

example : learn { kind := .fit, minSamples := 8, keepRootClt := false } exData 3 (1/100 : ℚ) []
    = .error "raises: the root was never split and its Chow-Liu tree is not copied (F11)" :=
  old_fit_nosplit_loses_tree { kind := .fit, minSamples := 8, keepRootClt := false } rfl rfl exData 3 (1/100 : ℚ) []
    (Or.inl (by decide))

/-- with `n_cand_cuts = 1` both score-based learners raise on every data set
with at least two columns (`select_cand_cuts` returns a scalar, `for i in search_indices` is a `TypeError`),
whatever the scores are -/
theorem score_learners_ncand_one_raises (cfg : Cfg) (hk : cfg.kind ≠ .fit) (hn : cfg.nCand = 1)
    (data : List (List Nat)) (nCols : Nat) (hc : 2 ≤ nCols) (p : α) (script : List Dec) :
    learn cfg data nCols p script =
      .error "raises: TypeError ('numpy.int64' object is not iterable): n_cand_cuts == 1" := by
  have h1 : consults cfg data.length nCols = true := by
    rw [consults]
    split
    · contradiction
    · rw [bne_iff_ne]; omega
  have h2 : candCrash cfg nCols = true := by
    simp only [candCrash, hn, Bool.and_eq_true, bne_iff_ne, ne_eq, beq_iff_eq]
    exact ⟨hk, by omega⟩
  unfold learn learnSt run
  simp [init, step, getN, h1, h2]

example : learn { kind := .bic, nCand := 1 } exData 3 (1/100 : ℚ) exScript
    = .error "raises: TypeError ('numpy.int64' object is not iterable): n_cand_cuts == 1" :=
  score_learners_ncand_one_raises { kind := .bic, nCand := 1 } (by decide) rfl exData 3 (by norm_num) (1/100 : ℚ) exScript

end field
end Deeprob.CnetLearn
