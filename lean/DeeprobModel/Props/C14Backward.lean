import DeeprobModel.Model.EmBackward
import DeeprobModel.Props.C14Net
import DeeprobModel.Lemmas.MpeLemmas
import DeeprobModel.Oblig.Struct3Em
import Mathlib.Algebra.Order.Field.Basic
import Mathlib.Algebra.Order.Field.Rat
set_option linter.unusedSimpArgs false
set_option linter.unusedVariables false
set_option linter.unusedSectionVars false
/-
C14 — the backward pass as coded (`Model/EmBackward.lean`: log domain, `lls` floored at `-1e31`, float32 absorption) against
the linear-domain derivative `backward` of `Model/Em.lean` (`C14.backward_is_derivative`). On a non-negative table every
entry the coded pass returns is a number, and it is the linear-domain gradient at every node of non-zero value; the
entries at zero-valued nodes can be wrong, and what EM makes of them (responsibilities, leaf statistics) is exact all the
same. The model is executed next to the real pass by `harness/demos/demo_embackward.py` (driver op `embackward`): `lls`,
`grads` (the wrong entries included) and all statistics agree; the per-node rules extracted from gradient.py are shown to be
this model in `Oblig/Struct5Grad.lean` (`Props/E2EGrad.lean`).
-/
namespace Deeprob.C14B
open Deeprob Deeprob.Bwd Deeprob.LogV

section ops
variable {F : Type} [Field F] [DecidableEq F]

theorem expL_ofLin (w : F) : expL (ofLin w) = some w := by
  unfold ofLin
  split
  · next h => simp [expL, h]
  · rfl

theorem llOf_zero : llOf (0 : F) = low 0 := by simp [llOf, ofLin, floorLL]

theorem llOf_ne {v : F} (h : v ≠ 0) : llOf v = fin v := by simp [llOf, ofLin, floorLL, h]

theorem expL_llOf (v : F) : expL (llOf v) = some v := by
  by_cases h : v = 0
  · subst h; rw [llOf_zero]; rfl
  · rw [llOf_ne h]; rfl

theorem expL_add {a b : LogV F} {x y : F} (ha : expL a = some x) (hb : expL b = some y) :
    expL (add a b) = some (x * y) := by
  cases a <;> cases b <;> simp only [expL, add, Option.some.injEq, reduceCtorEq] at ha hb ⊢ <;> subst ha hb <;> simp

theorem expL_lse {a b : LogV F} {x y : F} (ha : expL a = some x) (hb : expL b = some y) :
    expL (lse a b) = some (x + y) := by
  cases a <;> cases b <;> simp only [expL, lse, Option.some.injEq, reduceCtorEq] at ha hb ⊢ <;> subst ha hb <;> simp

theorem expL_sub_fin {a : LogV F} {x : F} (b : F) (ha : expL a = some x) :
    expL (sub a (fin b)) = some (x / b) := by
  cases a <;> simp only [expL, sub, Option.some.injEq, reduceCtorEq] at ha ⊢ <;> subst ha <;> simp

/-- `(g + F) - F`: a number, whatever `g` was (`0.0` for an ordinary `g`) -/
theorem expL_floor_cancel {g : LogV F} {x : F} (hg : expL g = some x) :
    ∃ d, expL (sub (add g (low 0)) (low 0)) = some d := by
  cases g with
  | fin a => exact ⟨1, rfl⟩
  | low k => exact ⟨0, rfl⟩
  | bot => exact ⟨0, rfl⟩
  | top => simp [expL] at hg

/-- `(g + F) - finite`: zero -/
theorem expL_floor_sub_fin {g : LogV F} {x : F} (b : F) (hg : expL g = some x) :
    expL (sub (add g (low 0)) (fin b)) = some 0 := by
  cases g <;> simp only [expL, sub, add, Option.some.injEq, reduceCtorEq] at hg ⊢

/-- the argument of `np.exp` in em.py, `ll - root_ll + grad`, for a node of value `v`, a root of non-zero value `r` and a
coded gradient that is a number `d`: `exp` of it is `v/r·d` -/
theorem expL_stat (v r d : F) {G : LogV F} (hr : r ≠ 0) (hG : expL G = some d) :
    expL (add (sub (llOf v) (llOf r)) G) = some (v / r * d) := by
  rw [llOf_ne hr]
  exact expL_add (expL_sub_fin r (expL_llOf v)) hG

end ops

section rel
variable {F : Type} [Field F] [DecidableEq F]

/-- entry invariant: the coded entry `G` of a node of value `v` is a number, and it is the linear-domain entry `D`
whenever `v ≠ 0` -/
def Rel (v : F) (G : LogV F) (D : F) : Prop := ∃ d, expL G = some d ∧ (v ≠ 0 → d = D)

theorem rel_lse {v : F} {G C : LogV F} {D E : F} (h1 : Rel v G D) (h2 : Rel v C E) : Rel v (lse G C) (D + E) := by
  obtain ⟨d, hd, hd'⟩ := h1
  obtain ⟨c, hc, hc'⟩ := h2
  exact ⟨d + c, expL_lse hd hc, fun hv => by rw [hd' hv, hc' hv]⟩

/-- what a product of value `vi = vc·P` sends to its child of value `vc` -/
theorem prod_contrib {vi vc P Di : F} {G : LogV F} (hvi : vi = vc * P) (hR : Rel vi G Di) :
    Rel vc (sub (add G (llOf vi)) (llOf vc)) (Di * P) := by
  obtain ⟨d, hd, hd'⟩ := hR
  by_cases hc : vc = 0
  · have hi : vi = 0 := by rw [hvi, hc, zero_mul]
    subst hc; subst hi
    rw [llOf_zero]
    obtain ⟨d2, h2⟩ := expL_floor_cancel hd
    exact ⟨d2, h2, fun h => absurd rfl h⟩
  · rw [llOf_ne hc]
    by_cases hi : vi = 0
    · rw [hi, llOf_zero]
      refine ⟨0, expL_floor_sub_fin vc hd, fun _ => ?_⟩
      have : P = 0 := by
        rcases mul_eq_zero.1 (hvi.symm.trans hi) with h | h
        · exact absurd h hc
        · exact h
      rw [this, mul_zero]
    · rw [llOf_ne hi]
      refine ⟨d * vi / vc, expL_sub_fin vc (expL_add hd rfl), fun _ => ?_⟩
      rw [hd' hi, hvi, mul_div_assoc, mul_div_cancel_left₀ P hc]

/-- what a sum of value `vi` sends along an edge of weight `w` to a child of value `vc` -/
theorem sum_contrib {vi vc w Di : F} {G : LogV F} (hz : vi = 0 → w * vc = 0) (hR : Rel vi G Di) :
    Rel vc (add G (ofLin w)) (Di * w) := by
  obtain ⟨d, hd, hd'⟩ := hR
  refine ⟨d * w, expL_add hd (expL_ofLin w), fun hc => ?_⟩
  by_cases hi : vi = 0
  · have : w = 0 := by
      rcases mul_eq_zero.1 (hz hi) with h | h
      · exact h
      · exact absurd h hc
    rw [this, mul_zero, mul_zero]
  · rw [hd' hi]

/-- the statistic `exp(ll' - root_ll + G)` for a coded entry `G` related to `D` at a node of value `v`: it is
`v'·D/r` as soon as the numerator `v'` is `0` or `v ≠ 0` -/
theorem expL_stat_rel {v v' r D : F} {G : LogV F} (hr : r ≠ 0) (hR : Rel v G D) (h : v' = 0 ∨ v ≠ 0) :
    expL (add (sub (llOf v') (llOf r)) G) = some (v' * D / r) := by
  obtain ⟨d, hd, hd'⟩ := hR
  rw [expL_stat v' r d hr hd]
  rcases h with h | h
  · rw [h, zero_div, zero_mul, zero_mul, zero_div]
  · rw [hd' h, div_mul_eq_mul_div]

end rel

section tables
variable {F : Type} [Field F] [DecidableEq F]

/-- the coded table `G` and the linear table `D` are related entry by entry -/
def TRel (vals : List F) (G : List (LogV F)) (D : List F) : Prop :=
  G.length = D.length ∧ ∀ j, Rel (vals.getD j 0) (G.getD j bot) (D.getD j 0)

theorem trel_set {vals : List F} {G : List (LogV F)} {D : List F} (h : TRel vals G D) (c : Nat) (g' : LogV F) (d' : F)
    (hr : Rel (vals.getD c 0) g' d') : TRel vals (G.set c g') (D.set c d') := by
  refine ⟨by simp [h.1], fun j => ?_⟩
  rw [getD_set, getD_set, h.1]
  split
  · next hj => rw [hj.1]; exact hr
  · exact h.2 j

theorem foldl_rel {A B X : Type} (R : A → B → Prop) (f : A → X → A) (g : B → X → B) (l : List X)
    (hstep : ∀ a b x, x ∈ l → R a b → R (f a x) (g b x)) : ∀ a b, R a b → R (l.foldl f a) (l.foldl g b) := by
  induction l with
  | nil => intro a b h; exact h
  | cons x xs ih =>
    intro a b h
    simp only [List.foldl_cons]
    exact ih (fun a b y hy => hstep a b y (List.mem_cons_of_mem _ hy)) _ _ (hstep a b x List.mem_cons_self h)

theorem getD_codedLls (vals : List F) (i : Nat) : (codedLls vals).getD i (low 0) = llOf (vals.getD i 0) := by
  simp only [codedLls, List.getD_eq_getElem?_getD, List.getElem?_map]
  cases vals[i]? with
  | none => simp [llOf_zero]
  | some v => simp

end tables

section sim
variable {F : Type} [Field F] [LinearOrder F] [IsStrictOrderedRing F] [DecidableEq F]

theorem wsum_zero_edge (v : Nat → F) (hv : ∀ c, 0 ≤ v c) : ∀ (ws : List F) (ch : List Nat), (∀ w ∈ ws, 0 ≤ w) →
    wsum ws (ch.map v) = 0 → ∀ cw ∈ ch.zip ws, cw.2 * v cw.1 = 0 := by
  intro ws
  induction ws with
  | nil => intro ch _ _ cw hcw; simp at hcw
  | cons w ws ih =>
    intro ch hw h cw hcw
    cases ch with
    | nil => simp at hcw
    | cons c cs =>
      simp only [List.map_cons, wsum] at h
      have h1 : 0 ≤ w * v c := mul_nonneg (hw w List.mem_cons_self) (hv c)
      have h2 : 0 ≤ wsum ws (cs.map v) := by
        apply TD.wsum_nonneg
        · exact fun a ha => hw a (List.mem_cons_of_mem _ ha)
        · exact List.forall_mem_map.2 fun c' _ => hv c'
      have h3 := (add_eq_zero_iff_of_nonneg h1 h2).1 h
      simp only [List.zip_cons_cons, List.mem_cons] at hcw
      rcases hcw with rfl | hcw
      · exact h3.1
      · exact ih cs (fun a ha => hw a (List.mem_cons_of_mem _ ha)) h3.2 cw hcw

/-- one node of the sweep keeps the tables related -/
theorem sendDown_rel (vals : List F) (x : NNode F) (i : Nat)
    (hsum : x.kind = .sum → vals.getD i 0 = wsum x.ws (x.ch.map (fun c => vals.getD c 0)))
    (hprod : x.kind = .prod → vals.getD i 0 = lprod (x.ch.map (fun c => vals.getD c 0)))
    (hv : ∀ c, 0 ≤ vals.getD c 0) (hws : ∀ w ∈ x.ws, 0 ≤ w)
    (g : LogV F) (Di : F) (hR : Rel (vals.getD i 0) g Di) (G : List (LogV F)) (D : List F) (hT : TRel vals G D) :
    TRel vals (sendDownC (codedLls vals) x i g G) (sendDown vals x Di D) := by
  unfold sendDownC sendDown
  cases hk : x.kind with
  | leaf => exact hT
  | sum =>
    simp only
    have hz := wsum_zero_edge (fun c => vals.getD c 0) hv x.ws x.ch hws
    apply foldl_rel (TRel vals) _ _ (x.ch.zip x.ws) _ G D hT
    intro a b cw hcw hab
    apply trel_set hab
    apply rel_lse (hab.2 cw.1)
    apply sum_contrib _ hR
    intro hi
    exact hz (by rw [← hsum hk]; exact hi) cw hcw
  | prod =>
    simp only
    have hconv : ∀ (f : List (LogV F) → Nat → List (LogV F)) (G : List (LogV F)),
        x.ch.foldl f G = x.ch.zipIdx.foldl (fun gr cj => f gr cj.1) G := by
      intro f G
      conv_lhs => rw [← List.zipIdx_map_fst 0 x.ch, List.foldl_map]
    rw [hconv]
    apply foldl_rel (TRel vals) _ _ x.ch.zipIdx _ G D hT
    intro a b cj hcj hab
    apply trel_set hab
    apply rel_lse (hab.2 cj.1)
    rw [getD_codedLls, getD_codedLls]
    apply prod_contrib _ hR
    rw [hprod hk]
    exact lprod_map_eraseIdx (fun c => vals.getD c 0) (List.mem_zipIdx_iff_getElem?.1 hcj)

/-- The invariant of the coded pass. For every table whose value list is consistent at the sum
and product entries (`vals` = `evalNet`, see the corollaries) and non-negative, with non-negative weights: after
`eval_backward` as coded, every entry is a number (no overflow, no NaN: `expL … = some d`), and at every node of
non-zero value that number is the linear-domain gradient `backward … [j]`. No smoothness, decomposability or
ordering hypothesis is needed: the argument is local (a zero-valued node sends `0` to each of its non-zero
children — a product because `value/child = 0`, a sum because the weight must be `0`). -/
theorem coded_grads_rel (net : Net F) (vals : List F) (root : Nat)
    (hsum : ∀ (i : Nat) (x : NNode F), net[i]? = some x → x.kind = .sum →
      vals.getD i 0 = wsum x.ws (x.ch.map (fun c => vals.getD c 0)))
    (hprod : ∀ (i : Nat) (x : NNode F), net[i]? = some x → x.kind = .prod →
      vals.getD i 0 = lprod (x.ch.map (fun c => vals.getD c 0)))
    (hv : ∀ c, 0 ≤ vals.getD c 0) (hws : ∀ (i : Nat) (x : NNode F), net[i]? = some x → ∀ w ∈ x.ws, 0 ≤ w) (j : Nat) :
    Rel (vals.getD j 0) ((backwardC net (codedLls vals) root).getD j bot) ((backward net vals root).getD j 0) := by
  have hT : TRel vals (backwardC net (codedLls vals) root) (backward net vals root) := by
    unfold backwardC backward
    apply foldl_rel (TRel vals)
    · intro a b i _ hab
      cases hn : net[i]? with
      | none => exact hab
      | some x =>
        simp only
        exact sendDown_rel vals x i (hsum i x hn) (hprod i x hn) hv (hws i x hn) _ _ (hab.2 i) a b hab
    · apply trel_set
      · refine ⟨by simp, fun j => ⟨0, ?_, fun _ => (getD_replicate_self _ j 0).symm⟩⟩
        rw [getD_replicate_self]
        rfl
      · exact ⟨1, rfl, fun _ => rfl⟩
  exact hT.2 j

end sim

section main
variable {F : Type} [Field F] [LinearOrder F] [IsStrictOrderedRing F] [DecidableEq F]

/-- the circuit is non-negative on the row: weights `≥ 0`, leaf values `≥ 0` -/
def NonNegNet (e : Ev) (dens : List F) (net : Net F) : Prop :=
  (∀ (i : Nat) (x : NNode F), net[i]? = some x → ∀ w ∈ x.ws, 0 ≤ w) ∧
  (∀ (i : Nat) (x : NNode F), net[i]? = some x → x.kind = .leaf → 0 ≤ x.leaf.fn x.scope (dens.getD i 0) e)

/-- the gradients the coded pass returns for the row `e`: `eval_backward(root, lls)` with `lls` the floored logs of
the row's node values -/
abbrev codedGrads (e : Ev) (dens : List F) (net : Net F) (root : Nat) : List (LogV F) :=
  backwardC net (codedLls (evalNet e dens net)) root

theorem evalNet_snoc (e : Ev) (dens : List F) (l : Net F) (x : NNode F) :
    evalNet e dens (l ++ [x]) = evalNet e dens l ++ [evalNode e dens (evalNet e dens l) x] := by
  simp [evalNet, List.foldl_append]

theorem nonNegNet_prefix (e : Ev) (dens : List F) (l : Net F) (x : NNode F) (h : NonNegNet e dens (l ++ [x])) :
    NonNegNet e dens l := by
  constructor
  · intro i y hy
    exact h.1 i y (by rw [List.getElem?_append_left (List.getElem?_eq_some_iff.1 hy).1]; exact hy)
  · intro i y hy
    exact h.2 i y (by rw [List.getElem?_append_left (List.getElem?_eq_some_iff.1 hy).1]; exact hy)

theorem evalNode_nonneg (e : Ev) (dens : List F) (acc : List F) (hacc : ∀ c, 0 ≤ acc.getD c 0) (x : NNode F)
    (hws : ∀ w ∈ x.ws, 0 ≤ w) (hleaf : x.kind = .leaf → 0 ≤ x.leaf.fn x.scope (dens.getD acc.length 0) e) :
    0 ≤ evalNode e dens acc x := by
  unfold evalNode
  cases hk : x.kind with
  | leaf => exact hleaf hk
  | sum => exact TD.wsum_nonneg _ _ hws (List.forall_mem_map.2 fun c _ => hacc c)
  | prod => exact TD.lprod_nonneg _ (List.forall_mem_map.2 fun c _ => hacc c)

/-- all values of a non-negative table are `≥ 0` (entries past the end read the default `0`) -/
theorem evalNet_getD_nonneg (e : Ev) (dens : List F) (net : Net F) (hnn : NonNegNet e dens net) :
    ∀ k, 0 ≤ (evalNet e dens net).getD k 0 := by
  induction net using List.reverseRecOn with
  | nil => exact fun k => by simp [evalNet]
  | append_singleton l x ih =>
    have ih := ih (nonNegNet_prefix e dens l x hnn)
    have hx : (l ++ [x])[l.length]? = some x := by simp
    intro k
    rw [evalNet_snoc, List.getD_eq_getElem?_getD, List.getElem?_append]
    split
    · rw [← List.getD_eq_getElem?_getD]
      exact ih k
    · cases hk : k - (evalNet e dens l).length with
      | zero =>
        exact evalNode_nonneg e dens _ ih x (hnn.1 l.length x hx)
          (fun hleaf => by rw [evalNet_length]; exact hnn.2 l.length x hx hleaf)
      | succ _ => exact le_refl _

/-- `coded_grads_rel` for the value table of a row -/
theorem coded_grads_evalNet (e : Ev) (dens : List F) (net : Net F) (hw : WellOrdered net)
    (hws : ∀ (i : Nat) (x : NNode F), net[i]? = some x → ∀ w ∈ x.ws, 0 ≤ w)
    (hv : ∀ k, 0 ≤ (evalNet e dens net).getD k 0) (root j : Nat) :
    Rel ((evalNet e dens net).getD j 0) ((codedGrads e dens net root).getD j bot)
      ((backward net (evalNet e dens net) root).getD j 0) :=
  coded_grads_rel net _ root (fun i x hn hk => evalNet_at_sum e dens net hw i x hn hk)
    (fun i x hn hk => evalNet_at_prod e dens net hw i x hn hk) hv hws j

/-- When every node value of the row is positive (no floor is active) the
pass as coded returns, at every node, exactly the linear-domain gradient of `Model/Em.lean` (`exp grads[i]` =
`backward … [i]`; a gradient `0`, possible with zero weights, is `-inf`), so that the theory of Props/C14Net.lean
(`C14.backward_is_derivative`, `resp_is_posterior`, `resp_is_mass_through_node`) is a theory of the code's pass. -/
theorem backward_coded_eq_derivative_of_pos (e : Ev) (dens : List F) (net : Net F) (hw : WellOrdered net)
    (hws : ∀ (i : Nat) (x : NNode F), net[i]? = some x → ∀ w ∈ x.ws, 0 ≤ w) (root : Nat)
    (hpos : ∀ i, i < net.length → 0 < (evalNet e dens net).getD i 0) (i : Nat) (hi : i < net.length) :
    expL ((codedGrads e dens net root).getD i bot) = some ((backward net (evalNet e dens net) root).getD i 0) := by
  have hv : ∀ k, 0 ≤ (evalNet e dens net).getD k 0 := by
    intro k
    by_cases hk : k < net.length
    · exact le_of_lt (hpos k hk)
    · rw [List.getD_eq_getElem?_getD, List.getElem?_eq_none (by rw [evalNet_length]; omega)]
      exact le_refl _
  obtain ⟨d, hd, hd'⟩ := coded_grads_evalNet e dens net hw hws hv root i
  rw [hd, hd' (ne_of_gt (hpos i hi))]

/-- … hence, on such rows, the number the code holds at node `i` is the derivative of the root with respect to the
value of node `i` (`C14.backward_is_derivative` transported to the coded pass) -/
theorem backward_coded_is_derivative_of_pos (e : Ev) (dens : List F) (net : Net F) (hw : WellOrdered net)
    (hws : ∀ (i : Nat) (x : NNode F), net[i]? = some x → ∀ w ∈ x.ws, 0 ≤ w) (root : Nat)
    (hpos : ∀ i, i < net.length → 0 < (evalNet e dens net).getD i 0) (i : Nat) (hr : root < net.length)
    (hi : i < net.length) (hd : DecompAt net root i) :
    ∃ a : F, expL ((codedGrads e dens net root).getD i bot) = some a ∧
      ∀ x : F, (evalNetWith e dens net i x).getD root 0 = (evalNetWith e dens net i 0).getD root 0 + a * x :=
  ⟨_, backward_coded_eq_derivative_of_pos e dens net hw hws root hpos i hi,
    fun x => C14.backward_is_derivative e dens net hw root i hr hi hd x⟩

/-- The statistic EM hands to `Leaf.em_step`, `exp(lls[i] - root_ll + grads[i])` as coded,
is exactly `value[i]·∂root/∂node_i / value[root]` (`respLeaf` of the linear model) for every node `i` of every
non-negative table on every row of positive root value: zero-valued product children included (there the `grads`
entry is wrong, the statistic is `0` as it must be). No leaf statistic is affected by the 0/0 entries. -/
theorem leaf_stat_coded_exact (e : Ev) (dens : List F) (net : Net F) (hw : WellOrdered net)
    (hnn : NonNegNet e dens net) (root : Nat) (hroot : 0 < (evalNet e dens net).getD root 0) (i : Nat) :
    expL (statLeafC (codedLls (evalNet e dens net)) (codedGrads e dens net root) root i)
      = some (respLeaf (evalNet e dens net) (backward net (evalNet e dens net) root) root i) := by
  unfold statLeafC respLeaf
  rw [getD_codedLls, getD_codedLls]
  exact expL_stat_rel hroot.ne'
    (coded_grads_evalNet e dens net hw hnn.1 (evalNet_getD_nonneg e dens net hnn) root i) (eq_or_ne _ _)

/-- The raw entry of `stats` of a sum edge `n → c` is exact whenever the child has value `0`
or the sum node has a non-zero value — in particular for every edge of positive weight (next theorem) -/
theorem sum_stat_coded_exact (e : Ev) (dens : List F) (net : Net F) (hw : WellOrdered net)
    (hnn : NonNegNet e dens net) (root : Nat) (hroot : 0 < (evalNet e dens net).getD root 0) (n : Nat) (x : NNode F)
    (j c : Nat) (hc : x.ch[j]? = some c)
    (hcase : (evalNet e dens net).getD c 0 = 0 ∨ (evalNet e dens net).getD n 0 ≠ 0) :
    ((statSumC (codedLls (evalNet e dens net)) (codedGrads e dens net root) root n x).map expL)[j]?
      = (respSum (evalNet e dens net) (backward net (evalNet e dens net) root) root n x)[j]?.map some := by
  unfold statSumC respSum
  rw [List.map_map, List.getElem?_map, List.getElem?_map, hc]
  simp only [Option.map_some, Function.comp, getD_codedLls]
  rw [expL_stat_rel hroot.ne'
    (coded_grads_evalNet e dens net hw hnn.1 (evalNet_getD_nonneg e dens net hnn) root n) hcase]

/-- a zero-valued sum node has value-zero children along all its edges of non-zero weight -/
theorem sum_zero_child_zero (e : Ev) (dens : List F) (net : Net F) (hw : WellOrdered net)
    (hnn : NonNegNet e dens net) (n : Nat) (x : NNode F) (hn : net[n]? = some x) (hk : x.kind = .sum)
    (hz : (evalNet e dens net).getD n 0 = 0) (j c : Nat) (w : F) (hc : x.ch[j]? = some c) (hwj : x.ws[j]? = some w) :
    w * (evalNet e dens net).getD c 0 = 0 := by
  have h0 := evalNet_at_sum e dens net hw n x hn hk
  rw [hz] at h0
  have hmem : (c, w) ∈ x.ch.zip x.ws := by
    rw [List.mem_iff_getElem?]
    exact ⟨j, by rw [List.getElem?_zip_eq_some]; exact ⟨hc, hwj⟩⟩
  exact wsum_zero_edge (fun c => (evalNet e dens net).getD c 0) (evalNet_getD_nonneg e dens net hnn) x.ws x.ch
    (hnn.1 n x hn) h0.symm (c, w) hmem

/-- The responsibilities. For every non-negative children-first table, every row of positive
root value, every sum node `n` and every edge `n → c` of weight `w`: what `Sum.em_step` makes of the coded
statistics, `weights * exp(children_ll - root_ll + grads[n])`, is exactly
`w · value[c] · ∂root/∂node_n / value[root]` (`w ·` the entry of `respSum` of the linear model, whose `grads` is the
derivative by `C14.backward_is_derivative`). Zero-valued product children — whose `grads` entries are wrong — included:
the wrong entries never reach a responsibility. -/
theorem resp_coded_exact (e : Ev) (dens : List F) (net : Net F) (hw : WellOrdered net)
    (hnn : NonNegNet e dens net) (root : Nat) (hroot : 0 < (evalNet e dens net).getD root 0) (n : Nat) (x : NNode F)
    (hn : net[n]? = some x) (hk : x.kind = .sum) (j c : Nat) (w : F) (hc : x.ch[j]? = some c)
    (hwj : x.ws[j]? = some w) :
    (respSumC (codedLls (evalNet e dens net)) (codedGrads e dens net root) root n x)[j]?
      = some (some (w * ((evalNet e dens net).getD c 0 * (backward net (evalNet e dens net) root).getD n 0
          / (evalNet e dens net).getD root 0))) := by
  obtain ⟨d, hd, hd'⟩ := coded_grads_evalNet e dens net hw hnn.1 (evalNet_getD_nonneg e dens net hnn) root n
  unfold respSumC statSumC
  rw [List.getElem?_zipWith, hwj, List.getElem?_map, hc]
  simp only [Option.map_some, getD_codedLls]
  rw [expL_stat _ _ d hroot.ne' hd]
  simp only [Option.map_some, Option.some.injEq]
  by_cases hz : (evalNet e dens net).getD n 0 = 0
  · -- a zero-valued sum: the weight or the child's value is zero, so is the responsibility
    rcases mul_eq_zero.1 (sum_zero_child_zero e dens net hw hnn n x hn hk hz j c w hc hwj) with h | h
    · rw [h, zero_mul, zero_mul]
    · rw [h, zero_div, zero_mul, zero_mul, zero_div]
  · rw [hd' hz, div_mul_eq_mul_div]

/-- every edge of non-zero weight has an exact raw statistic -/
theorem sum_stat_coded_exact_of_weight (e : Ev) (dens : List F) (net : Net F) (hw : WellOrdered net)
    (hnn : NonNegNet e dens net) (root : Nat) (hroot : 0 < (evalNet e dens net).getD root 0) (n : Nat) (x : NNode F)
    (hn : net[n]? = some x) (hk : x.kind = .sum) (j c : Nat) (w : F) (hc : x.ch[j]? = some c)
    (hwj : x.ws[j]? = some w) (hw0 : w ≠ 0) :
    ((statSumC (codedLls (evalNet e dens net)) (codedGrads e dens net root) root n x).map expL)[j]?
      = (respSum (evalNet e dens net) (backward net (evalNet e dens net) root) root n x)[j]?.map some := by
  apply sum_stat_coded_exact e dens net hw hnn root hroot n x j c hc
  by_cases hz : (evalNet e dens net).getD n 0 = 0
  · left
    rcases mul_eq_zero.1 (sum_zero_child_zero e dens net hw hnn n x hn hk hz j c w hc hwj) with h | h
    · exact absurd h hw0
    · exact h
  · right; exact hz

end main

section forward
variable {F : Type} [Field F] [LinearOrder F] [IsStrictOrderedRing F] [DecidableEq F]

/-- the log-value `s` stands for the linear value `a`: its finite log when `a ≠ 0`, `-inf` or a floor multiple when
`a = 0` (running `np.sum` and `logsumexp(·, b=weights)` of floored logs only meet such values) -/
def Stands (s : LogV F) (a : F) : Prop := (a ≠ 0 ∧ s = fin a) ∨ (a = 0 ∧ (s = bot ∨ ∃ k, s = low k))

theorem stands_ofLin (w : F) : Stands (ofLin w) w := by
  by_cases h : w = 0
  · exact Or.inr ⟨h, Or.inl (by simp [ofLin, h])⟩
  · exact Or.inl ⟨h, by simp [ofLin, h]⟩

theorem stands_llOf (u : F) : Stands (llOf u) u := by
  by_cases h : u = 0
  · exact Or.inr ⟨h, Or.inr ⟨0, by rw [h, llOf_zero]⟩⟩
  · exact Or.inl ⟨h, llOf_ne h⟩

theorem stands_add {s t : LogV F} {a b : F} (hs : Stands s a) (ht : Stands t b) : Stands (add s t) (a * b) := by
  rcases hs with ⟨ha, rfl⟩ | ⟨rfl, rfl | ⟨j, rfl⟩⟩ <;> rcases ht with ⟨hb, rfl⟩ | ⟨rfl, rfl | ⟨k, rfl⟩⟩
  · exact Or.inl ⟨mul_ne_zero ha hb, rfl⟩
  · exact Or.inr ⟨mul_zero _, Or.inl rfl⟩
  · exact Or.inr ⟨mul_zero _, Or.inr ⟨k, rfl⟩⟩
  · exact Or.inr ⟨zero_mul _, Or.inl rfl⟩
  · exact Or.inr ⟨zero_mul _, Or.inl rfl⟩
  · exact Or.inr ⟨zero_mul _, Or.inl rfl⟩
  · exact Or.inr ⟨zero_mul _, Or.inr ⟨j, rfl⟩⟩
  · exact Or.inr ⟨zero_mul _, Or.inl rfl⟩
  · exact Or.inr ⟨zero_mul _, Or.inr ⟨j + k + 1, rfl⟩⟩

theorem stands_lse {s t : LogV F} {a b : F} (ha0 : 0 ≤ a) (hb0 : 0 ≤ b) (hs : Stands s a) (ht : Stands t b) :
    Stands (lse s t) (a + b) := by
  rcases hs with ⟨ha, rfl⟩ | ⟨rfl, rfl | ⟨j, rfl⟩⟩ <;> rcases ht with ⟨hb, rfl⟩ | ⟨rfl, rfl | ⟨k, rfl⟩⟩
  · exact Or.inl ⟨(add_pos (lt_of_le_of_ne ha0 (Ne.symm ha)) (lt_of_le_of_ne hb0 (Ne.symm hb))).ne', rfl⟩
  · exact Or.inl ⟨by rwa [add_zero], by rw [add_zero]; rfl⟩
  · exact Or.inl ⟨by rwa [add_zero], by rw [add_zero]; rfl⟩
  · exact Or.inl ⟨by rwa [zero_add], by rw [zero_add]; rfl⟩
  · exact Or.inr ⟨add_zero _, Or.inl rfl⟩
  · exact Or.inr ⟨add_zero _, Or.inr ⟨k, rfl⟩⟩
  · exact Or.inl ⟨by rwa [zero_add], by rw [zero_add]; rfl⟩
  · exact Or.inr ⟨add_zero _, Or.inr ⟨j, rfl⟩⟩
  · exact Or.inr ⟨add_zero _, Or.inr ⟨min j k, rfl⟩⟩

/-- `np.maximum(·, -1e31)` of a value that stands for `a` is the table entry of `a` -/
theorem stands_floor {s : LogV F} {a : F} (h : Stands s a) : floorLL s = llOf a := by
  rcases h with ⟨ha, rfl⟩ | ⟨rfl, rfl | ⟨k, rfl⟩⟩
  · rw [llOf_ne ha]; rfl
  · rw [llOf_zero]; rfl
  · rw [llOf_zero]; rfl

/-- `np.sum` of the children's entries stands for the product of their values -/
theorem stands_sum_fold (v : Nat → F) : ∀ (ch : List Nat) (s : LogV F) (a : F), Stands s a →
    Stands (ch.foldl (fun s c => add s (llOf (v c))) s) (a * lprod (ch.map v)) := by
  intro ch
  induction ch with
  | nil => intro s a h; simpa [lprod] using h
  | cons c cs ih =>
    intro s a h
    simp only [List.foldl_cons, List.map_cons, lprod]
    rw [← mul_assoc]
    exact ih _ _ (stands_add h (stands_llOf (v c)))

/-- `logsumexp(·, b=weights)` of the children's entries stands for the weighted sum of their values -/
theorem stands_lse_fold (v : Nat → F) (hv : ∀ c, 0 ≤ v c) : ∀ (ws : List F) (ch : List Nat) (s : LogV F) (a : F),
    (∀ w ∈ ws, 0 ≤ w) → 0 ≤ a → Stands s a →
    Stands ((ch.zip ws).foldl (fun s cw => lse s (add (ofLin cw.2) (llOf (v cw.1)))) s) (a + wsum ws (ch.map v)) := by
  intro ws
  induction ws with
  | nil => intro ch s a _ _ h; simpa [wsum] using h
  | cons w ws ih =>
    intro ch s a hw ha h
    cases ch with
    | nil => simpa [wsum] using h
    | cons c cs =>
      simp only [List.zip_cons_cons, List.foldl_cons, List.map_cons, wsum]
      rw [← add_assoc]
      have hwc : 0 ≤ w * v c := mul_nonneg (hw w List.mem_cons_self) (hv c)
      exact ih cs _ _ (fun a ha => hw a (List.mem_cons_of_mem _ ha)) (add_nonneg ha hwc)
        (stands_lse ha hwc h (stands_add (stands_ofLin w) (stands_llOf (v c))))

/-- one node: `node_log_likelihood` applied to the floored logs of a non-negative table is the floored log of the
node's linear value -/
theorem evalNodeC_eq (e : Ev) (dens : List F) (acc : List F) (hacc : ∀ c, 0 ≤ acc.getD c 0) (x : NNode F)
    (hws : ∀ w ∈ x.ws, 0 ≤ w) :
    evalNodeC (x.leaf.fn x.scope (dens.getD acc.length 0) e) (codedLls acc) x = llOf (evalNode e dens acc x) := by
  unfold evalNodeC evalNode
  cases x.kind with
  | leaf => rfl
  | prod =>
    simp only [getD_codedLls]
    have h := stands_sum_fold (fun c => acc.getD c 0) x.ch (fin 1) 1 (Or.inl ⟨one_ne_zero, rfl⟩)
    rw [one_mul] at h
    exact stands_floor h
  | sum =>
    simp only [getD_codedLls]
    have h := stands_lse_fold (fun c => acc.getD c 0) hacc x.ws x.ch bot 0 hws (le_refl _) (Or.inr ⟨rfl, Or.inl rfl⟩)
    rw [zero_add] at h
    exact stands_floor h

theorem forwardC_snoc (e : Ev) (dens : List F) (l : Net F) (x : NNode F) :
    forwardC e dens (l ++ [x]) = forwardC e dens l
      ++ [evalNodeC (x.leaf.fn x.scope (dens.getD (forwardC e dens l).length 0) e) (forwardC e dens l) x] := by
  simp [forwardC, List.foldl_append]

/-- For every table that is non-negative on the row (no ordering hypothesis): the forward
pass as coded (`node_log_likelihood` with its floor, node after node) yields exactly the floored logs of the linear
values, i.e. the table `lls` all theorems above hand to the coded backward pass; and all linear values are `≥ 0`. -/
theorem forwardC_eq_codedLls (e : Ev) (dens : List F) (net : Net F) (hnn : NonNegNet e dens net) :
    forwardC e dens net = codedLls (evalNet e dens net) ∧ ∀ c, 0 ≤ (evalNet e dens net).getD c 0 := by
  refine ⟨?_, evalNet_getD_nonneg e dens net hnn⟩
  induction net using List.reverseRecOn with
  | nil => rfl
  | append_singleton l x ih =>
    have hl := nonNegNet_prefix e dens l x hnn
    have hx : (l ++ [x])[l.length]? = some x := by simp
    have hnode := evalNodeC_eq e dens (evalNet e dens l) (evalNet_getD_nonneg e dens l hl) x (hnn.1 l.length x hx)
    have hlen : (codedLls (evalNet e dens l)).length = (evalNet e dens l).length := by simp [codedLls]
    rw [forwardC_snoc, evalNet_snoc, ih hl, hlen, hnode]
    simp [codedLls]

/-- the whole coded pipeline — `eval_backward(root, lls)` on the `lls` of the coded forward pass — is `codedGrads` -/
theorem backwardC_forwardC (e : Ev) (dens : List F) (net : Net F) (hnn : NonNegNet e dens net) (root : Nat) :
    backwardC net (forwardC e dens net) root = codedGrads e dens net root := by
  rw [(forwardC_eq_codedLls e dens net hnn).1]

end forward

section generated
variable {F : Type} [Field F] [LinearOrder F] [IsStrictOrderedRing F]

/-- on finite entries the model's `statSumC` / `statLeafC` entry — `add (sub lc lr) g`, the association `(lc - lr) + g` of
the generated `Gen.S3emRespSum` / `Gen.S3emRespLeaf` — has the exponential the generated expression denotes in any
field with `exp`/`log` (`Oblig/Struct3Em.lean: resp_entry_as_coded`) -/
theorem stat_fin_as_coded (E : ExpLog F) (vc vr g : F) (hc : 0 < vc) (hr : 0 < vr) (hg : 0 < g) :
    expL (add (sub (fin vc) (fin vr)) (fin g)) = some (Gen.S3emRespSum E (E.log vc) (E.log vr) (E.log g)) ∧
    expL (add (sub (fin vc) (fin vr)) (fin g)) = some (Gen.S3emRespLeaf E (E.log vc) (E.log vr) (E.log g)) := by
  obtain ⟨h1, h2⟩ := Struct3.resp_entry_as_coded E vc vr g hc hr hg
  rw [h1, h2]
  simp only [sub, add, expL, div_mul_eq_mul_div, and_self]

example : expL (add (sub (fin ((1:ℝ)/2)) (fin (3/8))) (fin (1/4)))
    = some (Gen.S3emRespSum realExpLog (realExpLog.log (1/2)) (realExpLog.log (3/8)) (realExpLog.log (1/4))) :=
  (stat_fin_as_coded realExpLog (1/2) (3/8) (1/4) (by norm_num) (by norm_num) (by norm_num)).1

end generated

section valid
variable {F : Type} [Field F] [LinearOrder F] [IsStrictOrderedRing F] [DecidableEq F]

/-- The same as `resp_coded_exact` under the hypotheses `check_spn` establishes (`NodeOK` at every entry: smooth
sums, decomposable products): there is a number `a` — the derivative `∂root/∂node_n`: the root value is affine in the
value forced at `n` with slope `a` — such that for every edge `n → c` of weight `w` the code's
`weights * exp(children_ll - root_ll + grads[n])` is `w·value[c]·a/value[root]`, and the code's leaf statistic
`exp(lls[n] - root_ll + grads[n])` of any node `n` is `value[n]·a/value[root]`. Every row of positive root value,
zero-valued product children included. -/
theorem resp_coded_exact_valid (dom : Nat → Nat) (e : Ev) (dens : List F) (net : Net F) (hw : WellOrdered net)
    (hok : ∀ i (x : NNode F), net[i]? = some x → NodeOK dom net dens i x) (hnn : NonNegNet e dens net)
    (root n : Nat) (hr : root < net.length) (hn : n < net.length) (hne : scopeOf net n ≠ [])
    (hroot : 0 < (evalNet e dens net).getD root 0) :
    ∃ a : F,
      (∀ y : F, (evalNetWith e dens net n y).getD root 0 = (evalNetWith e dens net n 0).getD root 0 + a * y) ∧
      (expL (statLeafC (codedLls (evalNet e dens net)) (codedGrads e dens net root) root n)
        = some ((evalNet e dens net).getD n 0 * a / (evalNet e dens net).getD root 0)) ∧
      ((net[n]).kind = .sum → ∀ (j c : Nat) (w : F), (net[n]).ch[j]? = some c → (net[n]).ws[j]? = some w →
        (respSumC (codedLls (evalNet e dens net)) (codedGrads e dens net root) root n net[n])[j]?
          = some (some (w * ((evalNet e dens net).getD c 0 * a / (evalNet e dens net).getD root 0)))) :=
  ⟨(backward net (evalNet e dens net) root).getD n 0,
    fun y => C14.backward_is_derivative_valid dom e dens net hw hok root n hr hn hne y,
    leaf_stat_coded_exact e dens net hw hnn root hroot n,
    fun hk j c w hc hwj => resp_coded_exact e dens net hw hnn root hroot n net[n] (by simp [hn]) hk j c w hc hwj⟩

end valid

/-- a DAG with a Bernoulli leaf of parameter exactly `0` (entry 0: `P(X0=1) = 0`); leaf 1 is shared by the two
products 2 and 4 -/
def exZ : Net ℚ :=
  [⟨0, .leaf, [0], [], [], .cat 0 [1, 0]⟩,
   ⟨1, .leaf, [1], [], [], .cat 1 [1/3, 2/3]⟩,
   ⟨2, .prod, [0, 1], [0, 1], [], .absent⟩,
   ⟨3, .leaf, [0], [], [], .cat 0 [1/2, 1/2]⟩,
   ⟨4, .prod, [0, 1], [3, 1], [], .absent⟩,
   ⟨5, .sum, [0, 1], [2, 4], [1/2, 1/2], .absent⟩]

/-- the row `(X0, X1) = (1, 0)`: leaf 0 and product 2 have value `0`, the root `1/12` -/
def exZRow : Ev := Ev.ofList [some 1, some 0]

theorem exZ_vals : evalNet exZRow [] exZ = [0, 1/3, 0, 1/2, 1/6, 1/12] := by decide +kernel

theorem exZ_lls : codedLls (evalNet exZRow [] exZ) = [low 0, fin (1/3), low 0, fin (1/2), fin (1/6), fin (1/12)] := by
  decide +kernel

/-- the forward pass as coded produces that table -/
example : forwardC exZRow [] exZ = codedLls (evalNet exZRow [] exZ) := by decide +kernel

theorem exZ_true_grads : backward exZ (evalNet exZRow [] exZ) 5 = [1/6, 1/4, 1/2, 1/6, 1/2, 1] := by decide +kernel

theorem exZ_coded_grads : codedGrads exZRow [] exZ 5 = [fin 1, fin (1/4), fin (1/2), fin (1/6), fin (1/2), fin 1] := by
  decide +kernel

/-- What DESIGN §0.2 row C14 observed: leaf 0 of `exZ` is a zero-valued child of product 2;
the true derivative of the root with respect to it is `w·value(sibling) = 1/2·1/3 = 1/6` (the root moves by `1/6` when
the node's value goes from `0` to `1`), the entry the coded pass returns is `0.0` (`fin 1`: gradient `1`). The shared
leaf 1 (positive value, one zero-valued parent) is exact. -/
theorem coded_grad_wrong_witness :
    (evalNet exZRow [] exZ).getD 0 0 = 0 ∧ (exZ[2]).kind = .prod ∧ 0 ∈ (exZ[2]).ch ∧
    (backward exZ (evalNet exZRow [] exZ) 5).getD 0 0 = 1/6 ∧
    (evalNetWith exZRow [] exZ 0 1).getD 5 0 - (evalNetWith exZRow [] exZ 0 0).getD 5 0 = 1/6 ∧
    expL ((codedGrads exZRow [] exZ 5).getD 0 bot) = some 1 ∧
    expL ((codedGrads exZRow [] exZ 5).getD 1 bot) = some ((backward exZ (evalNet exZRow [] exZ) 5).getD 1 0) := by
  decide +kernel

theorem exZ_wo : WellOrdered exZ := (wellOrderedB_iff exZ).1 (by decide)

theorem exZ_nonneg : NonNegNet exZRow [] exZ := by
  constructor
  all_goals
    refine E2E.forall_getElem?_of_forallIdx ?_
    simp only [exZ, E2E.ForallIdx]
    decide +kernel

theorem exZ_root_pos : 0 < (evalNet exZRow [] exZ).getD 5 0 := by decide +kernel

example : forwardC exZRow [] exZ = codedLls (evalNet exZRow [] exZ) ∧ ∀ c, 0 ≤ (evalNet exZRow [] exZ).getD c 0 :=
  forwardC_eq_codedLls exZRow [] exZ exZ_nonneg

example : backwardC exZ (forwardC exZRow [] exZ) 5 = [fin 1, fin (1/4), fin (1/2), fin (1/6), fin (1/2), fin 1] := by
  rw [backwardC_forwardC exZRow [] exZ exZ_nonneg 5, exZ_coded_grads]

/-- non-vacuity of `coded_grads_rel` / `leaf_stat_coded_exact` at the node with the wrong entry: the statistic is `0` -/
example : expL (statLeafC (codedLls (evalNet exZRow [] exZ)) (codedGrads exZRow [] exZ 5) 5 0)
    = some (respLeaf (evalNet exZRow [] exZ) (backward exZ (evalNet exZRow [] exZ) 5) 5 0) :=
  leaf_stat_coded_exact exZRow [] exZ exZ_wo exZ_nonneg 5 exZ_root_pos 0

example : respLeaf (evalNet exZRow [] exZ) (backward exZ (evalNet exZRow [] exZ) 5) 5 0 = 0 := by decide +kernel

/-- … and at the shared positive leaf 1: `(1/3)·(1/4)/(1/12) = 1` -/
example : expL (statLeafC (codedLls (evalNet exZRow [] exZ)) (codedGrads exZRow [] exZ 5) 5 1) = some 1 := by
  rw [leaf_stat_coded_exact exZRow [] exZ exZ_wo exZ_nonneg 5 exZ_root_pos 1]
  decide +kernel

/-- non-vacuity of `resp_coded_exact`: the edge of the root sum into the zero-valued product 2 (responsibility `0`) and
into product 4 (responsibility `1/2·(1/6)·1/(1/12) = 1`) -/
example : (respSumC (codedLls (evalNet exZRow [] exZ)) (codedGrads exZRow [] exZ 5) 5 5 exZ[5])[0]?
    = some (some (1/2 * ((evalNet exZRow [] exZ).getD 2 0 * (backward exZ (evalNet exZRow [] exZ) 5).getD 5 0
        / (evalNet exZRow [] exZ).getD 5 0))) :=
  resp_coded_exact exZRow [] exZ exZ_wo exZ_nonneg 5 exZ_root_pos 5 exZ[5] rfl rfl 0 2 (1/2) rfl rfl

example : respSumC (codedLls (evalNet exZRow [] exZ)) (codedGrads exZRow [] exZ 5) 5 5 exZ[5] = [some 0, some 1] := by
  decide +kernel

/-- non-vacuity of `backward_coded_eq_derivative_of_pos`: the row `(0, 0)`, on which every node of `exZ` is positive -/
def exZRowPos : Ev := Ev.ofList [some 0, some 0]

theorem exZ_weights : ∀ (i : Nat) (x : NNode ℚ), exZ[i]? = some x → ∀ w ∈ x.ws, 0 ≤ w := exZ_nonneg.1

example : ∀ i, i < exZ.length → expL ((codedGrads exZRowPos [] exZ 5).getD i bot)
    = some ((backward exZ (evalNet exZRowPos [] exZ) 5).getD i 0) :=
  backward_coded_eq_derivative_of_pos exZRowPos [] exZ exZ_wo exZ_weights 5
    (by decide +kernel)

example : codedGrads exZRowPos [] exZ 5 = [fin (1/6), fin (3/4), fin (1/2), fin (1/6), fin (1/2), fin 1] := by
  decide +kernel

/-- `check_spn`'s conditions hold for `exZ` (binary variables) -/
theorem exZ_nodeOK : ∀ i (x : NNode ℚ), exZ[i]? = some x → NodeOK (fun _ => 2) exZ [] i x :=
  E2E.forall_getElem?_of_forallIdx
    ⟨nodeOK_cat _ _ _ _ _ _ _ rfl (by decide +kernel), nodeOK_cat _ _ _ _ _ _ _ rfl (by decide +kernel),
      (nodeOK_prod_iff rfl).2 (by decide), nodeOK_cat _ _ _ _ _ _ _ rfl (by decide +kernel),
      (nodeOK_prod_iff rfl).2 (by decide), (nodeOK_sum_iff rfl).2 (by decide), trivial⟩

/-- non-vacuity of `resp_coded_exact_valid` at the zero-valued product child 0 (leaf statistic) and at the root sum -/
example : ∃ a : ℚ,
    (∀ y : ℚ, (evalNetWith exZRow [] exZ 0 y).getD 5 0 = (evalNetWith exZRow [] exZ 0 0).getD 5 0 + a * y) ∧
    (expL (statLeafC (codedLls (evalNet exZRow [] exZ)) (codedGrads exZRow [] exZ 5) 5 0)
      = some ((evalNet exZRow [] exZ).getD 0 0 * a / (evalNet exZRow [] exZ).getD 5 0)) ∧
    ((exZ[0]).kind = .sum → ∀ (j c : Nat) (w : ℚ), (exZ[0]).ch[j]? = some c → (exZ[0]).ws[j]? = some w →
      (respSumC (codedLls (evalNet exZRow [] exZ)) (codedGrads exZRow [] exZ 5) 5 0 exZ[0])[j]?
        = some (some (w * ((evalNet exZRow [] exZ).getD c 0 * a / (evalNet exZRow [] exZ).getD 5 0)))) :=
  resp_coded_exact_valid (fun _ => 2) exZRow [] exZ exZ_wo exZ_nodeOK exZ_nonneg 5 0 (by decide) (by decide)
    (by decide) exZ_root_pos

/-! #### the only statistics the 0/0 entries can reach: zero-weight edges -/

/-- sum 2 has the weights `[1, 0]`: on the row `(1, 0)` its first child (Bernoulli, `p = 0`) is zero, its second child
(weight `0`) is positive; the sum is a zero-valued child of product 4 -/
def exW : Net ℚ :=
  [⟨0, .leaf, [0], [], [], .cat 0 [1, 0]⟩,
   ⟨1, .leaf, [0], [], [], .cat 0 [1/2, 1/2]⟩,
   ⟨2, .sum, [0], [0, 1], [1, 0], .absent⟩,
   ⟨3, .leaf, [1], [], [], .cat 1 [1/3, 2/3]⟩,
   ⟨4, .prod, [0, 1], [2, 3], [], .absent⟩,
   ⟨5, .leaf, [0], [], [], .cat 0 [1/2, 1/2]⟩,
   ⟨6, .leaf, [1], [], [], .cat 1 [1/4, 3/4]⟩,
   ⟨7, .prod, [0, 1], [5, 6], [], .absent⟩,
   ⟨8, .sum, [0, 1], [4, 7], [1/2, 1/2], .absent⟩]

/-- The raw entry `stats[1]` of sum 2 (`exp(lls[1] - root_ll + grads[2])`) is `8` as
coded, `4/3` with the true derivative (`grads[2]` is the wrong entry `0.0` instead of `log(1/6)`); `Sum.em_step`
multiplies it by the weight `0`, so the responsibility is `0` either way (`resp_coded_exact`). This is the only
kind of statistic a 0/0 entry can reach: `sum_stat_coded_exact_of_weight`, `leaf_stat_coded_exact`. -/
theorem raw_stat_zero_weight_witness :
    (statSumC (codedLls (evalNet exZRow [] exW)) (codedGrads exZRow [] exW 8) 8 2 exW[2]).map expL = [some 0, some 8] ∧
    respSum (evalNet exZRow [] exW) (backward exW (evalNet exZRow [] exW) 8) 8 2 exW[2] = [0, 4/3] ∧
    respSumC (codedLls (evalNet exZRow [] exW)) (codedGrads exZRow [] exW 8) 8 2 exW[2] = [some 0, some 0] := by
  decide +kernel

end Deeprob.C14B
