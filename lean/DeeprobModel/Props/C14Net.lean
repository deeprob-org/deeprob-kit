import DeeprobModel.Lemmas.BackwardLemmas
import DeeprobModel.Props.C14
import DeeprobModel.Lemmas.ListEntries
import Mathlib.Algebra.Order.Field.Rat
set_option linter.unusedSimpArgs false
set_option linter.unusedVariables false
set_option linter.unusedSectionVars false
/-
C14 on node tables (DAGs with sharing) — the backward pass `eval_backward` (deeprob/spn/algorithms/gradient.py,
modelled by `backward` in Model/Em.lean) computes `grads[i] = ∂ root / ∂ node_i`, the root is affine in every node's
value, and the numbers EM feeds to `em_step` are the posterior masses flowing through the nodes.
`evalNetWith`, `Reach`, `DecompAt`, `nodeAt` are defined in Lemmas/BackwardLemmas.lean; `DecompAt` follows from the
`check_spn` conditions `NodeOK` for every node with a non-empty scope (`decompAt_of_nodeOK`).
-/
namespace Deeprob.C14
open Deeprob Deeprob.Bwd

/-! ### the running example: a DAG in which leaf 0 is shared by the two products 3 and 4 under the sum 5, and leaf 2
by the products 4 and 7 under different sums; the inner sum 5 is a child of the root sum 8 -/

def exDag : Net ℚ :=
  [⟨0, .leaf, [0], [], [], .cat 0 [1/2, 1/2]⟩,
   ⟨1, .leaf, [1], [], [], .cat 1 [1/3, 2/3]⟩,
   ⟨2, .leaf, [1], [], [], .cat 1 [1/10, 9/10]⟩,
   ⟨3, .prod, [0, 1], [0, 1], [], .absent⟩,
   ⟨4, .prod, [0, 1], [0, 2], [], .absent⟩,
   ⟨5, .sum, [0, 1], [3, 4], [1/4, 3/4], .absent⟩,
   ⟨6, .leaf, [0], [], [], .cat 0 [1/5, 4/5]⟩,
   ⟨7, .prod, [0, 1], [6, 2], [], .absent⟩,
   ⟨8, .sum, [0, 1], [5, 7], [2/3, 1/3], .absent⟩]

/-- the row `(X0, X1) = (1, 0)` -/
def exRow : Ev := Ev.ofList [some 1, some 0]

theorem exDag_wo : WellOrdered exDag := (wellOrderedB_iff exDag).1 (by decide)

/-- every product of `exDag` has two leaf children, so no node is reached through two of them -/
theorem exDag_decomp (i : Nat) : DecompAt exDag 8 i := by
  have leaf2 : ∀ (a b : Nat) (xa xb : NNode ℚ), exDag[a]? = some xa → exDag[b]? = some xb → xa.kind = .leaf →
      xb.kind = .leaf → a ≠ b → List.Pairwise (fun c c' => ¬ (Reach exDag c i ∧ Reach exDag c' i)) [a, b] := by
    intro a b xa xb ha hb hka hkb hab
    simp only [List.pairwise_cons, List.mem_singleton, forall_eq, List.not_mem_nil, false_imp_iff, imp_true_iff,
      List.Pairwise.nil, and_true]
    intro h
    exact hab ((reach_of_leaf xa ha hka h.1).symm.trans (reach_of_leaf xb hb hkb h.2))
  suffices H : ∀ m (x : NNode ℚ), exDag[m]? = some x → x.kind = .prod →
      x.ch.Pairwise (fun c c' => ¬ (Reach exDag c i ∧ Reach exDag c' i)) from fun m x _ hx hk => H m x hx hk
  exact E2E.forall_getElem?_of_forallIdx ⟨nofun, nofun, nofun,
    fun _ => leaf2 0 1 _ _ rfl rfl rfl rfl (by omega), fun _ => leaf2 0 2 _ _ rfl rfl rfl rfl (by omega),
    nofun, nofun, fun _ => leaf2 6 2 _ _ rfl rfl rfl rfl (by omega), nofun, trivial⟩

/-- the values and the gradients of the example on `exRow` -/
theorem exDag_vals : evalNet exRow [] exDag = [1/2, 1/3, 1/10, 1/6, 1/20, 19/240, 4/5, 2/25, 143/1800] := by
  decide +kernel

theorem exDag_grads : backward exDag (evalNet exRow [] exDag) 8 = [19/180, 1/12, 31/60, 1/6, 1/2, 2/3, 1/30, 1/3, 1] := by
  decide +kernel

theorem exDag_root_ne : (evalNet exRow [] exDag).getD 8 0 ≠ 0 := by decide +kernel

section derivative
variable {α : Type} [CommSemiring α]

/-- DAGs. For every children-first table, every evidence, every root and every node `i`
that no product below the root reaches twice: the root value, as a function of the value `x` forced at node `i`, is
affine with slope `grads[i]`, the entry the backward pass leaves at `i` (sum of the contributions of *all* parents of
`i`, each the product of the factors sent down one root-to-`i` path). Sharing below sum nodes — and below products,
as long as it is not through two children of the same product — is covered. No hypothesis on weights, leaves,
smoothness or normalisation. -/
theorem backward_is_derivative (e : Ev) (dens : List α) (net : Net α) (hw : WellOrdered net) (root i : Nat)
    (hr : root < net.length) (hi : i < net.length) (hd : DecompAt net root i) (x : α) :
    (evalNetWith e dens net i x).getD root 0
      = (evalNetWith e dens net i 0).getD root 0 + (backward net (evalNet e dens net) root).getD i 0 * x := by
  rw [backward_eq_fwd net _ hw root i hr hi]
  exact override_affine e dens net hw root i hd x root hr (Reach.refl root)

/-- non-vacuity: the shared leaf 0 of `exDag` (two parents under one sum): slope `2/3·(1/4·1/3 + 3/4·1/10)`, the sum of
the contributions of both parents; and the shared leaf 2 (parents under different sums) -/
example (x : ℚ) : (evalNetWith exRow [] exDag 0 x).getD 8 0 = 2/75 + 19/180 * x := by
  have h := backward_is_derivative exRow [] exDag exDag_wo 8 0 (by decide) (by decide) (exDag_decomp 0) x
  rw [h, exDag_grads]
  have : (evalNetWith exRow [] exDag 0 0).getD 8 0 = 2/75 := by decide +kernel
  rw [this]; rfl

example (x : ℚ) : (evalNetWith exRow [] exDag 2 x).getD 8 0 = 1/36 + 31/60 * x := by
  have h := backward_is_derivative exRow [] exDag exDag_wo 8 2 (by decide) (by decide) (exDag_decomp 2) x
  rw [h, exDag_grads]
  have : (evalNetWith exRow [] exDag 2 0).getD 8 0 = 1/36 := by decide +kernel
  rw [this]; rfl

/-- decomposability is essential: with one leaf listed twice under a product the root is `x²`, not affine -/
def exBad : Net ℚ := [⟨0, .leaf, [0], [], [], .cat 0 [1/2, 1/2]⟩, ⟨1, .prod, [0], [0, 0], [], .absent⟩]

theorem decomposability_needed :
    ¬ ∀ x : ℚ, (evalNetWith exRow [] exBad 0 x).getD 1 0
      = (evalNetWith exRow [] exBad 0 0).getD 1 0 + (backward exBad (evalNet exRow [] exBad) 1).getD 0 0 * x := by
  intro h
  have h2 := h 2
  revert h2
  decide +kernel

/-- the same under the hypotheses `check_spn` establishes: every stored node satisfies the local validity
condition `NodeOK` (product children have pairwise disjoint scopes), and node `i` has a non-empty scope -/
theorem backward_is_derivative_valid (dom : Nat → Nat) (e : Ev) (dens : List α) (net : Net α) (hw : WellOrdered net)
    (hok : ∀ i (x : NNode α), net[i]? = some x → NodeOK dom net dens i x) (root i : Nat)
    (hr : root < net.length) (hi : i < net.length) (hne : scopeOf net i ≠ []) (x : α) :
    (evalNetWith e dens net i x).getD root 0
      = (evalNetWith e dens net i 0).getD root 0 + (backward net (evalNet e dens net) root).getD i 0 * x :=
  backward_is_derivative e dens net hw root i hr hi (decompAt_of_nodeOK dom net dens hok root i hne) x

/-- non-vacuity: `exDag` satisfies `NodeOK` at every entry (binary variables) -/
theorem exDag_nodeOK : ∀ i (x : NNode ℚ), exDag[i]? = some x → NodeOK (fun _ => 2) exDag [] i x :=
  E2E.forall_getElem?_of_forallIdx
    ⟨nodeOK_cat _ _ _ _ _ _ _ rfl (by decide +kernel), nodeOK_cat _ _ _ _ _ _ _ rfl (by decide +kernel),
      nodeOK_cat _ _ _ _ _ _ _ rfl (by decide +kernel), (nodeOK_prod_iff rfl).2 (by decide),
      (nodeOK_prod_iff rfl).2 (by decide), (nodeOK_sum_iff rfl).2 (by decide),
      nodeOK_cat _ _ _ _ _ _ _ rfl (by decide +kernel), (nodeOK_prod_iff rfl).2 (by decide),
      (nodeOK_sum_iff rfl).2 (by decide), trivial⟩

example (x : ℚ) : (evalNetWith exRow [] exDag 0 x).getD 8 0
    = (evalNetWith exRow [] exDag 0 0).getD 8 0 + (backward exDag (evalNet exRow [] exDag) 8).getD 0 0 * x :=
  backward_is_derivative_valid (fun _ => 2) exRow [] exDag exDag_wo exDag_nodeOK 8 0 (by decide) (by decide)
    (by simp [scopeOf, exDag]) x

/-- `root = (root with node i zeroed) + grads[i]·value[i]` -/
theorem root_affine_in_node (e : Ev) (dens : List α) (net : Net α) (hw : WellOrdered net) (root i : Nat)
    (hr : root < net.length) (hi : i < net.length) (hd : DecompAt net root i) :
    (evalNet e dens net).getD root 0
      = (evalNetWith e dens net i 0).getD root 0
        + (backward net (evalNet e dens net) root).getD i 0 * (evalNet e dens net).getD i 0 := by
  rw [← backward_is_derivative e dens net hw root i hr hi hd, evalNetWith_self e dens net hw i root hr]

/-- non-vacuity: `143/1800 = 2/75 + 19/180 · 1/2` at the shared leaf 0 -/
example : (evalNet exRow [] exDag).getD 8 0
    = (evalNetWith exRow [] exDag 0 0).getD 8 0
      + (backward exDag (evalNet exRow [] exDag) 8).getD 0 0 * (evalNet exRow [] exDag).getD 0 0 :=
  root_affine_in_node exRow [] exDag exDag_wo 8 0 (by decide) (by decide) (exDag_decomp 0)

/-- `grads[root] = 1` (`grads[root.id] = 0.0` in the log domain, and nothing is ever added to it) -/
theorem backward_root_one (net : Net α) (vals : List α) (hw : WellOrdered net) (root : Nat) (hr : root < net.length) :
    (backward net vals root).getD root 0 = 1 := by
  rw [backward_eq_fwd net vals hw root root hr hr, fwdDeriv_rec net vals hw root (List.getElem?_eq_getElem hr), if_pos rfl]

example : (backward exDag (evalNet exRow [] exDag) 8).getD 8 0 = 1 :=
  backward_root_one exDag _ exDag_wo 8 (by decide)

/-- the pass itself is linear algebra and needs no decomposability: for any value table it returns the forward-mode
derivative `∂ root / ∂ node_i` of the linearised circuit (reverse mode = forward mode) -/
theorem backward_is_reverse_mode (net : Net α) (vals : List α) (hw : WellOrdered net) (root i : Nat)
    (hr : root < net.length) (hi : i < net.length) :
    (backward net vals root).getD i 0 = (fwdDeriv net vals i).getD root 0 :=
  backward_eq_fwd net vals hw root i hr hi

example : (backward exDag (evalNet exRow [] exDag) 8).getD 0 0 = (fwdDeriv exDag (evalNet exRow [] exDag) 0).getD 8 0 :=
  backward_is_reverse_mode exDag _ exDag_wo 8 0 (by decide) (by decide)

/-- When node `i` has exactly one path `p` from the root (in particular on tree-shaped
tables), the table pass agrees with the path product `Circ.gradAlong` on the unfolding `toTree` -/
theorem backward_tree_agrees (e : Ev) (dens : List α) (net : Net α) (hw : WellOrdered net) (root i : Nat)
    (hr : root < net.length) (p : List Nat) (hp : nodeAt net root p = some i)
    (huniq : ∀ q, nodeAt net root q = some i → q = p) :
    (backward net (evalNet e dens net) root).getD i 0 = Circ.gradAlong e p (toTree net dens (root+1) root) := by
  have hi : i < net.length := by have := reach_le net hw (nodeAt_reach net p root i hp); omega
  rw [backward_eq_fwd net _ hw root i hr hi]
  exact fwd_eq_gradAlong e dens net hw i hi p root hr hp huniq

/-- non-vacuity inside the DAG: product 3 of `exDag` has the single path `[0, 0]` from the root (its leaf 0 has two) -/
theorem exDag_path3 : ∀ q, nodeAt exDag 8 q = some 3 → q = [0, 0] :=
  unique_path_of_pathsTo exDag exDag_wo 8 3 [0, 0] (by decide)

/-- … while the shared leaf 0 has two -/
example : pathsTo exDag 8 8 0 = [[0, 0, 0], [0, 1, 0]] := by decide

example : (backward exDag (evalNet exRow [] exDag) 8).getD 3 0
    = Circ.gradAlong exRow [0, 0] (toTree exDag [] 9 8) :=
  backward_tree_agrees exRow [] exDag exDag_wo 8 3 (by decide) [0, 0] (by simp [nodeAt, exDag]) exDag_path3

example : Circ.gradAlong exRow [0, 0] (toTree exDag [] 9 8) = 2/3 * (1/4) := by
  decide +kernel

/-- on tree-shaped tables, for every node (given by its path): `backward` is `gradAlong`, forcing the node's value is
`Circ.plug`, and the tree statement `backward_is_derivative_partial` about the unfolding follows from the table
theorem -/
theorem backward_is_derivative_tree (e : Ev) (dens : List α) (net : Net α) (hw : WellOrdered net) (root : Nat)
    (hr : root < net.length) (ht : TreeShaped net root) (p : List Nat) (i : Nat) (hp : nodeAt net root p = some i)
    (x : α) :
    (backward net (evalNet e dens net) root).getD i 0 = Circ.gradAlong e p (toTree net dens (root+1) root) ∧
    Circ.eval e (Circ.plug x p (toTree net dens (root+1) root)) = (evalNetWith e dens net i x).getD root 0 ∧
    Circ.eval e (Circ.plug x p (toTree net dens (root+1) root))
      = Circ.eval e (Circ.plug 0 p (toTree net dens (root+1) root))
        + Circ.gradAlong e p (toTree net dens (root+1) root) * x := by
  have hi : i < net.length := by have := reach_le net hw (nodeAt_reach net p root i hp); omega
  have huniq : ∀ q, nodeAt net root q = some i → q = p := fun q hq => ht i q p hq hp
  have h1 := backward_tree_agrees e dens net hw root i hr p hp huniq
  have h2 := fun y => plug_toTree_eq_override e dens net hw i hi y p root hr hp huniq
  refine ⟨h1, h2 x, ?_⟩
  rw [h2 x, h2 0, ← h1]
  exact backward_is_derivative e dens net hw root i hr hi (decompAt_of_unique_path net root i (ht i)) x

/-- non-vacuity: the tree table `exNet` of Props/C14.lean (a mixture of two products, root at index 6) -/
theorem exNet_wo : WellOrdered exNet := (wellOrderedB_iff exNet).1 (by decide)

theorem exNet_tree : TreeShaped exNet 6 :=
  treeShaped_of_pathsTo exNet exNet_wo 6 (by decide)

theorem exNet_path : nodeAt exNet 6 [1, 0] = some 2 := by decide

example (x : ℚ) :
    (backward exNet (evalNet (Ev.ofList [some 1, some 0]) [] exNet) 6).getD 2 0
      = Circ.gradAlong (Ev.ofList [some 1, some 0]) [1, 0] (toTree exNet [] 7 6) ∧
    Circ.eval (Ev.ofList [some 1, some 0]) (Circ.plug x [1, 0] (toTree exNet [] 7 6))
      = (evalNetWith (Ev.ofList [some 1, some 0]) [] exNet 2 x).getD 6 0 ∧
    Circ.eval (Ev.ofList [some 1, some 0]) (Circ.plug x [1, 0] (toTree exNet [] 7 6))
      = Circ.eval (Ev.ofList [some 1, some 0]) (Circ.plug 0 [1, 0] (toTree exNet [] 7 6))
        + Circ.gradAlong (Ev.ofList [some 1, some 0]) [1, 0] (toTree exNet [] 7 6) * x :=
  backward_is_derivative_tree (Ev.ofList [some 1, some 0]) [] exNet exNet_wo 6 (by decide) exNet_tree [1, 0] 2
    exNet_path x

/-- the unfolding of the table is the tree circuit `exCirc` of Props/C14.lean, up to the scopes of its nodes: same
slope `3/4 · 1/10` -/
example : Circ.gradAlong (Ev.ofList [some 1, some 0]) [1, 0] (toTree exNet [] 7 6) = 3/40 := by
  rw [← (backward_is_derivative_tree (Ev.ofList [some 1, some 0]) [] exNet exNet_wo 6 (by decide) exNet_tree [1, 0] 2
    exNet_path 0).1]
  decide +kernel

end derivative

section resp
variable {F : Type} [Field F]

/-- For every sum node `n` of a children-first table: the responsibilities
`exp(children_ll − root_ll + grads[n])` EM hands to `Sum.em_step`, weighted by the current weights
(`unnorm_weights` before mixing), add up to `value[n]·grads[n]/value[root]` … -/
theorem resp_is_posterior (e : Ev) (dens : List F) (net : Net F) (hw : WellOrdered net) (root n : Nat)
    (hn : n < net.length) (hk : (net[n]).kind = .sum) :
    wsum (net[n]).ws (respSum (evalNet e dens net) (backward net (evalNet e dens net) root) root n net[n])
      = (evalNet e dens net).getD n 0 * (backward net (evalNet e dens net) root).getD n 0
          / (evalNet e dens net).getD root 0 := by
  exact resp_sum_one _ _ root n net[n] (evalNet_at_sum e dens net hw n net[n] (List.getElem?_eq_getElem hn) hk)

/-- non-vacuity: the inner sum 5 of `exDag` (not the root): `(1/4·1/6 + 3/4·1/20)·(2/3)/(143/1800) = 95/143` -/
example : wsum (exDag[5]).ws (respSum (evalNet exRow [] exDag) (backward exDag (evalNet exRow [] exDag) 8) 8 5 exDag[5])
    = 95/143 := by
  rw [resp_is_posterior exRow [] exDag exDag_wo 8 5 (by decide) rfl]
  decide +kernel

/-- when `r = z + g·v`, the share `v·g/r` of `r` is what is missing from `z/r` to one -/
theorem share_eq_one_sub {r z g v : F} (h : r = z + g * v) (hne : r ≠ 0) : v * g / r = 1 - z / r := by
  rw [eq_sub_iff_add_eq, ← add_div, div_eq_one_iff_eq hne, h]
  ring

/-- … which is the share of the root's mass that flows through `n`: one minus what is left of the root when `n` is
zeroed, relative to the root (the posterior probability that the sum node is reached) -/
theorem resp_is_mass_through_node (e : Ev) (dens : List F) (net : Net F) (hw : WellOrdered net) (root n : Nat)
    (hr : root < net.length) (hn : n < net.length) (hk : (net[n]).kind = .sum) (hd : DecompAt net root n)
    (hne : (evalNet e dens net).getD root 0 ≠ 0) :
    wsum (net[n]).ws (respSum (evalNet e dens net) (backward net (evalNet e dens net) root) root n net[n])
      = 1 - (evalNetWith e dens net n 0).getD root 0 / (evalNet e dens net).getD root 0 := by
  rw [resp_is_posterior e dens net hw root n hn hk]
  exact share_eq_one_sub (root_affine_in_node e dens net hw root n hr hn hd) hne

example : wsum (exDag[5]).ws (respSum (evalNet exRow [] exDag) (backward exDag (evalNet exRow [] exDag) 8) 8 5 exDag[5])
    = 1 - (2/75) / (143/1800) := by
  rw [resp_is_mass_through_node exRow [] exDag exDag_wo 8 5 (by decide) (by decide) rfl (exDag_decomp 5) exDag_root_ne]
  decide +kernel

/-- the same for a leaf: `exp(lls[i] − root_ll + grads[i])` is the share of the root's mass flowing through it -/
theorem respLeaf_is_mass_through_node (e : Ev) (dens : List F) (net : Net F) (hw : WellOrdered net) (root i : Nat)
    (hr : root < net.length) (hi : i < net.length) (hd : DecompAt net root i)
    (hne : (evalNet e dens net).getD root 0 ≠ 0) :
    respLeaf (evalNet e dens net) (backward net (evalNet e dens net) root) root i
      = 1 - (evalNetWith e dens net i 0).getD root 0 / (evalNet e dens net).getD root 0 := by
  exact share_eq_one_sub (root_affine_in_node e dens net hw root i hr hi hd) hne

/-- non-vacuity: the shared leaf 0: `(1/2)·(19/180)/(143/1800) = 95/143` (every path to leaf 0 goes through sum 5) -/
example : respLeaf (evalNet exRow [] exDag) (backward exDag (evalNet exRow [] exDag) 8) 8 0 = 1 - (2/75) / (143/1800) := by
  rw [respLeaf_is_mass_through_node exRow [] exDag exDag_wo 8 0 (by decide) (by decide) (exDag_decomp 0) exDag_root_ne]
  decide +kernel

/-- at a root sum node the weighted responsibilities add up to one on every row with non-zero likelihood:
`resp_root_sum_one` with its two hypotheses (`value[root]` is the node's weighted sum, `grads[root] = 1`) discharged
for the tables `evalNet` and `backward` -/
theorem resp_root_sums_to_one (e : Ev) (dens : List F) (net : Net F) (hw : WellOrdered net) (root : Nat)
    (hr : root < net.length) (hk : (net[root]).kind = .sum) (hne : (evalNet e dens net).getD root 0 ≠ 0) :
    wsum (net[root]).ws (respSum (evalNet e dens net) (backward net (evalNet e dens net) root) root root net[root])
      = 1 := by
  exact resp_root_sum_one _ _ root net[root]
    (evalNet_at_sum e dens net hw root net[root] (List.getElem?_eq_getElem hr) hk)
    (backward_root_one net _ hw root hr) hne

example : wsum (exDag[8]).ws (respSum (evalNet exRow [] exDag) (backward exDag (evalNet exRow [] exDag) 8) 8 8 exDag[8])
    = 1 :=
  resp_root_sums_to_one exRow [] exDag exDag_wo 8 (by decide) rfl exDag_root_ne

end resp

end Deeprob.C14
