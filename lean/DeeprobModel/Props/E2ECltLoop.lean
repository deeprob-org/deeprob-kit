import DeeprobModel.Props.E2EClt
import DeeprobModel.Oblig.Struct5Clt
set_option linter.unusedSectionVars false
/-
End-to-end corollaries for binary Chow-Liu trees, stated about the LOOPS extracted whole by tools/listprog.py:
`Gen.S5cltMessagePassing` (fragment `cltree.message_passing.loop`) and `Gen.S5cltMpeLoop` (`cltree.mpe.loop`) — the
traversal of `self.bfs`, the slot written, the slots read, the call of `self.message_passing` inside `mpe` with its keywords,
what is returned — instantiated on one row with the bodies of `Model/CltLoop.lean`, `self.bfs` = the generated breadth-first
order (`genBfsI`), linear-domain reading (`0 ↦ 1`, `+ ↦ *`).  The theorems of `Props/E2EClt.lean` are restated for these objects:

    source --(listprog K)--> S5 loop skeleton --(Struct5Clt.*_as_coded)--> S4 definitions --(E2EClt)--> specification.
-/
namespace Deeprob.E2ECltLoop
open Deeprob Deeprob.Clt Deeprob.E2EClt
open Deeprob.GraphIo (exTree exCpt exScope exEv exTree_wf exCpt_nonneg)

section defs
variable {α : Type} [CommSemiring α]

/-- `message_passing` of the object built from `tree` on ONE row: the GENERATED loop skeleton, `self.bfs` = the generated order -/
def loopMp (cpt : List (List (List α))) (tree : List Int) (r : Nat) (lse mx : List α → α)
    (x : List (Option Nat)) (obs : List Bool) (return_lls : Bool) (reduce : String) : List (List α) ⊕ Option α :=
  @CltLoop.messagePassing α ⟨1⟩ ⟨(· * ·)⟩ (params cpt) (r : Int) (genBfsI tree r) tree lse mx x obs return_lls reduce

theorem loopMp_messages (cpt : List (List (List α))) (tree : List Int) (r : Nat) (lse mx : List α → α)
    (x : List (Option Nat)) (obs : List Bool) (reduce : String) (hred : reduce = "mar" ∨ reduce = "mpe") :
    loopMp cpt tree r lse mx x obs false reduce = .inl (genMessages cpt tree r lse mx x obs reduce) :=
  @Oblig.Struct5Clt.msg_loop_as_coded α ⟨1⟩ ⟨(· * ·)⟩ (params cpt) (r : Int) (genBfsI tree r) tree lse mx [] 1 x obs reduce hred

theorem loopMp_value (cpt : List (List (List α))) (tree : List Int) (r : Nat) (lse mx : List α → α)
    (x : List (Option Nat)) (obs : List Bool) (reduce : String) (hred : reduce = "mar" ∨ reduce = "mpe") :
    loopMp cpt tree r lse mx x obs true reduce = .inr (genValue cpt tree r lse mx x obs reduce) :=
  @Oblig.Struct5Clt.msg_value_as_coded α ⟨1⟩ ⟨(· * ·)⟩ (params cpt) (r : Int) (genBfsI tree r) tree lse mx [] 1 x obs reduce hred

end defs

section semiring
variable {α : Type} [CommSemiring α]

/-- C02 for Chow-Liu trees, about the extracted LOOP: the value the generated loop of
`message_passing` (zeros, upward loop over `reversed(self.bfs[1:])` writing `messages[self.tree[j]]`, root step from
`messages[self.root]`) returns for a row with missing entries is the sum, over all completions of the missing variables of the
scope, of the tree's values at the completed rows. -/
theorem e2e_message_passing_marginal_loop (dom : Nat → Nat) (tree : List Int) (hwf : GraphIo.WellFormedPred tree)
    (scope : List Nat) (cpt : List (List (List α))) (hlen : scope.length = tree.length) (hnd : scope.Nodup)
    (hdom : ∀ v ∈ scope, dom v = 2) (e : Ev) (hbin : ∀ v ∈ scope, ∀ o, e v = some o → o < 2) (mx : List α → α) :
    ∃ r, GraphIo.rootIdx tree = some r ∧
      loopMp cpt tree r Struct4.sumL mx (rowList scope tree.length e)
          ((rowList scope tree.length e).map (fun o => !o.isNone)) true "mar" =
        .inr (some (sumOver dom scope e (fun e' => Clt.value scope tree cpt e'))) := by
  obtain ⟨r, hr, h⟩ := e2e_message_passing_marginal dom tree hwf scope cpt hlen hnd hdom e hbin mx
  exact ⟨r, hr, by rw [loopMp_value _ _ _ _ _ _ _ _ (Or.inl rfl), h]⟩

example : loopMp exCpt exTree 3 Struct4.sumL Struct4.maxL (rowList exScope exTree.length exEv)
      ((rowList exScope exTree.length exEv).map (fun o => !o.isNone)) true "mar" =
        .inr (some (sumOver (fun _ => 2) exScope exEv (fun e' => Clt.value exScope exTree exCpt e'))) := by
  obtain ⟨r, hr, h⟩ := e2e_message_passing_marginal_loop (fun _ => 2) exTree exTree_wf exScope exCpt rfl (by decide)
    (fun _ _ => rfl) exEv exEv_bin Struct4.maxL
  have : r = 3 := Option.some.inj (hr.symm.trans (by decide))
  subst this
  exact h

/-- … and the number the extracted loop computes on that row (evaluated by the kernel) -/
example : loopMp exCpt exTree 3 Struct4.sumL Struct4.maxL [none, none, some 1, none, none]
    ([none, none, some 1, none, none].map (fun o => !o.isNone)) true "mar" = .inr (some (3319 / 5000)) := by decide +kernel

end semiring

section maxprod
variable {α : Type} [CommSemiring α] [LinearOrder α] [IsStrictOrderedRing α]

/-- `BinaryCLT.mpe` of the object built from `tree` on ONE row: the GENERATED decoding loop with the GENERATED loop of
`message_passing` composed in (the call `self.message_passing(x, obs_mask, return_lls=False, reduce='mpe')` is part of the skeleton) -/
def loopMpe (cpt : List (List (List α))) (tree : List Int) (r : Nat) (lse mx : List α → α) (x : List (Option Nat)) :
    List (Option Nat) :=
  @CltLoop.mpe α ⟨1⟩ ⟨(· * ·)⟩ _ _ (params cpt) (r : Int) (genBfsI tree r) tree lse mx x

theorem loopMpe_eq (cpt : List (List (List α))) (tree : List Int) (r : Nat) (lse mx : List α → α) (x : List (Option Nat)) :
    loopMpe cpt tree r lse mx x = genMpe cpt tree r lse mx x :=
  @Oblig.Struct5Clt.mpe_composed_as_coded α ⟨1⟩ ⟨(· * ·)⟩ _ _ (params cpt) (r : Int) (genBfsI tree r) tree lse mx [] 1 x

/-- the `reduce='mpe'` instance: the `messages` array the generated loop returns with `np.max` as
the reduction holds, at every position `j` and for both values `k` of `j`, the product over the children of `j` of the max-product
messages `upMax`; in the form the decoding loop needs (`Struct4.MsgsOK`). -/
theorem e2e_message_passing_max_loop (tree : List Int) (hwf : GraphIo.WellFormedPred tree) (scope : List Nat)
    (cpt : List (List (List α))) (hc : ∀ i l k, 0 ≤ cptAt cpt i l k) (e : Ev)
    (hbin : ∀ j, j < tree.length → ∀ o, e (scope.getD j 0) = some o → o < 2) (lse : List α → α) :
    ∃ r M, GraphIo.rootIdx tree = some r ∧
      loopMp cpt tree r lse Struct4.maxL (rowList scope tree.length e)
          ((rowList scope tree.length e).map (fun o => !o.isNone)) false "mpe" = .inl M ∧
      (∀ j, j < tree.length → M.getD j [] =
          [lprod ((Clt.childrenOf tree j).map (fun d => upMax scope cpt (build tree tree.length d) 0 e)),
           lprod ((Clt.childrenOf tree j).map (fun d => upMax scope cpt (build tree tree.length d) 1 e))]) ∧
      Struct4.MsgsOK scope cpt e (build tree tree.length r)
        (CltLoop.msgsOf (loopMp cpt tree r lse Struct4.maxL (rowList scope tree.length e)
          ((rowList scope tree.length e).map (fun o => !o.isNone)) false "mpe")) := by
  obtain ⟨r, hr, hslots, hok⟩ := e2e_message_passing_max tree hwf scope cpt hc e hbin lse
  refine ⟨r, _, hr, loopMp_messages _ _ _ _ _ _ _ _ (Or.inr rfl), hslots, ?_⟩
  rw [loopMp_messages _ _ _ _ _ _ _ _ (Or.inr rfl)]
  exact hok

example : ∃ r M, GraphIo.rootIdx exTree = some r ∧
    loopMp exCpt exTree r Struct4.sumL Struct4.maxL (rowList exScope exTree.length exEv)
      ((rowList exScope exTree.length exEv).map (fun o => !o.isNone)) false "mpe" = .inl M ∧
    Struct4.MsgsOK exScope exCpt exEv (build exTree exTree.length r)
      (CltLoop.msgsOf (loopMp exCpt exTree r Struct4.sumL Struct4.maxL (rowList exScope exTree.length exEv)
        ((rowList exScope exTree.length exEv).map (fun o => !o.isNone)) false "mpe")) := by
  obtain ⟨r, M, hr, hM, _, h⟩ := e2e_message_passing_max_loop exTree exTree_wf exScope exCpt exCpt_nonneg exEv
    (bin_at rfl exEv_bin) Struct4.sumL
  exact ⟨r, M, hr, hM, h⟩

example : loopMp exCpt exTree 3 Struct4.sumL Struct4.maxL [none, none, some 1, none, none]
    ([none, none, some 1, none, none].map (fun o => !o.isNone)) false "mpe" =
      .inl [[27 / 100, 297 / 1000], [9 / 10, 1 / 2], [1, 1], [2079 / 10000, 81 / 500], [2 / 5, 27 / 50]] := by decide +kernel

/-- C06 for Chow-Liu trees, about the extracted LOOPS: for every well-formed tree, scope without
duplicates, non-negative tables and every row with binary observed entries, the row the generated `mpe` returns — copy, messages of
the generated `message_passing(…, return_lls=False, reduce='mpe')`, masked store at the root, generated loop over `self.bfs[1:]`
writing `x[j]` from `x[self.tree[j]]` —
(i) has the length of the input, (ii) keeps every observed entry, (iii) holds a value `< 2` at every position, (iv) is the model's
`Clt.mpe` entry by entry, and (v) ATTAINS THE MAXIMUM of the tree's value over all binary completions of the evidence. -/
theorem e2e_mpe_is_argmax_loop (tree : List Int) (hwf : GraphIo.WellFormedPred tree) (scope : List Nat)
    (cpt : List (List (List α))) (hc : ∀ i l k, 0 ≤ cptAt cpt i l k)
    (hlen : scope.length = tree.length) (hnd : scope.Nodup) (e : Ev)
    (hbin : ∀ v ∈ scope, ∀ o, e v = some o → o < 2) (lse : List α → α) :
    ∃ r, GraphIo.rootIdx tree = some r ∧
      (loopMpe cpt tree r lse Struct4.maxL (rowList scope tree.length e)).length = tree.length ∧
      (∀ j, j < tree.length → ∀ o, (rowList scope tree.length e).getD j none = some o →
        (loopMpe cpt tree r lse Struct4.maxL (rowList scope tree.length e)).getD j none = some o) ∧
      (∀ j, j < tree.length → ∃ k, k < 2 ∧
        (loopMpe cpt tree r lse Struct4.maxL (rowList scope tree.length e)).getD j none = some k) ∧
      (∀ j, j < tree.length →
        (loopMpe cpt tree r lse Struct4.maxL (rowList scope tree.length e)).getD j none =
          Clt.mpe scope tree cpt e (scope.getD j 0)) ∧
      (∀ X : Ev, (∀ v ∈ scope, e v ≠ none → X v = e v) → (∀ v ∈ scope, e v = none → ∃ k, k < 2 ∧ X v = some k) →
        Clt.value scope tree cpt X ≤
          Clt.value scope tree cpt (evOfRow scope (loopMpe cpt tree r lse Struct4.maxL (rowList scope tree.length e)))) := by
  simp only [loopMpe_eq]
  exact e2e_mpe_is_argmax tree hwf scope cpt hc hlen hnd e hbin lse

example : ∃ r, GraphIo.rootIdx exTree = some r ∧
    (∀ j, j < exTree.length → (loopMpe exCpt exTree r Struct4.sumL Struct4.maxL (rowList exScope exTree.length exEv)).getD j none =
        Clt.mpe exScope exTree exCpt exEv (exScope.getD j 0)) ∧
    (loopMpe exCpt exTree r Struct4.sumL Struct4.maxL (rowList exScope exTree.length exEv)).getD 2 none = some 1 := by
  obtain ⟨r, hr, _, hk, _, hd, _⟩ := e2e_mpe_is_argmax_loop exTree exTree_wf exScope exCpt exCpt_nonneg rfl (by decide) exEv
    exEv_bin Struct4.sumL
  exact ⟨r, hr, hd, hk 2 (by decide) 1 (by decide)⟩

/-- the completion the extracted loops return for that row (evaluated by the kernel): column 2 keeps its observed 1 -/
example : loopMpe exCpt exTree 3 Struct4.sumL Struct4.maxL [none, none, some 1, none, none] =
    [some 0, some 0, some 1, some 1, some 1] := by decide +kernel

end maxprod

end Deeprob.E2ECltLoop
