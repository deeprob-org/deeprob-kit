import DeeprobModel.Lemmas.KahnLemmas
import DeeprobModel.Props.C03
import DeeprobModel.Props.C06Net
import DeeprobModel.Props.C08WellOrdered
set_option linter.unusedVariables false
/-
Topological orders of /repo/deeprob/spn/structure/node.py as the code computes them:
`topological_order` (`Net.kahn`, Model/RewriteNet.lean), `topological_order_layered` (`Sched.layers`,
Model/Sched.lean) and `assign_ids` (`Net.assignIds`, Model/AssignIds.lean), on children-first tables
(`WellOrdered`: every child is stored before its parents — what the exporter produces and the driver
re-checks; it implies acyclicity). `kahn_sound` needs no acyclicity assumption: whatever table (children in
range) — if the code returns an ordering, it is a topological order of exactly the reachable nodes.

Witnesses: `C06.exNet` (9 nodes, root 8, node 4 and the leaves 0, 1, 2 shared). Its Kahn order
`8,5,6,7,3,4,0,1,2` differs from reverse storage order `8,7,…,0` and from BFS order `8,5,6,7,0,4,3,1,2`;
`Sched.exNet` is the plain diamond 3 → 1, 2 → 0.
-/
namespace Deeprob
namespace Topo
open Net Sched List TCirc C06

theorem exNet_kahn : kahn C06.exNet 8 = some [8, 5, 6, 7, 3, 4, 0, 1, 2] := by decide +kernel

theorem exNet_layers : Sched.layers C06.exNet 8 = some [[8], [5, 6, 7], [3, 4, 0], [1, 2]] := by decide +kernel

theorem exNet_root_lt : 8 < C06.exNet.length := by decide

theorem positions_of_noBack {β : Type} (net : Net β) (root : Nat) (hR : ReachOK net root (collect net root))
    (ord : List Nat) (hmem : ∀ v, v ∈ ord ↔ v ∈ collect net root)
    (hnb : ord.Pairwise (fun a b => a ∉ chOf net b)) (hns : ∀ a ∈ ord, a ∉ chOf net a) :
    ∀ p ∈ ord, ∀ c ∈ chOf net p, c ∈ ord ∧ ord.idxOf p < ord.idxOf c := by
  have hcl : ∀ p ∈ ord, ∀ c ∈ chOf net p, c ∈ ord :=
    fun p hp c hc => (hmem c).2 (hR.closed p ((hmem p).1 hp) c hc)
  exact fun p hp c hc => ⟨hcl p hp c hc, idx_lt_of_noBack net ord hcl hnb hns p c hp hc⟩

theorem topoOrd_of_spec {α : Type} [CommSemiring α] [LinearOrder α] (net : Net α) (root : Nat)
    (hw : WellOrdered net) (hr : root < net.length) (ord : List Nat) (hnd : ord.Nodup)
    (hmem : ∀ v, v ∈ ord ↔ v ∈ collect net root)
    (hnb : ord.Pairwise (fun a b => a ∉ chOf net b)) (hns : ∀ a ∈ ord, a ∉ chOf net a) :
    TopoOrd net ord ∧ root ∈ ord := by
  have hwo := chLt_of_wellOrdered net hw
  have hR := reachOK_of_inRange net root (inRange_of_chLt net hwo)
  refine ⟨topoOrd_of_noBack net ord hnd ?_ ?_ hnb hns, (hmem root).2 hR.root_mem⟩
  · exact fun v hv => lt_of_le_of_lt (collect_le_root net root hwo v ((hmem v).1 hv)) hr
  · exact fun p hp c hc => (hmem c).2 (hR.closed p ((hmem p).1 hp) c hc)

section general
variable {α : Type} [CommSemiring α]

/-- On a children-first table `topological_order(root)` returns an ordering (never
`None`), for every root row. -/
theorem kahn_some (net : Net α) (root : Nat) (hw : WellOrdered net) (hr : root < net.length) :
    ∃ ord, kahn net root = some ord :=
  kahn_some_of net root (chLt_of_wellOrdered net hw)

example : ∃ ord, kahn C06.exNet 8 = some ord := kahn_some C06.exNet 8 C06.exNet_wo exNet_root_lt

/-- the order the code uses on the witness: neither reverse storage order nor BFS order -/
example : kahn C06.exNet 8 = some [8, 5, 6, 7, 3, 4, 0, 1, 2] ∧
    [8, 5, 6, 7, 3, 4, 0, 1, 2] ≠ (List.range C06.exNet.length).reverse ∧
    [8, 5, 6, 7, 3, 4, 0, 1, 2] ≠ collect C06.exNet 8 :=
  ⟨exNet_kahn, by decide, by decide +kernel⟩

/-- the rejection branches of the model are reachable: a two-node cycle and a self loop are reported -/
example : kahn ([⟨0, .prod, [0], [1], [], .absent⟩, ⟨1, .prod, [0], [0], [], .absent⟩] : Net Nat) 1 = none ∧
    kahn ([⟨0, .leaf, [0], [], [], .absent⟩, ⟨1, .prod, [0], [2], [], .absent⟩, ⟨2, .prod, [0], [1, 0], [], .absent⟩,
      ⟨3, .prod, [0], [2], [], .absent⟩] : Net Nat) 3 = none := ⟨by decide +kernel, by decide +kernel⟩

/-- No acyclicity assumption (children reference table rows): an ordering returned by
`topological_order(root)` is duplicate-free, lists exactly the nodes of `collect_nodes(root)`, starts with
the root, and every child of a listed node is listed strictly later. In particular a returned ordering
certifies that the reachable part is acyclic. -/
theorem kahn_sound {β : Type} (net : Net β) (root : Nat) (hin : ∀ a, ∀ c ∈ chOf net a, c < net.length)
    (ord : List Nat) (hk : kahn net root = some ord) :
    ord.Nodup ∧ (∀ v, v ∈ ord ↔ v ∈ collect net root) ∧ ord.head? = some root ∧
      ∀ p ∈ ord, ∀ c ∈ chOf net p, c ∈ ord ∧ ord.idxOf p < ord.idxOf c := by
  obtain ⟨hnd, hmem, hhead, hnb, hns⟩ := kahn_spec net root hin ord hk
  exact ⟨hnd, hmem, hhead, positions_of_noBack net root (reachOK_of_inRange net root hin) ord hmem hnb hns⟩

/-- a table that is not stored children-first (root in row 0, shared leaf in row 3) -/
example : ∃ ord, kahn ([⟨0, .sum, [0], [2, 1], [1, 1], .absent⟩, ⟨1, .prod, [0], [3], [], .absent⟩,
      ⟨2, .prod, [0], [3], [], .absent⟩, ⟨3, .leaf, [0], [], [], .absent⟩] : Net Nat) 0 = some ord ∧ ord = [0, 2, 1, 3] :=
  ⟨_, by decide +kernel, rfl⟩

/-- The ordering is a permutation of `collect_nodes(root)` (every reachable node
exactly once) and its first element is the root. -/
theorem kahn_perm_collect (net : Net α) (root : Nat) (hw : WellOrdered net) (hr : root < net.length)
    (ord : List Nat) (hk : kahn net root = some ord) :
    ord.Perm (collect net root) ∧ ord.Nodup ∧ ord.head? = some root := by
  obtain ⟨hnd, hmem, hhead, _⟩ := kahn_spec net root (inRange_of_chLt net (chLt_of_wellOrdered net hw)) ord hk
  exact ⟨(perm_ext_iff_of_nodup hnd (collect_nodup net root)).2 hmem, hnd, hhead⟩

example : [8, 5, 6, 7, 3, 4, 0, 1, 2].Perm (collect C06.exNet 8) :=
  (kahn_perm_collect C06.exNet 8 C06.exNet_wo exNet_root_lt _ exNet_kahn).1

/-- Every child of a listed node is listed, at a strictly larger position. -/
theorem kahn_topological (net : Net α) (root : Nat) (hw : WellOrdered net) (hr : root < net.length)
    (ord : List Nat) (hk : kahn net root = some ord) :
    ∀ p ∈ ord, ∀ c ∈ chOf net p, c ∈ ord ∧ ord.idxOf p < ord.idxOf c :=
  (kahn_sound net root (inRange_of_chLt net (chLt_of_wellOrdered net hw)) ord hk).2.2.2

/-- node 5 (position 1) → shared node 4 (position 5); node 6 (position 2) → the same node 4 -/
example : [8, 5, 6, 7, 3, 4, 0, 1, 2].idxOf 5 < [8, 5, 6, 7, 3, 4, 0, 1, 2].idxOf 4 ∧
    [8, 5, 6, 7, 3, 4, 0, 1, 2].idxOf 6 < [8, 5, 6, 7, 3, 4, 0, 1, 2].idxOf 4 :=
  have h := kahn_topological C06.exNet 8 C06.exNet_wo exNet_root_lt _ exNet_kahn
  ⟨(h 5 (by decide) 4 (by decide)).2, (h 6 (by decide) 4 (by decide)).2⟩

end general

section mpe
variable {α : Type} [CommSemiring α] [LinearOrder α]

/-- The ordering satisfies `TopoOrd` — exactly the hypothesis of `C06.mpeNetOrd_refines`. -/
theorem kahn_topoOrd (net : Net α) (root : Nat) (hw : WellOrdered net) (hr : root < net.length)
    (ord : List Nat) (hk : kahn net root = some ord) : TopoOrd net ord ∧ root ∈ ord := by
  obtain ⟨hnd, hmem, _, hnb, hns⟩ :=
    kahn_spec net root (inRange_of_chLt net (chLt_of_wellOrdered net hw)) ord hk
  exact topoOrd_of_spec net root hw hr ord hnd hmem hnb hns

example : TopoOrd C06.exNet [8, 5, 6, 7, 3, 4, 0, 1, 2] :=
  (kahn_topoOrd C06.exNet 8 C06.exNet_wo exNet_root_lt _ exNet_kahn).1

/-- The top-down MPE pass over the stored table, visiting the nodes in the order
the code itself computes (`topological_order(root)`), exists (no "not a DAG" failure) and returns the
tree-level descent `mpeDescent` of the unfolding of the root. -/
theorem mpeNet_kahn_refines (dom : Nat → Nat) (net : Net α) (dens : List α) (isBern : Nat → Bool)
    (hw : WellOrdered net) (hok : ∀ i (x : NNode α), net[i]? = some x → NodeOK dom net dens i x)
    (root : Nat) (hr : root < net.length) (e : Ev) :
    ∃ ord, kahn net root = some ord ∧
      (mpeNetOrd ord e dens net root isBern).row = mpeDescent e (toTTree net dens isBern (root+1) root) := by
  obtain ⟨ord, hk⟩ := kahn_some net root hw hr
  obtain ⟨hto, hroot⟩ := kahn_topoOrd net root hw hr ord hk
  exact ⟨ord, hk, mpeNetOrd_refines dom net dens isBern hw hok ord hto root hroot e⟩

/-- the same, as an equation with the pass in reverse storage order used by the driver (`mpeNet`) -/
theorem mpeNet_kahn_eq_mpeNet (dom : Nat → Nat) (net : Net α) (dens : List α) (isBern : Nat → Bool)
    (hw : WellOrdered net) (hok : ∀ i (x : NNode α), net[i]? = some x → NodeOK dom net dens i x)
    (root : Nat) (hr : root < net.length) (e : Ev) (ord : List Nat) (hk : kahn net root = some ord) :
    (mpeNetOrd ord e dens net root isBern).row = mpeNet e dens net root isBern := by
  obtain ⟨hto, hroot⟩ := kahn_topoOrd net root hw hr ord hk
  rw [mpeNetOrd_refines dom net dens isBern hw hok ord hto root hroot e,
    mpeNet_refines dom net dens isBern hw hok root hr e]

example : ∃ ord, kahn C06.exNet 8 = some ord ∧
    (mpeNetOrd ord exE [] C06.exNet 8 exBern).row = mpeDescent exE (toTTree C06.exNet [] exBern 9 8) :=
  mpeNet_kahn_refines exDom C06.exNet [] exBern exNet_wo exNet_ok 8 exNet_root_lt exE

example : (mpeNetOrd [8, 5, 6, 7, 3, 4, 0, 1, 2] exE [] C06.exNet 8 exBern).row = mpeNet exE [] C06.exNet 8 exBern :=
  mpeNet_kahn_eq_mpeNet exDom C06.exNet [] exBern exNet_wo exNet_ok 8 exNet_root_lt exE _ exNet_kahn

end mpe

section layered
variable {α : Type} [CommSemiring α]

/-- On a children-first table `topological_order_layered(root)` returns layers (never
`None`): the fuel of the model is never exhausted and the final counter test passes. -/
theorem layers_some (net : Net α) (root : Nat) (hw : WellOrdered net) : Sched.layers net root ≠ none := by
  obtain ⟨L, hL⟩ := layers_some_of net root (chLt_of_wellOrdered net hw)
  rw [hL]; exact Option.some_ne_none L

theorem layers_some' (net : Net α) (root : Nat) (hw : WellOrdered net) : ∃ L, Sched.layers net root = some L :=
  layers_some_of net root (chLt_of_wellOrdered net hw)

example : Sched.layers C06.exNet 8 ≠ none := layers_some C06.exNet 8 C06.exNet_wo
example : Sched.layers C06.exNet 8 = some [[8], [5, 6, 7], [3, 4, 0], [1, 2]] := exNet_layers
example : Sched.layers Sched.exNet 3 ≠ none :=
  layers_some Sched.exNet 3 ((wellOrderedB_iff _).1 (by decide))

/-- The concatenation of the layers lists every reachable
node exactly once and every child strictly after each of its parents. (That parents lie in strictly
earlier layers is `Sched.layers_edge_lt_wo`.) -/
theorem layers_flatten_topological (net : Net α) (root : Nat) (hw : WellOrdered net)
    (L : List (List Nat)) (h : Sched.layers net root = some L) :
    L.flatten.Perm (collect net root) ∧
      ∀ p ∈ L.flatten, ∀ c ∈ chOf net p, c ∈ L.flatten ∧ L.flatten.idxOf p < L.flatten.idxOf c := by
  have hR := reachOK_of_wellOrdered net root hw
  obtain ⟨hnd, hmem, hnb⟩ := layers_spec net root L h hR
  obtain ⟨hpw, hns⟩ := noBack_flatten net L hnb
  exact ⟨(perm_ext_iff_of_nodup hnd (collect_nodup net root)).2 hmem,
    positions_of_noBack net root hR _ hmem hpw hns⟩

example : [8, 5, 6, 7, 3, 4, 0, 1, 2].Perm (collect C06.exNet 8) :=
  (layers_flatten_topological C06.exNet 8 C06.exNet_wo [[8], [5, 6, 7], [3, 4, 0], [1, 2]] exNet_layers).1

end layered

section layeredMpe
variable {α : Type} [CommSemiring α] [LinearOrder α]

/-- The concatenation of the layers satisfies `TopoOrd`. -/
theorem layers_flatten_topoOrd (net : Net α) (root : Nat) (hw : WellOrdered net) (hr : root < net.length)
    (L : List (List Nat)) (h : Sched.layers net root = some L) : TopoOrd net L.flatten ∧ root ∈ L.flatten := by
  obtain ⟨hnd, hmem, hnb⟩ := layers_spec net root L h (reachOK_of_wellOrdered net root hw)
  obtain ⟨hpw, hns⟩ := noBack_flatten net L hnb
  exact topoOrd_of_spec net root hw hr _ hnd hmem hpw hns

/-- The top-down pass executed layer by layer (the sequential reading of the
layer-parallel `eval_top_down`; within a layer C08 gives schedule independence) computes `mpeDescent` of
the unfolding. -/
theorem mpeNet_layers_refines (dom : Nat → Nat) (net : Net α) (dens : List α) (isBern : Nat → Bool)
    (hw : WellOrdered net) (hok : ∀ i (x : NNode α), net[i]? = some x → NodeOK dom net dens i x)
    (root : Nat) (hr : root < net.length) (e : Ev) :
    ∃ L, Sched.layers net root = some L ∧
      (mpeNetOrd L.flatten e dens net root isBern).row = mpeDescent e (toTTree net dens isBern (root+1) root) := by
  obtain ⟨L, hL⟩ := layers_some' net root hw
  obtain ⟨hto, hroot⟩ := layers_flatten_topoOrd net root hw hr L hL
  exact ⟨L, hL, mpeNetOrd_refines dom net dens isBern hw hok _ hto root hroot e⟩

example : TopoOrd C06.exNet [[8], [5, 6, 7], [3, 4, 0], [1, 2]].flatten :=
  (layers_flatten_topoOrd C06.exNet 8 C06.exNet_wo exNet_root_lt _ exNet_layers).1

example : ∃ L, Sched.layers C06.exNet 8 = some L ∧
    (mpeNetOrd L.flatten exE [] C06.exNet 8 exBern).row = mpeDescent exE (toTTree C06.exNet [] exBern 9 8) :=
  mpeNet_layers_refines exDom C06.exNet [] exBern exNet_wo exNet_ok 8 exNet_root_lt exE

end layeredMpe

section ids
variable {α : Type} [CommSemiring α]

/-- On a children-first table `assign_ids(root)` does not raise; afterwards
`is_labeled` accepts the node list of the root (`Net.isLabeled … = none`: ids of the reachable nodes are
exactly `0 .. n-1`), the root has id 0, the id of every reachable node is its position in
`topological_order(root)`, and neither the table length nor any children list changed. -/
theorem assignIds_labeled (net : Net α) (root : Nat) (hw : WellOrdered net) (hr : root < net.length) :
    ∃ net' ord, assignIds net root = some net' ∧ kahn net root = some ord ∧
      Net.isLabeled net' (collect net' root) = none ∧
      idOf net' root = 0 ∧
      (∀ v ∈ collect net root, idOf net' v = ord.idxOf v) ∧
      net'.length = net.length ∧ (∀ i, chOf net' i = chOf net i) ∧ collect net' root = collect net root := by
  have hwo := chLt_of_wellOrdered net hw
  have hin := inRange_of_chLt net hwo
  obtain ⟨ord, hk⟩ := kahn_some net root hw hr
  obtain ⟨hnd, hmem, hhead, _, _⟩ := kahn_spec net root hin ord hk
  have hlt : ∀ v ∈ ord, v < net.length := fun v hv =>
    lt_of_le_of_lt (collect_le_root net root hwo v ((hmem v).1 hv)) hr
  have hid : ∀ v ∈ collect net root, idOf (relabel net ord) v = ord.idxOf v :=
    fun v hv => idOf_relabel net ord v (hlt v ((hmem v).2 hv)) ((hmem v).2 hv)
  refine ⟨relabel net ord, ord, by unfold assignIds; rw [hk]; rfl, hk, ?_, ?_, hid, relabel_length net ord,
    chOf_relabel net ord, collect_relabel net ord root⟩
  · exact (isLabeled_iff_perm _ _).2 (relabel_ids_perm net root ord hnd hmem hlt)
  · rw [hid root (root_mem_collect net root)]
    cases ord with
    | nil => cases hhead
    | cons a rest => rw [Option.some.inj hhead]; exact idxOf_cons_self

/-- the witness carries storage indices as ids (`8` at the root); after `assign_ids` the ids are the
positions in the Kahn order `8,5,6,7,3,4,0,1,2` -/
example : C06.exNet.map (·.id) = [0, 1, 2, 3, 4, 5, 6, 7, 8] ∧
    ∃ net', assignIds C06.exNet 8 = some net' ∧ Net.isLabeled net' (collect net' 8) = none ∧
      net'.map (·.id) = [6, 7, 8, 4, 5, 1, 2, 3, 0] := by
  refine ⟨by decide +kernel, ?_⟩
  obtain ⟨net', ord, h1, h2, h3, _⟩ := assignIds_labeled C06.exNet 8 C06.exNet_wo exNet_root_lt
  have he : relabel C06.exNet [8, 5, 6, 7, 3, 4, 0, 1, 2] = net' := by
    unfold assignIds at h1
    rw [exNet_kahn] at h1
    exact Option.some.inj h1
  subst he
  exact ⟨_, h1, h3, by decide +kernel⟩

/-- a table whose ids are rejected by `is_labeled` (shared leaf and root both carry id 0) is accepted after `assign_ids` -/
example : Net.isLabeled C03.badIdNet (collect C03.badIdNet 5) = some "repeated" ∧
    ∃ net', assignIds C03.badIdNet 5 = some net' ∧ Net.isLabeled net' (collect net' 5) = none ∧ idOf net' 5 = 0 := by
  refine ⟨by decide +kernel, ?_⟩
  obtain ⟨net', ord, h1, _, h3, h4, _⟩ :=
    assignIds_labeled C03.badIdNet 5 ((wellOrderedB_iff _).1 (by decide)) (by simp [C03.badIdNet])
  exact ⟨net', h1, h3, h4⟩

end ids

end Topo
end Deeprob
