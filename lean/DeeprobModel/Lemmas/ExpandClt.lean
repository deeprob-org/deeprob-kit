import DeeprobModel.Lemmas.CltNetLemmas
set_option linter.unusedSectionVars false
/-
`expandWith` (Model/RewriteNetClt.lean): replacing every Chow-Liu leaf of a table by the table of its `to_pc()` keeps
the value of every node under every evidence (`xinv_final.val`) and produces a table that satisfies what
`marginalizeNetWith_eval` asks for (`TableOK`).
-/
namespace Deeprob
open Net Clt
variable {α : Type} [CommSemiring α]

/-- what is assumed of a Chow-Liu leaf: a rooted spanning tree over as many variables as the scope lists, the two rows
of the root's table equal (see `Clt.root_rows_needed`), every row of every conditional table sums to one -/
structure CltOK (scope : List Nat) (pred : List Int) (cpt : List (List (List α))) : Prop where
  tree : isTree pred = true
  len : scope.length = pred.length
  rootRows : ∀ r, rootOf pred = some r → ∀ k, cptAt cpt r 0 k = cptAt cpt r 1 k
  rows : ∀ r, rootOf pred = some r → ∀ j ∈ (build pred pred.length r).vars, ∀ l, l < 2 →
    cptAt cpt j l 0 + cptAt cpt j l 1 = 1

/-- `MargNodeOK` with Chow-Liu leaves allowed -/
def XNodeOK (net : Net α) (x : NNode α) : Prop :=
  match x.kind with
  | .sum => x.ch ≠ [] ∧ ∀ c ∈ x.ch, scopeEq (scopeOf net c) x.scope
  | .prod => scopeEq (x.ch.map (scopeOf net)).flatten x.scope
  | .leaf => (∃ v, x.scope = [v] ∧ ((∃ tbl, x.leaf = .cat v tbl) ∨ x.leaf = .ext v)) ∨
      (∃ pred cpt, x.leaf = .clt pred cpt ∧ CltOK x.scope pred cpt)

/-- the table of `to_pc()` of a well-formed Chow-Liu leaf -/
theorem toPcNet_spec (scope : List Nat) (pred : List Int) (cpt : List (List (List α))) (h : CltOK scope pred cpt) :
    2 ≤ (toPcNet scope pred cpt).length ∧ NoDens (toPcNet scope pred cpt) ∧ TableOK (toPcNet scope pred cpt) ∧
    (∀ (e : Ev) (dens : List α),
      nval e dens (toPcNet scope pred cpt) ((toPcNet scope pred cpt).length - 1) = Clt.value scope pred cpt e) ∧
    scopeEq (scopeOf (toPcNet scope pred cpt) ((toPcNet scope pred cpt).length - 1)) scope := by
  obtain ⟨r, hr, hp⟩ := isTree_lab_perm scope h.tree h.len
  have hT : toPcNet scope pred cpt = pcNet scope cpt (build pred pred.length r) := by
    unfold toPcNet; rw [hr]
  rw [hT]
  have S := pcNet_spec scope cpt (build pred pred.length r)
  have hlast : (pcNet scope cpt (build pred pred.length r)).length - 1
      = (pcNet scope cpt (build pred pred.length r)).length - 2 + 1 := by have := S.len; omega
  rw [hlast]
  refine ⟨S.len, S.noDens, S.ok (h.rows r hr), fun e dens => ?_, ?_⟩
  · rw [S.val e dens 1 (by omega), value_eq_up scope pred cpt hr]
    exact up_build_root_row scope cpt pred _ r e (h.rootRows r hr)
  · rw [S.sc 1 (by omega)]
    exact fun v => ((pcScope_perm scope _).trans hp).mem_iff

theorem expandWith_snoc (dens : List α) (a : Net α) (x : NNode α) :
    expandWith dens (a ++ [x]) = expandStep dens (expandWith dens a) x := by
  simp [expandWith, List.foldl_append]

theorem expandStep_clt (dens : List α) (st : Net α × List Nat × List α) (x : NNode α) (pred : List Int)
    (cpt : List (List (List α))) (hk : x.kind = .leaf) (hl : x.leaf = .clt pred cpt) :
    expandStep dens st x =
      (st.1 ++ shiftNet st.1.length (toPcNet x.scope pred cpt),
       st.2.1 ++ [st.1.length + ((toPcNet x.scope pred cpt).length - 1)],
       st.2.2 ++ List.replicate (toPcNet x.scope pred cpt).length 0) := by
  unfold expandStep; rw [hk, hl]

theorem expandStep_copy (dens : List α) (st : Net α × List Nat × List α) (x : NNode α)
    (h : x.kind ≠ .leaf ∨ ∀ pred cpt, x.leaf ≠ .clt pred cpt) :
    expandStep dens st x =
      (st.1 ++ [{ x with ch := x.ch.map (fun c => st.2.1.getD c 0) }], st.2.1 ++ [st.1.length],
       st.2.2 ++ [dens.getD st.2.1.length 0]) := by
  unfold expandStep
  split
  · rename_i pred cpt hk hl
    rcases h with h | h
    · exact absurd hk h
    · exact absurd hl (h pred cpt)
  · rfl

/-- invariant of the expansion after `k` nodes, for one evidence -/
structure XInv (net : Net α) (dens : List α) (e : Ev) (k : Nat) (t : Net α) (map : List Nat) (dens' : List α) :
    Prop where
  lm : map.length = k
  ld : dens'.length = t.length
  map_lt : ∀ i, i < k → map.getD i 0 < t.length
  ok : TableOK t
  val : ∀ i, i < k → nval e dens' t (map.getD i 0) = nval e dens (net.take k) i
  sc : ∀ i, i < k → scopeEq (scopeOf t (map.getD i 0)) (scopeOf net i)

/-- values of old entries survive appending to the table and to the densities -/
theorem nval_extend (e : Ev) (d1 d2 : List α) (a b : Net α) (hl : d1.length = a.length) (j : Nat) (hj : j < a.length) :
    nval e (d1 ++ d2) (a ++ b) j = nval e d1 a j := by
  rw [nval_append_lt e _ a b j hj]
  unfold nval
  rw [evalNet_dens_congr e (d1 ++ d2) d1 a (by
    intro i hi
    rw [List.getD_eq_getElem?_getD, List.getD_eq_getElem?_getD, List.getElem?_append_left (by omega)])]

/-- a node that is not a Chow-Liu leaf is an ordinary node -/
theorem XNodeOK.margNodeOK {net : Net α} {x : NNode α} (h : XNodeOK net x)
    (hclt : ¬ (x.kind = .leaf ∧ ∃ pred cpt, x.leaf = .clt pred cpt)) : MargNodeOK net x := by
  unfold XNodeOK at h
  unfold MargNodeOK
  cases hk : x.kind with
  | sum => rw [hk] at h; exact h
  | prod => rw [hk] at h; exact h
  | leaf =>
    rw [hk] at h
    rcases h with h | ⟨pred, cpt, hl, _⟩
    · exact h
    · exact absurd ⟨hk, pred, cpt, hl⟩ hclt

theorem getD_snoc_lt {β : Type} (l : List β) (a d : β) (i : Nat) (h : i < l.length) :
    (l ++ [a]).getD i d = l.getD i d := by
  rw [List.getD_eq_getElem?_getD, List.getD_eq_getElem?_getD, List.getElem?_append_left h]

theorem getD_snoc_eq {β : Type} (l : List β) (a d : β) : (l ++ [a]).getD l.length d = a := by
  rw [List.getD_eq_getElem?_getD, List.getElem?_concat_length]; rfl

theorem take_succ_snoc (net : Net α) (k : Nat) (x : NNode α) (hx : net[k]? = some x) :
    net.take (k+1) = net.take k ++ [x] := by
  rw [List.take_add_one, hx]; rfl

/-- one step of the invariant: a block `b` is stored behind the table and its entry `m` stands for node `k` -/
theorem XInv.extend {net : Net α} {dens : List α} {e : Ev} {k : Nat} {t : Net α} {map : List Nat} {dens' : List α}
    (I : XInv net dens e k t map dens') {x : NNode α} (hx : net[k]? = some x) (b : Net α) (d2 : List α) (m : Nat)
    (hd : d2.length = b.length) (hok : TableOK (t ++ b)) (hm : m < (t ++ b).length)
    (hval : nval e (dens' ++ d2) (t ++ b) m = nval e dens (net.take (k+1)) k)
    (hsc : scopeEq (scopeOf (t ++ b) m) x.scope) :
    XInv net dens e (k+1) (t ++ b) (map ++ [m]) (dens' ++ d2) := by
  have hk : k < net.length := (List.getElem?_eq_some_iff.1 hx).1
  have M_lt : ∀ i, i < k → (map ++ [m]).getD i 0 = map.getD i 0 :=
    fun i hi => getD_snoc_lt map m 0 i (by rw [I.lm]; exact hi)
  have M_k : (map ++ [m]).getD k 0 = m := by
    have := getD_snoc_eq map m 0
    rwa [I.lm] at this
  refine { lm := by rw [List.length_append, I.lm]; rfl,
           ld := by rw [List.length_append, List.length_append, I.ld, hd],
           map_lt := ?_, ok := hok, val := ?_, sc := ?_ }
  all_goals intro i hi; rcases Nat.lt_succ_iff_lt_or_eq.1 hi with h | rfl
  · rw [M_lt i h, List.length_append]; have := I.map_lt i h; omega
  · rw [M_k]; exact hm
  · rw [M_lt i h, nval_extend e dens' d2 t b I.ld _ (I.map_lt i h), take_succ_snoc net k x hx,
      nval_append_lt e dens _ _ i (by rw [List.length_take]; omega)]
    exact I.val i h
  · rw [M_k]; exact hval
  · rw [M_lt i h, scopeOf_append_left t b _ (I.map_lt i h)]; exact I.sc i h
  · rw [M_k, scopeOf_some net i x hx]; exact hsc

theorem xinv_step (net : Net α) (dens : List α) (e : Ev) (hw : WellOrdered net) (hs : NetSumOK net)
    (hn : ∀ (i : Nat) (x : NNode α), net[i]? = some x → XNodeOK net x)
    (k : Nat) (st : Net α × List Nat × List α) (x : NNode α) (hx : net[k]? = some x)
    (I : XInv net dens e k st.1 st.2.1 st.2.2) :
    XInv net dens e (k+1) (expandStep dens st x).1 (expandStep dens st x).2.1 (expandStep dens st x).2.2 := by
  obtain ⟨t, map, dens'⟩ := st
  simp only at I
  have hk : k < net.length := (List.getElem?_eq_some_iff.1 hx).1
  have hchk : ∀ c ∈ x.ch, c < k := hw k x hx
  have hxn := hn k x hx
  have htk : (net.take k).length = k := by rw [List.length_take]; omega
  have hnew : nval e dens (net.take (k+1)) k = evalNode e dens (evalNet e dens (net.take k)) x := by
    rw [take_succ_snoc net k x hx]
    have := nval_append_last e dens (net.take k) x
    rwa [htk] at this
  by_cases hclt : x.kind = .leaf ∧ ∃ pred cpt, x.leaf = .clt pred cpt
  · -- a Chow-Liu leaf: the table of its `to_pc()` is stored, its last entry stands for the leaf
    obtain ⟨hkl, pred, cpt, hl⟩ := hclt
    have hcok : CltOK x.scope pred cpt := by
      unfold XNodeOK at hxn
      rw [hkl] at hxn
      rcases hxn with ⟨v, _, h | h⟩ | ⟨p', c', h1, h2⟩
      · obtain ⟨tbl, h⟩ := h; rw [hl] at h; cases h
      · rw [hl] at h; cases h
      · rw [hl] at h1; cases h1; exact h2
    obtain ⟨T2, Tnd, Tok, Tval, Tsc⟩ := toPcNet_spec x.scope pred cpt hcok
    rw [expandStep_clt dens _ x pred cpt hkl hl]
    simp only
    generalize toPcNet x.scope pred cpt = T at T2 Tnd Tok Tval Tsc
    refine I.extend hx _ _ _ (by rw [List.length_replicate, shiftNet, List.length_map])
      (tableOK_append_shift t T I.ok Tok) (by rw [List.length_append, shiftNet, List.length_map]; omega) ?_ ?_
    · rw [hnew, nval_append_shift e _ (List.replicate T.length 0) t T (by
        intro j
        rw [List.getD_eq_getElem?_getD, List.getD_eq_getElem?_getD, List.getElem?_append_right (by rw [I.ld]; omega)]
        congr 2; rw [I.ld]; omega) _ (by omega), Tval]
      unfold evalNode
      rw [hkl, hl]
      rfl
    · rw [Nat.add_comm, scopeOf_append_shift]
      exact Tsc
  · -- any other node is copied with its children renamed
    have hcopy : x.kind ≠ .leaf ∨ ∀ pred cpt, x.leaf ≠ .clt pred cpt := by
      by_cases hkl : x.kind = .leaf
      · right; intro pred cpt hl; exact hclt ⟨hkl, pred, cpt, hl⟩
      · exact Or.inl hkl
    rw [expandStep_copy dens _ x hcopy]
    simp only
    have hchlt : ∀ c ∈ x.ch.map (fun c => map.getD c 0), c < t.length := fun c hc => by
      obtain ⟨c0, hc0, rfl⟩ := List.mem_map.1 hc
      exact I.map_lt c0 (hchk c0 hc0)
    refine I.extend hx [_] [_] t.length rfl
      (tableOK_snoc t _ I.ok hchlt (fun hks => by simpa using hs k x hx hks)
        (margNodeOK_rename net t x _ (fun c => map.getD c 0) rfl rfl rfl rfl (fun c hc => I.sc c (hchk c hc))
          (hxn.margNodeOK hclt)))
      (by rw [List.length_append]; exact Nat.lt_succ_self _) ?_ ?_
    · rw [hnew, nval_append_last]
      have hev : evalNet e (dens' ++ [dens.getD map.length 0]) t = evalNet e dens' t :=
        evalNet_dens_congr e _ dens' t (fun j hj => by
          rw [List.getD_eq_getElem?_getD, List.getElem?_append_left (by rw [I.ld]; exact hj),
            ← List.getD_eq_getElem?_getD])
      rw [hev]
      unfold evalNode
      have hd : (dens' ++ [dens.getD map.length 0]).getD (evalNet e dens' t).length 0
          = dens.getD (evalNet e dens (net.take k)).length 0 := by
        rw [evalNet_length, evalNet_length, htk, ← I.ld, getD_snoc_eq, I.lm]
      have hvals : (x.ch.map (fun c => map.getD c 0)).map (fun c => (evalNet e dens' t).getD c 0)
          = x.ch.map (fun c => (evalNet e dens (net.take k)).getD c 0) := by
        rw [List.map_map]
        exact List.map_congr_left (fun c hc => I.val c (hchk c hc))
      simp only
      rw [hd, hvals]
    · rw [scopeOf_snoc_self]
      exact scopeEq.rfl'

/-- the expansion keeps every value and produces a table fit for `marginalizeNetWith_eval` -/
theorem xinv_final (net : Net α) (dens : List α) (e : Ev) (hw : WellOrdered net) (hs : NetSumOK net)
    (hn : ∀ (i : Nat) (x : NNode α), net[i]? = some x → XNodeOK net x) :
    XInv net dens e net.length (expandWith dens net).1 (expandWith dens net).2.1 (expandWith dens net).2.2 := by
  have hpass : ∀ k, k ≤ net.length → XInv net dens e k (expandWith dens (net.take k)).1
      (expandWith dens (net.take k)).2.1 (expandWith dens (net.take k)).2.2 := by
    intro k
    induction k with
    | zero =>
      intro _
      simp only [List.take_zero, expandWith, List.foldl_nil]
      exact { lm := rfl, ld := rfl, map_lt := by intro i hi; omega, ok := tableOK_nil,
              val := by intro i hi; omega, sc := by intro i hi; omega }
    | succ k ih =>
      intro hk
      have hx : net[k]? = some net[k] := List.getElem?_eq_getElem (by omega)
      rw [take_succ_snoc net k _ hx, expandWith_snoc]
      exact xinv_step net dens e hw hs hn k _ _ hx (ih (by omega))
  have := hpass net.length (Nat.le_refl _)
  rwa [List.take_length] at this

/-- the expanded table and the index map do not depend on the supplied densities -/
theorem expandWith_indep (d1 d2 : List α) (net : Net α) :
    (expandWith d1 net).1 = (expandWith d2 net).1 ∧ (expandWith d1 net).2.1 = (expandWith d2 net).2.1 := by
  induction net using List.reverseRecOn with
  | nil => exact ⟨rfl, rfl⟩
  | append_singleton a x ih =>
    rw [expandWith_snoc, expandWith_snoc]
    obtain ⟨h1, h2⟩ := ih
    generalize expandWith d1 a = s1 at h1 h2
    generalize expandWith d2 a = s2 at h1 h2
    unfold expandStep
    split <;> simp [h1, h2]

end Deeprob
