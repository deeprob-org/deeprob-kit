import DeeprobModel.Model.Learn
import DeeprobModel.Model.LearnTerm
import DeeprobModel.Lemmas.LearnSlices
import DeeprobModel.Lemmas.LearnStep
import Mathlib.Data.List.Basic
import Mathlib.Data.List.Perm.Basic
import Mathlib.Tactic.Common
/-
Termination of the LearnSPN work-queue machine (`Model/Learn.lean`, `step` / `run`): the measure of
`Model/LearnTerm.lean` strictly decreases in every successful iteration; proper oracle answers are exactly
those on which an iteration does not stop with `.error`; hence the loop halts within `measure` iterations.
-/
namespace Deeprob.LearnTerm
open Deeprob.Learn List

theorem area_pos (t : Task) : 1 ≤ area t := by
  unfold area; exact Nat.mul_pos (by omega) (by omega)

theorem phase_le (t : Task) : phase t ≤ 2 := by
  unfold phase; split
  · omega
  · split <;> omega

theorem weight_pos (t : Task) : 1 ≤ weight t := by
  have := area_pos t; unfold weight; omega

@[simp] theorem qmeasure_nil : qmeasure [] = 0 := rfl

@[simp] theorem qmeasure_cons (t : Task) (q : List Task) : qmeasure (t :: q) = weight t + qmeasure q := by
  simp [qmeasure]

@[simp] theorem qmeasure_append (q r : List Task) : qmeasure (q ++ r) = qmeasure q + qmeasure r := by
  simp [qmeasure]

/-- the re-queue discipline (`appendleft` / `append`) is irrelevant for the measure -/
theorem qmeasure_requeue (f : Bool) (q : List Task) (t : Task) :
    qmeasure (requeue f q t) = weight t + qmeasure q := by
  unfold requeue; split
  · exact qmeasure_cons t q
  · rw [qmeasure_append, qmeasure_cons, qmeasure_nil]; omega

theorem measure_eq_zero (s : St) : measure s = 0 ↔ s.queue = [] := by
  unfold measure
  cases s.queue with
  | nil => simp
  | cons t q => have := weight_pos t; simp; omega

theorem measure_init (nRows nCols : Nat) (script : List Ans) (cfg : Cfg) :
    measure (init nRows nCols script) = B nRows nCols cfg := by
  have h : measure (init nRows nCols script)
      = 5 * (max (List.range nRows).length 1 * max (List.range nCols).length 1) - 4 + 1 + 0 := rfl
  have : 1 ≤ max nRows 1 * max nCols 1 := Nat.mul_pos (by omega) (by omega)
  rw [h, length_range, length_range]
  unfold B
  omega

theorem weight_lt_of_phase_lt (t u : Task) (ha : area u = area t) (hp : phase u < phase t) :
    weight u < weight t := by
  unfold weight
  rw [ha]
  exact Nat.add_lt_add_left hp _

theorem weight_lt_of_area_lt (t u : Task) (h : area u < area t) : weight u < weight t := by
  have := phase_le u
  have := area_pos u
  unfold weight; omega

/-- fresh tasks have phase 2, i.e. weight `5·area − 2` -/
theorem qmeasure_fresh (nt : List Task) (hph : ∀ u ∈ nt, phase u = 2) :
    qmeasure nt + 2 * nt.length = 5 * (nt.map area).sum := by
  induction nt with
  | nil => rfl
  | cons u nt ih =>
    have := ih (fun v hv => hph v (mem_cons_of_mem _ hv))
    have := area_pos u
    rw [qmeasure_cons, length_cons, map_cons, sum_cons, weight, hph u mem_cons_self]
    omega

theorem sum_area_slices {β : Type} (sl : List (List β)) (hne : ∀ r ∈ sl, r ≠ []) (C : Nat) :
    (sl.map fun r => max r.length 1 * C).sum = (sl.map length).sum * C := by
  induction sl with
  | nil => simp
  | cons r sl ih =>
    have : max r.length 1 = r.length := Nat.max_eq_left (length_pos_iff.2 (hne r mem_cons_self))
    simp only [map_cons, sum_cons, this, Nat.add_mul, ih (fun x hx => hne x (mem_cons_of_mem _ hx))]

/-- the fresh sub-tasks `f r` of a split of `t` into `k ≠ 1` non-empty slices `r` along one dimension (`C`
items in the other) weigh less than `t`: `Σ (5·aᵢ − 2) = 5·Σ aᵢ − 2k ≤ 5·area t − 4` for `k ≥ 2` -/
theorem qmeasure_split_lt (t : Task) (f : List Nat → Task) (sl : List (List Nat)) (C : Nat)
    (hne : ∀ r ∈ sl, r ≠ []) (hk : sl.length ≠ 1) (hp : 1 ≤ phase t) (hph : ∀ r, phase (f r) = 2)
    (hf : ∀ r, area (f r) = max r.length 1 * C) (harea : (sl.map length).sum * C ≤ area t) :
    qmeasure (sl.map f) < weight t := by
  have key := qmeasure_fresh (sl.map f) (forall_mem_map.2 fun r _ => hph r)
  rw [map_map, length_map] at key
  simp only [Function.comp_def, hf] at key
  rw [sum_area_slices sl hne] at key
  have := area_pos t
  unfold weight
  cases sl with
  | nil => rw [map_nil, qmeasure_nil]; omega
  | cons a sl =>
    cases sl with
    | nil => exact absurd rfl hk
    | cons b sl => simp only [length_cons] at key; omega

/-- a split is selected only while `no_rows_split` is unset; `no_cols_split`/`is_first` decide which -/
theorem phase_of_selectOp (cfg : Cfg) (t : Task) (zv : List Bool) :
    (selectOp cfg t zv = .splitRows → phase t = 1) ∧ (selectOp cfg t zv = .splitCols → phase t = 2) := by
  unfold selectOp phase
  by_cases h1 : zv.all id = true
  · rw [if_pos h1]; exact ⟨nofun, nofun⟩
  rw [if_neg h1]
  by_cases h2 : zv.any id = true
  · rw [if_pos h2]; exact ⟨nofun, nofun⟩
  rw [if_neg h2]
  cases t.noRowsSplit with
  | true => exact ⟨nofun, nofun⟩
  | false =>
    by_cases h3 :
        (false || decide (t.scope.length < cfg.minCols) || decide (t.rows.length < cfg.minRows)) = true
    · rw [if_pos h3]; exact ⟨nofun, nofun⟩
    rw [if_neg h3]
    by_cases h4 : (t.noColsSplit || t.isFirst) = true
    · rw [if_pos h4]; exact ⟨fun _ => by rw [if_neg Bool.false_ne_true, if_pos h4], nofun⟩
    · rw [if_neg h4]; exact ⟨nofun, fun _ => by rw [if_neg Bool.false_ne_true, if_neg h4]⟩

theorem _root_.Deeprob.Learn.Step.measure_lt {cfg : Cfg} {s s' : St} {t : Task} {q : List Task}
    (hq : s.queue = t :: q) (h : Step cfg s t q s') : measure s' < measure s := by
  have hm : measure s = weight t + qmeasure q := by unfold measure; rw [hq, qmeasure_cons]
  have hw := weight_pos t
  have hattach : ∀ sc x extra nt, measure (attach s t q sc x extra nt) = qmeasure q + qmeasure nt :=
    fun _ _ _ _ => qmeasure_append q _
  have hretry : ∀ sc (t' : Task), weight t' < weight t →
      measure { s with queue := requeue cfg.front q t', script := sc } < measure s := by
    intro sc t' hlt
    rw [hm, measure, qmeasure_requeue]
    omega
  cases h with
  | naive | leaf => rw [hattach, hm, qmeasure_nil]; omega
  | @rem pos _ h =>
    -- fewer (but still some) columns, same rows; the flags are reset
    obtain ⟨htrue, hfalse⟩ := selectOp_rem cfg t _ h.op_eq
    have hlen := length_zvMask pos t.scope.length
    have h1 := length_pos_iff.2 (selectBy_ne_nil hlen true htrue)
    have h2 := length_pos_iff.2 (selectBy_ne_nil hlen false hfalse)
    have h3 := (selectBy_perm hlen).length_eq
    rw [length_append] at h3
    have hcols : max (selectBy (zvMask pos t.scope.length) t.scope false).length 1 < max t.scope.length 1 := by
      omega
    have := weight_lt_of_area_lt t
      { parent := s.size, rows := t.rows, scope := selectBy (zvMask pos t.scope.length) t.scope false,
        isFirst := t.isFirst && q.isEmpty }
      ((Nat.mul_lt_mul_left (Nat.lt_of_lt_of_le Nat.one_pos (Nat.le_max_right _ 1))).2 hcols)
    rw [hattach, hm, qmeasure_cons, qmeasure_nil]
    omega
  | rowsRetry h =>
    have hph := (phase_of_selectOp cfg t _).1 h.op_eq
    exact hretry _ _ (weight_lt_of_phase_lt t _ rfl (hph ▸ Nat.one_pos))
  | colsRetry h =>
    have hph := (phase_of_selectOp cfg t _).2 h.op_eq
    exact hretry _ _ (weight_lt_of_phase_lt t _ rfl (hph ▸ Nat.lt_succ_self 1))
  | @rowsSplit _ labels _ h hlen hk =>
    have := qmeasure_split_lt t (fun r => { parent := s.size, rows := r, scope := t.scope }) _
      (max t.scope.length 1) (slicesOf_ne_nil hlen) hk
      (Nat.le_of_eq ((phase_of_selectOp cfg t _).1 h.op_eq).symm) (fun _ => rfl) (fun _ => rfl)
      (by rw [sum_length_slicesOf hlen]; exact Nat.mul_le_mul_right _ (Nat.le_max_left _ _))
    rw [hattach, hm]
    omega
  | @colsSplit _ labels _ h hlen hk =>
    have := qmeasure_split_lt t (fun c => { parent := s.size, rows := t.rows, scope := c }) _
      (max t.rows.length 1) (slicesOf_ne_nil hlen) hk
      ((phase_of_selectOp cfg t _).2 h.op_eq ▸ Nat.le_succ 1) (fun _ => rfl) (fun _ => Nat.mul_comm _ _)
      (by rw [sum_length_slicesOf hlen, Nat.mul_comm]
          exact Nat.mul_le_mul_left _ (Nat.le_max_left _ _))
    rw [hattach, hm]
    omega

/-- Every successful iteration from a state with a non-empty deque strictly decreases
the measure — whatever the oracle answered and whatever the hyper-parameters and the re-queue discipline. -/
theorem step_decreases (cfg : Cfg) (s s' : St) (hq : s.queue ≠ []) (h : step cfg s = .ok s') :
    measure s' < measure s := by
  cases hq' : s.queue with
  | nil => exact absurd hq' hq
  | cons t q => exact ((step_ok_iff hq').1 h).measure_lt hq'

/-- `a` is an answer a splitter / the variance test may legitimately give for the task
`t`: zero-variance positions index columns of the slice, a row splitter returns one label per row, a column
splitter one label per column. (Whether a split "succeeds" is then decided by `step` exactly as the code
does: `len(slices) == 1`, i.e. a single distinct label, is a failure — see `splitFails_iff`.) -/
def ProperAns (t : Task) : Ans → Prop
  | .zeroVar pos => ∀ i ∈ pos, i < t.scope.length
  | .rows labels => labels.length = t.rows.length
  | .cols labels => labels.length = t.scope.length

instance (t : Task) (a : Ans) : Decidable (ProperAns t a) := by
  cases a <;> unfold ProperAns <;> infer_instance

/-- the verdict of `step` on a label array: single cluster ⇔ failure -/
def splitFails (labels : List Int) : Bool := (uniqSorted labels).length == 1

theorem splitFails_iff {β : Type} (labels : List Int) (items : List β) :
    (slicesOf labels items).length = 1 ↔ splitFails labels = true := by
  simp [slicesOf, splitFails]

/-- for a non-empty label array "not a single cluster" means at least two distinct labels -/
theorem two_labels_of_not_fails (labels : List Int) (hne : labels ≠ []) (h : splitFails labels = false) :
    2 ≤ (uniqSorted labels).length := by
  have h0 : uniqSorted labels ≠ [] := by
    obtain ⟨x, hx⟩ := exists_mem_of_ne_nil labels hne
    exact ne_nil_of_mem ((mem_uniqSorted x labels).2 hx)
  have := length_pos_iff.2 h0
  simp [splitFails] at h
  omega

/-- what `step` reads after the zero-variance answer, given the selected operation -/
def ProperNext (t : Task) : Op → List Ans → Prop
  | .splitRows, sc => match sc with
    | .rows l :: _ => ProperAns t (.rows l)
    | _ => False
  | .splitCols, sc => match sc with
    | .cols l :: _ => ProperAns t (.cols l)
    | _ => False
  | _, _ => True

instance (t : Task) (op : Op) (sc : List Ans) : Decidable (ProperNext t op sc) := by
  cases op <;> simp only [ProperNext] <;> (try split) <;> infer_instance

/-- the script answers the one or two questions the iteration on task `t`
asks (`np.var` first, then — only if the cascade selects a split — the splitter), each with an answer of the
right kind that is proper for `t`. -/
def ProperHead (cfg : Cfg) (t : Task) : List Ans → Prop
  | .zeroVar pos :: sc =>
      ProperAns t (.zeroVar pos) ∧ ProperNext t (selectOp cfg t (zvMask pos t.scope.length)) sc
  | _ => False

instance (cfg : Cfg) (t : Task) (sc : List Ans) : Decidable (ProperHead cfg t sc) := by
  unfold ProperHead; split <;> infer_instance

/-- the number of script entries one iteration consumes -/
def consumed (cfg : Cfg) (t : Task) : List Ans → Nat
  | .zeroVar pos :: _ =>
      match selectOp cfg t (zvMask pos t.scope.length) with
      | .splitRows => 2
      | .splitCols => 2
      | _ => 1
  | _ => 0

theorem properHead_cons {cfg : Cfg} {t : Task} {sc : List Ans} (h : ProperHead cfg t sc) :
    ∃ pos rest, sc = .zeroVar pos :: rest ∧ (∀ i ∈ pos, i < t.scope.length) ∧
      ProperNext t (selectOp cfg t (zvMask pos t.scope.length)) rest := by
  cases sc with
  | nil => exact h.elim
  | cons a rest =>
    cases a with
    | zeroVar pos => exact ⟨pos, rest, rfl, h.1, h.2⟩
    | rows l => exact h.elim
    | cols l => exact h.elim

theorem properNext_rows {t : Task} {sc : List Ans} (h : ProperNext t .splitRows sc) :
    ∃ l rest, sc = .rows l :: rest ∧ l.length = t.rows.length := by
  cases sc with
  | nil => exact h.elim
  | cons a rest =>
    cases a with
    | rows l => exact ⟨l, rest, rfl, h⟩
    | zeroVar pos => exact h.elim
    | cols l => exact h.elim

theorem properNext_cols {t : Task} {sc : List Ans} (h : ProperNext t .splitCols sc) :
    ∃ l rest, sc = .cols l :: rest ∧ l.length = t.scope.length := by
  cases sc with
  | nil => exact h.elim
  | cons a rest =>
    cases a with
    | cols l => exact ⟨l, rest, rfl, h⟩
    | zeroVar pos => exact h.elim
    | rows l => exact h.elim

theorem step_of_proper {cfg : Cfg} {t : Task} (s : St) (q : List Task) (hp : ProperHead cfg t s.script) :
    ∃ s', Step cfg s t q s' := by
  obtain ⟨pos, sc, hsc, hpos, hnext⟩ := properHead_cons hp
  cases hop : selectOp cfg t (zvMask pos t.scope.length) with
  | splitNaive => exact ⟨_, .naive ⟨hsc, hpos, hop⟩⟩
  | remFeatures => exact ⟨_, .rem ⟨hsc, hpos, hop⟩⟩
  | createLeaf => exact ⟨_, .leaf ⟨hsc, hpos, hop⟩⟩
  | splitRows =>
    rw [hop] at hnext
    obtain ⟨l, rest, rfl, hlen⟩ := properNext_rows hnext
    by_cases h1 : (slicesOf l t.rows).length = 1
    · exact ⟨_, .rowsRetry ⟨hsc, hpos, hop⟩ hlen h1⟩
    · exact ⟨_, .rowsSplit ⟨hsc, hpos, hop⟩ hlen h1⟩
  | splitCols =>
    rw [hop] at hnext
    obtain ⟨l, rest, rfl, hlen⟩ := properNext_cols hnext
    by_cases h1 : (slicesOf l t.scope).length = 1
    · exact ⟨_, .colsRetry ⟨hsc, hpos, hop⟩ hlen h1⟩
    · exact ⟨_, .colsSplit ⟨hsc, hpos, hop⟩ hlen h1⟩

theorem _root_.Deeprob.Learn.Reads.proper {cfg : Cfg} {s : St} {t : Task} {pos : List Nat} {op : Op}
    {sc : List Ans} (h : Reads cfg s t pos op sc) (hn : ProperNext t op sc) : ProperHead cfg t s.script := by
  rw [h.script]
  exact ⟨h.inRange, h.op_eq ▸ hn⟩

/-- conversely: the iteration succeeds only on a proper head — `ProperHead` is exactly "the machine does not
stop with `.error`", nothing more is assumed of the oracle -/
theorem proper_of_step {cfg : Cfg} {s s' : St} {t : Task} {q : List Task} (h : Step cfg s t q s') :
    ProperHead cfg t s.script := by
  cases h with
  | naive h | rem h | leaf h => exact h.proper trivial
  | rowsRetry h hlen | rowsSplit h hlen | colsRetry h hlen | colsSplit h hlen => exact h.proper hlen

theorem _root_.Deeprob.Learn.Step.script {cfg : Cfg} {s s' : St} {t : Task} {q : List Task} (h : Step cfg s t q s') :
    s'.script = s.script.drop (consumed cfg t s.script) := by
  cases h with
  | naive h | rem h | leaf h | rowsRetry h | rowsSplit h | colsRetry h | colsSplit h =>
    rw [h.script, consumed, h.op_eq]; rfl

theorem consumed_le (cfg : Cfg) (t : Task) (sc : List Ans) : consumed cfg t sc ≤ 2 := by
  unfold consumed; split
  · split <;> omega
  · omega

theorem _root_.Deeprob.Learn.Step.script_lt {cfg : Cfg} {s s' : St} {t : Task} {q : List Task} (h : Step cfg s t q s') :
    s'.script.length < s.script.length := by
  cases h with
  | naive h | rem h | leaf h => rw [h.script]; exact Nat.lt_succ_self _
  | rowsRetry h | rowsSplit h | colsRetry h | colsSplit h =>
    rw [h.script]; exact Nat.lt_succ_of_lt (Nat.lt_succ_self _)

theorem step_ok_of_proper (cfg : Cfg) (s : St) (t : Task) (q : List Task) (hq : s.queue = t :: q)
    (hp : ProperHead cfg t s.script) :
    ∃ s', step cfg s = .ok s' ∧ s'.script = s.script.drop (consumed cfg t s.script) := by
  obtain ⟨s', h⟩ := step_of_proper s q hp
  exact ⟨s', (step_ok_iff hq).2 h, h.script⟩

/-- during the first `n` iterations from `s`, every consultation of the script is
answered (the script has not run out) by proper answers of the kind asked for. -/
def ProperRun (cfg : Cfg) : Nat → St → Prop
  | 0, _ => True
  | n+1, s =>
    match s.queue with
    | [] => True
    | t :: _ => ProperHead cfg t s.script ∧ ∀ s', step cfg s = .ok s' → ProperRun cfg n s'

instance properRunDec (cfg : Cfg) : (n : Nat) → (s : St) → Decidable (ProperRun cfg n s)
  | 0, _ => isTrue trivial
  | n+1, s =>
    match hq : s.queue with
    | [] => isTrue (by unfold ProperRun; rw [hq]; trivial)
    | t :: q =>
      if hp : ProperHead cfg t s.script then
        match hs : step cfg s with
        | .ok s' =>
          match properRunDec cfg n s' with
          | isTrue h => isTrue (by
              unfold ProperRun; rw [hq]
              refine ⟨hp, ?_⟩
              intro s'' h''; rw [hs] at h''; cases h''; exact h)
          | isFalse h => isFalse (by
              unfold ProperRun; rw [hq]
              intro hh; exact h (hh.2 s' hs))
        | .error e => isFalse (by
            intro _
            obtain ⟨s1, h1, _⟩ := step_ok_of_proper cfg s t q hq hp
            rw [hs] at h1; cases h1)
      else isFalse (by unfold ProperRun; rw [hq]; intro hh; exact hp hh.1)

theorem properRun_queue_nil (cfg : Cfg) (n : Nat) (s : St) (hq : s.queue = []) : ProperRun cfg n s := by
  cases n with
  | zero => trivial
  | succ n => unfold ProperRun; rw [hq]; trivial

theorem properRun_succ {cfg : Cfg} {n : Nat} {s : St} {t : Task} {q : List Task} (hq : s.queue = t :: q) :
    ProperRun cfg (n + 1) s ↔ ∃ s1, Step cfg s t q s1 ∧ ProperRun cfg n s1 := by
  rw [ProperRun, hq]
  constructor
  · rintro ⟨hp, hall⟩
    obtain ⟨s1, h1⟩ := step_of_proper s q hp
    exact ⟨s1, h1, hall s1 ((step_ok_iff hq).2 h1)⟩
  · rintro ⟨s1, h1, hp1⟩
    refine ⟨proper_of_step h1, fun s' hs' => ?_⟩
    rw [(step_ok_iff hq).2 h1] at hs'
    cases hs'
    exact hp1

theorem _root_.Deeprob.Learn.Steps.measure_le {cfg : Cfg} {k : Nat} {s s' : St} (hS : Steps cfg k s s') :
    k + measure s' ≤ measure s := by
  induction hS with
  | refl => omega
  | cons hq h _ ih => have := h.measure_lt hq; omega

theorem _root_.Deeprob.Learn.Steps.script_le {cfg : Cfg} {k : Nat} {s s' : St} (hS : Steps cfg k s s') :
    k + s'.script.length ≤ s.script.length := by
  induction hS with
  | refl => omega
  | cons _ h _ ih => have := h.script_lt; omega

/-- the counted iterations are paid for by the measure -/
theorem runCount_le (cfg : Cfg) : ∀ (n : Nat) (s s' : St) (k : Nat), runCount cfg n s = .ok (s', k) →
    k + measure s' ≤ measure s
  | n, s, s', k, h => (steps_of_runCount cfg n s s' k h).1.measure_le

/-- **termination of the machine**: if the first `n` iterations are answered properly and `n` is at least the
measure, the deque is empty after `k ≤ measure s` iterations — never "script exhausted", never an error. -/
theorem steps_of_properRun (cfg : Cfg) (n : Nat) (s : St) (hp : ProperRun cfg n s) (hm : measure s ≤ n) :
    ∃ s' k, Steps cfg k s s' ∧ s'.queue = [] ∧ k ≤ measure s := by
  induction n generalizing s with
  | zero => exact ⟨s, 0, .refl s, (measure_eq_zero s).1 (by omega), Nat.zero_le _⟩
  | succ n ih =>
    cases hq : s.queue with
    | nil => exact ⟨s, 0, .refl s, hq, Nat.zero_le _⟩
    | cons t q =>
      obtain ⟨s1, h1, hp1⟩ := (properRun_succ hq).1 hp
      have hd := h1.measure_lt hq
      obtain ⟨s2, k2, hS, hq2, hk2⟩ := ih s1 hp1 (by omega)
      exact ⟨s2, k2 + 1, .cons hq h1 hS, hq2, by omega⟩

theorem properRun_le (cfg : Cfg) (n m : Nat) (s : St) (h : ProperRun cfg m s) (hnm : n ≤ m) :
    ProperRun cfg n s := by
  induction n generalizing m s with
  | zero => trivial
  | succ n ih =>
    obtain ⟨m, rfl⟩ := Nat.exists_eq_succ_of_ne_zero (Nat.ne_of_gt (Nat.lt_of_lt_of_le n.succ_pos hnm))
    cases hq : s.queue with
    | nil => exact properRun_queue_nil cfg _ s hq
    | cons t q =>
      obtain ⟨s1, h1, hp1⟩ := (properRun_succ hq).1 h
      exact (properRun_succ hq).2 ⟨s1, h1, ih m s1 hp1 (Nat.le_of_succ_le_succ hnm)⟩

theorem properRun_of_steps {cfg : Cfg} {k : Nat} {s s' : St} (hS : Steps cfg k s s') (hq' : s'.queue = []) :
    ∀ n, ProperRun cfg n s := by
  induction hS with
  | refl s => exact fun n => properRun_queue_nil cfg n s hq'
  | cons hq h _ ih =>
    intro n
    cases n with
    | zero => trivial
    | succ n => exact (properRun_succ hq).2 ⟨_, h, ih hq' n⟩

theorem _root_.Deeprob.Learn.Reads.append {cfg : Cfg} {s : St} {t : Task} {pos : List Nat} {op : Op}
    {sc : List Ans} (h : Reads cfg s t pos op sc) (extra : List Ans) :
    Reads cfg { s with script := s.script ++ extra } t pos op (sc ++ extra) :=
  ⟨by rw [h.script]; rfl, h.inRange, h.op_eq⟩

theorem _root_.Deeprob.Learn.Step.append {cfg : Cfg} {s s' : St} {t : Task} {q : List Task} (h : Step cfg s t q s')
    (extra : List Ans) :
    Step cfg { s with script := s.script ++ extra } t q { s' with script := s'.script ++ extra } := by
  cases h with
  | naive h => exact .naive (h.append extra)
  | rem h => exact .rem (h.append extra)
  | leaf h => exact .leaf (h.append extra)
  | rowsRetry h hlen h1 => exact .rowsRetry (h.append extra) hlen h1
  | rowsSplit h hlen hk => exact .rowsSplit (h.append extra) hlen hk
  | colsRetry h hlen h1 => exact .colsRetry (h.append extra) hlen h1
  | colsSplit h hlen hk => exact .colsSplit (h.append extra) hlen hk

theorem properNext_append_iff (t : Task) (op : Op) (b : Ans) (r e : List Ans) :
    ProperNext t op (b :: r ++ e) ↔ ProperNext t op (b :: r) := by
  cases op <;> cases b <;> exact Iff.rfl

theorem properRun_append (cfg : Cfg) (extra : List Ans) (n : Nat) (s : St) (h : ProperRun cfg n s) :
    ProperRun cfg n { s with script := s.script ++ extra } := by
  induction n generalizing s with
  | zero => trivial
  | succ n ih =>
    obtain ⟨nodes, queue, script⟩ := s
    cases queue with
    | nil => exact properRun_queue_nil cfg _ _ rfl
    | cons t q =>
      obtain ⟨s1, h1, hp1⟩ := (properRun_succ rfl).1 h
      exact (properRun_succ rfl).2 ⟨_, h1.append extra, ih s1 hp1⟩

/-- like `ProperHead`, but a script that has run out is not blamed: every entry that is consulted has the
right kind and is proper -/
def ProperHeadE (cfg : Cfg) (t : Task) : List Ans → Prop
  | [] => True
  | .zeroVar pos :: sc =>
      ProperAns t (.zeroVar pos) ∧ (sc = [] ∨ ProperNext t (selectOp cfg t (zvMask pos t.scope.length)) sc)
  | _ => False

/-- every entry of the script that the first `n` iterations consult is of the kind asked for and proper -/
def ProperRunE (cfg : Cfg) : Nat → St → Prop
  | 0, _ => True
  | n+1, s =>
    match s.queue with
    | [] => True
    | t :: _ => ProperHeadE cfg t s.script ∧ ∀ s', step cfg s = .ok s' → ProperRunE cfg n s'

theorem properHead_of_E (cfg : Cfg) (t : Task) (sc : List Ans) (h : ProperHeadE cfg t sc)
    (hl : 2 ≤ sc.length) : ProperHead cfg t sc := by
  cases sc with
  | nil => simp at hl
  | cons a sc =>
    cases a with
    | rows l => exact h.elim
    | cols l => exact h.elim
    | zeroVar pos =>
      refine ⟨h.1, h.2.resolve_left ?_⟩
      rintro rfl
      simp at hl

theorem properHeadE_of_append {cfg : Cfg} {t : Task} (sc extra : List Ans) (h : ProperHead cfg t (sc ++ extra)) :
    ProperHeadE cfg t sc := by
  cases sc with
  | nil => trivial
  | cons a sc =>
    obtain ⟨pos, rest, hsc, hpos, hnext⟩ := properHead_cons h
    obtain ⟨rfl, rfl⟩ := cons.inj hsc
    refine ⟨hpos, ?_⟩
    cases sc with
    | nil => exact .inl rfl
    | cons b r => exact .inr ((properNext_append_iff t _ b r extra).1 hnext)

theorem properRunE_of_append (cfg : Cfg) (extra : List Ans) (n : Nat) (s : St)
    (h : ProperRun cfg n { s with script := s.script ++ extra }) : ProperRunE cfg n s := by
  induction n generalizing s with
  | zero => trivial
  | succ n ih =>
    obtain ⟨nodes, queue, script⟩ := s
    cases queue with
    | nil => rw [ProperRunE]; trivial
    | cons t q =>
      obtain ⟨s1, h1, hp1⟩ := (properRun_succ rfl).1 h
      rw [ProperRunE]
      refine ⟨properHeadE_of_append script extra (proper_of_step h1), fun s' hs' => ?_⟩
      -- the iteration on the longer script is the same iteration
      have h1' := ((step_ok_iff rfl).1 hs').append extra
      have e : s1 = { s' with script := s'.script ++ extra } :=
        Except.ok.inj (((step_ok_iff rfl).2 h1).symm.trans ((step_ok_iff rfl).2 h1'))
      exact ih s' (e ▸ hp1)

theorem properRunE_of_properRun (cfg : Cfg) (n : Nat) (s : St) (h : ProperRun cfg n s) : ProperRunE cfg n s :=
  properRunE_of_append cfg [] n s (by rwa [append_nil])

theorem properRun_of_E (cfg : Cfg) (n : Nat) (s : St) (h : ProperRunE cfg n s) (hl : 2 * n ≤ s.script.length) :
    ProperRun cfg n s := by
  induction n generalizing s with
  | zero => trivial
  | succ n ih =>
    cases hq : s.queue with
    | nil => exact properRun_queue_nil cfg _ s hq
    | cons t q =>
      unfold ProperRunE at h
      rw [hq] at h
      obtain ⟨s1, h1⟩ := step_of_proper s q (properHead_of_E cfg t s.script h.1 (by omega))
      refine (properRun_succ hq).2 ⟨s1, h1, ih s1 (h.2 s1 ((step_ok_iff hq).2 h1)) ?_⟩
      rw [h1.script, length_drop]
      have := consumed_le cfg t s.script
      omega

/-- `n` iterations read at most `2 n` script entries -/
theorem properRun_prefix (cfg : Cfg) (extra : List Ans) (n : Nat) (s : St)
    (h : ProperRun cfg n { s with script := s.script ++ extra }) (hl : 2 * n ≤ s.script.length) :
    ProperRun cfg n s :=
  properRun_of_E cfg n s (properRunE_of_append cfg extra n s h) hl

/-- the first `L` answers of an infinite oracle -/
def pre (o : Nat → Ans) (L : Nat) : List Ans := (List.range L).map o

/-- an infinite oracle `o : ℕ → Ans` (the `j`-th consultation is answered by `o j`) that
is proper at every step it is consulted: for every `n`, the first `n` iterations (which consult at most `2n`
answers) are all answered properly. -/
def ProperOracle (cfg : Cfg) (nRows nCols : Nat) (o : Nat → Ans) : Prop :=
  ∀ n, ProperRun cfg n (init nRows nCols (pre o (2 * n)))

theorem pre_add (o : Nat → Ans) (a b : Nat) :
    pre o (a + b) = pre o a ++ (range b).map (fun i => o (a + i)) := by
  unfold pre
  rw [range_add, map_append, map_map]
  rfl

theorem pre_getD (S : List Ans) (d : Ans) : pre (fun j => S.getD j d) S.length = S := by
  apply ext_getElem
  · simp [pre]
  · intro i _ h
    simp [pre, getElem?_eq_getElem h]

/-- a finite script on which the machine finishes, padded with anything, is a proper infinite oracle: the
finished run is answered properly, also on the padded script, and `n` iterations only read its first `2 n`
entries -/
theorem properOracle_of_run (cfg : Cfg) (nRows nCols : Nat) (S : List Ans) (d : Ans) (N : Nat) (s' : St)
    (hrun : run cfg N (init nRows nCols S) = .ok s') (hq : s'.queue = []) :
    ProperOracle cfg nRows nCols (fun j => S.getD j d) := by
  intro n
  obtain ⟨k, hS, _⟩ := run_ok_iff.1 hrun
  -- `S` and the first `2 n` answers are both initial segments of the first `2 n + |S|` answers
  have e : S ++ (range (2 * n)).map (fun i => S.getD (S.length + i) d)
      = pre (fun j => S.getD j d) (2 * n) ++ (range S.length).map (fun i => S.getD (2 * n + i) d) := by
    rw [← pre_add, Nat.add_comm (2 * n), pre_add, pre_getD]
  have hpad := properRun_append cfg ((range (2 * n)).map fun i => S.getD (S.length + i) d) n
    (init nRows nCols S) (properRun_of_steps hS hq n)
  rw [show (init nRows nCols S).script = S from rfl, e] at hpad
  refine properRun_prefix cfg _ n (init nRows nCols (pre _ (2 * n))) hpad ?_
  show 2 * n ≤ (pre _ (2 * n)).length
  unfold pre
  rw [length_map, length_range]
  exact Nat.le_refl _

/-- a finite script on which the machine finishes within `N` iterations, padded with anything, is a proper
infinite oracle (`hlen` and `hsmall` are redundant: `properOracle_of_run`) -/
theorem properOracle_of_script (cfg : Cfg) (nRows nCols : Nat) (S : List Ans) (d : Ans) (N : Nat)
    (hfin : ∃ s', run cfg N (init nRows nCols S) = .ok s' ∧ s'.queue = []) (hlen : S.length ≤ 2 * N)
    (hsmall : ∀ n, n < N → ProperRun cfg n (init nRows nCols (pre (fun j => S.getD j d) (2 * n)))) :
    ProperOracle cfg nRows nCols (fun j => S.getD j d) := by
  obtain ⟨s', h1, h2⟩ := hfin
  exact properOracle_of_run cfg nRows nCols S d N s' h1 h2

/-- a splitter-level oracle: what the variance test, the row splitter and the column splitter return when
they are called in loop iteration `k` on the slice of task `t` (any dependence on the iteration index, e.g.
through the shared `random_state`, is allowed) -/
structure Oracle where
  zv : Nat → Task → List Nat
  rows : Nat → Task → List Int
  cols : Nat → Task → List Int

/-- every answer has the right shape for the slice it is asked about — nothing else is assumed -/
def Oracle.Proper (O : Oracle) : Prop :=
  ∀ k t, ProperAns t (.zeroVar (O.zv k t)) ∧ ProperAns t (.rows (O.rows k t)) ∧ ProperAns t (.cols (O.cols k t))

/-- the consultations of iteration `k` on task `t`, in the order the code makes them -/
def Oracle.answers (cfg : Cfg) (O : Oracle) (k : Nat) (t : Task) : List Ans :=
  match selectOp cfg t (zvMask (O.zv k t) t.scope.length) with
  | .splitRows => [.zeroVar (O.zv k t), .rows (O.rows k t)]
  | .splitCols => [.zeroVar (O.zv k t), .cols (O.cols k t)]
  | _ => [.zeroVar (O.zv k t)]

/-- the script the oracle produces during `n` iterations from state `s`, starting at iteration index `k` -/
def Oracle.transcript (cfg : Cfg) (O : Oracle) : Nat → Nat → St → List Ans
  | 0, _, _ => []
  | n+1, k, s =>
    match s.queue with
    | [] => []
    | t :: _ =>
      match step cfg { s with script := O.answers cfg k t } with
      | .ok s' => O.answers cfg k t ++ Oracle.transcript cfg O n (k+1) s'
      | .error _ => O.answers cfg k t

theorem Oracle.answers_proper (cfg : Cfg) (O : Oracle) (hO : O.Proper) (k : Nat) (t : Task) :
    ProperHead cfg t (O.answers cfg k t) ∧ consumed cfg t (O.answers cfg k t) = (O.answers cfg k t).length := by
  obtain ⟨h1, h2, h3⟩ := hO k t
  unfold Oracle.answers
  cases hop : selectOp cfg t (zvMask (O.zv k t) t.scope.length) <;>
    simp only [ProperHead, consumed, hop, ProperNext, h1, h2, h3, and_self, length_cons, length_nil]

/-- **the machine fed by a proper splitter-level oracle halts**: after at most `measure s` iterations the
deque is empty and the transcript is consumed exactly. -/
theorem Oracle.transcript_steps (cfg : Cfg) (O : Oracle) (hO : O.Proper) (n k : Nat) (s : St)
    (hm : measure s ≤ n) :
    ∃ s' j, Steps cfg j { s with script := O.transcript cfg n k s } s' ∧ s'.queue = [] ∧
      s'.script = [] ∧ j ≤ measure s := by
  induction n generalizing k s with
  | zero => exact ⟨_, 0, .refl _, (measure_eq_zero s).1 (by omega), rfl, Nat.zero_le _⟩
  | succ n ih =>
    obtain ⟨nodes, queue, script⟩ := s
    cases queue with
    | nil => exact ⟨_, 0, .refl _, rfl, rfl, Nat.zero_le _⟩
    | cons t q =>
      obtain ⟨hp, hc⟩ := O.answers_proper cfg hO k t
      obtain ⟨s1, h1⟩ := step_of_proper ⟨nodes, t :: q, O.answers cfg k t⟩ q hp
      have hs1 : s1.script = [] := by rw [h1.script, hc]; exact drop_length
      have hd : measure s1 < measure ⟨nodes, t :: q, script⟩ :=
        h1.measure_lt (s := ⟨nodes, t :: q, O.answers cfg k t⟩) rfl
      obtain ⟨s2, j, hS, hq2, hsc2, hj⟩ := ih (k + 1) s1 (by omega)
      have happ := h1.append (O.transcript cfg n (k + 1) s1)
      rw [hs1] at happ
      unfold Oracle.transcript
      simp only [(step_ok_iff rfl).2 h1]
      exact ⟨s2, j + 1, .cons rfl happ hS, hq2, hsc2, by omega⟩

end Deeprob.LearnTerm
