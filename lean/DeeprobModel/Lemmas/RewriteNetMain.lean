import DeeprobModel.Lemmas.RewriteNetValid
import DeeprobModel.Lemmas.RewriteNetLabel
import DeeprobModel.Lemmas.RewriteNetFix
set_option linter.unusedSectionVars false
set_option linter.unusedSimpArgs false
set_option linter.unusedVariables false
/-
The shape theorems for the result of `pruneNet` (the corrected library's `prune`, flag `repaired = true`): normal
form, smoothness / decomposability, root scope. They are stated for an arbitrary set `P` of nodes that contains the
root, is closed under children, and on which the local conditions `ShapeOK` / `LocalOK` hold: for `prune` alone `P`
is `collect net root` and the conditions are read off `check_spn`; inside `marginalize` the table is the one left
by the first pass.
-/
namespace Deeprob
open Net
variable {α : Type} [CommSemiring α]

/-- no inner node with fewer than two children, no sum child of a sum, no product child of a product — over the
nodes collected from `root` -/
def NormalFormSpec (t : Net α) (root : Nat) : Prop :=
  ∀ i ∈ collect t root, ∃ x, t[i]? = some x ∧
    (x.kind = .leaf ∨ (2 ≤ x.ch.length ∧ ∀ c ∈ x.ch, kindOf t c ≠ x.kind))

theorem normalFormB_iff (t : Net α) (root : Nat) : normalFormB t root = true ↔ NormalFormSpec t root := by
  unfold normalFormB NormalFormSpec
  rw [List.all_eq_true]
  apply forall_congr'; intro i
  apply imp_congr_right; intro _
  cases hx : t[i]? with
  | none => simp
  | some x =>
    simp only [Option.some.injEq, exists_eq_left']
    cases hk : x.kind <;> simp [List.all_eq_true]


/-- what the shape theorems use of a successful `pruneNet`: the state of the pass, the post-order from the new
root, and that every exported node is the replacement of a node of `P` and satisfies the invariant of `nodes_map` -/
theorem pruneNet_facts (net : Net α) (root : Nat) (hw : WellOrdered net) (hr : root < net.length)
    (P : Nat → Prop) (hPcl : ∀ i, P i → ∀ c ∈ chOf net i, P c) (hPr : P root) (hsh : ShapeOK net P)
    (out : Net α) (order : List Nat) (h : pruneNet net root = some (out, order)) :
    ∃ t rep ko, Sol true net t rep ∧ OrderOK t (rep.getD root root) order ∧ out = exportTable t order (posIn ko) ∧
      out.length = order.length ∧ WellOrdered out ∧ ∀ i ∈ order, RepOf net rep P i ∧ GoodAt t rep P i := by
  have S := prunePass_sol true net hw
  obtain ⟨ko, hk, ho, he⟩ := pruneNetWith_unpack true net root hw hr out order h
  exact ⟨_, _, ko, S, ho, he, by rw [he]; exact exportTable_length _ _ _,
    by rw [he]; exact export_chLt _ order (posIn ko) ho.closed ho.lt,
    export_good net _ _ hw S P hPcl hsh root hr hPr order ho⟩

theorem pruneNet_netNF_of (net : Net α) (root : Nat) (hw : WellOrdered net) (hr : root < net.length)
    (P : Nat → Prop) (hPcl : ∀ i, P i → ∀ c ∈ chOf net i, P c) (hPr : P root) (hsh : ShapeOK net P)
    (out : Net α) (order : List Nat) (h : pruneNet net root = some (out, order)) :
    WellOrdered out ∧ NetNF out := by
  obtain ⟨t, rep, ko, S, ho, he, hlen, hcl, hgood⟩ := pruneNet_facts net root hw hr P hPcl hPr hsh out order h
  refine ⟨hcl, ?_⟩
  intro p x hx hnl
  have hp : p < order.length := by rw [← hlen]; exact (List.getElem?_eq_some_iff.1 hx).1
  obtain ⟨y, hy, hoy, hch⟩ := export_node t order (posIn ko) ho.closed ho.lt p hp
  obtain ⟨⟨j, hj, hPj, hji⟩, y', hy', hg⟩ := hgood order[p] (List.getElem_mem hp)
  rw [hy] at hy'; cases hy'
  rw [he, hoy] at hx
  cases hx
  rcases hg with ⟨h0, _⟩ | ⟨h1, h2, h3⟩
  · exact absurd h0 hnl
  · refine ⟨by rw [List.length_map]; exact h1, ?_, fun hks => ⟨by rw [List.length_map]; exact h2 hks, ?_⟩⟩
    · intro c hc
      obtain ⟨c0, hc0, rfl⟩ := List.mem_map.1 hc
      obtain ⟨_, hlt, hget⟩ := hch c0 hc0
      rw [he, (export_kind_scope t order (posIn ko) ho.closed ho.lt _ hlt).1, hget]
      exact (h3 c0 hc0).1
    · -- children of a rebuilt sum are pairwise distinct, and the renaming is injective on them
      show (y.ch.map (posIn order)).Nodup
      have hfix : rep.getD order[p] order[p] = order[p] := by rw [← hji]; exact (S.basic j hj).rep_fix
      have hnd := sol_fixed_sum_nodup true net t rep hw S order[p] (S.lt ▸ ho.lt _ (List.getElem_mem hp))
        hfix (by rw [kindOf_some t _ y hy]; exact hks)
      rw [chOf_some t _ y hy] at hnd
      apply List.Nodup.map_on _ hnd
      intro a ha b hb hab
      obtain ⟨_, hlt, hget⟩ := hch a ha
      exact posIn_inj order a b (by rw [← hget]; exact List.getElem_mem hlt) hab

theorem pruneNet_normal_form_of (net : Net α) (root : Nat) (hw : WellOrdered net) (hr : root < net.length)
    (P : Nat → Prop) (hPcl : ∀ i, P i → ∀ c ∈ chOf net i, P c) (hPr : P root) (hsh : ShapeOK net P)
    (out : Net α) (order : List Nat) (h : pruneNet net root = some (out, order)) :
    normalFormB out (out.length - 1) = true ∧
    ∀ p, p < out.length → ∃ x, out[p]? = some x ∧
      (x.kind = .leaf ∨ (2 ≤ x.ch.length ∧ ∀ c ∈ x.ch, kindOf out c ≠ x.kind)) := by
  obtain ⟨hcl, hnf⟩ := pruneNet_netNF_of net root hw hr P hPcl hPr hsh out order h
  have hall : ∀ p, p < out.length → ∃ x, out[p]? = some x ∧
      (x.kind = .leaf ∨ (2 ≤ x.ch.length ∧ ∀ c ∈ x.ch, kindOf out c ≠ x.kind)) := by
    intro p hp
    refine ⟨out[p], List.getElem?_eq_getElem hp, ?_⟩
    by_cases hl : (out[p]).kind = .leaf
    · exact Or.inl hl
    · obtain ⟨h1, h2, _⟩ := hnf p out[p] (List.getElem?_eq_getElem hp) hl
      exact Or.inr ⟨h1, h2⟩
  obtain ⟨_, _, _, _, ho, _, hlen, _, _⟩ := pruneNet_facts net root hw hr P hPcl hPr hsh out order h
  have hne : 0 < out.length := hlen ▸ List.length_pos_iff.2 ho.ne
  refine ⟨(normalFormB_iff out _).2 fun i hi => hall i ?_, hall⟩
  have := collect_lt_of_chLt out hcl (out.length - 1) (by omega) i hi
  omega

/-- smoothness, decomposability, root scope and duplicate-free scopes of the result, general form -/
theorem pruneNet_valid_of (net : Net α) (root : Nat) (hw : WellOrdered net) (hr : root < net.length)
    (P : Nat → Prop) (hPcl : ∀ i, P i → ∀ c ∈ chOf net i, P c) (hPr : P root) (hsh : ShapeOK net P)
    (hlo : LocalOK net P) (hnd : ∀ i, P i → (scopeOf net i).Nodup)
    (out : Net α) (order : List Nat) (h : pruneNet net root = some (out, order)) :
    Net.checkSpn out (out.length - 1) false true true = .accept ∧
    scopeEq (scopeOf out (out.length - 1)) (scopeOf net root) ∧
    (∀ (p : Nat) (x : NNode α), out[p]? = some x → (x.kind = .sum → SumOK out x) ∧ (x.kind = .prod → ProdOK out x)) ∧
    (∀ p, p < out.length → (scopeOf out p).Nodup) := by
  obtain ⟨t, rep, ko, S, ho, he, hlen, hcl, hgood⟩ := pruneNet_facts net root hw hr P hPcl hPr hsh out order h
  have hval := sol_valid net t rep hw S P hPcl hsh hlo
  have hsc : ∀ i, scopeOf t i = scopeOf net i := fun i => (sol_kind_scope true net t rep hw S i).2
  have hne : out.length ≠ 0 := by
    rw [hlen]; intro h0; exact ho.ne (List.eq_nil_of_length_eq_zero h0)
  -- scope of exported entries
  have hosc : ∀ p (hp : p < order.length), scopeOf out p = scopeOf net order[p] := by
    intro p hp; rw [he, (export_kind_scope t order (posIn ko) ho.closed ho.lt p hp).2, hsc]
  -- members of `order` are replacements of collected nodes, hence collected
  have hmemP : ∀ i ∈ order, P i := by
    intro i hi
    obtain ⟨⟨j, hj, hPj, hji⟩, _⟩ := hgood i hi
    rw [← hji]
    exact (sol_closed true net t rep hw S P hPcl j hj hPj).1
  have hnodes : ∀ (p : Nat) (x : NNode α), out[p]? = some x → (x.kind = .sum → SumOK out x) ∧ (x.kind = .prod → ProdOK out x) := by
    intro p x hx
    have hp : p < order.length := by rw [← hlen]; exact (List.getElem?_eq_some_iff.1 hx).1
    obtain ⟨y, hy, hoy, hch⟩ := export_node t order (posIn ko) ho.closed ho.lt p hp
    obtain ⟨⟨j, hj, hPj, hji⟩, y', hy', hg⟩ := hgood order[p] (List.getElem_mem hp)
    rw [hy] at hy'; cases hy'
    obtain ⟨_, hv⟩ := hval j hj hPj
    rw [hji] at hv
    rw [he, hoy] at hx
    cases hx
    -- scopes of the renamed children
    have hchsc : ∀ c ∈ y.ch, scopeOf out (posIn order c) = scopeOf net c := by
      intro c hc
      obtain ⟨_, hlt, hget⟩ := hch c hc
      rw [hosc _ hlt, hget]
    have hmapsc : (y.ch.map (posIn order)).map (scopeOf out) = y.ch.map (scopeOf net) := by
      rw [List.map_map]; exact List.map_congr_left hchsc
    have hys : y.scope = scopeOf net order[p] := by rw [← hsc, scopeOf_some t _ y hy]
    have hinner : y.kind ≠ .leaf → y.ch.map (posIn order) ≠ [] ∧ (y.kind = .sum → y.ws.length = y.ch.length) := by
      intro hnl
      rcases hg with ⟨h0, _⟩ | ⟨h1, h2, _⟩
      · exact absurd h0 hnl
      · exact ⟨fun h0 => by rw [List.map_eq_nil_iff.1 h0] at h1; exact Nat.not_succ_le_zero 1 h1, h2⟩
    constructor
    · intro hks
      have hks : y.kind = .sum := hks
      obtain ⟨h1, h2⟩ := hinner (by rw [hks]; exact Kind.noConfusion)
      refine ⟨h1, (h2 hks).trans (List.length_map _).symm, fun c hc => ?_⟩
      obtain ⟨c0, hc0, rfl⟩ := List.mem_map.1 hc
      show scopeEq (scopeOf out (posIn order c0)) y.scope
      rw [hchsc c0 hc0, hys]
      exact hv.1 (by rw [kindOf_some t _ y hy]; exact hks) c0 (by rw [chOf_some t _ y hy]; exact hc0)
    · intro hkp
      have hkp : y.kind = .prod := hkp
      obtain ⟨q1, q2⟩ := hv.2 (by rw [kindOf_some t _ y hy]; exact hkp)
      rw [chOf_some t _ y hy] at q1 q2
      refine ⟨(hinner (by rw [hkp]; exact Kind.noConfusion)).1, fun c hc => ?_, ?_, ?_⟩
      · obtain ⟨c0, hc0, rfl⟩ := List.mem_map.1 hc
        obtain ⟨_, hlt, hget⟩ := hch c0 hc0
        rw [hchsc c0 hc0]
        exact hnd c0 (hmemP c0 (by rw [← hget]; exact List.getElem_mem hlt))
      · show ((y.ch.map (posIn order)).map (scopeOf out)).Pairwise List.Disjoint
        rw [hmapsc]; exact q1
      · show scopeEq ((y.ch.map (posIn order)).map (scopeOf out)).flatten y.scope
        rw [hmapsc, hys]; exact q2
  refine ⟨?_, ?_, hnodes, ?_⟩
  · rw [checkSpn_accept_iff_flags, isSmooth_eq_none_iff, isDecomposable_eq_none_iff]
    refine ⟨by simp, fun _ => ?_, fun _ => ?_⟩
    · intro i _ x hx hk; exact (hnodes i x hx).1 hk
    · intro i _ x hx hk; exact (hnodes i x hx).2 hk
  · have hp : out.length - 1 < order.length := by omega
    rw [hosc _ hp]
    have hrr : order[out.length - 1] = rep.getD root root := by
      have := ho.last; rw [← hlen, List.getElem?_eq_getElem hp] at this; exact Option.some.inj this
    rw [hrr]
    exact (hval root hr hPr).1
  · intro p hp
    rw [hlen] at hp
    rw [hosc p hp]
    exact hnd _ (hmemP _ (List.getElem_mem hp))


/-- hypotheses of the shape theorems read off `check_spn` (only the smooth / decomposable verdicts are used) -/
theorem shapeOK_of_accept (net : Net α) (root : Nat) (l : Bool)
    (hacc : Net.checkSpn net root l true true = .accept)
    (hleaf : ∀ i ∈ collect net root, ∀ x, net[i]? = some x → x.kind = .leaf → x.ch = []) :
    ShapeOK net (fun i => i ∈ collect net root) := by
  rw [checkSpn_accept_iff_flags, isSmooth_eq_none_iff, isDecomposable_eq_none_iff] at hacc
  obtain ⟨_, hsm, hdc⟩ := hacc
  intro i x hi hx
  refine ⟨fun hk => ?_, fun hk => ?_, fun hk => hleaf i hi x hx hk⟩
  · obtain ⟨h1, h2, _⟩ := hsm rfl i hi x hx hk; exact ⟨h1, h2⟩
  · exact (hdc rfl i hi x hx hk).1

theorem localOK_of_accept (net : Net α) (root : Nat) (l : Bool)
    (hacc : Net.checkSpn net root l true true = .accept) :
    LocalOK net (fun i => i ∈ collect net root) := by
  rw [checkSpn_accept_iff_flags, isSmooth_eq_none_iff, isDecomposable_eq_none_iff] at hacc
  obtain ⟨_, hsm, hdc⟩ := hacc
  intro i x hi hx
  refine ⟨fun hk => ?_, fun hk => ?_⟩
  · exact (hsm rfl i hi x hx hk).2.2
  · obtain ⟨_, _, h3, h4⟩ := hdc rfl i hi x hx hk; exact ⟨h3, h4⟩

/-- `NetNF` from the run-time test `normalFormB` when every entry is reachable from the root; what `normalFormB`
does not look at (one weight per child, pairwise distinct children of sums) stays a hypothesis -/
theorem netNF_of_normalFormB (net : Net α) (root : Nat) (hall : ∀ i, i < net.length → i ∈ collect net root)
    (hnf : normalFormB net root = true)
    (hsum : ∀ (i : Nat) (x : NNode α), net[i]? = some x → x.kind = .sum → x.ws.length = x.ch.length ∧ x.ch.Nodup) :
    NetNF net := by
  intro i x hx hnl
  obtain ⟨x', hx', h⟩ := (normalFormB_iff net root).1 hnf i (hall i (List.getElem?_eq_some_iff.1 hx).1)
  rw [hx] at hx'; cases hx'
  rcases h with h | h
  · exact absurd h hnl
  · exact ⟨h.1, h.2, hsum i x hx⟩


end Deeprob
