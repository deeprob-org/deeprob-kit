import DeeprobModel.Lemmas.RewriteNetFix
set_option linter.unusedSectionVars false
set_option linter.unusedSimpArgs false
set_option linter.unusedVariables false
/-
Independence of the net-level `prune` of the iteration order.

The code walks `reversed(topological_order(root))`; `prunePass` walks the table in storage order. Both are
children-first orders and one step reads `nodes_map` / node objects only at descendants
(`pruneStep_congr`), so the two passes agree on every node the given order lists (`prunePassOrd_agree`); the export
reads the table only at nodes reachable from the new root (`exportFrom_congr`), hence `pruneNetKahn = pruneNetWith`
(`pruneNetKahn_eq`) whenever Kahn's order lists the reachable nodes once, parents before children.
-/
namespace Deeprob
open Net
variable {α : Type} [CommSemiring α]

/-- a duplicate-free list of table indices in which every node comes after all its children -/
structure ChildrenFirst (net : Net α) (ord : List Nat) : Prop where
  nodup : ord.Nodup
  lt : ∀ i ∈ ord, i < net.length
  closed : Closed net ord

theorem childrenFirst_snoc (net : Net α) (pre : List Nat) (i : Nat) (h : ChildrenFirst net (pre ++ [i])) :
    ChildrenFirst net pre ∧ i ∉ pre ∧ i < net.length ∧ ∀ c ∈ chOf net i, c ∈ pre := by
  obtain ⟨h1, h2, h3⟩ := h
  rw [List.nodup_append] at h1
  refine ⟨⟨h1.1, fun j hj => h2 j (List.mem_append_left _ hj), ?_⟩, ?_, h2 i (by simp), ?_⟩
  · intro p hp c hc
    have := h3 p (by simp; omega) c (by rw [List.getElem_append_left hp]; exact hc)
    rwa [List.take_append_of_le_length (by omega)] at this
  · intro hi; exact h1.2.2 i hi i (by simp) rfl
  · intro c hc
    have := h3 pre.length (by simp) c (by simpa only [Std.le_refl, List.getElem_append_right, tsub_self,
      List.getElem_cons_zero] using hc)
    rwa [List.take_append_of_le_length (Nat.le_refl _), List.take_length] at this

theorem prunePassOrd_snoc (b : Bool) (net : Net α) (pre : List Nat) (i : Nat) :
    prunePassOrd b net (pre ++ [i]) =
      (match (prunePassOrd b net pre).1[i]? with
       | none => prunePassOrd b net pre
       | some x =>
         ((prunePassOrd b net pre).1.set i (pruneStep b (prunePassOrd b net pre).1 (prunePassOrd b net pre).2 i x).1,
          (prunePassOrd b net pre).2.set i (pruneStep b (prunePassOrd b net pre).1 (prunePassOrd b net pre).2 i x).2)) := by
  unfold prunePassOrd
  rw [List.foldl_append]
  rfl

theorem getD_set_ne (l : List Nat) (i j v : Nat) (h : i ≠ j) : (l.set i v).getD j j = l.getD j j := by
  rw [List.getD_eq_getElem?_getD, List.getD_eq_getElem?_getD, List.getElem?_set_ne h]

theorem getD_set_self (l : List Nat) (i v : Nat) (h : i < l.length) : (l.set i v).getD i i = v := by
  rw [List.getD_eq_getElem?_getD, List.getElem?_set_self h]; rfl

/-- **the pass in any children-first order agrees with the pass in storage order** on the nodes the order lists,
and leaves every other node untouched -/
theorem prunePassOrd_agree (b : Bool) (net : Net α) (hw : WellOrdered net) (ord : List Nat)
    (hcf : ChildrenFirst net ord) :
    (prunePassOrd b net ord).1.length = net.length ∧ (prunePassOrd b net ord).2.length = net.length ∧
    (∀ i ∈ ord, (prunePassOrd b net ord).1[i]? = (prunePass b net).1[i]? ∧
        (prunePassOrd b net ord).2.getD i i = (prunePass b net).2.getD i i) ∧
    (∀ i, i ∉ ord → (prunePassOrd b net ord).1[i]? = net[i]? ∧ (prunePassOrd b net ord).2.getD i i = i) := by
  have S := prunePass_sol b net hw
  generalize (prunePass b net).1 = t at S
  generalize (prunePass b net).2 = rep at S
  induction ord using List.reverseRecOn with
  | nil =>
    refine ⟨rfl, by simp only [prunePassOrd, List.foldl_nil, List.length_range], by simp, ?_⟩
    intro i _
    refine ⟨rfl, ?_⟩
    simp only [prunePassOrd, List.foldl_nil]
    rw [List.getD_eq_getElem?_getD]
    rcases Nat.lt_or_ge i net.length with h | h
    · rw [List.getElem?_range h]; rfl
    · rw [List.getElem?_eq_none (by simpa only [List.length_range, ge_iff_le] using h)]; rfl
  | append_singleton pre i ih =>
    obtain ⟨hpre, hni, hi, hchi⟩ := childrenFirst_snoc net pre i hcf
    obtain ⟨l1, l2, ag, un⟩ := ih hpre
    rw [prunePassOrd_snoc]
    generalize prunePassOrd b net pre = st at l1 l2 ag un
    have hx : net[i]? = some net[i] := List.getElem?_eq_getElem hi
    generalize net[i] = x at hx
    have hsx : st.1[i]? = some x := by rw [(un i hni).1, hx]
    rw [hsx]
    simp only
    -- the step reads what the storage-order pass reads
    have hclP : ∀ a, a ∈ pre → ∀ c ∈ chOf net a, c ∈ pre := closed_mem net pre hpre.closed
    have hcl := sol_closed b net t rep hw S (fun a => a ∈ pre) hclP
    have hxc : ∀ c ∈ x.ch, c ∈ pre := by intro c hc; exact hchi c (by rw [chOf_some net i x hx]; exact hc)
    have g1 : ∀ c ∈ x.ch, st.2.getD c c = rep.getD c c := fun c hc => (ag c (hxc c hc)).2
    have hstep : pruneStep b st.1 st.2 i x = pruneStep b t rep i x := by
      apply pruneStep_congr b _ _ _ _ i x g1
      intro c' hc'
      obtain ⟨c, hc, rfl⟩ := (mem_repCh st.2 x c').1 hc'
      rw [g1 c hc]
      have hcp := hxc c hc
      have h1 := (hcl c (hpre.lt c hcp) hcp).1
      have e : st.1[rep.getD c c]? = t[rep.getD c c]? := (ag _ h1).1
      refine ⟨e, ?_⟩
      intro g hg
      have : chOf st.1 (rep.getD c c) = chOf t (rep.getD c c) := by unfold chOf; rw [e]
      rw [this] at hg
      exact (ag g ((hcl _ (hpre.lt _ h1) h1).2 g hg)).2
    obtain ⟨e1, e2⟩ := S.eq i x hx
    rw [hstep]
    refine ⟨by simp only [List.length_set, l1], by simp only [List.length_set, l2], ?_, ?_⟩
    · intro j hj
      rcases List.mem_append.1 hj with hj | hj
      · have hne : i ≠ j := fun e => hni (e ▸ hj)
        rw [List.getElem?_set_ne hne, getD_set_ne _ _ _ _ hne]
        exact ag j hj
      · simp only [List.mem_cons, List.not_mem_nil, or_false] at hj; subst hj
        rw [List.getElem?_set_self (by rw [l1]; exact hi), getD_set_self _ _ _ (by rw [l2]; exact hi)]
        exact ⟨e1.symm, e2.symm⟩
    · intro j hj
      have hne : i ≠ j := fun e => hj (by rw [e]; simp)
      rw [List.getElem?_set_ne hne, getD_set_ne _ _ _ _ hne]
      exact un j (fun h => hj (List.mem_append_left _ h))

theorem chOf_congr (t t' : Net α) (i : Nat) (h : t[i]? = t'[i]?) : chOf t i = chOf t' i := by unfold chOf; rw [h]

theorem dfsPost_congr (t t' : Net α) (Q : Nat → Prop) (hQ : ∀ i, Q i → ∀ c ∈ chOf t i, Q c)
    (hag : ∀ i, Q i → t[i]? = t'[i]?) :
    ∀ fuel out i, Q i → dfsPost t fuel out i = dfsPost t' fuel out i := by
  intro fuel
  induction fuel with
  | zero => intro out i _; rfl
  | succ fl ih =>
    intro out i hi
    unfold dfsPost
    rw [← chOf_congr t t' i (hag i hi), List.foldl_ext _ _ out fun o c hc => ih o c (hQ i hi c hc)]

theorem bfsAux_congr_on (t t' : Net α) (Q : Nat → Prop) (hQ : ∀ i, Q i → ∀ c ∈ chOf t i, Q c)
    (hag : ∀ i, Q i → t[i]? = t'[i]?) :
    ∀ fuel q seen, (∀ a ∈ q, Q a) → (∀ a ∈ seen, Q a) →
      bfsAux t fuel q seen = bfsAux t' fuel q seen ∧ ∀ a ∈ bfsAux t fuel q seen, Q a := by
  intro fuel
  induction fuel with
  | zero => intro q seen _ hs; exact ⟨by simp only [bfsAux], by simpa only [bfsAux] using hs⟩
  | succ fl ih =>
    intro q seen hq hs
    match q with
    | [] => exact ⟨by simp only [bfsAux], by simpa only [bfsAux] using hs⟩
    | a :: qs =>
      have ha := hq a List.mem_cons_self
      simp only [bfsAux]
      rw [← chOf_congr t t' a (hag a ha)]
      have hn := foldl_inv (fun acc => ∀ c ∈ acc, Q c)
        (fun acc c => if (seen ++ acc).contains c then acc else acc ++ [c]) (chOf t a) (fun acc hacc d hd c hc => by
        split at hc
        · exact hacc c hc
        · rcases List.mem_append.1 hc with h | h
          · exact hacc c h
          · exact List.mem_singleton.1 h ▸ hQ a ha d hd) [] (fun _ h => nomatch h)
      apply ih
      · intro b hb
        rcases List.mem_append.1 hb with h | h
        · exact hq b (List.mem_cons_of_mem _ h)
        · exact hn b h
      · intro b hb
        rcases List.mem_append.1 hb with h | h
        · exact hs b h
        · exact hn b h

theorem kahnVisit_snd_sub (ch : List Nat) : ∀ (st : List Nat × List Nat),
    ∀ v ∈ (ch.foldl (fun (st : List Nat × List Nat) c =>
      let k := st.1.getD c 0
      (st.1.set c (k - 1), if k == 1 then st.2 ++ [c] else st.2)) st).2, v ∈ st.2 ∨ v ∈ ch := by
  induction ch with
  | nil => intro st v hv; exact Or.inl hv
  | cons c cs ih =>
    intro st v hv
    simp only [List.foldl_cons] at hv
    rcases ih _ v hv with h | h
    · simp only at h
      split at h
      · rcases List.mem_append.1 h with h | h
        · exact Or.inl h
        · simp only [List.mem_cons, List.not_mem_nil, or_false] at h; right; rw [h]; simp only [List.mem_cons, true_or]
      · exact Or.inl h
    · right; exact List.mem_cons_of_mem _ h

theorem kahnLoop_congr (t t' : Net α) (Q : Nat → Prop) (hQ : ∀ i, Q i → ∀ c ∈ chOf t i, Q c)
    (hag : ∀ i, Q i → t[i]? = t'[i]?) :
    ∀ fuel q cnt ord, (∀ a ∈ q, Q a) → kahnLoop t fuel q cnt ord = kahnLoop t' fuel q cnt ord := by
  intro fuel
  induction fuel with
  | zero => intro q cnt ord _; rfl
  | succ fl ih =>
    intro q cnt ord hq
    match q with
    | [] => rfl
    | a :: qs =>
      have ha := hq a List.mem_cons_self
      simp only [kahnLoop]
      rw [← chOf_congr t t' a (hag a ha)]
      apply ih
      intro b hb
      rcases List.mem_append.1 hb with h | h
      · exact hq b (List.mem_cons_of_mem _ h)
      · rcases kahnVisit_snd_sub (chOf t a) (cnt, []) b h with h | h
        · simp only [List.not_mem_nil] at h
        · exact hQ a ha b h

theorem kahn_congr (t t' : Net α) (Q : Nat → Prop) (hQ : ∀ i, Q i → ∀ c ∈ chOf t i, Q c)
    (hag : ∀ i, Q i → t[i]? = t'[i]?) (hlen : t.length = t'.length) (r : Nat) (hr : Q r) :
    kahn t r = kahn t' r := by
  have hc : collect t r = collect t' r ∧ ∀ a ∈ collect t r, Q a := by
    unfold collect
    rw [← hlen]
    exact bfsAux_congr_on t t' Q hQ hag _ _ _ (by simpa only [List.mem_cons, List.not_mem_nil, or_false, forall_eq]
      using hr) (by simpa only [List.mem_cons, List.not_mem_nil,
      or_false, forall_eq] using hr)
  have hcnt : kahnCounts t r = kahnCounts t' r := by
    unfold kahnCounts
    rw [← hc.1, ← hlen]
    exact List.foldl_ext _ _ _ fun cnt a ha => by rw [chOf_congr t t' a (hag a (hc.2 a ha))]
  unfold kahn
  simp only [hcnt, ← hlen]
  rw [kahnLoop_congr t t' Q hQ hag _ _ _ _ (by simpa only [List.mem_cons, List.not_mem_nil, or_false, forall_eq] using
    hr)]

/-- **locality of the export**: two tables of the same length that agree on a set of nodes closed under children
have the same export from every root in the set -/
theorem exportFrom_congr (t t' : Net α) (Q : Nat → Prop) (hQ : ∀ i, Q i → ∀ c ∈ chOf t i, Q c)
    (hag : ∀ i, Q i → t[i]? = t'[i]?) (hlen : t.length = t'.length) (r : Nat) (hr : Q r) :
    exportFrom t r = exportFrom t' r := by
  unfold exportFrom
  rw [kahn_congr t t' Q hQ hag hlen r hr, ← hlen, ← dfsPost_congr t t' Q hQ hag _ _ r hr]
  cases kahn t' r with
  | none => rfl
  | some ko =>
    simp only [Option.some.injEq, Prod.mk.injEq, and_true]
    apply List.map_congr_left
    intro i hi
    rcases dfsPost_sub t Q hQ _ _ r hr i hi with h | h
    · simp only [List.not_mem_nil] at h
    · rw [hag i h]

/-- what the pass needs from `topological_order(root)`: the reachable nodes, each once, no node before one of its
parents (the three facts are `Net.kahn_spec` of `Lemmas/KahnLemmas.lean`) -/
def KahnOrdOK (t : Net α) (r : Nat) (ko : List Nat) : Prop :=
  ko.Nodup ∧ (∀ v, v ∈ ko ↔ v ∈ collect t r) ∧ ko.Pairwise (fun a b => a ∉ chOf t b)

theorem childrenFirst_of_kahn (net : Net α) (hw : WellOrdered net) (root : Nat) (hr : root < net.length)
    (ko : List Nat) (h : KahnOrdOK net root ko) : ChildrenFirst net ko.reverse := by
  obtain ⟨h1, h2, h3⟩ := h
  have hin := inRange_of_wellOrdered net hw
  refine ⟨List.nodup_reverse.2 h1, ?_, ?_⟩
  · intro i hi
    have := collect_lt_of_chLt net hw root hr i ((h2 i).1 (List.mem_reverse.1 hi))
    omega
  · intro p hp c hc
    have hpm : (ko.reverse)[p] ∈ collect net root := (h2 _).1 (List.mem_reverse.1 (List.getElem_mem hp))
    have hcm : c ∈ ko.reverse := List.mem_reverse.2 ((h2 c).2 (collect_closed net root hin _ c hpm hc))
    obtain ⟨q, hq, hqc⟩ := List.getElem_of_mem hcm
    have hpw : ko.reverse.Pairwise (fun a b => b ∉ chOf net a) := List.pairwise_reverse.2 h3
    rw [List.pairwise_iff_getElem] at hpw
    have hqp : q < p := by
      rcases Nat.lt_trichotomy q p with h | h | h
      · exact h
      · subst h
        have := chLt_of_wellOrdered net hw _ c hc
        omega
      · exact absurd (hqc ▸ hc) (hpw p q hp hq h)
    rw [List.mem_take_iff_getElem]
    exact ⟨q, by omega, hqc⟩

/-- **`prune` with the code's iteration order = `prune` in storage order** -/
theorem pruneNetKahn_eq (b : Bool) (net : Net α) (hw : WellOrdered net) (root : Nat) (hr : root < net.length)
    (ko : List Nat) (hk : kahn net root = some ko) (h : KahnOrdOK net root ko) :
    pruneNetKahn b net root = pruneNetWith b net root := by
  have hcf := childrenFirst_of_kahn net hw root hr ko h
  obtain ⟨l1, l2, ag, _⟩ := prunePassOrd_agree b net hw ko.reverse hcf
  have S := prunePass_sol b net hw
  have hcl := sol_closed b net _ _ hw S (fun a => a ∈ ko.reverse) (closed_mem net _ hcf.closed)
  have hroot : root ∈ ko.reverse := List.mem_reverse.2 ((h.2.1 root).2 (root_mem_collect net root))
  unfold pruneNetKahn pruneNetWith
  rw [hk]
  simp only
  rw [(ag root hroot).2]
  symm
  apply exportFrom_congr _ _ (fun a => a ∈ ko.reverse)
  · intro i hi c hc; exact (hcl i (hcf.lt i hi) hi).2 c hc
  · intro i hi; exact (ag i hi).1.symm
  · rw [l1, S.lt]
  · exact (hcl root hr hroot).1

end Deeprob
