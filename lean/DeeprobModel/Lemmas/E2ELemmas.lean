import DeeprobModel.Lemmas.NetLemmas
import DeeprobModel.Lemmas.ListEntries
/-
Tables filled entry by entry, as `eval_bottom_up` fills its value table: `llFold g n` appends `g vals i` for `i < n`.
Entries and prefixes of such a table, two tables filled in step, and the same table written as a `foldl` along a list.
-/
namespace Deeprob.E2E

section fold
variable {α β : Type}

/-- a table filled entry by entry: entry `i` is computed from the entries stored so far -/
def llFold (g : List α → Nat → α) (n : Nat) : List α :=
  (List.range n).foldl (fun vals i => vals ++ [g vals i]) []

theorem llFold_succ (g : List α → Nat → α) (n : Nat) : llFold g (n + 1) = llFold g n ++ [g (llFold g n) n] := by
  unfold llFold
  rw [List.range_succ, List.foldl_append]
  rfl

theorem llFold_length (g : List α → Nat → α) : ∀ n, (llFold g n).length = n
  | 0 => rfl
  | n + 1 => by rw [llFold_succ, List.length_append, llFold_length g n]; rfl

/-- the table after `k` steps is the first `k` entries of the final table -/
theorem llFold_take (g : List α → Nat → α) (k : Nat) : ∀ n, k ≤ n → (llFold g n).take k = llFold g k := by
  intro n hn
  induction n with
  | zero =>
    have : k = 0 := by omega
    subst this; rfl
  | succ n ih =>
    by_cases hk : k = n + 1
    · subst hk
      rw [List.take_of_length_le (by rw [llFold_length])]
    · rw [llFold_succ, List.take_append_of_le_length (by rw [llFold_length]; omega)]
      exact ih (by omega)

/-- an entry stored after `k` steps is not touched again -/
theorem llFold_getD_of_lt (g : List α → Nat → α) (c k n : Nat) (hc : c < k) (hk : k ≤ n) (d : α) :
    (llFold g k).getD c d = (llFold g n).getD c d := by
  rw [← llFold_take g k n hk]
  simp only [List.getD_eq_getElem?_getD, List.getElem?_take, hc, if_true]

/-- entry `i` of the final table was computed from the table after `i` steps -/
theorem llFold_getD (g : List α → Nat → α) (n i : Nat) (hi : i < n) (d : α) :
    (llFold g n).getD i d = g (llFold g i) i := by
  rw [← llFold_getD_of_lt g i (i + 1) n (by omega) (by omega), llFold_succ, List.getD_eq_getElem?_getD,
    List.getElem?_append_right (by rw [llFold_length]), llFold_length]
  simp

/-- two tables filled in step, the second from the images of the first: if every step commutes with `φ` then the
second table is the image of the first -/
theorem llFold_map (g : List α → Nat → α) (g' : List β → Nat → β) (φ : α → β) :
    ∀ n, (∀ i, i < n → g' ((llFold g i).map φ) i = φ (g (llFold g i) i)) → llFold g' n = (llFold g n).map φ
  | 0, _ => rfl
  | n + 1, h => by
    rw [llFold_succ, llFold_succ, llFold_map g g' φ n (fun i hi => h i (by omega)), h n (by omega)]
    simp

/-- a table filled entry by entry along a list is the table filled along the list's indices, when the entry functions
agree at every position (the first reads the element, the second its index); `k` entries are already stored -/
theorem foldl_index_from (f : List α → β → α) (g : List α → Nat → α) : ∀ (net : List β) (k : Nat),
    (∀ i x, net[i]? = some x → ∀ vals : List α, vals.length = k + i → f vals x = g vals (k + i)) →
    net.foldl (fun vals x => vals ++ [f vals x]) (llFold g k) = llFold g (k + net.length)
  | [], _, _ => rfl
  | x :: net, k, h => by
    have h0 : f (llFold g k) x = g (llFold g k) k := h 0 x rfl _ (llFold_length g k)
    rw [List.foldl_cons, h0, ← llFold_succ,
      foldl_index_from f g net (k + 1) (fun i y hy vals hv => by
        have := h (i + 1) y hy vals (by omega)
        rwa [← Nat.add_assoc, Nat.add_right_comm] at this),
      List.length_cons, Nat.add_right_comm, Nat.add_assoc]

theorem foldl_index (net : List β) (f : List α → β → α) (g : List α → Nat → α)
    (h : ∀ i x, net[i]? = some x → ∀ vals : List α, vals.length = i → f vals x = g vals i) :
    net.foldl (fun vals x => vals ++ [f vals x]) [] = llFold g net.length := by
  have := foldl_index_from f g net 0 (by simpa only [Nat.zero_add] using h)
  rwa [Nat.zero_add] at this

end fold

end Deeprob.E2E
