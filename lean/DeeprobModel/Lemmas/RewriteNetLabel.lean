import DeeprobModel.Lemmas.RewriteNetExport
import DeeprobModel.Lemmas.KahnLemmas
import DeeprobModel.Spec.ValidSpec
set_option linter.unusedSectionVars false
set_option linter.unusedSimpArgs false
set_option linter.unusedVariables false
/-
The ids written by `assign_ids` (`exportFrom`) are a permutation of `0..n-1`: Kahn's order and the post-order list
the same nodes, each once (`Net.kahn_spec`), and `prune` + `assign_ids` + export never fails on a children-first table.
-/
namespace Deeprob
open Net
variable {α : Type} [CommSemiring α]

/-- what `exportFrom` needs from `topological_order`: every reachable node is listed exactly once -/
def KahnFacts (t : Net α) (r : Nat) : Prop :=
  ∀ ko, kahn t r = some ko → ko.Nodup ∧ ∀ v, v ∈ ko ↔ v ∈ collect t r

theorem kahnFacts_of_wellOrdered (t : Net α) (ht : WellOrdered t) (r : Nat) : KahnFacts t r := by
  intro ko hk
  obtain ⟨h1, h2, _⟩ := Net.kahn_spec t r (Net.inRange_of_chLt t (Net.chLt_of_wellOrdered t ht)) ko hk
  exact ⟨h1, h2⟩

/-- `assign_ids` + export never fails on a children-first table (Kahn's algorithm reports no cycle) -/
theorem exportFrom_isSome (t : Net α) (ht : WellOrdered t) (r : Nat) : ∃ res, exportFrom t r = some res := by
  obtain ⟨ko, hk⟩ := Net.kahn_some_of t r (Net.chLt_of_wellOrdered t ht)
  unfold exportFrom
  rw [hk]
  exact ⟨_, rfl⟩

theorem pruneNetWith_isSome (b : Bool) (net : Net α) (root : Nat) (hw : WellOrdered net) :
    ∃ res, pruneNetWith b net root = some res :=
  exportFrom_isSome _ (prunePass_sol b net hw).wellOrdered _

theorem order_mem_iff_reach (t : Net α) (r : Nat) (order : List Nat) (ho : OrderOK t r order) (i : Nat) :
    i ∈ order ↔ Relation.ReflTransGen (Edge t) r i := by
  constructor
  · intro hi
    exact ho.sub (fun i => Relation.ReflTransGen (Edge t) r i)
      (fun a ha c hc => Relation.ReflTransGen.tail ha hc) Relation.ReflTransGen.refl i hi
  · intro h
    induction h with
    | refl => exact List.mem_of_getElem? ho.last
    | tail _ hbc ih => exact closed_mem t order ho.closed _ ih _ hbc

theorem posIn_getElem (order : List Nat) (hnd : order.Nodup) (p : Nat) (hp : p < order.length) :
    posIn order order[p] = p := hnd.idxOf_getElem p hp

theorem map_posIn_self (l : List Nat) (hnd : l.Nodup) : l.map (posIn l) = List.range l.length := by
  apply List.ext_getElem
  · simp
  · intro i h1 h2
    simp only [List.getElem_map, List.getElem_range]
    exact posIn_getElem l hnd i (by simpa using h1)

theorem export_chOf (t : Net α) (order : List Nat) (f : Nat → Nat) (hcl : Closed t order)
    (hlt : ∀ i ∈ order, i < t.length) (p : Nat) (hp : p < order.length) :
    chOf (exportTable t order f) p = (chOf t order[p]).map (posIn order) := by
  obtain ⟨y, hy, ho, _⟩ := export_node t order f hcl hlt p hp
  rw [chOf_some _ p _ ho, chOf_some t _ y hy]

theorem export_reach (t : Net α) (r : Nat) (order : List Nat) (ho : OrderOK t r order) (f : Nat → Nat) (i : Nat)
    (h : Relation.ReflTransGen (Edge t) r i) :
    Relation.ReflTransGen (Edge (exportTable t order f)) (posIn order r) (posIn order i) := by
  induction h with
  | refl => exact Relation.ReflTransGen.refl
  | @tail b c hab hbc ih =>
    apply Relation.ReflTransGen.tail ih
    have hb : b ∈ order := (order_mem_iff_reach t r order ho b).2 hab
    have hp : posIn order b < order.length := List.idxOf_lt_length_iff.2 hb
    have hget : order[posIn order b] = b := List.getElem_idxOf hp
    unfold Edge
    rw [export_chOf t order f ho.closed ho.lt _ hp, hget]
    exact List.mem_map_of_mem hbc

theorem idOf_some (t : Net α) (k : Nat) (y : NNode α) (h : t[k]? = some y) : idOf t k = y.id := by
  simp [idOf, h]

/-- **`assign_ids` labels the exported table with a permutation of `0..n-1`** -/
theorem exportFrom_labeled (t : Net α) (ht : WellOrdered t) (r : Nat) (hr : r < t.length)
    (out : Net α) (order : List Nat) (h : exportFrom t r = some (out, order)) :
    LabeledSpec out (out.length - 1) ∧ ∀ p, p < out.length → p ∈ collect out (out.length - 1) := by
  obtain ⟨ko, hk, hord, he⟩ := exportFrom_unpack t r out order h
  have ho : OrderOK t r order := by rw [hord]; exact orderOK_dfsPost t ht r hr
  obtain ⟨hkn, hkm⟩ := kahnFacts_of_wellOrdered t ht r ko hk
  have hlen : out.length = order.length := by rw [he]; exact exportTable_length _ _ _
  have hne : order.length ≠ 0 := fun h0 => ho.ne (List.eq_nil_of_length_eq_zero h0)
  have hcl : WellOrdered out := by rw [he]; exact export_chLt t order (posIn ko) ho.closed ho.lt
  -- Kahn's order and the post-order list the same nodes
  have hperm : order.Perm ko := by
    rw [List.perm_ext_iff_of_nodup ho.nodup hkn]
    intro a
    rw [order_mem_iff_reach t r order ho a, hkm a, mem_collect_iff_reach t r (inRange_of_wellOrdered t ht) a]
  have hlastpos := ho.posIn_root
  -- every entry is collected
  have hall : ∀ p, p < out.length → p ∈ collect out (out.length - 1) := by
    intro p hp
    rw [hlen] at hp
    rw [mem_collect_iff_reach out _ (inRange_of_wellOrdered out hcl) p, hlen, ← hlastpos, he]
    have h1 := export_reach t r order ho (posIn ko) order[p]
      ((order_mem_iff_reach t r order ho _).1 (List.getElem_mem hp))
    rwa [posIn_getElem order ho.nodup p hp] at h1
  refine ⟨?_, hall⟩
  have hcperm : (collect out (out.length - 1)).Perm (List.range out.length) := by
    rw [List.perm_ext_iff_of_nodup (collect_nodup _ _) List.nodup_range]
    intro a
    rw [List.mem_range]
    constructor
    · intro ha
      have := collect_lt_of_chLt out hcl (out.length - 1) (by omega) a ha
      omega
    · exact hall a
  unfold LabeledSpec
  rw [hcperm.length_eq, List.length_range]
  apply (hcperm.map (idOf out)).trans
  have hids : (List.range out.length).map (idOf out) = order.map (posIn ko) := by
    apply List.ext_getElem
    · simp [hlen]
    · intro p h1 h2
      have hp : p < order.length := by simpa using h2
      simp only [List.getElem_map, List.getElem_range]
      obtain ⟨y, hy, hoy, _⟩ := export_node t order (posIn ko) ho.closed ho.lt p hp
      rw [he, idOf_some _ p _ hoy]
  rw [hids]
  apply (hperm.map (posIn ko)).trans
  rw [map_posIn_self ko hkn, hlen, hperm.length_eq]

end Deeprob
