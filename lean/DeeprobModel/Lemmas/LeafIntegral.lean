import DeeprobModel.Lemmas.LeafLemmas
import Mathlib.MeasureTheory.Integral.IntervalIntegral.Basic
import Mathlib.Analysis.SpecialFunctions.Integrals.Basic
/-
Integrals of the histogram density over `ℝ` (interval integrals of Mathlib): one induction over the bins,
`∫_{lo}^{x} g·(un-normalised height) = Σ hᵢ·∫_{bᵢ}^{min(x,bᵢ₊₁)} g` for every continuous `g`, from which the cdf
(`g = 1`), the total mass and the raw moments (`g = tᵏ`, `integral_pow`) follow.
-/
namespace Deeprob.LeafTheory
open MeasureTheory intervalIntegral Set

/-- on `[lo, y]` inside the first bin the height is the constant `h` (up to the point `y = hi`) -/
theorem integral_first_bin {g : ℝ → ℝ} (hg : Continuous g) (h : ℝ) (hs : List ℝ) {lo hi : ℝ} (bs : List ℝ) {y : ℝ}
    (h1 : lo ≤ y) (h2 : y ≤ hi) :
    IntervalIntegrable (fun t => g t * histRaw t (h :: hs) (lo :: hi :: bs)) volume lo y ∧
    ∫ t in lo..y, g t * histRaw t (h :: hs) (lo :: hi :: bs) = h * ∫ t in lo..y, g t := by
  have heq : EqOn (fun t => g t * h) (fun t => g t * histRaw t (h :: hs) (lo :: hi :: bs)) (Ioo lo y) :=
    fun t ht => by simp only [histRaw, if_pos (ht.2.trans_le h2)]
  refine ⟨((hg.mul continuous_const).intervalIntegrable lo y).congr_uIoo (by rwa [uIoo_of_le h1]), ?_⟩
  rw [← integral_congr_Ioo_of_le h1 heq, intervalIntegral.integral_mul_const, mul_comm]

/-- `∫_{lo}^{x} g(t)·histRaw(t) dt` is the finite sum of interval integrals `histInt`, and the integrand is
interval integrable — any continuous `g`, any number of bins, any `x ≥ lo`. -/
theorem integral_mul_histRaw {g : ℝ → ℝ} (hg : Continuous g) {hs : List ℝ} {lo : ℝ} {bs : List ℝ} {x : ℝ}
    (hb : Incr (lo :: bs)) (hx : lo ≤ x) :
    IntervalIntegrable (fun t => g t * histRaw t hs (lo :: bs)) volume lo x ∧
    ∫ t in lo..x, g t * histRaw t hs (lo :: bs) = histInt (fun a b => ∫ t in a..b, g t) x hs (lo :: bs) := by
  induction hs, lo, bs using hist_induction with
  | nil | single => simp [histRaw, histInt]
  | bin h hs lo hi bs ih =>
    by_cases hlt : x < hi
    · simpa only [histInt, if_pos hlt] using integral_first_bin hg h hs bs hx hlt.le
    · have hle := not_lt.1 hlt
      obtain ⟨i1, e1⟩ := integral_first_bin hg h hs bs hb.1.le le_rfl
      obtain ⟨i2, e2⟩ := ih hb.tail hle
      have heq : EqOn (fun t => g t * histRaw t hs (hi :: bs))
          (fun t => g t * histRaw t (h :: hs) (lo :: hi :: bs)) (Ioo hi x) :=
        fun t ht => by simp only [histRaw, if_neg ht.1.not_gt]
      have i2' := i2.congr_uIoo (by rwa [uIoo_of_le hle])
      refine ⟨i1.trans i2', ?_⟩
      rw [← integral_add_adjacent_intervals i1 i2', e1, ← integral_congr_Ioo_of_le hle heq, e2]
      simp only [histInt, if_neg hlt]

/-- the same against the normalised density `histPdf`, from the first break -/
theorem integral_mul_histPdf {g : ℝ → ℝ} (hg : Continuous g) (hs : List ℝ) {b0 : ℝ} {bs : List ℝ} {x : ℝ}
    (hb : Incr (b0 :: bs)) (hx : b0 ≤ x) :
    IntervalIntegrable (fun t => g t * histPdf hs (b0 :: bs) t) volume b0 x ∧
    ∫ t in b0..x, g t * histPdf hs (b0 :: bs) t =
      histInt (fun a b => ∫ t in a..b, g t) x hs (b0 :: bs) / histZ hs (b0 :: bs) := by
  obtain ⟨i, e⟩ := integral_mul_histRaw (hs := hs) hg hb hx
  have heq : EqOn (fun t => g t * histRaw t hs (b0 :: bs) / histZ hs (b0 :: bs))
      (fun t => g t * histPdf hs (b0 :: bs) t) (Ioo b0 x) := by
    intro t ht
    have : ¬ t < b0 := not_lt.2 ht.1.le
    simp [histPdf, this, mul_div_assoc]
  refine ⟨(i.div_const _).congr_uIoo (by rwa [uIoo_of_le hx]), ?_⟩
  rw [← integral_congr_Ioo_of_le hx heq, intervalIntegral.integral_div, e]

/-- left of the first break the density vanishes, so the integral from `b₀` to any `x < b₀` is zero -/
theorem integral_histPdf_left (hs : List ℝ) (b0 : ℝ) (bs : List ℝ) (x : ℝ) (hx : x < b0) :
    ∫ t in b0..x, histPdf hs (b0 :: bs) t = 0 := by
  have heq : EqOn (fun _ => (0 : ℝ)) (fun t => histPdf hs (b0 :: bs) t) (uIoo b0 x) := by
    intro t ht
    rw [uIoo_of_ge hx.le] at ht
    simp [histPdf, ht.2]
  rw [← integral_congr_uIoo heq]
  simp

theorem histInt_sub (x : ℝ) : ∀ (hs : List ℝ) (b : List ℝ),
    histInt (fun a b => ∫ _ in a..b, (1 : ℝ)) x hs b = histCdfRaw x hs b
  | [], _ | _ :: _, [] | _ :: _, [_] => rfl
  | h :: hs, lo :: hi :: bs => by
      simp only [histInt, histCdfRaw]
      rw [histInt_sub x hs (hi :: bs)]
      simp

theorem histInt_pow_last (z : ℝ) (k : ℕ) {x : ℝ} {hs : List ℝ} {lo : ℝ} {bs : List ℝ} (hb : Incr (lo :: bs))
    (hx : lastB lo bs ≤ x) :
    histInt (fun a b => ∫ t in a..b, t ^ k) x hs (lo :: bs) / z = histMomentZ z k hs (lo :: bs) := by
  induction hs, lo, bs using hist_induction with
  | nil | single => exact zero_div z
  | bin h hs lo hi bs ih =>
    simp only [histInt, histMomentZ]
    rw [if_neg (not_lt.2 ((incr_le_lastB hb.tail).trans hx)), add_div, ih hb.tail hx, integral_pow]
    congr 1
    push_cast
    ring

end Deeprob.LeafTheory
