import DeeprobModel.Lemmas.GraphOrderBfs
/-
`WellFormedPred` (exactly one `-1`, every other entry an index, every index climbs to the root) is
equivalent to `Clt.isTree` (the unfolding `Clt.build` from the root lists every index exactly once).
-/
namespace Deeprob.GraphIo
open Deeprob Deeprob.Clt Deeprob.CltFit

/-- the levels below `c` are the levels below its children, one step later -/
theorem level_succ_left (tree : List Int) (c : Nat) : ∀ k,
    level tree c (k + 1) = (childrenOf tree c).flatMap (fun d => level tree d k)
  | 0 => by
    show ([c] : List Nat).flatMap (childrenOf tree) = _
    rw [List.flatMap_singleton]
    exact (List.flatMap_singleton' _).symm
  | k + 1 => by
    rw [level, level_succ_left tree c k, List.flatMap_assoc]
    rfl

theorem flatMap_exchange {β γ δ : Type} (g : β → γ → List δ) (m : List γ) : ∀ (l : List β),
    (l.flatMap (fun d => m.flatMap (g d))).Perm (m.flatMap (fun k => l.flatMap (fun d => g d k)))
  | [] => by simp
  | d :: l => by
    simp only [List.flatMap_cons]
    refine (List.Perm.append_left _ (flatMap_exchange g m l)).trans ?_
    exact List.flatMap_append_perm m (g d) (fun k => l.flatMap (fun d => g d k))

theorem vars_build_perm (tree : List Int) : ∀ (f c : Nat),
    (build tree f c).vars.Perm ((List.range (f + 1)).flatMap (level tree c))
  | 0, c => by simp [build, RTree.vars, level]
  | f + 1, c => by
    rw [build_succ, RTree.vars, List.map_map]
    have h1 : (((childrenOf tree c).map (RTree.vars ∘ build tree f)).flatten).Perm
        ((List.range (f + 1)).flatMap (fun k => level tree c (k + 1))) := by
      rw [← List.flatMap_def]
      refine (List.Perm.flatMap_left _ (fun d _ => vars_build_perm tree f d)).trans ?_
      refine (flatMap_exchange (fun d k => level tree d k) _ _).trans (List.Perm.of_eq ?_)
      exact List.flatMap_congr (fun k _ => (level_succ_left tree c k).symm)
    rw [List.range_succ_eq_map, List.flatMap_cons, List.flatMap_map]
    exact List.Perm.cons c h1

theorem reaches_extend {tree : List Int} {c d : Nat} (hp : parent tree d = some c) (f x : Nat)
    (hx : reaches tree d f x = true) : reaches tree c (f + 1) x = true := by
  have hd : ∀ f, reaches tree c (f + 1) d = true := fun f =>
    reaches_succ_iff.2 (Or.inr ⟨c, hp, reaches_self tree c f⟩)
  induction f generalizing x with
  | zero => rw [reaches_zero_iff.1 hx]; exact hd 0
  | succ f ih =>
    rcases reaches_succ_iff.1 hx with rfl | ⟨q, hq, hqr⟩
    · exact hd (f + 1)
    · exact reaches_succ_iff.2 (Or.inr ⟨q, hq, ih q hqr⟩)

theorem mem_vars_reaches (tree : List Int) (f c x : Nat) (hc : c < tree.length)
    (hx : x ∈ (build tree f c).vars) : reaches tree c f x = true := by
  induction f generalizing c with
  | zero =>
    simp [build, RTree.vars] at hx
    rw [hx]; exact reaches_self tree c 0
  | succ f ih =>
    rw [build_succ] at hx
    simp only [RTree.vars, List.mem_cons, List.mem_flatten, List.mem_map] at hx
    rcases hx with rfl | ⟨l, ⟨t, ⟨d, hd, rfl⟩, rfl⟩, hxl⟩
    · exact reaches_self tree x _
    · obtain ⟨hdl, hde⟩ := mem_childrenOf_iff.1 hd
      exact reaches_extend (parent_of_entry hc hde) f x (ih d hdl hxl)

theorem WF.isTree {tree : List Int} {r : Nat} (h : WF tree r) : Clt.isTree tree = true := by
  apply Xpc.isTree_of_perm h.rootOf
  refine (vars_build_perm tree tree.length r).trans ?_
  rw [List.range_succ, List.flatMap_append]
  simp only [List.flatMap_cons, List.flatMap_nil, List.append_nil]
  rw [h.level_big (Nat.le_refl _), List.append_nil]
  exact h.levels_perm

theorem wf_of_isTree {tree : List Int} (ht : Clt.isTree tree = true) : WellFormedPred tree := by
  obtain ⟨r, hr, hperm⟩ := Clt.isTree_perm ht
  obtain ⟨hrl, hc⟩ := Clt.rootOf_eq_some_iff.1 hr
  have hre := (hc r hrl).2 rfl
  rw [wf_iff]
  refine ⟨r, by rw [rootIdx_eq_rootOf]; exact hr, ?_⟩
  rw [isRST_iff_entries]
  refine ⟨hrl, hre, Clt.isTree_parent ht hr, fun i hi => ?_⟩
  have hmem : i ∈ (build tree tree.length r).vars := hperm.mem_iff.2 (List.mem_range.2 hi)
  rw [← Clt.isTree_stable ht hr (tree.length - 1) (by omega)] at hmem
  exact mem_vars_reaches tree _ r i hrl hmem

/-- **`Clt.build` succeeds (lists every index exactly once) iff the vector is well formed** -/
theorem wellFormedPred_iff_isTree (tree : List Int) : WellFormedPred tree ↔ Clt.isTree tree = true := by
  constructor
  · intro hw
    obtain ⟨r, h⟩ := WF.of_wf hw
    exact h.isTree
  · exact wf_of_isTree

end Deeprob.GraphIo
