import DeeprobModel.Model.CltFit
import Mathlib.Combinatorics.SimpleGraph.Acyclic
import Mathlib.Algebra.BigOperators.Group.Finset.Basic
import Mathlib.Algebra.Order.BigOperators.Group.Finset
import Mathlib.Logic.Relation
/-
C11: maximum spanning trees via the cycle property (exchange argument).

Representation: a graph on a finite vertex type `V` is a `Finset (Sym2 V)` of undirected edges;
reachability is the reflexive-transitive closure of "joined by an edge of `T`".
A *spanning tree* is a connected edge set with at most `|V| - 1` edges (equivalently, by
`IsSpanTree.isTree` and `isSpanTree_of_isTree`, Mathlib's `SimpleGraph.IsTree` of the graph it generates).
The only imported graph-theoretic fact is Mathlib's
`SimpleGraph.Connected.card_vert_le_card_edgeSet_add_one` (a connected graph has ≥ |V|-1 edges).
-/
open Relation

namespace Deeprob
namespace SpanTree

variable {V : Type} [Fintype V] [DecidableEq V]

/-- `a` and `b` are joined by a walk along edges of `T` -/
def Reach (T : Finset (Sym2 V)) : V → V → Prop := ReflTransGen (fun a b => s(a, b) ∈ T)

/-- connected, with at most `|V| - 1` edges -/
def IsSpanTree (T : Finset (Sym2 V)) : Prop :=
  (∀ a b, Reach T a b) ∧ T.card + 1 ≤ Fintype.card V

omit [Fintype V] [DecidableEq V] in
theorem rtg_symm {r : V → V → Prop} (hs : ∀ a b, r a b → r b a) {a b : V}
    (hab : ReflTransGen r a b) : ReflTransGen r b a := by
  induction hab with
  | refl => exact .refl
  | tail _ hbc ih => exact ReflTransGen.head (hs _ _ hbc) ih

omit [Fintype V] [DecidableEq V] in
theorem Reach.symm {T : Finset (Sym2 V)} {a b : V} (h : Reach T a b) : Reach T b a :=
  rtg_symm (fun x y (hxy : s(x, y) ∈ T) => show s(y, x) ∈ T by rwa [Sym2.eq_swap]) h

omit [Fintype V] [DecidableEq V] in
theorem Reach.mono {T T' : Finset (Sym2 V)} (hsub : T ⊆ T') {a b : V} (h : Reach T a b) : Reach T' a b :=
  ReflTransGen.mono (fun _ _ hxy => hsub hxy) _ _ h

omit [Fintype V] [DecidableEq V] in
/-- a walk from inside `A` to outside `A` uses an edge that leaves `A` -/
theorem crossing {r : V → V → Prop} {A : V → Prop} {u v : V} (h : ReflTransGen r u v)
    (hu : A u) (hv : ¬ A v) : ∃ x y, r x y ∧ A x ∧ ¬ A y := by
  induction h with
  | refl => exact absurd hu hv
  | @tail b c hab hbc ih =>
    by_cases hb : A b
    · exact ⟨b, c, hbc, hb, hv⟩
    · exact ih hb

omit [Fintype V] [DecidableEq V] in
theorem connected_fromEdgeSet [Nonempty V] (T : Finset (Sym2 V)) (hconn : ∀ a b, Reach T a b) :
    (SimpleGraph.fromEdgeSet (T : Set (Sym2 V))).Connected := by
  refine ⟨fun a b => ?_⟩
  have h := hconn a b
  induction h with
  | refl => exact SimpleGraph.Reachable.refl _
  | @tail b c _ hbc ih =>
    by_cases hbc' : b = c
    · subst hbc'; exact ih
    · exact ih.trans (SimpleGraph.Adj.reachable (by
        rw [SimpleGraph.fromEdgeSet_adj]; exact ⟨by simpa using hbc, hbc'⟩))

omit [Fintype V] [DecidableEq V] in
theorem card_edgeSet_le (T : Finset (Sym2 V)) :
    Nat.card (SimpleGraph.fromEdgeSet (T : Set (Sym2 V))).edgeSet ≤ T.card := by
  have hsub : (SimpleGraph.fromEdgeSet (T : Set (Sym2 V))).edgeSet ⊆ (T : Set (Sym2 V)) := by
    rw [SimpleGraph.edgeSet_fromEdgeSet]; exact Set.sdiff_subset
  calc _ ≤ Nat.card (T : Set (Sym2 V)) := Nat.card_mono (Finset.finite_toSet T) hsub
    _ = T.card := by simp

omit [DecidableEq V] in
/-- a connected graph has at least `|V| - 1` edges (Mathlib, transported to edge finsets) -/
theorem connected_card (T : Finset (Sym2 V)) (hconn : ∀ a b, Reach T a b) :
    Fintype.card V ≤ T.card + 1 := by
  classical
  rcases isEmpty_or_nonempty V with hV | hV
  · simp
  have h1 := (connected_fromEdgeSet T hconn).card_vert_le_card_edgeSet_add_one
  rw [Nat.card_eq_fintype_card] at h1
  have h2 := card_edgeSet_le T
  omega

omit [Fintype V] in
/-- after deleting the edge `s(u,v)`, every vertex reachable from `u` stays attached to `u` or to `v` -/
theorem split_erase (T : Finset (Sym2 V)) (u v z : V) (h : Reach T u z) :
    Reach (T.erase s(u, v)) u z ∨ Reach (T.erase s(u, v)) v z := by
  induction h with
  | refl => exact Or.inl ReflTransGen.refl
  | @tail b c _ hbc ih =>
    by_cases he : s(b, c) = s(u, v)
    · rcases Sym2.eq_iff.mp he with ⟨_, rfl⟩ | ⟨_, rfl⟩
      · exact Or.inr ReflTransGen.refl
      · exact Or.inl ReflTransGen.refl
    · have hm : s(b, c) ∈ T.erase s(u, v) := Finset.mem_erase.mpr ⟨he, hbc⟩
      rcases ih with h1 | h1
      · exact Or.inl (h1.tail hm)
      · exact Or.inr (h1.tail hm)

variable {α : Type} [AddCommMonoid α] [LinearOrder α] [IsOrderedAddMonoid α]

/-- **cycle property**: every non-tree edge `{u,v}` is joined inside `T` by a walk all of whose edges are
at least as heavy as `{u,v}` -/
def CycleProp (w : Sym2 V → α) (T : Finset (Sym2 V)) : Prop :=
  ∀ u v, u ≠ v → s(u, v) ∉ T → ReflTransGen (fun a b => s(a, b) ∈ T ∧ w s(u, v) ≤ w s(a, b)) u v

/-- one exchange step: a spanning tree `T'` containing a non-`T` edge can be modified into a spanning
tree that is no lighter and has one more edge in common with `T` -/
theorem exchange_step (w : Sym2 V → α) (T : Finset (Sym2 V)) (hc : CycleProp w T)
    (T' : Finset (Sym2 V)) (hT' : IsSpanTree T') (e : Sym2 V) (heT' : e ∈ T') (heT : e ∉ T) :
    ∃ T'', IsSpanTree T'' ∧ T'' \ T = (T' \ T).erase e ∧ ∑ x ∈ T', w x ≤ ∑ x ∈ T'', w x := by
  induction e using Sym2.ind with
  | h u v =>
  let E := T'.erase s(u, v)
  have hcardE : E.card + 1 = T'.card := by
    have := Finset.card_erase_of_mem heT'
    have : 0 < T'.card := Finset.card_pos.mpr ⟨_, heT'⟩
    show (T'.erase s(u, v)).card + 1 = T'.card
    omega
  have hdich : ∀ z, Reach E u z ∨ Reach E v z := fun z => split_erase T' u v z (hT'.1 u z)
  -- `v` is cut off from `u`
  have hv : ¬ Reach E u v := by
    intro huv
    have hall : ∀ z, Reach E u z := fun z => by
      rcases hdich z with h | h
      · exact h
      · exact ReflTransGen.trans huv h
    have hconn : ∀ a b, Reach E a b := fun a b => ReflTransGen.trans (hall a).symm (hall b)
    have := connected_card E hconn
    have := hT'.2
    omega
  have hne : u ≠ v := by rintro rfl; exact hv ReflTransGen.refl
  -- the heavy `T`-walk from `u` to `v` leaves the component of `u`
  obtain ⟨x, y, ⟨hxyT, hwxy⟩, hx, hy⟩ := crossing (A := fun z => Reach E u z) (hc u v hne heT)
    ReflTransGen.refl hv
  have hfE : s(x, y) ∉ E := fun hm => hy (ReflTransGen.tail hx hm)
  have hfe : s(x, y) ≠ s(u, v) := fun h => heT (h ▸ hxyT)
  have hfT' : s(x, y) ∉ T' := fun hm => hfE (Finset.mem_erase.mpr ⟨hfe, hm⟩)
  refine ⟨insert s(x, y) E, ⟨?_, ?_⟩, ?_, ?_⟩
  · -- connected
    have hsub : E ⊆ insert s(x, y) E := Finset.subset_insert _ _
    have hyv : Reach E v y := (hdich y).resolve_left hy
    have huv : Reach (insert s(x, y) E) u v :=
      ReflTransGen.trans (ReflTransGen.tail (Reach.mono hsub hx) (Finset.mem_insert_self _ _))
        (Reach.mono hsub hyv).symm
    have hall : ∀ z, Reach (insert s(x, y) E) u z := fun z => by
      rcases hdich z with h | h
      · exact Reach.mono hsub h
      · exact ReflTransGen.trans huv (Reach.mono hsub h)
    exact fun a b => ReflTransGen.trans (hall a).symm (hall b)
  · rw [Finset.card_insert_of_notMem hfE, hcardE]; exact hT'.2
  · ext g
    simp only [Finset.mem_sdiff, Finset.mem_insert, Finset.mem_erase, E]
    constructor
    · rintro ⟨h1 | ⟨h1, h2⟩, h3⟩
      · exact absurd (h1 ▸ hxyT) h3
      · exact ⟨h1, h2, h3⟩
    · rintro ⟨h1, h2, h3⟩
      exact ⟨Or.inr ⟨h1, h2⟩, h3⟩
  · rw [Finset.sum_insert hfE, ← Finset.add_sum_erase T' w heT']
    exact add_le_add_left hwxy _

omit [DecidableEq V] in
/-- **Maximum spanning tree ⇐ cycle property.** A spanning tree satisfying the cycle property is at least
as heavy as every spanning tree on the same vertices. -/
theorem cycleProp_max (w : Sym2 V → α) (T : Finset (Sym2 V)) (hT : IsSpanTree T) (hc : CycleProp w T) :
    ∀ T' : Finset (Sym2 V), IsSpanTree T' → ∑ e ∈ T', w e ≤ ∑ e ∈ T, w e := by
  classical
  intro T' hT'
  generalize hk : (T' \ T).card = k
  induction k generalizing T' with
  | zero =>
    have hsub : T' ⊆ T := Finset.sdiff_eq_empty_iff_subset.mp (Finset.card_eq_zero.mp hk)
    have h1 := connected_card T' hT'.1
    have h2 := hT.2
    have : T' = T := Finset.eq_of_subset_of_card_le hsub (by omega)
    rw [this]
  | succ k ih =>
    obtain ⟨e, he⟩ : (T' \ T).Nonempty := Finset.card_pos.mp (by omega)
    obtain ⟨heT', heT⟩ := Finset.mem_sdiff.mp he
    obtain ⟨T'', hT'', hdiff, hw⟩ := exchange_step w T hc T' hT' e heT' heT
    have hk' : (T'' \ T).card = k := by
      rw [hdiff, Finset.card_erase_of_mem he, hk]; rfl
    exact le_trans hw (ih T'' hT'' hk')

omit [DecidableEq V] in
/-- a spanning tree in the sense of this file generates a Mathlib tree -/
theorem IsSpanTree.isTree {T : Finset (Sym2 V)} (h : IsSpanTree T) :
    (SimpleGraph.fromEdgeSet (T : Set (Sym2 V))).IsTree := by
  classical
  have hV : Nonempty V := by
    have := h.2
    exact Fintype.card_pos_iff.mp (by omega)
  rw [SimpleGraph.isTree_iff_connected_and_card]
  have hG := connected_fromEdgeSet T h.1
  refine ⟨hG, ?_⟩
  have h1 := hG.card_vert_le_card_edgeSet_add_one
  have h2 := card_edgeSet_le T
  have h3 := h.2
  have h4 : Nat.card V = Fintype.card V := Nat.card_eq_fintype_card
  omega

omit [DecidableEq V] in
/-- every Mathlib tree on `V` is a spanning tree in the sense of this file (so `cycleProp_max`
quantifies over all of them) -/
theorem isSpanTree_of_isTree (G : SimpleGraph V) [DecidableRel G.Adj] (h : G.IsTree) :
    IsSpanTree G.edgeFinset := by
  refine ⟨fun a b => ?_, ?_⟩
  · obtain ⟨p⟩ := h.connected.preconnected a b
    induction p with
    | nil => exact .refl
    | cons hadj _ ih =>
      exact ReflTransGen.head (by simpa [SimpleGraph.mem_edgeFinset] using hadj) ih
  · have := h.card_edgeFinset
    omega

end SpanTree
end Deeprob
