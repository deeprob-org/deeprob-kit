import DeeprobModel.Model.RewriteNet
import DeeprobModel.Lemmas.NetValid
import DeeprobModel.Lemmas.RewriteLemmas
import DeeprobModel.Lemmas.SnocPass
set_option linter.unusedSectionVars false
set_option linter.unusedSimpArgs false
set_option linter.unusedVariables false
/-
Basics for the net-level `prune` / `marginalize` (`Model/RewriteNet.lean`): the value of a stored node, the
insertion-ordered dictionary `children_weights`, and what a rebuilt node takes over from its children.
-/
namespace Deeprob
variable {α : Type} [CommSemiring α]

/-- value of node `j` of a stored table under evidence `e` -/
def nval (e : Ev) (dens : List α) (t : Net α) (j : Nat) : α := (evalNet e dens t).getD j 0

theorem evalNet_append (e : Ev) (dens : List α) (a b : Net α) :
    evalNet e dens (a ++ b) = b.foldl (fun vals x => vals ++ [evalNode e dens vals x]) (evalNet e dens a) :=
  List.foldl_append

theorem evalNet_append_one (e : Ev) (dens : List α) (t : Net α) (y : NNode α) :
    evalNet e dens (t ++ [y]) = evalNet e dens t ++ [evalNode e dens (evalNet e dens t) y] :=
  List.foldl_append

theorem nval_append_lt (e : Ev) (dens : List α) (a b : Net α) (j : Nat) (hj : j < a.length) :
    nval e dens (a ++ b) j = nval e dens a j := by
  unfold nval
  rw [evalNet_append]
  obtain ⟨s, hs, _⟩ := foldl_eval_prefix e dens b (evalNet e dens a)
  rw [hs, List.getD_eq_getElem?_getD, List.getD_eq_getElem?_getD, List.getElem?_append_left]
  rw [evalNet_length]; exact hj

theorem nval_append_last (e : Ev) (dens : List α) (t : Net α) (y : NNode α) :
    nval e dens (t ++ [y]) t.length = evalNode e dens (evalNet e dens t) y := by
  unfold nval
  rw [evalNet_append_one, List.getD_eq_getElem?_getD, ← evalNet_length e dens t, List.getElem?_concat_length]
  rfl

theorem evalNode_congr (e : Ev) (dens : List α) (v1 v2 : List α) (x : NNode α) (hl : v1.length = v2.length)
    (h : ∀ c ∈ x.ch, v1.getD c 0 = v2.getD c 0) : evalNode e dens v1 x = evalNode e dens v2 x := by
  unfold evalNode
  have : x.ch.map (fun c => v1.getD c 0) = x.ch.map (fun c => v2.getD c 0) :=
    List.map_congr_left h
  rw [hl, this]

theorem nval_unfold (e : Ev) (dens : List α) (t : Net α) (j : Nat) (y : NNode α) (hy : t[j]? = some y)
    (hc : ∀ c ∈ y.ch, c < j) :
    nval e dens t j = match y.kind with
      | .leaf => y.leaf.fn y.scope (dens.getD j 0) e
      | .sum => wsum y.ws (y.ch.map (nval e dens t))
      | .prod => lprod (y.ch.map (nval e dens t)) := by
  obtain ⟨hj, rfl⟩ := List.getElem?_eq_some_iff.1 hy
  have hlen : (t.take j).length = j := List.length_take_of_le (Nat.le_of_lt hj)
  -- the table is `t.take j ++ [t[j]] ++ t.drop (j+1)`, and evaluation never looks ahead
  have h1 : nval e dens t j = evalNode e dens (evalNet e dens (t.take j)) t[j] := by
    conv => lhs; rw [← List.take_append_drop (j+1) t, List.take_succ_eq_append_getElem hj]
    rw [nval_append_lt e dens _ _ j (by rw [List.length_append, hlen]; exact Nat.lt_succ_self j)]
    have := nval_append_last e dens (t.take j) t[j]
    rwa [hlen] at this
  have hm : (t[j]).ch.map (fun c => (evalNet e dens (t.take j)).getD c 0) = (t[j]).ch.map (nval e dens t) := by
    apply List.map_congr_left
    intro c hcm
    conv => rhs; rw [← List.take_append_drop j t]
    exact (nval_append_lt e dens _ _ c (by rw [hlen]; exact hc c hcm)).symm
  rw [h1]
  unfold evalNode
  rw [hm, evalNet_length, hlen]
  cases (t[j]).kind <;> rfl

open Net Circ

/-- every stored sum has one weight per child and weights summing to one -/
def NetSumOK (net : Net α) : Prop :=
  ∀ (i : Nat) (x : NNode α), net[i]? = some x → x.kind = .sum → x.ws.length = x.ch.length ∧ tsum x.ws = 1

theorem netSumOK_of_forall_mem (net : Net α)
    (h : ∀ x ∈ net, x.kind = .sum → x.ws.length = x.ch.length ∧ tsum x.ws = 1) : NetSumOK net :=
  fun _ x hx => h x (List.mem_of_getElem? hx)

theorem kindOf_some (t : Net α) (c : Nat) (y : NNode α) (h : t[c]? = some y) : kindOf t c = y.kind := by
  unfold kindOf; rw [h]
theorem wsOf_some (t : Net α) (c : Nat) (y : NNode α) (h : t[c]? = some y) : wsOf t c = y.ws := by
  unfold wsOf; rw [h]

/-- Σ w·V(k) over an association list -/
def dot (V : Nat → α) : List (Nat × α) → α
  | [] => 0
  | p :: r => p.2 * V p.1 + dot V r

theorem dot_append (V : Nat → α) (a b : List (Nat × α)) : dot V (a ++ b) = dot V a + dot V b := by
  induction a with
  | nil => exact (zero_add _).symm
  | cons p r ih => simp only [List.cons_append, dot, ih, add_assoc]

theorem dot_accAdd (V : Nat → α) (a : List (Nat × α)) (k : Nat) (w : α) :
    dot V (accAdd a k w) = dot V a + w * V k := by
  induction a with
  | nil => simp only [accAdd, dot, zero_add, add_zero]
  | cons p r ih =>
    obtain ⟨k', w'⟩ := p
    unfold accAdd
    by_cases h : k' = k
    · subst h; simp only [if_true, dot]; ring
    · simp only [h, if_false, dot, ih, add_assoc]

theorem dot_foldl (V : Nat → α) (items a0 : List (Nat × α)) :
    dot V (items.foldl (fun a (p : Nat × α) => accAdd a p.1 p.2) a0) = dot V a0 + dot V items := by
  induction items generalizing a0 with
  | nil => exact (add_zero _).symm
  | cons p r ih => simp only [List.foldl_cons, ih, dot_accAdd, dot, add_assoc]

theorem wsum_eq_dot (V : Nat → α) (l : List (Nat × α)) :
    wsum (l.map Prod.snd) ((l.map Prod.fst).map V) = dot V l := by
  induction l with
  | nil => rfl
  | cons p r ih => simp only [List.map_cons, wsum, dot, ih]

theorem tsum_eq_dot (l : List (Nat × α)) : tsum (l.map Prod.snd) = dot (fun _ => (1:α)) l := by
  induction l with
  | nil => rfl
  | cons p r ih => simp only [List.map_cons, tsum, dot, ih, mul_one]

theorem wsum_zip_dot (V : Nat → α) (w : α) (gs : List Nat) (ws' : List α) :
    dot V ((gs.zip ws').map (fun (q : Nat × α) => (q.1, w * q.2))) = w * wsum ws' (gs.map V) := by
  induction gs generalizing ws' with
  | nil => cases ws' <;> exact (mul_zero w).symm
  | cons g gs ih => cases ws' with
    | nil => exact (mul_zero w).symm
    | cons v vs => simp only [List.zip_cons_cons, List.map_cons, dot, wsum, ih]; ring

theorem keys_accAdd (a : List (Nat × α)) (k : Nat) (w : α) :
    (accAdd a k w).map Prod.fst = if k ∈ a.map Prod.fst then a.map Prod.fst else a.map Prod.fst ++ [k] := by
  induction a with
  | nil => rfl
  | cons p r ih =>
    unfold accAdd
    by_cases hk : p.1 = k
    · simp only [hk, if_true, List.map_cons, List.mem_cons, true_or]
    · have hk' : ¬ k = p.1 := fun h => hk h.symm
      simp only [hk, if_false, List.map_cons, List.mem_cons, hk', false_or, ih]
      split <;> rfl

theorem mem_keys_accAdd (a : List (Nat × α)) (k k' : Nat) (w : α) :
    k ∈ (accAdd a k' w).map Prod.fst ↔ k ∈ a.map Prod.fst ∨ k = k' := by
  rw [keys_accAdd]
  split
  · exact ⟨Or.inl, fun h => h.elim id (fun e => e ▸ ‹_›)⟩
  · rw [List.mem_append, List.mem_singleton]

theorem accAdd_keys_nodup (a : List (Nat × α)) (k : Nat) (w : α) (h : (a.map Prod.fst).Nodup) :
    ((accAdd a k w).map Prod.fst).Nodup := by
  rw [keys_accAdd]
  split
  · exact h
  · exact List.nodup_append.2 ⟨h, List.nodup_singleton k, fun x hx y hy e =>
      ‹k ∉ _› (List.mem_singleton.1 hy ▸ e ▸ hx)⟩

theorem mem_keys_foldl (items a0 : List (Nat × α)) (k : Nat) :
    k ∈ (items.foldl (fun a (p : Nat × α) => accAdd a p.1 p.2) a0).map Prod.fst ↔
      k ∈ a0.map Prod.fst ∨ k ∈ items.map Prod.fst := by
  induction items generalizing a0 with
  | nil => simp only [List.foldl_nil, List.map_nil, List.not_mem_nil, or_false]
  | cons p r ih => rw [List.foldl_cons, ih, mem_keys_accAdd, List.map_cons, List.mem_cons, or_assoc]

theorem foldl_accAdd_keys_nodup (items a0 : List (Nat × α)) (h : (a0.map Prod.fst).Nodup) :
    ((items.foldl (fun a (p : Nat × α) => accAdd a p.1 p.2) a0).map Prod.fst).Nodup := by
  induction items generalizing a0 with
  | nil => exact h
  | cons p r ih => exact ih _ (accAdd_keys_nodup a0 p.1 p.2 h)

theorem accAdd_new (a : List (Nat × α)) (k : Nat) (w : α) (h : k ∉ a.map Prod.fst) : accAdd a k w = a ++ [(k, w)] := by
  induction a with
  | nil => unfold accAdd; rw [zero_add]; rfl
  | cons p r ih =>
    obtain ⟨k', w'⟩ := p
    rw [List.map_cons, List.mem_cons, not_or] at h
    unfold accAdd
    rw [if_neg (fun e => h.1 e.symm), ih h.2]
    rfl

theorem foldl_accAdd_nodup (items a0 : List (Nat × α)) (h : ((a0 ++ items).map Prod.fst).Nodup) :
    items.foldl (fun a (p : Nat × α) => accAdd a p.1 p.2) a0 = a0 ++ items := by
  induction items generalizing a0 with
  | nil => exact (List.append_nil a0).symm
  | cons p r ih =>
    have hp : p.1 ∉ a0.map Prod.fst := by
      intro hm
      rw [List.map_append, List.nodup_append] at h
      exact h.2.2 p.1 hm p.1 List.mem_cons_self rfl
    rw [List.foldl_cons, accAdd_new a0 p.1 p.2 hp, ih _ (by rwa [List.append_assoc]), List.append_assoc]
    rfl

/-- the replaced children of node `x` -/
def repCh (rep : List Nat) (x : NNode α) : List Nat := x.ch.map (fun c => rep.getD c c)

theorem mem_repCh (rep : List Nat) (x : NNode α) (c : Nat) : c ∈ repCh rep x ↔ ∃ c0 ∈ x.ch, rep.getD c0 c0 = c :=
  List.mem_map

/-- `prodItems` without the (idle) look-up of grandchildren in `nodes_map` -/
def prodItems' (t : Net α) (cn : List Nat) : List Nat :=
  (cn.map (fun c => if kindOf t c = .prod then chOf t c else [c])).flatten

/-- `sumItems` without the (idle) look-up of grandchildren in `nodes_map` -/
def sumItems' (t : Net α) (cn : List Nat) (ws : List α) : List (Nat × α) :=
  ((cn.zip ws).map (fun (p : Nat × α) =>
    if kindOf t p.1 = .sum then ((chOf t p.1).zip (wsOf t p.1)).map (fun (q : Nat × α) => (q.1, p.2 * q.2))
    else [(p.1, p.2)])).flatten

/-- `children_weights` computed from the simplified contributions -/
def sumAcc' (t : Net α) (cn : List Nat) (ws : List α) : List (Nat × α) :=
  (sumItems' t cn ws).foldl (fun a (p : Nat × α) => accAdd a p.1 p.2) []

theorem prodItems'_cons (t : Net α) (c : Nat) (cn : List Nat) :
    prodItems' t (c :: cn) = (if kindOf t c = .prod then chOf t c else [c]) ++ prodItems' t cn := rfl

theorem sumItems'_cons (t : Net α) (c : Nat) (cn : List Nat) (w : α) (ws : List α) :
    sumItems' t (c :: cn) (w :: ws) =
      (if kindOf t c = .sum then ((chOf t c).zip (wsOf t c)).map (fun (q : Nat × α) => (q.1, w * q.2)) else [(c, w)])
        ++ sumItems' t cn ws := rfl

/-- the look-ups of grandchildren are idle once these are known to be fixed points of `nodes_map` -/
theorem prodItems_eq (t : Net α) (rep : List Nat) (cn : List Nat)
    (hfix : ∀ c ∈ cn, kindOf t c ≠ .leaf → ∀ g ∈ chOf t c, rep.getD g g = g) :
    prodItems t rep cn = prodItems' t cn := by
  unfold prodItems prodItems'
  congr 1
  apply List.map_congr_left
  intro c hc
  split
  · rename_i hk
    exact map_eq_self_of_mem (hfix c hc (by rw [hk]; exact Kind.noConfusion))
  · rfl

theorem sumItems_eq (t : Net α) (rep : List Nat) (cn : List Nat) (ws : List α)
    (hfix : ∀ c ∈ cn, kindOf t c ≠ .leaf → ∀ g ∈ chOf t c, rep.getD g g = g) :
    sumItems t rep cn ws = sumItems' t cn ws := by
  unfold sumItems sumItems'
  congr 1
  apply List.map_congr_left
  intro p hp
  split
  · rename_i hk
    rw [map_eq_self_of_mem (hfix p.1 (List.of_mem_zip hp).1 (by rw [hk]; exact Kind.noConfusion))]
  · rfl

theorem sumAcc_eq (t : Net α) (rep : List Nat) (x : NNode α)
    (hfix : ∀ c ∈ repCh rep x, kindOf t c ≠ .leaf → ∀ g ∈ chOf t c, rep.getD g g = g) :
    sumAcc t rep x = sumAcc' t (repCh rep x) x.ws := by
  exact congrArg (List.foldl _ []) (sumItems_eq t rep (repCh rep x) x.ws hfix)

theorem mem_prodItems' (t : Net α) (cn : List Nat) (g : Nat) :
    g ∈ prodItems' t cn ↔ ∃ c ∈ cn, (g = c ∧ kindOf t c ≠ .prod) ∨ (kindOf t c = .prod ∧ g ∈ chOf t c) := by
  simp only [prodItems', List.mem_flatten, List.mem_map]
  constructor
  · rintro ⟨l, ⟨c, hc, rfl⟩, hin⟩
    refine ⟨c, hc, ?_⟩
    by_cases hk : kindOf t c = .prod
    · right; rw [if_pos hk] at hin; exact ⟨hk, hin⟩
    · left; rw [if_neg hk] at hin; exact ⟨List.mem_singleton.1 hin, hk⟩
  · rintro ⟨c, hc, h | h⟩
    · exact ⟨_, ⟨c, hc, rfl⟩, by rw [if_neg h.2, h.1]; exact List.mem_singleton_self c⟩
    · exact ⟨_, ⟨c, hc, rfl⟩, by rw [if_pos h.1]; exact h.2⟩

theorem keys_sumItems' (t : Net α) (cn : List Nat) (ws : List α) (g : Nat)
    (h : g ∈ (sumItems' t cn ws).map Prod.fst) :
    ∃ c ∈ cn, (g = c ∧ kindOf t c ≠ .sum) ∨ (kindOf t c = .sum ∧ g ∈ chOf t c) := by
  simp only [sumItems', List.mem_map, List.mem_flatten] at h
  obtain ⟨⟨k', w'⟩, ⟨l, ⟨p, hp, rfl⟩, hin⟩, rfl⟩ := h
  refine ⟨p.1, (List.of_mem_zip hp).1, ?_⟩
  by_cases hk : kindOf t p.1 = .sum
  · right
    rw [if_pos hk, List.mem_map] at hin
    obtain ⟨q, hq, hqe⟩ := hin
    exact ⟨hk, (Prod.mk.inj hqe).1 ▸ (List.of_mem_zip hq).1⟩
  · left
    rw [if_neg hk, List.mem_singleton] at hin
    exact ⟨(Prod.mk.inj hin).1, hk⟩

theorem mem_sumAcc'_keys (t : Net α) (cn : List Nat) (ws : List α) (g : Nat) :
    g ∈ (sumAcc' t cn ws).map Prod.fst ↔ g ∈ (sumItems' t cn ws).map Prod.fst := by
  unfold sumAcc'
  rw [mem_keys_foldl, List.map_nil, List.mem_nil_iff, false_or]

theorem sumAcc'_keys_nodup (t : Net α) (cn : List Nat) (ws : List α) : ((sumAcc' t cn ws).map Prod.fst).Nodup :=
  foldl_accAdd_keys_nodup _ [] List.nodup_nil

theorem forall_prodItems' (t : Net α) (cn : List Nat) (Q : Nat → Prop)
    (h1 : ∀ c ∈ cn, kindOf t c ≠ .prod → Q c) (h2 : ∀ c ∈ cn, kindOf t c = .prod → ∀ g ∈ chOf t c, Q g) :
    ∀ g ∈ prodItems' t cn, Q g := by
  intro g hg
  obtain ⟨c, hc, h | h⟩ := (mem_prodItems' t cn g).1 hg
  · rw [h.1]; exact h1 c hc h.2
  · exact h2 c hc h.1 g h.2

theorem forall_sumAcc'_keys (t : Net α) (cn : List Nat) (ws : List α) (Q : Nat → Prop)
    (h1 : ∀ c ∈ cn, kindOf t c ≠ .sum → Q c) (h2 : ∀ c ∈ cn, kindOf t c = .sum → ∀ g ∈ chOf t c, Q g) :
    ∀ g ∈ (sumAcc' t cn ws).map Prod.fst, Q g := by
  intro g hg
  obtain ⟨c, hc, h | h⟩ := keys_sumItems' t cn ws g ((mem_sumAcc'_keys t cn ws g).1 hg)
  · rw [h.1]; exact h1 c hc h.2
  · exact h2 c hc h.1 g h.2

theorem items_all (t : Net α) (cn : List Nat) (Q : Nat → Prop)
    (h1 : ∀ c ∈ cn, Q c) (h2 : ∀ c ∈ cn, kindOf t c ≠ .leaf → ∀ g ∈ chOf t c, Q g) :
    (∀ g ∈ prodItems' t cn, Q g) ∧ (∀ ws : List α, ∀ g ∈ (sumAcc' t cn ws).map Prod.fst, Q g) :=
  ⟨forall_prodItems' t cn Q (fun c hc _ => h1 c hc) (fun c hc hk => h2 c hc (by rw [hk]; exact Kind.noConfusion)),
   fun ws => forall_sumAcc'_keys t cn ws Q (fun c hc _ => h1 c hc)
     (fun c hc hk => h2 c hc (by rw [hk]; exact Kind.noConfusion))⟩

theorem length_le_flatten {β : Type} (L : List (List β)) (h : ∀ l ∈ L, 1 ≤ l.length) :
    L.length ≤ L.flatten.length := by
  induction L with
  | nil => exact Nat.le_refl _
  | cons l L ih =>
    have h1 := h l List.mem_cons_self
    have h2 := ih (fun l' hl' => h l' (List.mem_cons_of_mem _ hl'))
    rw [List.flatten_cons, List.length_append, List.length_cons]; omega

theorem length_prodItems' (t : Net α) (cn : List Nat) (h : ∀ c ∈ cn, kindOf t c = .prod → 1 ≤ (chOf t c).length) :
    cn.length ≤ (prodItems' t cn).length := by
  have := length_le_flatten (cn.map (fun c => if kindOf t c = .prod then chOf t c else [c])) (by
    intro l hl
    obtain ⟨c, hc, rfl⟩ := List.mem_map.1 hl
    split
    · exact h c hc ‹_›
    · exact Nat.le_refl _)
  rwa [List.length_map] at this

theorem sumAcc'_ne_nil (t : Net α) (cn : List Nat) (ws : List α) (hne : cn ≠ []) (hlen : ws.length = cn.length)
    (h : ∀ c ∈ cn, kindOf t c = .sum → 1 ≤ (chOf t c).length ∧ (wsOf t c).length = (chOf t c).length) :
    sumAcc' t cn ws ≠ [] := by
  have hl := length_le_flatten ((cn.zip ws).map (fun (p : Nat × α) =>
      if kindOf t p.1 = .sum then ((chOf t p.1).zip (wsOf t p.1)).map (fun (q : Nat × α) => (q.1, p.2 * q.2))
      else [(p.1, p.2)])) (by
    intro l hl
    obtain ⟨p, hp, rfl⟩ := List.mem_map.1 hl
    split
    · obtain ⟨h1, h2⟩ := h p.1 (List.of_mem_zip hp).1 ‹_›
      rw [List.length_map, List.length_zip, h2, Nat.min_self]; exact h1
    · exact Nat.le_refl _)
  rw [List.length_map, List.length_zip, hlen, Nat.min_self] at hl
  -- the first contribution is a key
  match hi : sumItems' t cn ws with
  | [] =>
    have : cn.length ≤ 0 := by unfold sumItems' at hi; rw [hi] at hl; exact hl
    exact absurd (List.eq_nil_of_length_eq_zero (Nat.le_zero.1 this)) hne
  | p :: r =>
    intro h0
    have : p.1 ∈ (sumAcc' t cn ws).map Prod.fst :=
      (mem_sumAcc'_keys t cn ws p.1).2 (by rw [hi]; exact List.mem_cons_self)
    rw [h0] at this
    cases this

theorem prodItems'_id (t : Net α) (cn : List Nat) (h : ∀ c ∈ cn, kindOf t c ≠ .prod) : prodItems' t cn = cn := by
  unfold prodItems'
  rw [List.map_congr_left (g := fun c => [c]) (fun c hc => if_neg (h c hc)), ← List.flatMap_def]
  exact List.flatMap_singleton' cn

theorem sumItems'_id (t : Net α) (cn : List Nat) (ws : List α) (h : ∀ c ∈ cn, kindOf t c ≠ .sum) :
    sumItems' t cn ws = cn.zip ws := by
  unfold sumItems'
  rw [List.map_congr_left (g := fun p => [p]) (fun p hp => if_neg (h p.1 (List.of_mem_zip hp).1)), ← List.flatMap_def]
  exact List.flatMap_singleton' _

theorem sumAcc'_id (t : Net α) (cn : List Nat) (ws : List α) (h : ∀ c ∈ cn, kindOf t c ≠ .sum)
    (hlen : ws.length = cn.length) (hnd : cn.Nodup) : sumAcc' t cn ws = cn.zip ws := by
  unfold sumAcc'
  rw [sumItems'_id t cn ws h, foldl_accAdd_nodup _ [] (by
    rw [List.nil_append, List.map_fst_zip (Nat.le_of_eq hlen.symm)]; exact hnd)]
  rfl

/-- a product over the taken-over children has the value of the product over the replaced children, for every
valuation `V` that the products among these satisfy -/
theorem lprod_prodItems' (V : Nat → α) (t : Net α) (cn : List Nat)
    (h : ∀ c ∈ cn, kindOf t c = .prod → lprod ((chOf t c).map V) = V c) :
    lprod ((prodItems' t cn).map V) = lprod (cn.map V) := by
  induction cn with
  | nil => rfl
  | cons c cs ih =>
    rw [prodItems'_cons, List.map_append, lprod_append, ih (fun d hd => h d (List.mem_cons_of_mem _ hd))]
    show _ = V c * lprod (cs.map V)
    congr 1
    split
    · exact h c List.mem_cons_self ‹_›
    · exact mul_one _

theorem dot_sumAcc' (V : Nat → α) (t : Net α) (cn : List Nat) (ws : List α)
    (h : ∀ c ∈ cn, kindOf t c = .sum → wsum (wsOf t c) ((chOf t c).map V) = V c) :
    dot V (sumAcc' t cn ws) = wsum ws (cn.map V) := by
  unfold sumAcc'
  rw [dot_foldl]
  show 0 + dot V (sumItems' t cn ws) = _
  rw [zero_add]
  induction cn generalizing ws with
  | nil => cases ws <;> rfl
  | cons c cs ih => cases ws with
    | nil => rfl
    | cons w ws =>
      rw [sumItems'_cons, dot_append, ih ws (fun d hd => h d (List.mem_cons_of_mem _ hd))]
      show _ = w * V c + wsum ws (cs.map V)
      congr 1
      split
      · rw [wsum_zip_dot, h c List.mem_cons_self ‹_›]
      · show w * V c + 0 = _
        exact add_zero _

end Deeprob
