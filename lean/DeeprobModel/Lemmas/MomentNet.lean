import DeeprobModel.Lemmas.MomentLemmas
import DeeprobModel.Lemmas.NetLemmas
/-
`momentNet` (stored table, sharing visible) refines `MCirc.moment` of the unfolding, and the unfolding
forgets to the very tree `toTree` that `evalNet` refines.
-/
namespace Deeprob
variable {α : Type} [CommSemiring α]

/-- the tree node that `toMTree` builds for the node `x` stored at `i` from the unfoldings of its children -/
def toMTreeNode (dens : List α) (moms : Nat → List α) (i : Nat) (x : NNode α) (cs : List (MCirc α)) : MCirc α :=
  match x.kind with
  | .leaf => .leaf x.scope (x.leaf.fn x.scope (dens.getD i 0)) (fun k _ => x.leaf.rawMoment k ((moms k).getD i 0))
  | .sum => .sum x.scope x.ws cs
  | .prod => .prod x.scope cs

theorem toMTree_fuel (net : Net α) (dens : List α) (moms : Nat → List α) (hw : WellOrdered net) :
    ∀ i fuel, i < fuel → toMTree net dens moms fuel i = toMTree net dens moms (i+1) i :=
  hw.unfold_fuel (toMTree net dens moms) _ (toMTreeNode dens moms) fun _ _ => rfl

theorem toMTree_node {net : Net α} (dens : List α) (moms : Nat → List α) (hw : WellOrdered net) {i : Nat}
    {x : NNode α} (hn : net[i]? = some x) :
    toMTree net dens moms (i+1) i = match x.kind with
      | .leaf => .leaf x.scope (x.leaf.fn x.scope (dens.getD i 0)) (fun k _ => x.leaf.rawMoment k ((moms k).getD i 0))
      | .sum => .sum x.scope x.ws (x.ch.map fun c => toMTree net dens moms (c+1) c)
      | .prod => .prod x.scope (x.ch.map fun c => toMTree net dens moms (c+1) c) :=
  hw.unfold_node (toMTree net dens moms) _ (toMTreeNode dens moms) (fun _ _ => rfl) hn

/-- forgetting the moment functionals of the unfolding gives the unfolding used for evaluation -/
theorem toCirc_toMTree (net : Net α) (dens : List α) (moms : Nat → List α) :
    ∀ fuel i, (toMTree net dens moms fuel i).toCirc = toTree net dens fuel i := by
  intro fuel
  induction fuel with
  | zero => intro i; simp [toMTree, toTree, MCirc.toCirc]
  | succ f ih =>
    intro i
    simp only [toMTree, toTree]
    cases hn : net[i]? with
    | none => simp [MCirc.toCirc]
    | some x =>
      simp only
      cases x.kind <;> simp [MCirc.toCirc, List.map_map, Function.comp_def, ih]

/-- **DAG ⇒ tree refinement for moments**: entry `i` of the table `momentNet` fills is the tree
recursion on the unfolding of node `i` (shared sub-circuits included). -/
theorem momentNet_refines (k v : Nat) (dens : List α) (moms : Nat → List α) (net : Net α) (hw : WellOrdered net)
    (i : Nat) (hi : i < net.length) :
    (momentNet k v (moms k) net).getD i 0 = MCirc.moment k v (toMTree net dens moms (i+1) i) :=
  hw.foldl_getD (toMTree net dens moms) _ (toMTreeNode dens moms) (fun _ _ => rfl) (MCirc.moment k v)
    (momNode k v (moms k)) 0 (fun vals x cs h => by
      rw [momNode, h, toMTreeNode]
      cases x.kind <;> simp only [MCirc.moment]) hi

end Deeprob
