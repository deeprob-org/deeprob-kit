import DeeprobModel.Lemmas.PmfLemmas
set_option linter.unusedSimpArgs false
set_option linter.unusedVariables false
set_option linter.unusedSectionVars false
/-
Table leaves (Bernoulli / Categorical) satisfy the leaf hypotheses of the top-down theorems.
-/
namespace Deeprob
open TD
namespace TCirc

/-- completion that writes the constant `k` into a missing entry `v` -/
theorem setMode_leafFill (dom : Nat → Nat) (v k : Nat) (hk : k < dom v) :
    LeafFill dom [v] (fun x => match x v with | none => x.set v k | some _ => x) where
  step := by
    intro x w _
    cases hx : x v with
    | some _ => exact Or.inl rfl
    | none =>
      simp only
      by_cases hw : w = v
      · subst hw; exact Or.inr ⟨hx, k, hk, by simp⟩
      · exact Or.inl (Ev.set_ne _ _ hw)
  fills := by
    intro x w hw
    simp only [List.mem_singleton] at hw; subst hw
    cases hx : x w with
    | some _ => simp [hx]
    | none => simp

section order
variable {α : Type} [CommSemiring α] [LinearOrder α] [IsStrictOrderedRing α]

theorem bernIdx_le (tbl : List α) : bernIdx tbl ≤ 1 := by unfold bernIdx; split <;> omega

theorem bernMode_leafFill (dom : Nat → Nat) (v : Nat) (tbl : List α) (hd : dom v = 2) :
    LeafFill dom [v] (bernMode v tbl) :=
  setMode_leafFill dom v (bernIdx tbl) (by have := bernIdx_le tbl; omega)

theorem catLeafFn_nonneg (v : Nat) (tbl : List α) (h : ∀ x ∈ tbl, 0 ≤ x) (e : Ev) : 0 ≤ Circ.catLeafFn v tbl e := by
  unfold Circ.catLeafFn
  cases e v with
  | none => exact zero_le_one
  | some k =>
    simp only [List.getD_eq_getElem?_getD]
    cases hk : tbl[k]? with
    | none => exact le_rfl
    | some y => exact h y (List.mem_of_getElem? hk)

/-- the arg-max entry of a table with a positive entry is positive -/
theorem getD_argmax_pos (tbl : List α) (h : ∃ x ∈ tbl, 0 < x) : 0 < tbl.getD (argmax tbl) 0 := by
  obtain ⟨y, hy, hy0⟩ := h
  obtain ⟨m, hm, hle, _⟩ := argmax_spec tbl (List.ne_nil_of_mem hy)
  rw [List.getD_eq_getElem?_getD, hm]
  exact hy0.trans_le (hle y hy)

/-- so is the entry `Bernoulli.mpe` points at: it is the larger of the two -/
theorem getD_bernIdx_pos (tbl : List α) (hl : tbl.length = 2) (h : ∃ x ∈ tbl, 0 < x) :
    0 < tbl.getD (bernIdx tbl) 0 := by
  match tbl, hl with
  | [a, b], _ =>
    obtain ⟨y, hy, hy0⟩ := h
    simp only [bernIdx, List.getD_cons_succ, List.getD_cons_zero]
    split_ifs with hba <;> rcases List.mem_pair.1 hy with rfl | rfl
    exacts [hy0, hy0.trans hba, hy0.trans_le (not_lt.1 hba), hy0]

end order

section exact
variable {α : Type} [CommSemiring α]

theorem catCond_exact (v : Nat) (tbl : List α) (e x : Ev) (h : Completes [v] e x) :
    catCond v tbl e x * Circ.catLeafFn v tbl e = Circ.catLeafFn v tbl x := by
  unfold catCond Circ.catLeafFn
  cases he : e v with
  | none =>
    cases hx : x v with
    | none => exact absurd hx (h.2 v (by simp))
    | some k => simp
  | some k =>
    have : x v = some k := by rw [h.1 v (by simp [he]), he]
    simp [this]

end exact

section bundle
variable {α : Type} [CommSemiring α] [LinearOrder α] [IsStrictOrderedRing α]

theorem tbl_has_pos (tbl : List α) (hs : tsum tbl = 1) : ∃ x ∈ tbl, 0 < x :=
  tsum_pos_exists tbl (hs ▸ zero_lt_one)

/-- a normalised non-negative table leaf whose mode writes an index `k` of the domain with a positive entry into a
missing `v` (`Categorical.mpe`: the arg-max, `Bernoulli.mpe`: `bernIdx`) satisfies every leaf hypothesis -/
theorem tableLeaf_ok (dom : Nat → Nat) (v k : Nat) (tbl : List α) (hl : tbl.length = dom v) (hs : tsum tbl = 1)
    (h0 : ∀ x ∈ tbl, 0 ≤ x) (hk : k < dom v) (hpos : 0 < tbl.getD k 0) :
    let c : TCirc α := .leaf [v] (Circ.catLeafFn v tbl)
      (fun x => match x v with | none => x.set v k | some _ => x) (catCond v tbl)
    Circ.Valid dom c.toCirc ∧ ModeOK dom c ∧ NonNeg c ∧ LeafPos c ∧ LeafExact c := by
  refine ⟨valid_leaf.2 (Circ.catLeaf_ok dom v tbl hl hs), ?_, ?_, ?_, ?_⟩
  · unfold ModeOK FillOK; exact fun _ => setMode_leafFill dom v k hk
  · unfold NonNeg; exact catLeafFn_nonneg v tbl h0
  · unfold LeafPos
    intro e he
    cases hv : e v with
    | some _ => simpa only [hv] using he
    | none => simpa only [hv, Circ.catLeafFn, Ev.set_self] using hpos
  · unfold LeafExact; exact catCond_exact v tbl

/-- a normalised non-negative Categorical table leaf satisfies every leaf hypothesis -/
theorem catT_ok (dom : Nat → Nat) (v : Nat) (tbl : List α) (hl : tbl.length = dom v) (hs : tsum tbl = 1)
    (h0 : ∀ x ∈ tbl, 0 ≤ x) :
    Circ.Valid dom (catT v tbl).toCirc ∧ ModeOK dom (catT v tbl) ∧ NonNeg (catT v tbl) ∧
      LeafPos (catT v tbl) ∧ LeafExact (catT v tbl) :=
  have hp := tbl_has_pos tbl hs
  tableLeaf_ok dom v (argmax tbl) tbl hl hs h0 (hl ▸ argmax_lt_length tbl (List.ne_nil_of_mem hp.choose_spec.1))
    (getD_argmax_pos tbl hp)

/-- a normalised non-negative Bernoulli table leaf (`[1-p, p]`) satisfies every leaf hypothesis -/
theorem bernT_ok (dom : Nat → Nat) (v : Nat) (tbl : List α) (hl : tbl.length = 2) (hd : dom v = 2) (hs : tsum tbl = 1)
    (h0 : ∀ x ∈ tbl, 0 ≤ x) :
    Circ.Valid dom (bernT v tbl).toCirc ∧ ModeOK dom (bernT v tbl) ∧ NonNeg (bernT v tbl) ∧
      LeafPos (bernT v tbl) ∧ LeafExact (bernT v tbl) :=
  tableLeaf_ok dom v (bernIdx tbl) tbl (hl.trans hd.symm) hs h0 (by have := bernIdx_le tbl; omega)
    (getD_bernIdx_pos tbl hl (tbl_has_pos tbl hs))

end bundle

section bernspec
variable {α : Type} [Field α] [LinearOrder α] [IsStrictOrderedRing α]

/-- `bernIdx` on the exported table `[1-p, p]` is the coded test `0 if p < 0.5 else 1` -/
theorem bernIdx_spec (p : α) : bernIdx [1 - p, p] = if p < 1/2 then 0 else 1 := by
  unfold bernIdx
  simp only [List.getD_cons_succ, List.getD_cons_zero]
  simp only [lt_sub_iff_add_lt, ← two_mul, ← lt_div_iff₀' (two_pos (α := α))]

end bernspec
end TCirc
end Deeprob
