import DeeprobModel.Model.PostOrderR
import Mathlib.Data.List.Nodup
/-
The explicit-stack post-order walk of `build_xpc` (`Model/PostOrderR.lean`: children pushed reversed, payload at every node)
computes the recursive `foldR` — the children's results in child order: `runR_eq_foldR`.  Needs pairwise distinct node ids
(`t.ids.Nodup`): the test `last_part_visited in part.sub_partitions` recognises "my children are done" by the identity of the
object finished last.  The siblings are consumed from the first to the last (`walk_siblingsR`), each by `walk_subtreeR`.
-/
namespace Deeprob.PostOrder

variable {π β : Type}

/-- induction over `PTree` with the hypothesis for every child (from the recursor of the nested type) -/
theorem PTree.ind {P : PTree π → Prop} (node : ∀ i p cs, (∀ c ∈ cs, P c) → P (.node i p cs)) (t : PTree π) : P t :=
  PTree.rec (motive_1 := P) (motive_2 := fun cs => ∀ c ∈ cs, P c) node
    (fun _ hc => nomatch hc)
    (fun _ _ hc hcs d hd => (List.mem_cons.1 hd).elim (fun h => h ▸ hc) (hcs d)) t

variable (comb : PTree π → List β → β)

theorem runR_add (n m : Nat) (s : StR π β) : runR comb (n + m) s = runR comb m (runR comb n s) := by
  induction n generalizing s with
  | zero => rw [Nat.zero_add]; rfl
  | succ n ih => rw [Nat.succ_add]; exact ih _

theorem runR_done (n : Nat) (s : StR π β) (h : s.stack = []) : runR comb n s = s := by
  induction n with
  | zero => rfl
  | succ n ih =>
    have hs : stepR comb s = s := by unfold stepR; rw [h]; rfl
    rw [runR, hs, ih]

theorem stepR_top (S : List (PTree π)) (t : PTree π) (l : Option Nat) (B : List β) :
    stepR comb ⟨S ++ [t], l, B⟩ =
      if t.kids.isEmpty then ⟨S, some t.id, B ++ [comb t []]⟩
      else if lastInKidsR l t.kids then
        ⟨S, some t.id, B.take (B.length - t.kids.length) ++ [comb t (B.drop (B.length - t.kids.length))]⟩
      else ⟨S ++ [t] ++ t.kids.reverse, l, B⟩ := by
  simp only [stepR, List.getLast?_concat, List.dropLast_concat]

/-- the id of the object finished last is not an id of the sub-tree -/
def FreshR (l : Option Nat) (t : PTree π) : Prop := ∀ x, l = some x → x ∉ t.ids

theorem id_mem_ids (t : PTree π) : t.id ∈ t.ids := by
  cases t with
  | node i p cs => rw [PTree.ids]; exact List.mem_cons_self

theorem ids_child_sub {i : Nat} {p : π} {cs : List (PTree π)} {c : PTree π} (hc : c ∈ cs) {x : Nat} (hx : x ∈ c.ids) :
    x ∈ (PTree.node i p cs).ids := by
  rw [PTree.ids]
  exact List.mem_cons_of_mem _ (List.mem_flatten.2 ⟨_, List.mem_map.2 ⟨c, hc, rfl⟩, hx⟩)

/-- what `last_part_visited` is after a list of siblings (pushed reversed, so finished first to last) has been finished:
the last sibling -/
def lastAfterR (l : Option Nat) : List (PTree π) → Option Nat
  | [] => l
  | c :: rest => lastAfterR (some c.id) rest

theorem lastAfterR_mem (cs : List (PTree π)) (hcs : cs ≠ []) : ∀ l, ∃ c ∈ cs, lastAfterR l cs = some c.id := by
  induction cs with
  | nil => exact absurd rfl hcs
  | cons c rest ih =>
    intro l
    cases rest with
    | nil => exact ⟨c, List.mem_cons_self, rfl⟩
    | cons c' rest' =>
      obtain ⟨d, hd, h⟩ := ih (List.cons_ne_nil _ _) (some c.id)
      exact ⟨d, List.mem_cons_of_mem _ hd, h⟩

theorem walk_siblingsR (cs : List (PTree π))
    (ih : ∀ c ∈ cs, c.ids.Nodup → ∀ (S : List (PTree π)) (l : Option Nat) (B : List β), FreshR l c →
      runR comb (stepsR c) ⟨S ++ [c], l, B⟩ = ⟨S, some c.id, B ++ [foldR comb c]⟩) :
    ((cs.map PTree.ids).flatten).Nodup → ∀ (S : List (PTree π)) (l : Option Nat) (B : List β), (∀ c ∈ cs, FreshR l c) →
      runR comb ((cs.map stepsR).sum) ⟨S ++ cs.reverse, l, B⟩ = ⟨S, lastAfterR l cs, B ++ cs.map (foldR comb)⟩ := by
  induction cs with
  | nil => intro _ S l B _; simp only [List.reverse_nil, List.append_nil, List.map_nil]; rfl
  | cons c rest ihl =>
    intro hnd S l B hf
    rw [List.map_cons, List.flatten_cons, List.nodup_append] at hnd
    obtain ⟨hnc, hnr, hdis⟩ := hnd
    rw [List.map_cons, List.sum_cons, runR_add, List.reverse_cons, ← List.append_assoc,
      ih c List.mem_cons_self hnc (S ++ rest.reverse) l B (hf c List.mem_cons_self),
      ihl (fun c' hc' => ih c' (List.mem_cons_of_mem _ hc')) hnr S (some c.id) (B ++ [foldR comb c]),
      List.append_assoc]
    · rfl
    · -- the next siblings do not contain the id of `c`
      intro c' hc' x hx hmem
      cases hx
      exact hdis _ (id_mem_ids c) _ (List.mem_flatten.2 ⟨_, List.mem_map.2 ⟨c', hc', rfl⟩, hmem⟩) rfl

/-- a sub-tree on top of the stack, entered with a `last_part_visited` that is not one of its nodes, is
consumed in `stepsR t` iterations, leaving the stack below it untouched, `last_part_visited = t` and `foldR t` appended to
the buffer. -/
theorem walk_subtreeR (t : PTree π) : t.ids.Nodup → ∀ (S : List (PTree π)) (l : Option Nat) (B : List β), FreshR l t →
    runR comb (stepsR t) ⟨S ++ [t], l, B⟩ = ⟨S, some t.id, B ++ [foldR comb t]⟩ := by
  induction t using PTree.ind with
  | node i p cs ih =>
    intro hnd S l B hf
    rw [PTree.ids] at hnd
    by_cases hcs : cs = []
    · subst hcs
      simp only [stepsR, foldR, List.isEmpty_nil, if_true, List.map_nil]
      show stepR comb _ = _
      rw [stepR_top]; rfl
    · have hemp : cs.isEmpty = false := List.isEmpty_eq_false_iff.2 hcs
      -- first visit: `last_part_visited` is not a child, the children are pushed
      have hpush : lastInKidsR l cs = false := by
        cases l with
        | none => rfl
        | some x =>
          refine Bool.eq_false_iff.2 (fun hcon => ?_)
          obtain ⟨c, hc, rfl⟩ := List.mem_map.1 (List.contains_iff_mem.1 hcon)
          exact hf c.id rfl (ids_child_sub hc (id_mem_ids c))
      -- second visit: the last child has just been finished
      have hlast : lastInKidsR (lastAfterR l cs) cs = true := by
        obtain ⟨c, hc, hl⟩ := lastAfterR_mem cs hcs l
        rw [hl]
        exact List.contains_iff_mem.2 (List.mem_map.2 ⟨c, hc, rfl⟩)
      have hsteps : stepsR (.node i p cs) = 1 + ((cs.map stepsR).sum + 1) := by
        rw [stepsR, hemp, if_neg Bool.false_ne_true, Nat.add_comm 2, Nat.add_comm 1]
      rw [hsteps, runR_add, runR_add, foldR]
      show runR comb 1 (runR comb _ (stepR comb _)) = _
      rw [stepR_top, PTree.kids, hemp, if_neg Bool.false_ne_true, hpush, if_neg Bool.false_ne_true,
        walk_siblingsR comb cs (fun c hc hn => ih c hc hn) (List.nodup_cons.1 hnd).2 _ l B
          (fun c hc x hx hmem => hf x hx (ids_child_sub hc hmem))]
      show stepR comb _ = _
      rw [stepR_top, PTree.kids, hemp, if_neg Bool.false_ne_true, hlast, if_pos rfl, List.length_append, List.length_map,
        Nat.add_sub_cancel, List.take_left', List.drop_left']
      · rfl
      · rfl

theorem stepsR_le (t : PTree π) : stepsR t ≤ 2 * sizeR t := by
  induction t using PTree.ind with
  | node i p cs ih =>
    have hsum : (cs.map stepsR).sum ≤ 2 * (cs.map sizeR).sum := by
      induction cs with
      | nil => exact Nat.le_refl _
      | cons c rest ihr =>
        rw [List.map_cons, List.map_cons, List.sum_cons, List.sum_cons, Nat.mul_add]
        exact Nat.add_le_add (ih c List.mem_cons_self) (ihr (fun c' hc' => ih c' (List.mem_cons_of_mem _ hc')))
    rw [stepsR, sizeR, Nat.mul_add]
    split
    · exact Nat.le_trans (by decide : 1 ≤ 2 * 1) (Nat.le_add_right _ _)
    · exact Nat.add_le_add_left hsum _

/-- on a tree of pairwise distinct objects the loop of `build_xpc`, started from `([root], None, [])`, ends
with an empty stack and exactly one buffer entry, the recursive `foldR` of the root (children's results in child order). -/
theorem runR_eq_foldR (t : PTree π) (hnd : t.ids.Nodup) :
    walkR comb t = ⟨[], some t.id, [foldR comb t]⟩ := by
  unfold walkR
  obtain ⟨d, hd⟩ := Nat.exists_eq_add_of_le (stepsR_le t)
  rw [hd, runR_add]
  have := walk_subtreeR comb t hnd [] none [] (fun x hx => by cases hx)
  simp only [List.nil_append] at this
  rw [this]
  exact runR_done comb d _ rfl

/-- distinct ids are needed: two nodes carry the id 1 (the root's first child and a grandchild of its second child).  The first
child `1` is finished first; when node `3` is then seen for the first time, `last_part_visited` (id 1) "is" its only child, so `3`
is combined at once with the buffer entry of the other `1` and its own child is never visited. -/
def badTreeR : PTree Unit := .node 0 () [.node 1 () [], .node 2 () [.node 3 () [.node 1 () []]]]

/-- a `combine` that records the shape: own id and what it was handed -/
def showCombR (t : PTree Unit) (xs : List (List Nat)) : List Nat := t.id :: xs.flatten

theorem distinct_ids_neededR :
    (walkR showCombR badTreeR).buf = [[0, 2, 3, 1]] ∧ foldR showCombR badTreeR = [0, 1, 2, 3, 1] := by
  have hs : sizeR badTreeR = 5 := by simp [sizeR, badTreeR]
  refine ⟨?_, ?_⟩
  · rw [walkR, hs]; decide
  · simp [badTreeR, foldR, showCombR, PTree.id]

/-- non-vacuity of `runR_eq_foldR`: a three-level tree with distinct ids -/
example : walkR showCombR (.node 0 () [.node 1 () [], .node 2 () [.node 3 () []]]) = ⟨[], some 0, [[0, 1, 2, 3]]⟩ :=
  (runR_eq_foldR showCombR (.node 0 () [.node 1 () [], .node 2 () [.node 3 () []]]) (by simp [PTree.ids])).trans
    (by simp [foldR, showCombR, PTree.id])

end Deeprob.PostOrder
