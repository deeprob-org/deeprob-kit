import DeeprobModel.Spec.FlowSpec
import DeeprobModel.Lemmas.SumLemmas
import DeeprobModel.Lemmas.ExpLogLemmas
import Mathlib.Tactic.Ring
import Mathlib.Tactic.Linarith
import Mathlib.Data.List.Basic
import Mathlib.Data.List.GetD
import Mathlib.Data.List.Nodup
import Mathlib.Data.List.Range
import Mathlib.Data.List.Perm.Basic
import Mathlib.Algebra.Ring.Defs
import Mathlib.Algebra.Field.Basic
import Mathlib.Algebra.Order.Field.Basic
/-
Lemmas for property C15 (normalizing flows) over an abstract `ExpLog F`: masks, the autoregressive loop, couplings,
index maps, batch-norm and logit round trips, composition of bijectors.
-/
namespace Deeprob.Flows

section SumSingle
variable {α : Type} [AddCommMonoid α]

theorem sumVar3_single (n1 n2 n3 : Nat) (s : Nat × Nat × Nat) (f : Nat → Nat → Nat → α)
    (h1 : s.1 < n1) (h2 : s.2.1 < n2) (h3 : s.2.2 < n3) (hz : ∀ a b c, (a, b, c) ≠ s → f a b c = 0) :
    sumVar n1 (fun a => sumVar n2 (fun b => sumVar n3 (f a b))) = f s.1 s.2.1 s.2.2 := by
  rw [sumVar_single n1 s.1 _ h1, sumVar_single n2 s.2.1 _ h2, sumVar_single n3 s.2.2 _ h3]
  · exact fun c _ hc => hz _ _ c (fun e => hc (by rw [← e]))
  · exact fun b _ hb => sumVar_eq_zero _ _ (fun c _ => hz _ b c (fun e => hb (by rw [← e])))
  · exact fun a _ ha => sumVar_eq_zero _ _ (fun b _ =>
      sumVar_eq_zero _ _ (fun c _ => hz a b c (fun e => ha (by rw [← e]))))

end SumSingle

theorem sumVar_neg {F : Type} [Field F] (n : Nat) (f : Nat → F) : sumVar n (fun k => -(f k)) = -(sumVar n f) := by
  have h := sumVar_mul n (-1 : F) f
  simp only [neg_one_mul] at h
  exact h

section ExpLaws
variable {F : Type} [Field F] [LinearOrder F] (E : ExpLog F)

theorem exp_ne_zero (a : F) : E.exp a ≠ 0 := (E.exp_pos a).ne'

theorem exp_neg_zero : E.exp (-0) = 1 := by rw [neg_zero, E.exp_zero]

/-- The coordinate maps `x ↦ (x − t)·e⁻ˢ` (`apply_backward` of the autoregressive and coupling layers) and
`u ↦ u·eˢ + t` (`apply_forward`) are mutually inverse. -/
theorem affine_fwd_bwd (s t x : F) : (x - t) * E.exp (-s) * E.exp s + t = x := by
  rw [mul_assoc, E.exp_neg_mul_exp, mul_one, sub_add_cancel]

theorem affine_bwd_fwd (s t u : F) : (u * E.exp s + t - t) * E.exp (-s) = u := by
  rw [add_sub_cancel_right, mul_assoc, E.exp_mul_exp_neg, mul_one]

/-- `apply_backward` of the autoregressive layer recovers `uᵢ` at any point with `xᵢ = uᵢ·exp(sᵢ(x)) + tᵢ(x)`. -/
theorem mafBackward_of_fixpoint {n : Nat} {t s : (Nat → F) → Nat → F} {x u : Nat → F} {i : Nat}
    (h : x i = u i * E.exp (s x i) + t x i) : (mafBackward E.exp n t s x).1 i = u i := by
  show (x i - t x i) * E.exp (-(s x i)) = u i
  rw [h]
  exact affine_bwd_fwd E _ _ _

end ExpLaws

section Bij
variable {X F : Type} [AddCommGroup F]

/-- A bijector with zero log-det from a pair of mutually inverse maps (squeeze, permutation…). -/
def Bij.ofInverse (f g : X → X) (h1 : ∀ x, f (g x) = x) (h2 : ∀ x, g (f x) = x) : Bij X F where
  fwd u := (f u, 0)
  bwd x := (g x, 0)
  fwd_bwd := h1
  bwd_fwd := h2
  ldj_antisymm _ := by simp

/-- The other antisymmetry is a consequence of the laws. -/
theorem Bij.ldj_antisymm' (b : Bij X F) (x : X) : (b.fwd (b.bwd x).1).2 = -(b.bwd x).2 := by
  have := b.ldj_antisymm (b.bwd x).1
  rw [b.fwd_bwd] at this
  rw [this, neg_neg]

end Bij

theorem entry_map (d1 d2 : List Nat) (p : Nat → Nat → Bool) (o i : Nat) :
    entry (d2.map (fun b => d1.map (fun a => p a b))) o i = true →
    i < d1.length ∧ o < d2.length ∧ p (d1.getD i 0) (d2.getD o 0) = true := by
  intro h
  unfold entry at h
  by_cases ho : o < d2.length
  · by_cases hi : i < d1.length
    · refine ⟨hi, ho, ?_⟩
      simpa [List.getD, ho, hi] using h
    · simp [List.getD, ho, hi] at h
  · simp [List.getD, ho] at h

theorem reach_chain (d0 : List Nat) (i : Nat) : ∀ (rest : List (List Nat)) (d : List Nat) (j : Nat),
    Reach (List.zipWith maskLE (d :: rest) rest ++ [maskLT ((d :: rest).getLastD []) d0]) j i →
    j < d.length ∧ i < d0.length ∧ d.getD j 0 < d0.getD i 0 := by
  intro rest
  induction rest with
  | nil =>
    intro d j h
    simp only [List.zipWith_nil_right, List.nil_append, Reach] at h
    obtain ⟨k, hk, rfl⟩ := h
    simpa using entry_map d d0 (fun a b => decide (a < b)) _ _ hk
  | cons e rest ih =>
    intro d j h
    simp only [List.zipWith_cons_cons, List.cons_append, Reach] at h
    obtain ⟨k, hk, hr⟩ := h
    have h1 : j < d.length ∧ k < e.length ∧ d.getD j 0 ≤ e.getD k 0 := by
      simpa using entry_map d e (fun a b => decide (a ≤ b)) _ _ hk
    have hl : (d :: e :: rest).getLastD [] = (e :: rest).getLastD [] := by simp
    rw [hl] at hr
    have h2 := ih e k hr
    exact ⟨h1.1, h2.2.1, lt_of_le_of_lt h1.2.2 h2.2.2⟩

theorem entry_lt_length {M : List (List Bool)} {o i : Nat} (h : entry M o i = true) : o < M.length := by
  unfold entry at h
  by_contra ho
  simp [List.getD, ho] at h

theorem reachB_iff : ∀ (Ms : List (List (List Bool))) (j i : Nat), reachB Ms j i = true ↔ Reach Ms j i := by
  intro Ms
  induction Ms with
  | nil => intro j i; simp [reachB, Reach]
  | cons M Ms ih =>
    intro j i
    simp only [reachB, Reach, List.any_eq_true, List.mem_range, Bool.and_eq_true]
    constructor
    · rintro ⟨k, _, hk, hr⟩; exact ⟨k, hk, (ih k i).1 hr⟩
    · rintro ⟨k, hk, hr⟩; exact ⟨k, entry_lt_length hk, hk, (ih k i).2 hr⟩

theorem chainLayers_depends {α : Type} :
    ∀ (fs : List ((Nat → α) → (Nat → α))) (Ms : List (List (List Bool))),
      List.Forall₂ RespectsMask fs Ms →
      ∀ (x x' : Nat → α) (i : Nat), (∀ j, Reach Ms j i → x j = x' j) →
        chainLayers fs x i = chainLayers fs x' i := by
  intro fs Ms h
  induction h with
  | nil => intro x x' i hx; exact hx i rfl
  | @cons f M fs Ms hf _ ih =>
    intro x x' i hx
    show chainLayers fs (f x) i = chainLayers fs (f x') i
    apply ih
    intro k hk
    apply hf
    intro j hj
    exact hx j ⟨k, hj, hk⟩

theorem maskedLinear_respects {α : Type} [MulZeroClass α] [Add α] (M : List (List Bool)) (nin : Nat)
    (W : Nat → Nat → α) (b : Nat → α) : RespectsMask (maskedLinear M nin W b) M := by
  intro x x' o h
  unfold maskedLinear
  congr 1
  apply sumVar_congr_lt
  intro i _
  by_cases hm : entry M o i = true
  · simp [hm, h i hm]
  · simp [hm]

theorem entry_tile (M : List (List Bool)) (o j : Nat) (h : entry (tileMask M) o j = true) :
    entry M (if o < M.length then o else o - M.length) j = true := by
  unfold entry tileMask at *
  by_cases ho : o < M.length
  · simp only [ho, if_true]
    rwa [List.getD_append _ _ _ _ ho] at h
  · simp only [ho, if_false]
    rwa [List.getD_append_right _ _ _ _ (Nat.le_of_not_lt ho)] at h

theorem reach_tile (M : List (List Bool)) (o : Nat) : ∀ (Hs : List (List (List Bool))) (j : Nat),
    Reach (Hs ++ [tileMask M]) j o → Reach (Hs ++ [M]) j (if o < M.length then o else o - M.length) := by
  intro Hs
  induction Hs with
  | nil =>
    intro j h
    simp only [List.nil_append, Reach] at h ⊢
    obtain ⟨k, hk, rfl⟩ := h
    exact ⟨_, entry_tile M k j hk, rfl⟩
  | cons H Hs ih =>
    intro j h
    simp only [List.cons_append, Reach] at h ⊢
    obtain ⟨k, hk, hr⟩ := h
    exact ⟨k, hk, ih k hr⟩

theorem invOrdering_getD (ordering : List Nat) (n : Nat) (hp : ordering.Perm (List.range n)) (k : Nat)
    (hk : k < n) : ordering.getD ((invOrdering ordering).getD k 0) 0 = k := by
  have hk' : k < (invOrdering ordering).length := by simpa [invOrdering, hp.length_eq] using hk
  rw [List.getD_eq_getElem _ _ hk']
  simp only [invOrdering, List.getElem_map, List.getElem_range]
  exact getD_idxOf (hp.mem_iff.2 (List.mem_range.2 hk)) 0

theorem invOrdering_props (ordering : List Nat) (n : Nat) (hp : ordering.Perm (List.range n)) :
    (invOrdering ordering).Nodup ∧
    (∀ i, i ∈ invOrdering ordering ↔ i < n) ∧
    (invOrdering ordering).Pairwise (fun a b => ordering.getD a 0 ≤ ordering.getD b 0) := by
  have hlen : ordering.length = n := by simpa using hp.length_eq
  have hnd : ordering.Nodup := hp.nodup_iff.2 List.nodup_range
  have hmem : ∀ k ∈ List.range n, k ∈ ordering := fun k => hp.mem_iff.2
  unfold invOrdering
  rw [hlen]
  refine ⟨?_, ?_, ?_⟩
  · exact List.nodup_range.map_on fun a ha _ _ hab => (List.idxOf_inj (hmem a ha)).1 hab
  · intro i
    rw [List.mem_map]
    constructor
    · rintro ⟨k, hk, rfl⟩
      exact hlen ▸ List.idxOf_lt_length_iff.2 (hmem k hk)
    · intro hi
      have hi' : i < ordering.length := hlen ▸ hi
      exact ⟨ordering[i], hp.mem_iff.1 (List.getElem_mem hi'), hnd.idxOf_getElem i hi'⟩
  · rw [List.pairwise_map]
    refine List.pairwise_lt_range.imp_of_mem fun ha hb hab => ?_
    rw [getD_idxOf (hmem _ ha) 0, getD_idxOf (hmem _ hb) 0]
    exact hab.le

section MafLoop
variable {α : Type} [Add α] [Mul α]

theorem mafLoop_spec (g : α → α) (deg : Nat → Nat) (n : Nat) (t s : (Nat → α) → Nat → α)
    (ht : Autoregressive n deg t) (hs : Autoregressive n deg s) (u : Nat → α) :
    ∀ (order : List Nat) (x0 l0 : Nat → α), order.Nodup →
      order.Pairwise (fun a b => deg a ≤ deg b) → (∀ i ∈ order, i < n) →
      let r := mafLoop g t s u order (x0, l0)
      (∀ i ∈ order, r.1 i = u i * g (s r.1 i) + t r.1 i ∧ r.2 i = s r.1 i) ∧
      (∀ i, i ∉ order → r.1 i = x0 i ∧ r.2 i = l0 i) := by
  intro order
  induction order with
  | nil => intro x0 l0 _ _ _; simp [mafLoop]
  | cons i rest ih =>
    intro x0 l0 hnd hpw hn
    rw [List.nodup_cons] at hnd
    rw [List.pairwise_cons] at hpw
    have hin : i < n := hn i (by simp)
    simp only [mafLoop]
    obtain ⟨ih1, ih2⟩ := ih (upd x0 i (u i * g (s x0 i) + t x0 i)) (upd l0 i (s x0 i)) hnd.2 hpw.2
      (fun k hk => hn k (by simp [hk]))
    generalize mafLoop g t s u rest (upd x0 i (u i * g (s x0 i) + t x0 i), upd l0 i (s x0 i)) = r at ih1 ih2
    -- the later steps leave alone every coordinate of smaller degree than `i`, so the heads at `i` keep their value
    have hagree : ∀ j, j < n → deg j < deg i → r.1 j = x0 j := by
      intro j _ hdj
      have hji : j ≠ i := by rintro rfl; exact lt_irrefl _ hdj
      have hjr : j ∉ rest := fun hj => absurd (hpw.1 j hj) (by omega)
      rw [(ih2 j hjr).1]
      simp [upd, hji]
    have es : s r.1 i = s x0 i := hs i hin _ _ hagree
    have et : t r.1 i = t x0 i := ht i hin _ _ hagree
    constructor
    · intro k hk
      rcases List.mem_cons.1 hk with rfl | hk
      · obtain ⟨a, b⟩ := ih2 k hnd.1
        rw [a, b, es, et]
        simp [upd]
      · exact ih1 k hk
    · intro k hk
      rw [List.mem_cons, not_or] at hk
      obtain ⟨a, b⟩ := ih2 k hk.2
      rw [a, b]
      simp [upd, hk.1]

theorem maf_fixpoint_unique (g : α → α) (deg : Nat → Nat) (n : Nat) (t s : (Nat → α) → Nat → α)
    (ht : Autoregressive n deg t) (hs : Autoregressive n deg s) (u x y : Nat → α)
    (hx : ∀ i, i < n → x i = u i * g (s x i) + t x i)
    (hy : ∀ i, i < n → y i = u i * g (s y i) + t y i) : ∀ i, i < n → x i = y i := by
  have : ∀ d i, i < n → deg i = d → x i = y i := by
    intro d
    induction d using Nat.strong_induction_on with
    | _ d ih =>
      intro i hi hd
      have hag : ∀ j, j < n → deg j < deg i → x j = y j := fun j hj hdj => ih (deg j) (hd ▸ hdj) j hj rfl
      rw [hx i hi, hy i hi, hs i hi x y hag, ht i hi x y hag]
  exact fun i hi => this (deg i) i hi rfl

end MafLoop

section MafMain
variable {F : Type} [Field F] [LinearOrder F] (E : ExpLog F)
variable {deg : Nat → Nat} {n : Nat} {t s : (Nat → F) → Nat → F}
variable (ht : Autoregressive n deg t) (hs : Autoregressive n deg s)
variable {order : List Nat} (hnd : order.Nodup) (hpw : order.Pairwise (fun a b => deg a ≤ deg b))
variable (hmem : ∀ i, i ∈ order ↔ i < n)
include ht hs hnd hpw hmem

/-- The sequential loop of `apply_forward` ends in a solution of `x = u ⊙ exp(s(x)) + t(x)` on the first `n`
coordinates, reports `Σ s(x)` at that solution, and leaves zeros beyond `n`. -/
theorem mafForward_spec (u : Nat → F) :
    let x := (mafForward E.exp n order t s u).1
    (∀ i, i < n → x i = u i * E.exp (s x i) + t x i) ∧
    (mafForward E.exp n order t s u).2 = sumVar n (s x) ∧ ∀ k, n ≤ k → x k = 0 := by
  obtain ⟨h1, h2⟩ := mafLoop_spec E.exp deg n t s ht hs u order (fun _ => 0) (fun _ => 0) hnd hpw
    (fun i hi => (hmem i).1 hi)
  exact ⟨fun i hi => (h1 i ((hmem i).2 hi)).1, sumVar_congr_lt _ _ _ (fun i hi => (h1 i ((hmem i).2 hi)).2),
    fun k hk => (h2 k (fun h => absurd ((hmem k).1 h) (by omega))).1⟩

theorem maf_ldj_antisymm_fwd (u : Nat → F) :
    (mafBackward E.exp n t s (mafForward E.exp n order t s u).1).2
      = -(mafForward E.exp n order t s u).2 := by
  rw [(mafForward_spec E ht hs hnd hpw hmem u).2.1]
  rfl

end MafMain

section MafBij
variable {F : Type} [Field F] [LinearOrder F] (E : ExpLog F)

/-- Zero-extension of an `n`-vector to a flat tensor and restriction back. -/
def ext0 {n : Nat} (x : Fin n → F) : Nat → F := fun k => if h : k < n then x ⟨k, h⟩ else 0
def res {n : Nat} (y : Nat → F) : Fin n → F := fun i => y i.val

omit [LinearOrder F] in
theorem ext0_res_lt {n k : Nat} (y : Nat → F) (hk : k < n) : ext0 (res (n := n) y) k = y k := by
  simp [ext0, res, hk]

omit [LinearOrder F] in
theorem res_ext0 {n : Nat} (x : Fin n → F) : res (ext0 x) = x := by
  funext i; simp [res, ext0, i.isLt]

omit [LinearOrder F] in
theorem ext0_res_of_zero {n : Nat} (y : Nat → F) (h : ∀ k, n ≤ k → y k = 0) : ext0 (res (n := n) y) = y := by
  funext k
  by_cases hk : k < n
  · exact ext0_res_lt y hk
  · simp [ext0, hk, h k (by omega)]

variable (deg : Nat → Nat) (n : Nat) (t s : (Nat → F) → Nat → F)
variable (ht : Autoregressive n deg t) (hs : Autoregressive n deg s)
variable (order : List Nat) (hnd : order.Nodup) (hpw : order.Pairwise (fun a b => deg a ≤ deg b))
variable (hmem : ∀ i, i ∈ order ↔ i < n)

/-- The autoregressive layer as a bijector on `n`-vectors. -/
def mafBij : Bij (Fin n → F) F where
  fwd u := (res (mafForward E.exp n order t s (ext0 u)).1, (mafForward E.exp n order t s (ext0 u)).2)
  bwd x := (res (mafBackward E.exp n t s (ext0 x)).1, (mafBackward E.exp n t s (ext0 x)).2)
  fwd_bwd x := by
    -- the loop's result and `x` both solve the fixed-point equation for the restricted backward image
    funext i
    have h := maf_fixpoint_unique E.exp deg n t s ht hs (ext0 (res (mafBackward E.exp n t s (ext0 x)).1)) _ (ext0 x)
      (mafForward_spec E ht hs hnd hpw hmem _).1
      (fun k hk => by rw [ext0_res_lt _ hk]; exact (affine_fwd_bwd E _ _ _).symm) i.val i.isLt
    exact h.trans (congrFun (res_ext0 x) i)
  bwd_fwd u := by
    funext i
    show (mafBackward E.exp n t s (ext0 (res (mafForward E.exp n order t s (ext0 u)).1))).1 i.val = u i
    rw [ext0_res_of_zero _ (mafForward_spec E ht hs hnd hpw hmem (ext0 u)).2.2,
      mafBackward_of_fixpoint E ((mafForward_spec E ht hs hnd hpw hmem (ext0 u)).1 i.val i.isLt)]
    exact congrFun (res_ext0 u) i
  ldj_antisymm u := by
    show (mafBackward E.exp n t s (ext0 (res (mafForward E.exp n order t s (ext0 u)).1))).2 = _
    rw [ext0_res_of_zero _ (mafForward_spec E ht hs hnd hpw hmem (ext0 u)).2.2]
    exact maf_ldj_antisymm_fwd E ht hs hnd hpw hmem (ext0 u)

end MafBij

section MaskVal
variable {F : Type} [Field F]

theorem maskVal_true {m : Nat → Bool} {k : Nat} (h : m k = true) : (maskVal m k : F) = 1 := by
  simp [maskVal, h]
theorem maskVal_false {m : Nat → Bool} {k : Nat} (h : m k = false) : (maskVal m k : F) = 0 := by
  simp [maskVal, h]
theorem invMaskVal_true {m : Nat → Bool} {k : Nat} (h : m k = true) : (invMaskVal m k : F) = 0 := by
  simp [invMaskVal, maskVal, h]
theorem invMaskVal_false {m : Nat → Bool} {k : Nat} (h : m k = false) : (invMaskVal m k : F) = 1 := by
  simp [invMaskVal, maskVal, h]

theorem maskVal_complementary (m : Nat → Bool) (k : Nat) :
    (maskVal m k : F) * invMaskVal m k = 0 ∧ (maskVal m k : F) + invMaskVal m k = 1 ∧
    ((maskVal m k : F) = 0 ∨ (maskVal m k : F) = 1) := by
  cases h : m k <;> simp [invMaskVal, maskVal, h]

omit [Field F] in
/-- The dependency structure of a coupling as a degree assignment: masked coordinates have degree `0`, transformed
ones degree `1`. -/
theorem maskDeg_le {m : Nat → Bool} {i j : Nat} (h : (if m i then 0 else 1) ≤ (if m j then 0 else 1)) :
    m i = true ∨ m j = false := by
  cases hi : m i <;> cases hj : m j <;> simp [hi, hj] at h ⊢

theorem sumVar_invMask (n : Nat) (m : Nat → Bool) (f : Nat → F) :
    sumVar n (fun k => invMaskVal m k * f k) = sumVar n (fun k => if m k then 0 else f k) := by
  apply sumVar_congr
  intro k
  cases h : m k <;> simp [invMaskVal, maskVal, h]

/-- A conditioner head of a coupling layer as a function of the whole input, `inv_mask ⊙ H(mask ⊙ z)`: with these
heads the affine coupling is the one-pass autoregressive map (`couplingBackward_affine`). -/
def maskedHead (m : Nat → Bool) (H : (Nat → F) → Nat → F) : (Nat → F) → Nat → F :=
  fun z k => invMaskVal m k * H (fun j => maskVal m j * z j) k

theorem maskedHead_true {m : Nat → Bool} {k : Nat} (h : m k = true) (H : (Nat → F) → Nat → F) (z : Nat → F) :
    maskedHead m H z k = 0 := by
  rw [maskedHead, invMaskVal_true h, zero_mul]

theorem maskedHead_congr {m : Nat → Bool} (H : (Nat → F) → Nat → F) {z z' : Nat → F}
    (h : ∀ j, m j = true → z j = z' j) : maskedHead m H z = maskedHead m H z' := by
  have e : (fun j => maskVal m j * z j) = fun j => maskVal m j * z' j := by
    funext j
    cases hj : m j
    · rw [maskVal_false hj, zero_mul, zero_mul]
    · rw [h j hj]
  unfold maskedHead
  rw [e]

end MaskVal

section Coupling
variable {F : Type} [Field F] [LinearOrder F] (E : ExpLog F)
variable (n : Nat) (m : Nat → Bool) (T S : (Nat → F) → Nat → F)

theorem couplingBackward_affine :
    couplingBackward E.exp true n m T S = mafBackward E.exp n (maskedHead m T) (maskedHead m S) := rfl

theorem couplingForward_affine (u : Nat → F) :
    couplingForward E.exp true n m T S u
      = (fun k => u k * E.exp (maskedHead m S u k) + maskedHead m T u k, sumVar n (maskedHead m S u)) := rfl

theorem couplingBackward_additive :
    couplingBackward E.exp false n m T S = couplingBackward E.exp true n m T (fun _ _ => 0) :=
  funext fun x => by simp [couplingBackward, E.exp_zero, sumVar_zero]

theorem couplingForward_additive :
    couplingForward E.exp false n m T S = couplingForward E.exp true n m T (fun _ _ => 0) :=
  funext fun u => by simp [couplingForward, E.exp_zero, sumVar_zero]

theorem coupling_as_affine (affine : Bool) :
    ∃ S', couplingBackward E.exp affine n m T S = couplingBackward E.exp true n m T S' ∧
      couplingForward E.exp affine n m T S = couplingForward E.exp true n m T S' := by
  cases affine
  · exact ⟨_, couplingBackward_additive E n m T S, couplingForward_additive E n m T S⟩
  · exact ⟨S, rfl, rfl⟩

variable {m}

/-- Masked coordinates pass through unchanged, so the conditioner sees the same input before and after. -/
theorem couplingBackward_masked {k : Nat} (h : m k = true) (x : Nat → F) :
    (couplingBackward E.exp true n m T S x).1 k = x k := by
  show (x k - maskedHead m T x k) * E.exp (-(maskedHead m S x k)) = x k
  rw [maskedHead_true h, maskedHead_true h, sub_zero, neg_zero, E.exp_zero, mul_one]

theorem couplingForward_masked {k : Nat} (h : m k = true) (u : Nat → F) :
    (couplingForward E.exp true n m T S u).1 k = u k := by
  show u k * E.exp (maskedHead m S u k) + maskedHead m T u k = u k
  rw [maskedHead_true h, maskedHead_true h, E.exp_zero, mul_one, add_zero]

end Coupling

section CouplingBij
variable {F : Type} [Field F] [LinearOrder F] (E : ExpLog F)

/-- `CouplingLayer1d` / checkerboard `CouplingLayer2d` as a bijector (any mask, affine or additive). -/
def couplingBij (affine : Bool) (n : Nat) (m : Nat → Bool) (T S : (Nat → F) → Nat → F) :
    Bij (Nat → F) F where
  fwd := couplingForward E.exp affine n m T S
  bwd := couplingBackward E.exp affine n m T S
  fwd_bwd x := by
    obtain ⟨S', hb, hf⟩ := coupling_as_affine E n m T S affine
    rw [hb, hf]
    have hm : ∀ H, maskedHead m H (couplingBackward E.exp true n m T S' x).1 = maskedHead m H x :=
      fun H => maskedHead_congr H (fun j hj => couplingBackward_masked E n T S' hj x)
    funext k
    rw [couplingForward_affine, hm, hm]
    exact affine_fwd_bwd E _ _ _
  bwd_fwd u := by
    obtain ⟨S', hb, hf⟩ := coupling_as_affine E n m T S affine
    rw [hb, hf]
    have hm : ∀ H, maskedHead m H (couplingForward E.exp true n m T S' u).1 = maskedHead m H u :=
      fun H => maskedHead_congr H (fun j hj => couplingForward_masked E n T S' hj u)
    funext k
    show ((couplingForward E.exp true n m T S' u).1 k - maskedHead m T _ k) * E.exp (-(maskedHead m S' _ k)) = u k
    rw [hm, hm]
    exact affine_bwd_fwd E _ _ _
  ldj_antisymm u := by
    obtain ⟨S', hb, hf⟩ := coupling_as_affine E n m T S affine
    rw [hb, hf]
    show -(sumVar n (maskedHead m S' (couplingForward E.exp true n m T S' u).1)) = -(sumVar n (maskedHead m S' u))
    rw [maskedHead_congr S' (fun j hj => couplingForward_masked E n T S' hj u)]

end CouplingBij

section Chunk
variable {α : Type} [Zero α]

theorem chunkFst_of_lt {half k : Nat} (h : k < half) (x : Nat → α) : chunkFst half x k = x k := if_pos h

theorem chunkFst_cat2 (half : Nat) (a z : Nat → α) :
    chunkFst half (cat2 half a z) = chunkFst half a := by
  funext k; by_cases h : k < half <;> simp [chunkFst, cat2, h]

omit [Zero α] in
theorem chunkSnd_cat2 (half : Nat) (a z : Nat → α) : chunkSnd half (cat2 half a z) = z := by
  funext k; simp [chunkSnd, cat2]

theorem chunkFst_idem (half : Nat) (x : Nat → α) : chunkFst half (chunkFst half x) = chunkFst half x := by
  funext k; by_cases h : k < half <;> simp [chunkFst, h]

omit [Zero α] in
theorem cat2_eq {half : Nat} {a z x : Nat → α} (ha : ∀ k, k < half → a k = x k) (hz : z = chunkSnd half x) :
    cat2 half a z = x := by
  funext k
  by_cases h : k < half
  · simp only [cat2, h, if_true, ha k h]
  · simp only [cat2, h, if_false, hz, chunkSnd, Nat.add_sub_cancel' (Nat.le_of_not_lt h)]

theorem cat2_chunk (half : Nat) (x : Nat → α) : cat2 half (chunkFst half x) (chunkSnd half x) = x :=
  cat2_eq (fun _ h => chunkFst_of_lt h x) rfl

theorem cat2_chunkFst (half : Nat) (a z : Nat → α) : cat2 half (chunkFst half a) z = cat2 half a z := by
  funext k; by_cases h : k < half <;> simp [cat2, chunkFst, h]

end Chunk

section Chan
variable {F : Type} [Field F] [LinearOrder F] (E : ExpLog F)
variable (half : Nat) (T S : (Nat → F) → Nat → F)

theorem chan_as_affine (affine reverse : Bool) :
    ∃ S', chanBackward E.exp affine reverse half T S = chanBackward E.exp true reverse half T S' ∧
      chanForward E.exp affine reverse half T S = chanForward E.exp true reverse half T S' := by
  cases affine
  · refine ⟨fun _ _ => 0, funext fun x => ?_, funext fun u => ?_⟩
    · simp [chanBackward, E.exp_zero, sumVar_zero]
    · simp [chanForward, E.exp_zero, sumVar_zero]
  · exact ⟨S, rfl, rfl⟩

/-- The affine channel-wise coupling without `reverse`: the first chunk is transformed, conditioned on the second. -/
theorem chanBackward_affine (x : Nat → F) :
    chanBackward E.exp true false half T S x
      = (cat2 half (fun k => (chunkFst half x k - T (chunkSnd half x) k) * E.exp (-(S (chunkSnd half x) k)))
          (chunkSnd half x), -(sumVar half (S (chunkSnd half x)))) := rfl

theorem chanForward_affine (u : Nat → F) :
    chanForward E.exp true false half T S u
      = (cat2 half (fun k => chunkFst half u k * E.exp (S (chunkSnd half u) k) + T (chunkSnd half u) k)
          (chunkSnd half u), sumVar half (S (chunkSnd half u))) := rfl

/-- With `reverse`: the second chunk is transformed, conditioned on the first. -/
theorem chanBackward_affine_reverse (x : Nat → F) :
    chanBackward E.exp true true half T S x
      = (cat2 half (chunkFst half x)
          (fun k => (chunkSnd half x k - T (chunkFst half x) k) * E.exp (-(S (chunkFst half x) k))),
         -(sumVar half (S (chunkFst half x)))) := rfl

theorem chanForward_affine_reverse (u : Nat → F) :
    chanForward E.exp true true half T S u
      = (cat2 half (chunkFst half u)
          (fun k => chunkSnd half u k * E.exp (S (chunkFst half u) k) + T (chunkFst half u) k),
         sumVar half (S (chunkFst half u))) := rfl

end Chan

section ChanBij
variable {F : Type} [Field F] [LinearOrder F] (E : ExpLog F)

/-- Channel-wise `CouplingLayer2d` as a bijector. -/
def chanBij (affine reverse : Bool) (half : Nat) (T S : (Nat → F) → Nat → F) : Bij (Nat → F) F where
  fwd := chanForward E.exp affine reverse half T S
  bwd := chanBackward E.exp affine reverse half T S
  fwd_bwd x := by
    obtain ⟨S', hb, hf⟩ := chan_as_affine E half T S affine reverse
    rw [hb, hf]
    cases reverse
    · simp only [chanBackward_affine, chanForward_affine, chunkSnd_cat2, chunkFst_cat2]
      refine cat2_eq (fun k hk => ?_) rfl
      rw [chunkFst_of_lt hk]
      exact (affine_fwd_bwd E _ _ _).trans (chunkFst_of_lt hk x)
    · simp only [chanBackward_affine_reverse, chanForward_affine_reverse, chunkSnd_cat2, chunkFst_cat2, chunkFst_idem]
      exact cat2_eq (fun _ h => chunkFst_of_lt h x) (funext fun k => affine_fwd_bwd E _ _ _)
  bwd_fwd u := by
    obtain ⟨S', hb, hf⟩ := chan_as_affine E half T S affine reverse
    rw [hb, hf]
    cases reverse
    · simp only [chanBackward_affine, chanForward_affine, chunkSnd_cat2, chunkFst_cat2]
      refine cat2_eq (fun k hk => ?_) rfl
      rw [chunkFst_of_lt hk]
      exact (affine_bwd_fwd E _ _ _).trans (chunkFst_of_lt hk u)
    · simp only [chanBackward_affine_reverse, chanForward_affine_reverse, chunkSnd_cat2, chunkFst_cat2, chunkFst_idem]
      exact cat2_eq (fun _ h => chunkFst_of_lt h u) (funext fun k => affine_bwd_fwd E _ _ _)
  ldj_antisymm u := by
    obtain ⟨S', hb, hf⟩ := chan_as_affine E half T S affine reverse
    rw [hb, hf]
    cases reverse
    · simp only [chanBackward_affine, chanForward_affine, chunkSnd_cat2]
    · simp only [chanBackward_affine_reverse, chanForward_affine_reverse, chunkFst_cat2, chunkFst_idem]

end ChanBij

theorem mul_add_div' (a s b : Nat) (h : b < s) : (a * s + b) / s = a := by
  have hs : 0 < s := by omega
  rw [Nat.add_comm, Nat.add_mul_div_right _ _ hs, Nat.div_eq_of_lt h, Nat.zero_add]

theorem flat_lt {a b i j : Nat} (hi : i < a) (hj : j < b) : i * b + j < a * b :=
  calc i * b + j < (i + 1) * b := by rw [Nat.add_mul, Nat.one_mul]; exact Nat.add_lt_add_left hj _
    _ ≤ a * b := Nat.mul_le_mul_right b hi

theorem flat_digits_lt {a b d : Nat} (hd : d < a * b) : d / b < a ∧ d % b < b :=
  ⟨Nat.div_lt_of_lt_mul (Nat.mul_comm a b ▸ hd), Nat.mod_lt _ (Nat.pos_of_lt_mul_left hd)⟩

theorem flat3_cases {a b c d : Nat} (hd : d < a * b * c) :
    ∃ i j k, i < a ∧ j < b ∧ k < c ∧ d = (i * b + j) * c + k := by
  obtain ⟨h1, hk⟩ := flat_digits_lt hd
  obtain ⟨hi, hj⟩ := flat_digits_lt h1
  exact ⟨_, _, _, hi, hj, hk, by rw [Nat.div_add_mod', Nat.div_add_mod']⟩

theorem enc5_dec5 (s2 s3 s4 s5 d : Nat) : enc5 s2 s3 s4 s5 (dec5 s2 s3 s4 s5 d) = d := by
  simp only [enc5, dec5]
  rw [Nat.div_add_mod', Nat.div_add_mod', Nat.div_add_mod', Nat.div_add_mod']

theorem dec5_enc5 (s2 s3 s4 s5 i1 i2 i3 i4 i5 : Nat) (h2 : i2 < s2) (h3 : i3 < s3) (h4 : i4 < s4)
    (h5 : i5 < s5) : dec5 s2 s3 s4 s5 (enc5 s2 s3 s4 s5 (i1, i2, i3, i4, i5)) = (i1, i2, i3, i4, i5) := by
  simp only [enc5, dec5]
  simp only [mul_add_div' _ _ _ h5, Nat.mul_add_mod_of_lt h5, mul_add_div' _ _ _ h4, Nat.mul_add_mod_of_lt h4,
    mul_add_div' _ _ _ h3, Nat.mul_add_mod_of_lt h3, mul_add_div' _ _ _ h2, Nat.mul_add_mod_of_lt h2]

theorem dec5_lt (s1 s2 s3 s4 s5 d : Nat) (hd : d < s1 * s2 * s3 * s4 * s5) :
    (dec5 s2 s3 s4 s5 d).1 < s1 ∧ (dec5 s2 s3 s4 s5 d).2.1 < s2 ∧ (dec5 s2 s3 s4 s5 d).2.2.1 < s3 ∧
    (dec5 s2 s3 s4 s5 d).2.2.2.1 < s4 ∧ (dec5 s2 s3 s4 s5 d).2.2.2.2 < s5 := by
  obtain ⟨h4, b5⟩ := flat_digits_lt hd
  obtain ⟨h3, b4⟩ := flat_digits_lt h4
  obtain ⟨h2, b3⟩ := flat_digits_lt h3
  obtain ⟨b1, b2⟩ := flat_digits_lt h2
  exact ⟨b1, b2, b3, b4, b5⟩

theorem enc5_lt (s1 s2 s3 s4 s5 i1 i2 i3 i4 i5 : Nat) (h1 : i1 < s1) (h2 : i2 < s2) (h3 : i3 < s3)
    (h4 : i4 < s4) (h5 : i5 < s5) : enc5 s2 s3 s4 s5 (i1, i2, i3, i4, i5) < s1 * s2 * s3 * s4 * s5 :=
  flat_lt (flat_lt (flat_lt (flat_lt h1 h2) h3) h4) h5

theorem dec5_lt' (s2 s3 s4 s5 d : Nat) (p2 : 0 < s2) (p3 : 0 < s3) (p4 : 0 < s4) (p5 : 0 < s5) :
    (dec5 s2 s3 s4 s5 d).2.1 < s2 ∧ (dec5 s2 s3 s4 s5 d).2.2.1 < s3 ∧
    (dec5 s2 s3 s4 s5 d).2.2.2.1 < s4 ∧ (dec5 s2 s3 s4 s5 d).2.2.2.2 < s5 :=
  ⟨Nat.mod_lt _ p2, Nat.mod_lt _ p3, Nat.mod_lt _ p4, Nat.mod_lt _ p5⟩

theorem squeezeSrc_unsqueezeSrc (h w d : Nat) (hh : 0 < h / 2) (hw : 0 < w / 2) :
    squeezeSrc h w (unsqueezeSrc (h / 2) (w / 2) d) = d := by
  have p2 : (0:Nat) < 2 := by omega
  simp only [squeezeSrc, unsqueezeSrc]
  obtain ⟨b2, b3, b4, b5⟩ := dec5_lt' (h / 2) 2 (w / 2) 2 d hh p2 hw p2
  rw [dec5_enc5 _ _ _ _ _ _ _ _ _ b3 b5 b2 b4]
  exact enc5_dec5 (h / 2) 2 (w / 2) 2 d

theorem unsqueezeSrc_squeezeSrc (h w d : Nat) (hh : 0 < h / 2) (hw : 0 < w / 2) :
    unsqueezeSrc (h / 2) (w / 2) (squeezeSrc h w d) = d := by
  have p2 : (0:Nat) < 2 := by omega
  simp only [squeezeSrc, unsqueezeSrc]
  obtain ⟨b2, b3, b4, b5⟩ := dec5_lt' 2 2 (h / 2) (w / 2) d p2 p2 hh hw
  rw [dec5_enc5 _ _ _ _ _ _ _ _ _ b4 b2 b5 b3]
  exact enc5_dec5 2 2 (h / 2) (w / 2) d

/-- Element counts of the un-squeezed `(c, h/2, 2, w/2, 2)` and squeezed `(c, 2, 2, h/2, w/2)` views, `h`, `w` even. -/
theorem squeeze_sizes (c h w : Nat) (hh : h % 2 = 0) (hw : w % 2 = 0) :
    c * (h / 2) * 2 * (w / 2) * 2 = c * h * w ∧ c * 2 * 2 * (h / 2) * (w / 2) = 4 * c * (h / 2) * (w / 2) := by
  have h1 : h / 2 * 2 = h := Nat.div_mul_cancel (Nat.dvd_of_mod_eq_zero hh)
  have h2 : w / 2 * 2 = w := Nat.div_mul_cancel (Nat.dvd_of_mod_eq_zero hw)
  refine ⟨?_, by ring⟩
  calc c * (h / 2) * 2 * (w / 2) * 2 = c * (h / 2 * 2) * (w / 2 * 2) := by ring
    _ = c * h * w := by rw [h1, h2]

theorem squeezeSrc_lt (c h w d : Nat) (hh : h % 2 = 0) (hw : w % 2 = 0)
    (hd : d < 4 * c * (h / 2) * (w / 2)) : squeezeSrc h w d < c * h * w := by
  obtain ⟨e1, e2⟩ := squeeze_sizes c h w hh hw
  rw [← e2] at hd
  obtain ⟨b1, b2, b3, b4, b5⟩ := dec5_lt c 2 2 (h / 2) (w / 2) d hd
  rw [← e1]
  exact enc5_lt c (h / 2) 2 (w / 2) 2 _ _ _ _ _ b1 b4 b2 b5 b3

theorem unsqueezeSrc_lt (c h w d : Nat) (hh : h % 2 = 0) (hw : w % 2 = 0)
    (hd : d < c * h * w) : unsqueezeSrc (h / 2) (w / 2) d < 4 * c * (h / 2) * (w / 2) := by
  obtain ⟨e1, e2⟩ := squeeze_sizes c h w hh hw
  rw [← e1] at hd
  obtain ⟨b1, b2, b3, b4, b5⟩ := dec5_lt c (h / 2) 2 (w / 2) 2 d hd
  rw [← e2]
  exact enc5_lt c 2 2 (h / 2) (w / 2) _ _ _ _ _ b1 b3 b5 b2 b4

section SqueezeInst
variable {α F : Type} [AddCommGroup F]

theorem unsqueeze_squeeze' (h w : Nat) (hh : 0 < h / 2) (hw : 0 < w / 2) (x : Nat → α) :
    unsqueeze (h / 2) (w / 2) (squeeze h w x) = x := by
  funext d
  show x (squeezeSrc h w (unsqueezeSrc (h / 2) (w / 2) d)) = x d
  rw [squeezeSrc_unsqueezeSrc h w d hh hw]

theorem squeeze_unsqueeze' (h w : Nat) (hh : 0 < h / 2) (hw : 0 < w / 2) (y : Nat → α) :
    squeeze h w (unsqueeze (h / 2) (w / 2) y) = y := by
  funext d
  show y (unsqueezeSrc (h / 2) (w / 2) (squeezeSrc h w d)) = y d
  rw [unsqueezeSrc_squeezeSrc h w d hh hw]

/-- The squeeze stage inside `CouplingBlock2d.apply_backward` (`bwd = squeeze_depth2d`,
`fwd = unsqueeze_depth2d`), log-det 0. -/
def squeezeBij (h w : Nat) (hh : 0 < h / 2) (hw : 0 < w / 2) : Bij (Nat → α) F :=
  Bij.ofInverse (unsqueeze (h / 2) (w / 2)) (squeeze h w) (unsqueeze_squeeze' h w hh hw)
    (squeeze_unsqueeze' h w hh hw)

/-- The un-squeeze stage at the end of `CouplingBlock2d.apply_backward`. -/
def unsqueezeBij (h w : Nat) (hh : 0 < h / 2) (hw : 0 < w / 2) : Bij (Nat → α) F :=
  Bij.ofInverse (squeeze h w) (unsqueeze (h / 2) (w / 2)) (squeeze_unsqueeze' h w hh hw)
    (unsqueeze_squeeze' h w hh hw)

end SqueezeInst

section BnScalar
variable {F : Type} [Field F]

theorem bn_scalar_fwd_bwd (x m q e e' b : F) (hq : q ≠ 0) (he : e * e' = 1) :
    ((x - m) / q * e + b - b) * e' * q + m = x := by
  rw [add_sub_cancel_right, mul_assoc ((x - m) / q), he, mul_one, div_mul_cancel₀ _ hq, sub_add_cancel]

theorem bn_scalar_bwd_fwd (u m q e e' b : F) (hq : q ≠ 0) (he : e' * e = 1) :
    ((u - b) * e' * q + m - m) / q * e + b = u := by
  rw [add_sub_cancel_right, mul_div_cancel_right₀ _ hq, mul_assoc, he, mul_one, sub_add_cancel]

end BnScalar

section Bn
variable {F : Type} [Field F] [LinearOrder F] (E : ExpLog F)
variable (half eps : F) (n : Nat) (w b mean var : Nat → F)

/-- The log-det reported by batch-norm does not depend on the input: antisymmetry is an identity of
the two constants. -/
theorem bn1d_ldj_antisymm' (x u : Nat → F) :
    (bn1dBackward E.exp E.log E.sqrt half eps n w b mean var x).2
      = -(bn1dForward E.exp E.log E.sqrt half eps n w b mean var u).2 := by
  show sumVar n _ = -(sumVar n _)
  rw [← sumVar_neg]
  apply sumVar_congr
  intro k; ring

/-- `BatchNormLayer1d` (eval mode) as a bijector. -/
def bn1dBij (half eps : F) (n : Nat) (w b mean var : Nat → F) (hv : ∀ k, 0 < var k + eps) :
    Bij (Nat → F) F where
  fwd := bn1dForward E.exp E.log E.sqrt half eps n w b mean var
  bwd := bn1dBackward E.exp E.log E.sqrt half eps n w b mean var
  fwd_bwd _ := funext fun k => bn_scalar_fwd_bwd _ _ _ _ _ _ (E.sqrt_ne_zero (hv k)) (E.exp_mul_exp_neg _)
  bwd_fwd _ := funext fun k => bn_scalar_bwd_fwd _ _ _ _ _ _ (E.sqrt_ne_zero (hv k)) (E.exp_neg_mul_exp _)
  ldj_antisymm := fun u => bn1d_ldj_antisymm' E half eps n w b mean var _ u

variable (C grid : Nat) (gridA : F)

/-- On the values, `BatchNormLayer2d` is `BatchNormLayer1d` with every per-channel parameter `p` broadcast over the
grid, `k ↦ p (k / grid)`. -/
theorem bn2d_forward_backward' (hv : ∀ c, 0 < var c + eps) (x : Nat → F) :
    (bn2dForward E.exp E.log E.sqrt half eps C grid gridA w b mean var
      (bn2dBackward E.exp E.log E.sqrt half eps C grid gridA w b mean var x).1).1 = x :=
  (bn1dBij E half eps 0 (fun k => w (k / grid)) (fun k => b (k / grid)) (fun k => mean (k / grid))
    (fun k => var (k / grid)) (fun _ => hv _)).fwd_bwd x

theorem bn2d_backward_forward' (hv : ∀ c, 0 < var c + eps) (u : Nat → F) :
    (bn2dBackward E.exp E.log E.sqrt half eps C grid gridA w b mean var
      (bn2dForward E.exp E.log E.sqrt half eps C grid gridA w b mean var u).1).1 = u :=
  (bn1dBij E half eps 0 (fun k => w (k / grid)) (fun k => b (k / grid)) (fun k => mean (k / grid))
    (fun k => var (k / grid)) (fun _ => hv _)).bwd_fwd u

theorem bn2d_ldj_antisymm' (x u : Nat → F) :
    (bn2dBackward E.exp E.log E.sqrt half eps C grid gridA w b mean var x).2
      = -(bn2dForward E.exp E.log E.sqrt half eps C grid gridA w b mean var u).2 := by
  show sumVar C _ * gridA = -(sumVar C _ * gridA)
  rw [← neg_mul, ← sumVar_neg]
  congr 1
  apply sumVar_congr
  intro k; ring

/-- `BatchNormLayer2d` (eval mode) as a bijector. -/
def bn2dBij (half eps : F) (C grid : Nat) (gridA : F) (w b mean var : Nat → F)
    (hv : ∀ c, 0 < var c + eps) : Bij (Nat → F) F where
  fwd := bn2dForward E.exp E.log E.sqrt half eps C grid gridA w b mean var
  bwd := bn2dBackward E.exp E.log E.sqrt half eps C grid gridA w b mean var
  fwd_bwd := bn2d_forward_backward' E half eps w b mean var C grid gridA hv
  bwd_fwd := bn2d_backward_forward' E half eps w b mean var C grid gridA hv
  ldj_antisymm := fun u => bn2d_ldj_antisymm' E half eps w b mean var C grid gridA _ u

end Bn

section Logit
variable {F : Type} [Field F] [LinearOrder F] [IsStrictOrderedRing F] (E : ExpLogSig F)

theorem sigmoid_pos (u : F) : 0 < E.sigmoid u := by
  rw [E.sigmoid_def]
  have := E.exp_pos (-u)
  positivity

theorem one_sub_sigmoid (u : F) : 1 - E.sigmoid u = E.exp (-u) * E.sigmoid u := by
  have h : 1 + E.exp (-u) ≠ 0 := (add_pos one_pos (E.exp_pos _)).ne'
  rw [E.sigmoid_def, mul_one_div, eq_div_iff h, sub_mul, one_mul, one_div_mul_cancel h, add_sub_cancel_left]

theorem logit_sigmoid (u : F) : E.log (E.sigmoid u) - E.log (1 - E.sigmoid u) = u := by
  rw [one_sub_sigmoid, E.log_mul (E.exp_pos _) (sigmoid_pos E u), E.log_exp]
  ring

theorem sigmoid_logit {a : F} (h0 : 0 < a) (h1 : a < 1) : E.sigmoid (E.log a - E.log (1 - a)) = a := by
  rw [E.sigmoid_def, neg_sub, E.exp_sub, E.exp_log _ h0, E.exp_log _ (sub_pos.2 h1), one_add_div h0.ne',
    add_sub_cancel, one_div_one_div]

omit [LinearOrder F] [IsStrictOrderedRing F] E in
/-- The affine pre-map `p ↦ α + c·p` undoes the affine post-map `p ↦ (p − α)/c` of `apply_forward`. -/
theorem logit_affine_cancel (alpha c p : F) (hc : c ≠ 0) : alpha + c * ((p - alpha) / c) = p := by
  rw [mul_div_cancel₀ _ hc]; ring

end Logit

theorem quarterPos_lt (q : Nat) : (quarterPos q).1 < 2 ∧ (quarterPos q).2 < 2 := by
  unfold quarterPos; split <;> simp

theorem orderingBit_iff (q a b : Nat) (hq : q < 4) :
    orderingBit q a b = true ↔ a = (quarterPos q).1 ∧ b = (quarterPos q).2 := by
  have : q = 0 ∨ q = 1 ∨ q = 2 ∨ q = 3 := by omega
  rcases this with rfl | rfl | rfl | rfl <;> simp [orderingBit, quarterPos]

theorem quarterPos_posQuarter (a b : Nat) (ha : a < 2) (hb : b < 2) : quarterPos (posQuarter a b) = (a, b) := by
  have : a = 0 ∨ a = 1 := by omega
  have : b = 0 ∨ b = 1 := by omega
  rcases ‹a = 0 ∨ a = 1› with rfl | rfl <;> rcases ‹b = 0 ∨ b = 1› with rfl | rfl <;> rfl

theorem posQuarter_quarterPos (q : Nat) (hq : q < 4) : posQuarter (quarterPos q).1 (quarterPos q).2 = q := by
  have : q = 0 ∨ q = 1 ∨ q = 2 ∨ q = 3 := by omega
  rcases this with rfl | rfl | rfl | rfl <;> rfl

theorem posQuarter_lt (a b : Nat) : posQuarter a b < 4 := by
  unfold posQuarter; split <;> split <;> omega

theorem permWeight_iff (c o ci a b : Nat) (ho : o < 4 * c) :
    permWeight c o ci a b = true ↔ (ci, a, b) = permSrc c o := by
  have hc : 0 < c := by omega
  have hq : o / c < 4 := by rw [Nat.div_lt_iff_lt_mul hc]; omega
  have hm : o % c < c := Nat.mod_lt _ hc
  have e1 : (4 * (o % c) + o / c) / 4 = o % c := by
    generalize o / c = q at hq; generalize o % c = m; omega
  have e2 : (4 * (o % c) + o / c) % 4 = o / c := by
    generalize o / c = q at hq; generalize o % c = m; omega
  simp only [permWeight, preWeight, permIndex, permSrc, e1, e2, Bool.and_eq_true, beq_iff_eq,
    orderingBit_iff _ _ _ hq, Prod.mk.injEq]

theorem permSrc_lt (c o : Nat) (hc : 0 < c) :
    (permSrc c o).1 < c ∧ (permSrc c o).2.1 < 2 ∧ (permSrc c o).2.2 < 2 :=
  ⟨Nat.mod_lt _ hc, (quarterPos_lt _).1, (quarterPos_lt _).2⟩

theorem permWeight_col (c o ci a b : Nat) (ho : o < 4 * c) (hci : ci < c) (ha : a < 2) (hb : b < 2) :
    permWeight c o ci a b = true ↔ o = posQuarter a b * c + ci := by
  have hc : 0 < c := by omega
  have hq : o / c < 4 := by rw [Nat.div_lt_iff_lt_mul hc]; omega
  rw [permWeight_iff c o ci a b ho]
  simp only [permSrc, Prod.mk.injEq]
  constructor
  · rintro ⟨h1, h2, h3⟩
    have : posQuarter a b = o / c := by rw [h2, h3]; exact posQuarter_quarterPos _ hq
    rw [this, h1]
    exact (Nat.div_add_mod' o c).symm
  · rintro rfl
    rw [mul_add_div' _ _ _ hci, Nat.mul_add_mod_of_lt hci, quarterPos_posQuarter a b ha hb]
    exact ⟨rfl, rfl, rfl⟩

section ConvGather
variable {α : Type} [CommSemiring α]

/-- The strided convolution with the permutation matrix is a gather: in the sum for destination `d` only the term
of `permSrc` carries weight `1`. -/
theorem convPerm_eq_gather (c h w : Nat) (x : Nat → α) (d : Nat) (hd : d < 4 * c * (h / 2) * (w / 2)) :
    convPerm c h w x d = x (convPermSrc c h w d) := by
  obtain ⟨ho, -⟩ := flat_digits_lt (flat_digits_lt hd).1
  obtain ⟨b1, b2, b3⟩ := permSrc_lt c (d / (w / 2) / (h / 2)) (Nat.pos_of_lt_mul_left ho)
  show sumVar c (fun ci => sumVar 2 (fun a => sumVar 2 (fun b =>
    (if permWeight c (d / (w / 2) / (h / 2)) ci a b then 1 else 0) * x _))) = _
  rw [sumVar3_single c 2 2 (permSrc c (d / (w / 2) / (h / 2))) _ b1 b2 b3 (fun ci a b hne => by
      rw [if_neg (fun hp => hne ((permWeight_iff c _ ci a b ho).1 hp)), zero_mul]),
    if_pos ((permWeight_iff c _ (permSrc c _).1 (permSrc c _).2.1 (permSrc c _).2.2 ho).2 rfl), one_mul]
  rfl

theorem convTPerm_eq_gather (c h w : Nat) (x : Nat → α) (d : Nat) (hd : d < c * h * w) :
    convTPerm c h w x d = x (convTPermSrc c h w d) := by
  obtain ⟨hci, -⟩ := flat_digits_lt (flat_digits_lt hd).1
  have ha : d / w % h % 2 < 2 := Nat.mod_lt _ (by omega)
  have hb : d % w % 2 < 2 := Nat.mod_lt _ (by omega)
  have ho := flat_lt (posQuarter_lt (d / w % h % 2) (d % w % 2)) hci
  show sumVar (4 * c) (fun o => (if permWeight c o (d / w / h) (d / w % h % 2) (d % w % 2) then 1 else 0) * x _) = _
  rw [sumVar_single (4 * c) _ _ ho (fun o ho' hne => by
      rw [if_neg (fun hp => hne ((permWeight_col c o _ _ _ ho' hci ha hb).1 hp)), zero_mul]),
    if_pos ((permWeight_col c _ _ _ _ ho hci ha hb).2 rfl), one_mul]
  rfl

end ConvGather

/-- `convPermSrc` at the destination position `(o, y, xx)` of the `(4c, h/2, w/2)` result. -/
theorem convPermSrc_flat (c h w o y xx : Nat) (hy : y < h / 2) (hx : xx < w / 2) :
    convPermSrc c h w ((o * (h / 2) + y) * (w / 2) + xx)
      = (o % c * h + (2 * y + (quarterPos (o / c)).1)) * w + (2 * xx + (quarterPos (o / c)).2) := by
  simp only [convPermSrc, permSrc, Nat.mul_add_mod_of_lt hx, mul_add_div' _ _ _ hx, Nat.mul_add_mod_of_lt hy,
    mul_add_div' _ _ _ hy]

/-- `convTPermSrc` at the destination position `(ci, Y, X)` of the `(c, h, w)` result. -/
theorem convTPermSrc_flat (c h w ci Y X : Nat) (hY : Y < h) (hX : X < w) :
    convTPermSrc c h w ((ci * h + Y) * w + X)
      = ((posQuarter (Y % 2) (X % 2) * c + ci) * (h / 2) + Y / 2) * (w / 2) + X / 2 := by
  simp only [convTPermSrc, Nat.mul_add_mod_of_lt hX, mul_add_div' _ _ _ hX, Nat.mul_add_mod_of_lt hY,
    mul_add_div' _ _ _ hY]

theorem convPermSrc_convTPermSrc (c h w e : Nat) (hh : h % 2 = 0) (hw : w % 2 = 0) (he : e < c * h * w) :
    convPermSrc c h w (convTPermSrc c h w e) = e := by
  obtain ⟨ci, Y, X, hci, hY, hX, rfl⟩ := flat3_cases he
  have ha : Y % 2 < 2 := Nat.mod_lt _ (by omega)
  have hb : X % 2 < 2 := Nat.mod_lt _ (by omega)
  rw [convTPermSrc_flat c h w ci Y X hY hX, convPermSrc_flat c h w _ _ _ (by omega) (by omega),
    Nat.mul_add_mod_of_lt hci, mul_add_div' _ _ _ hci, quarterPos_posQuarter _ _ ha hb, Nat.div_add_mod,
    Nat.div_add_mod]

theorem convTPermSrc_convPermSrc (c h w d : Nat) (hh : h % 2 = 0) (hw : w % 2 = 0)
    (hd : d < 4 * c * (h / 2) * (w / 2)) :
    convTPermSrc c h w (convPermSrc c h w d) = d := by
  obtain ⟨o, y, xx, ho, hy, hx, rfl⟩ := flat3_cases hd
  have hq : o / c < 4 := Nat.div_lt_of_lt_mul (by omega)
  obtain ⟨ha, hb⟩ := quarterPos_lt (o / c)
  rw [convPermSrc_flat c h w o y xx hy hx, convTPermSrc_flat c h w _ _ _ (by omega) (by omega),
    Nat.mul_add_mod, Nat.mul_add_mod, Nat.mod_eq_of_lt ha, Nat.mod_eq_of_lt hb, posQuarter_quarterPos _ hq,
    Nat.div_add_mod', Nat.mul_add_div (by omega), Nat.mul_add_div (by omega), Nat.div_eq_of_lt ha,
    Nat.div_eq_of_lt hb, Nat.add_zero, Nat.add_zero]

theorem convPermSrc_lt (c h w d : Nat) (hh : h % 2 = 0) (hw : w % 2 = 0)
    (hd : d < 4 * c * (h / 2) * (w / 2)) : convPermSrc c h w d < c * h * w := by
  obtain ⟨o, y, xx, ho, hy, hx, rfl⟩ := flat3_cases hd
  obtain ⟨ha, hb⟩ := quarterPos_lt (o / c)
  rw [convPermSrc_flat c h w o y xx hy hx]
  exact flat_lt (flat_lt (Nat.mod_lt _ (by omega)) (by omega)) (by omega)

theorem convTPermSrc_lt (c h w e : Nat) (hh : h % 2 = 0) (hw : w % 2 = 0) (he : e < c * h * w) :
    convTPermSrc c h w e < 4 * c * (h / 2) * (w / 2) := by
  obtain ⟨ci, Y, X, hci, hY, hX, rfl⟩ := flat3_cases he
  rw [convTPermSrc_flat c h w ci Y X hY hX]
  exact flat_lt (flat_lt (flat_lt (posQuarter_lt _ _) hci) (by omega)) (by omega)

section Chain
variable {X F : Type} [AddCommGroup F]

theorem chainRun_foldl_acc (ls : List (X → X × F)) (y : X) (a : F) :
    ls.foldl (fun st l => ((l st.1).1, st.2 + (l st.1).2)) (y, a)
      = ((chainRun ls y).1, a + (chainRun ls y).2) := by
  induction ls generalizing y a with
  | nil => simp [chainRun]
  | cons l ls ih =>
    simp only [chainRun, List.foldl_cons]
    rw [ih, ih (a := 0 + (l y).2)]
    simp [add_assoc]

theorem chainRun_nil (x : X) : chainRun ([] : List (X → X × F)) x = (x, 0) := rfl

theorem chainRun_cons (l : X → X × F) (ls : List (X → X × F)) (x : X) :
    chainRun (l :: ls) x = ((chainRun ls (l x).1).1, (l x).2 + (chainRun ls (l x).1).2) := by
  simp only [chainRun, List.foldl_cons]
  rw [chainRun_foldl_acc]
  simp [chainRun]

theorem chainRun_append (ls ms : List (X → X × F)) (x : X) :
    chainRun (ls ++ ms) x
      = ((chainRun ms (chainRun ls x).1).1, (chainRun ls x).2 + (chainRun ms (chainRun ls x).1).2) := by
  induction ls generalizing x with
  | nil => simp [chainRun_nil]
  | cons l ls ih =>
    rw [List.cons_append, chainRun_cons, ih, chainRun_cons]
    simp [add_assoc]

def Bij.id : Bij X F where
  fwd x := (x, 0)
  bwd x := (x, 0)
  fwd_bwd _ := rfl
  bwd_fwd _ := rfl
  ldj_antisymm _ := by simp

/-- Composite bijector: `bwd` runs `a` then `b`; `fwd` runs `b` then `a` (reversed order). -/
def Bij.comp (a b : Bij X F) : Bij X F where
  bwd x := ((b.bwd (a.bwd x).1).1, (a.bwd x).2 + (b.bwd (a.bwd x).1).2)
  fwd u := ((a.fwd (b.fwd u).1).1, (b.fwd u).2 + (a.fwd (b.fwd u).1).2)
  fwd_bwd x := by simp [b.fwd_bwd, a.fwd_bwd]
  bwd_fwd u := by simp [b.bwd_fwd, a.bwd_fwd]
  ldj_antisymm u := by
    simp only [a.bwd_fwd, a.ldj_antisymm, b.ldj_antisymm]
    rw [neg_add_rev]

/-- The whole stack of layers as one bijector. -/
def Bij.chain : List (Bij X F) → Bij X F
  | [] => Bij.id
  | l :: ls => Bij.comp l (Bij.chain ls)

theorem chain_bwd_eq (ls : List (Bij X F)) (x : X) :
    chainRun (ls.map Bij.bwd) x = (Bij.chain ls).bwd x := by
  induction ls generalizing x with
  | nil => rfl
  | cons l ls ih => rw [List.map_cons, chainRun_cons, ih]; rfl

theorem chain_fwd_eq (ls : List (Bij X F)) (u : X) :
    chainRun ((ls.map Bij.fwd).reverse) u = (Bij.chain ls).fwd u := by
  induction ls generalizing u with
  | nil => rfl
  | cons l ls ih =>
    rw [List.map_cons, List.reverse_cons, chainRun_append, ih]
    simp [chainRun_cons, chainRun_nil, Bij.chain, Bij.comp]

/-- Reported log-dets collected along the chain. -/
def ldjTrace : List (X → X × F) → X → List F
  | [], _ => []
  | l :: ls, x => (l x).2 :: ldjTrace ls (l x).1

theorem chainRun_ldj_sum (ls : List (X → X × F)) (x : X) :
    (chainRun ls x).2 = tsum (ldjTrace ls x) := by
  induction ls generalizing x with
  | nil => rfl
  | cons l ls ih => rw [chainRun_cons, ldjTrace, tsum, ih]

end Chain

section MultiScale
variable {X Z F : Type} [AddCommGroup F]

/-- Down/up-scaling and split/concatenation of one scale, with the bookkeeping laws. -/
structure ScaleOps (X Z : Type) where
  down : X → X
  up : X → X
  split : X → X × Z
  join : X × Z → X
  up_down : ∀ x, up (down x) = x
  down_up : ∀ x, down (up x) = x
  join_split : ∀ x, join (split x) = x
  split_join : ∀ p, split (join p) = p

/-- One scale of `RealNVP2d.apply_backward / apply_forward`:
backward = block, `conv2d`, `chunk`, recurse on the first half, `cat`, `conv_transpose2d`. -/
def Bij.scale (L : Bij X F) (o : ScaleOps X Z) (inner : Bij X F) : Bij X F where
  bwd x := (o.up (o.join ((inner.bwd (o.split (o.down (L.bwd x).1)).1).1, (o.split (o.down (L.bwd x).1)).2)),
            (L.bwd x).2 + (inner.bwd (o.split (o.down (L.bwd x).1)).1).2)
  fwd u := ((L.fwd (o.up (o.join ((inner.fwd (o.split (o.down u)).1).1, (o.split (o.down u)).2)))).1,
            (inner.fwd (o.split (o.down u)).1).2
              + (L.fwd (o.up (o.join ((inner.fwd (o.split (o.down u)).1).1, (o.split (o.down u)).2)))).2)
  fwd_bwd x := by
    simp only [o.down_up, o.split_join, inner.fwd_bwd]
    rw [Prod.mk.eta, o.join_split, o.up_down, L.fwd_bwd]
  bwd_fwd u := by
    simp only [L.bwd_fwd, o.down_up, o.split_join, inner.bwd_fwd]
    rw [Prod.mk.eta, o.join_split, o.up_down]
  ldj_antisymm u := by
    simp only [L.bwd_fwd, L.ldj_antisymm, o.down_up, o.split_join, inner.ldj_antisymm]
    rw [neg_add_rev]

/-- The whole multi-scale model: blocks with their scale operations, then the last block. -/
def Bij.multiScale : List (Bij X F × ScaleOps X Z) → Bij X F → Bij X F
  | [], last => last
  | (L, o) :: rest, last => Bij.scale L o (Bij.multiScale rest last)

/-- The operations of a scale as plain functions (what the loops of the code use). -/
def toFns (p : Bij X F × ScaleOps X Z) : ScaleFns X Z F :=
  { bwd := p.1.bwd, fwd := p.1.fwd, down := p.2.down, up := p.2.up, split := p.2.split, join := p.2.join }

theorem msBwd_loop (last : Bij X F) : ∀ (ps : List (Bij X F × ScaleOps X Z)) (x : X) (a : F) (zs : List Z)
    (pre : List (ScaleFns X Z F)),
    msUp ((ps.map toFns).reverse ++ pre) (last.bwd (msBwdDown (ps.map toFns) x a zs).1).1
        (msBwdDown (ps.map toFns) x a zs).2.2
      = msUp pre ((Bij.multiScale ps last).bwd x).1 zs ∧
    (msBwdDown (ps.map toFns) x a zs).2.1 + (last.bwd (msBwdDown (ps.map toFns) x a zs).1).2
      = a + ((Bij.multiScale ps last).bwd x).2 := by
  intro ps
  induction ps with
  | nil => intro x a zs pre; simp [msBwdDown, Bij.multiScale]
  | cons p ps ih =>
    intro x a zs pre
    obtain ⟨L, o⟩ := p
    simp only [List.map_cons, msBwdDown, List.reverse_cons, List.append_assoc, List.singleton_append]
    obtain ⟨h1, h2⟩ := ih (o.split (o.down (L.bwd x).1)).1 (a + (L.bwd x).2)
      ((o.split (o.down (L.bwd x).1)).2 :: zs) (toFns (L, o) :: pre)
    refine ⟨h1, ?_⟩
    simp only [toFns] at h2 ⊢
    rw [h2, add_assoc]
    rfl

/-- The two loops of `RealNVP2d.apply_backward` compute the recursive multi-scale bijector. -/
theorem msBackward_eq (ps : List (Bij X F × ScaleOps X Z)) (last : Bij X F) (x : X) :
    msBackward (ps.map toFns) last.bwd x = (Bij.multiScale ps last).bwd x := by
  obtain ⟨h1, h2⟩ := msBwd_loop last ps x 0 [] []
  rw [List.append_nil] at h1
  exact Prod.ext h1 (h2.trans (zero_add _))

theorem msFwd_loop (last : Bij X F) : ∀ (ps : List (Bij X F × ScaleOps X Z)) (u : X) (zs : List Z)
    (pre : List (ScaleFns X Z F)) (a : F),
    msFwdUp ((ps.map toFns).reverse ++ pre) (last.fwd (msFwdDown (ps.map toFns) u zs).1).1
        (a + (last.fwd (msFwdDown (ps.map toFns) u zs).1).2) (msFwdDown (ps.map toFns) u zs).2
      = msFwdUp pre ((Bij.multiScale ps last).fwd u).1 (a + ((Bij.multiScale ps last).fwd u).2) zs := by
  intro ps
  induction ps with
  | nil => intro u zs pre a; simp [msFwdDown, Bij.multiScale]
  | cons p ps ih =>
    intro u zs pre a
    obtain ⟨L, o⟩ := p
    simp only [List.map_cons, msFwdDown, List.reverse_cons, List.append_assoc, List.singleton_append]
    rw [ih _ _ (toFns (L, o) :: pre) a]
    simp only [msFwdUp, add_assoc]
    rfl

/-- The two loops of `RealNVP2d.apply_forward` compute the recursive multi-scale bijector. -/
theorem msForward_eq (ps : List (Bij X F × ScaleOps X Z)) (last : Bij X F) (u : X) :
    msForward (ps.map toFns) last.fwd u = (Bij.multiScale ps last).fwd u := by
  have h := msFwd_loop last ps u [] [] 0
  rw [List.append_nil] at h
  exact h.trans (Prod.ext rfl (zero_add _))

end MultiScale

end Deeprob.Flows
