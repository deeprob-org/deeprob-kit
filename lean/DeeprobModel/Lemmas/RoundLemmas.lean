import DeeprobModel.Model.Io
import Mathlib.Algebra.Order.Field.Basic
import Mathlib.Algebra.Order.Field.Rat
import Mathlib.Tactic.Linarith
import Mathlib.Tactic.NormNum
import Mathlib.Tactic.Ring
set_option linter.unusedSimpArgs false
set_option linter.unusedVariables false
/-
Facts about the exact round-half-even `roundHalfEven` / `roundN` / `round8` of `Model/Io.lean`.
-/
namespace Deeprob

private theorem eq_of_le_of_two_mul_le_add {a b c : ℚ} (ha : a ≤ c) (hb : b ≤ c) (h : 2 * c ≤ a + b) : a = c ∧ b = c := by
  constructor <;> linarith

private theorem le_of_le_of_two_mul_le_add {x z c : ℚ} (hx : x ≤ c) (h : 2 * c ≤ z + x) : x ≤ z := by linarith

private theorem le_of_abs_sub_le {a b ra rb c : ℚ} (ha : |ra - a| ≤ c) (hb : |rb - b| ≤ c) (h : rb + 2 * c ≤ ra) : b ≤ a := by
  linarith [(abs_le.1 ha).2, (abs_le.1 hb).1]

private theorem one_sub_lt_half {r : ℚ} (h : 1 / 2 < r) : 1 - r < 1 / 2 := by rw [sub_lt_comm, sub_half]; exact h

private theorem one_sub_le_half {r : ℚ} (h : 1 / 2 ≤ r) : 1 - r ≤ 1 / 2 := by rw [sub_le_comm, sub_half]; exact h

theorem roundHalfEven_char (y : ℚ) :
    |(roundHalfEven y : ℚ) - y| ≤ 1 / 2 ∧ (|(roundHalfEven y : ℚ) - y| = 1 / 2 → roundHalfEven y % 2 = 0) := by
  have h1 := Rat.floor_le y
  have h2 := Rat.lt_floor_add_one y
  unfold roundHalfEven
  simp only
  generalize y.floor = f at h1 h2 ⊢
  -- write `y = f + r` with `0 ≤ r < 1`: the candidates `f`, `f + 1` are `r`, `1 - r` away
  obtain ⟨r, rfl⟩ : ∃ r : ℚ, y = (f : ℚ) + r := ⟨y - f, (add_sub_cancel _ _).symm⟩
  rw [le_add_iff_nonneg_right] at h1
  rw [Int.cast_add, Int.cast_one, add_lt_add_iff_left] at h2
  have down : |(f : ℚ) - (f + r)| = r := by rw [sub_add_cancel_left, abs_neg, abs_of_nonneg h1]
  have up : |((f + 1 : ℤ) : ℚ) - (f + r)| = 1 - r := by
    rw [Int.cast_add, Int.cast_one, add_sub_add_left_eq_sub, abs_of_nonneg (sub_nonneg.2 h2.le)]
  simp only [add_sub_cancel_left]
  split_ifs with ha hb hc
  · rw [down]; exact ⟨ha.le, fun h => absurd h ha.ne⟩
  · rw [up]; exact ⟨(one_sub_lt_half hb).le, fun h => absurd h (one_sub_lt_half hb).ne⟩
  · rw [down]; exact ⟨not_lt.1 hb, fun _ => hc⟩
  · rw [up]; exact ⟨one_sub_le_half (not_lt.1 ha), fun _ => by omega⟩

theorem rhe_abs_err (y : ℚ) : |(roundHalfEven y : ℚ) - y| ≤ 1 / 2 := (roundHalfEven_char y).1

theorem rhe_tie_even (y : ℚ) (h : |(roundHalfEven y : ℚ) - y| = 1 / 2) : roundHalfEven y % 2 = 0 :=
  (roundHalfEven_char y).2 h

theorem rhe_unique_char (y : ℚ) (n : ℤ) (h1 : |(n : ℚ) - y| ≤ 1 / 2) (h2 : |(n : ℚ) - y| = 1 / 2 → n % 2 = 0) :
    roundHalfEven y = n := by
  obtain ⟨e1, t1⟩ := roundHalfEven_char y
  set m := roundHalfEven y
  have htri : |(m : ℚ) - n| ≤ |(m : ℚ) - y| + |(n : ℚ) - y| := by
    rw [abs_sub_comm (n : ℚ)]; exact abs_sub_le _ _ _
  -- both are within ½ of `y`, so they are at most 1 apart
  have hle : |m - n| ≤ 1 := by
    have : |(m : ℚ) - n| ≤ 1 := htri.trans ((add_le_add e1 h1).trans_eq (add_halves 1))
    exact_mod_cast this
  by_contra hne
  -- if distinct they are exactly 1 apart, so both exactly ½ from `y`, hence both even
  have hd : (1 : ℚ) ≤ |(m : ℚ) - n| := by exact_mod_cast Int.one_le_abs (sub_ne_zero.2 hne)
  obtain ⟨hm, hn⟩ := eq_of_le_of_two_mul_le_add e1 h1 (by rw [two_mul, add_halves]; exact hd.trans htri)
  have := t1 hm
  have := h2 hn
  rw [abs_le] at hle
  omega

theorem rhe_of_close (y : ℚ) (n : ℤ) (h : |y - (n : ℚ)| < 1 / 2) : roundHalfEven y = n := by
  rw [abs_sub_comm] at h
  exact rhe_unique_char y n h.le (fun he => absurd he h.ne)

theorem roundHalfEven_intCast (n : ℤ) : roundHalfEven (n : ℚ) = n :=
  rhe_of_close _ n (by rw [sub_self, abs_zero]; exact one_half_pos)

theorem rhe_neg (y : ℚ) : roundHalfEven (-y) = -roundHalfEven y := by
  have e : ((-roundHalfEven y : ℤ) : ℚ) - -y = -((roundHalfEven y : ℚ) - y) := by rw [Int.cast_neg]; ring
  apply rhe_unique_char <;> rw [e, abs_neg]
  · exact rhe_abs_err y
  · intro h; have := rhe_tie_even y h; omega

theorem roundHalfEven_mono {a b : ℚ} (h : a ≤ b) : roundHalfEven a ≤ roundHalfEven b := by
  by_contra hn
  -- the results are at least 1 apart in the wrong order while each is within ½ of its argument: `b ≤ a`
  have hq : ((roundHalfEven b : ℤ) : ℚ) + 2 * (1 / 2) ≤ (roundHalfEven a : ℚ) := by
    rw [two_mul, add_halves]; exact_mod_cast (show roundHalfEven b + 1 ≤ roundHalfEven a by omega)
  have hab : a = b := le_antisymm h (le_of_abs_sub_le (rhe_abs_err a) (rhe_abs_err b) hq)
  subst hab
  omega

theorem roundHalfEven_le_int {y : ℚ} {n : ℤ} (h : y ≤ (n : ℚ)) : roundHalfEven y ≤ n := by
  have := roundHalfEven_mono h; rwa [roundHalfEven_intCast] at this

theorem int_le_roundHalfEven {y : ℚ} {n : ℤ} (h : (n : ℚ) ≤ y) : n ≤ roundHalfEven y := by
  have := roundHalfEven_mono h; rwa [roundHalfEven_intCast] at this

theorem rhe_nearest_int (t : ℚ) (n : ℤ) : |(roundHalfEven t : ℚ) - t| ≤ |(n : ℚ) - t| := by
  by_cases h : n = roundHalfEven t
  · rw [h]
  · -- another integer is at least 1 from the rounding, which is within ½ of `t`
    have h1 : (1 : ℚ) ≤ |(n : ℚ) - (roundHalfEven t : ℚ)| := by
      exact_mod_cast Int.one_le_abs (sub_ne_zero.2 h)
    have h2 : |(n : ℚ) - (roundHalfEven t : ℚ)| ≤ |(n : ℚ) - t| + |(roundHalfEven t : ℚ) - t| := by
      rw [abs_sub_comm (roundHalfEven t : ℚ)]; exact abs_sub_le _ _ _
    exact le_of_le_of_two_mul_le_add (rhe_abs_err t) (by rw [two_mul, add_halves]; exact h1.trans h2)

theorem abs_mul_sub_eq {U : ℚ} (hU : 0 < U) (a q : ℚ) : |a * U - q| = |a - q / U| * U := by
  have : a * U - q = (a - q / U) * U := by rw [sub_mul, div_mul_cancel₀ _ hU.ne']
  rw [this, abs_mul, abs_of_pos hU]

theorem pow10_pos (d : Nat) : (0 : ℚ) < (10 : ℚ) ^ d := by positivity

theorem roundN_err (d : Nat) (q : ℚ) : |roundN d q - q| ≤ 1 / (2 * (10 : ℚ) ^ d) := by
  have hp := pow10_pos d
  have e : roundN d q - q = ((roundHalfEven (q * (10 : ℚ) ^ d) : ℚ) - q * (10 : ℚ) ^ d) / (10 : ℚ) ^ d := by
    rw [sub_div, mul_div_cancel_right₀ _ hp.ne']; rfl
  rw [e, abs_div, abs_of_pos hp, ← div_div]
  exact div_le_div_of_nonneg_right (rhe_abs_err _) hp.le

theorem roundN_grid (d : Nat) (n : ℤ) : roundN d ((n : ℚ) / (10 : ℚ) ^ d) = (n : ℚ) / (10 : ℚ) ^ d := by
  unfold roundN
  rw [div_mul_cancel₀ _ (ne_of_gt (pow10_pos d)), roundHalfEven_intCast]

theorem roundN_idem (d : Nat) (q : ℚ) : roundN d (roundN d q) = roundN d q := roundN_grid d _

theorem roundN_mono (d : Nat) {a b : ℚ} (h : a ≤ b) : roundN d a ≤ roundN d b := by
  have hp := pow10_pos d
  apply div_le_div_of_nonneg_right _ hp.le
  exact_mod_cast roundHalfEven_mono (mul_le_mul_of_nonneg_right h hp.le)

theorem roundN_neg (d : Nat) (q : ℚ) : roundN d (-q) = -roundN d q := by
  unfold roundN
  rw [neg_mul, rhe_neg, Int.cast_neg, neg_div]

theorem round8_err (q : ℚ) : |round8 q - q| ≤ 1 / (2 * 10 ^ 8) := roundN_err 8 q

theorem round8_idem (q : ℚ) : round8 (round8 q) = round8 q := roundN_idem 8 q

theorem round8_mono {a b : ℚ} (h : a ≤ b) : round8 a ≤ round8 b := roundN_mono 8 h

theorem round8_grid (n : ℤ) : round8 ((n : ℚ) / 10 ^ 8) = (n : ℚ) / 10 ^ 8 := roundN_grid 8 n

theorem round8_neg (q : ℚ) : round8 (-q) = -round8 q := roundN_neg 8 q

theorem round8_zero : round8 0 = 0 := by simpa using round8_grid 0
theorem round8_one : round8 1 = 1 := by
  have := round8_grid (10 ^ 8); norm_num at this; exact this
theorem round8_1em5 : round8 (1 / 100000) = 1 / 100000 := by
  have := round8_grid 1000; norm_num at this; exact this

theorem round8_nonneg {q : ℚ} (h : 0 ≤ q) : 0 ≤ round8 q := by
  have := round8_mono h; rwa [round8_zero] at this

theorem round8_is_grid (q : ℚ) : ∃ n : ℤ, round8 q = (n : ℚ) / 10 ^ 8 := ⟨roundHalfEven (q * 10 ^ 8), rfl⟩

theorem round8_of_close (y : ℚ) (n : ℤ) (h : |y - (n : ℚ) / 10 ^ 8| < 1 / (2 * 10 ^ 8)) :
    round8 y = (n : ℚ) / 10 ^ 8 := by
  have hp := pow10_pos 8
  unfold round8 roundN
  rw [rhe_of_close (y * 10 ^ 8) n]
  rwa [← div_div, lt_div_iff₀ hp, ← abs_mul_sub_eq hp] at h

theorem roundNode_idem (n : MNode) : roundNode (roundNode n) = roundNode n := by
  have h : ∀ l : List ℚ, (l.map round8).map round8 = l.map round8 := fun l => by
    rw [List.map_map]; exact List.map_congr_left fun q _ => round8_idem q
  simp only [roundNode, h]

end Deeprob
