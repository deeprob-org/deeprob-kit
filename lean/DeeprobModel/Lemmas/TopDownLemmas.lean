import DeeprobModel.Spec.Dist
import DeeprobModel.Lemmas.CircLemmas
set_option linter.unusedSectionVars false
/-
Structural facts about the generic top-down pass (`TCirc.pass`) and the reached leaves.
-/
namespace Deeprob

theorem FillsVar.refl (dom : Nat → Nat) (x : Ev) (v : Nat) : FillsVar dom x x v := Or.inl rfl

theorem FillsVar.trans {dom : Nat → Nat} {x y z : Ev} {v : Nat}
    (h1 : FillsVar dom x y v) (h2 : FillsVar dom y z v) : FillsVar dom x z v := by
  rcases h1 with h1 | ⟨h1, k, hk, h1'⟩
  · rcases h2 with h2 | ⟨h2, k, hk, h2'⟩
    · exact Or.inl (h2.trans h1)
    · exact Or.inr ⟨h1 ▸ h2, k, hk, h2'⟩
  · rcases h2 with h2 | ⟨h2, k', hk', h2'⟩
    · exact Or.inr ⟨h1, k, hk, h2.trans h1'⟩
    · rw [h1'] at h2; cases h2

theorem FillsVar.keeps {dom : Nat → Nat} {x y : Ev} {v : Nat} (h : FillsVar dom x y v) (hx : x v ≠ none) :
    y v = x v := by
  rcases h with h | ⟨h, _⟩
  · exact h
  · exact absurd h hx

theorem FillsVar.ne_none {dom : Nat → Nat} {x y : Ev} {v : Nat} (h : FillsVar dom x y v) (hx : x v ≠ none) :
    y v ≠ none := by rw [h.keeps hx]; exact hx

theorem writeScope_mem (s : List Nat) (y x : Ev) {v : Nat} (h : v ∈ s) : writeScope s y x v = y v := by
  simp [writeScope, h]
theorem writeScope_not_mem (s : List Nat) (y x : Ev) {v : Nat} (h : v ∉ s) : writeScope s y x v = x v := by
  simp [writeScope, h]

namespace TCirc
variable {α : Type}

theorem ind {motive : TCirc α → Prop}
    (hl : ∀ s f m cd, motive (.leaf s f m cd))
    (hs : ∀ s ws cs, (∀ c ∈ cs, motive c) → motive (.sum s ws cs))
    (hp : ∀ s cs, (∀ c ∈ cs, motive c) → motive (.prod s cs)) : ∀ c, motive c :=
  TCirc.rec (motive_2 := fun cs => ∀ c ∈ cs, motive c) hl hs hp (fun _ h => nomatch h)
    (fun _ _ ihc ihcs _ hd => (List.mem_cons.1 hd).elim (· ▸ ihc) (ihcs _))

@[simp] theorem scope_toCirc (c : TCirc α) : c.toCirc.scope = c.scope := by
  cases c <;> simp [toCirc, Circ.scope, scope]

theorem map_scope_toCirc (cs : List (TCirc α)) : (cs.map toCirc).map Circ.scope = cs.map scope := by
  rw [List.map_map]; apply List.map_congr_left; intro c _; simp

section valid
variable [Zero α] [One α] [Add α] [Mul α]

theorem valid_leaf {dom : Nat → Nat} {s f m cd} :
    Circ.Valid dom (TCirc.leaf (α := α) s f m cd).toCirc ↔ LeafOK dom s f := by
  rw [toCirc, Circ.valid_leaf_iff]

theorem valid_sum {dom : Nat → Nat} {s : List Nat} {ws : List α} {cs : List (TCirc α)} :
    Circ.Valid dom (TCirc.sum s ws cs).toCirc ↔
      cs ≠ [] ∧ ws.length = cs.length ∧ (∀ c ∈ cs, scopeEq c.scope s) ∧ ∀ c ∈ cs, Circ.Valid dom c.toCirc := by
  rw [toCirc, Circ.valid_sum_iff, List.length_map, List.forall_mem_map, List.forall_mem_map, Ne,
    List.map_eq_nil_iff]
  simp only [scope_toCirc, Ne]

theorem valid_prod {dom : Nat → Nat} {s : List Nat} {cs : List (TCirc α)} :
    Circ.Valid dom (TCirc.prod s cs).toCirc ↔
      (cs.map scope).flatten.Nodup ∧ scopeEq (cs.map scope).flatten s ∧ ∀ c ∈ cs, Circ.Valid dom c.toCirc := by
  rw [toCirc, Circ.valid_prod_iff, map_scope_toCirc, List.forall_mem_map]

theorem eval_sum (e : Ev) (s : List Nat) (ws : List α) (cs : List (TCirc α)) :
    eval e (.sum s ws cs) = wsum ws (cs.map (eval e)) := by
  rw [eval, toCirc, Circ.eval_sum, List.map_map]; rfl

theorem eval_prod (e : Ev) (s : List Nat) (cs : List (TCirc α)) :
    eval e (.prod s cs) = lprod (cs.map (eval e)) := by
  rw [eval, toCirc, Circ.eval_prod, List.map_map]; rfl

theorem eval_leaf (e : Ev) (s f m cd) : eval e (.leaf (α := α) s f m cd) = f e := by
  rw [eval, toCirc, Circ.eval_leaf]

end valid

variable (br : List Nat → List α → List (TCirc α) → Nat) (fill : List Nat → (Ev → Ev) → Ev → Ev)

theorem passAt_eq (p : List Nat) (i : Nat) (k : Nat) (cs : List (TCirc α)) (x : Ev) :
    passAt br fill p i k cs x = match cs[k]? with | some c => pass br fill (i :: p) c x | none => x := by
  induction cs generalizing k with
  | nil => rw [passAt]; rfl
  | cons c cs ih => cases k with
    | zero => rw [passAt]; rfl
    | succ k => rw [passAt, ih, List.getElem?_cons_succ]

theorem reachedAt_eq (p : List Nat) (i : Nat) (k : Nat) (cs : List (TCirc α)) :
    reachedAt br p i k cs = match cs[k]? with | some c => reached br (i :: p) c | none => [] := by
  induction cs generalizing k with
  | nil => rw [reachedAt]; rfl
  | cons c cs ih => cases k with
    | zero => rw [reachedAt]; rfl
    | succ k => rw [reachedAt, ih, List.getElem?_cons_succ]

theorem passAll_step (dom : Nat → Nat) (v : Nat) (p : List Nat) (cs : List (TCirc α))
    (IH : ∀ c ∈ cs, ∀ (q : List Nat) (x : Ev), FillsVar dom x (pass br fill q c x) v) :
    ∀ (j : Nat) (x : Ev), FillsVar dom x (passAll br fill p j cs x) v := by
  induction cs with
  | nil => intro j x; simp [passAll]; exact FillsVar.refl dom x v
  | cons c cs ih =>
    intro j x
    simp only [passAll]
    exact (IH c List.mem_cons_self (j :: p) x).trans
      (ih (fun d hd => IH d (List.mem_cons_of_mem _ hd)) (j+1) _)

theorem pass_step (dom : Nat → Nat) (v : Nat) : ∀ (c : TCirc α), FillOK dom fill c →
    ∀ (p : List Nat) (x : Ev), FillsVar dom x (pass br fill p c x) v := by
  intro c
  induction c using TCirc.ind with
  | hl s f m cd =>
    intro hf p x
    unfold FillOK at hf
    simp only [pass]
    by_cases hv : v ∈ s
    · unfold FillsVar; rw [writeScope_mem _ _ _ hv]; exact (hf p).step x v hv
    · unfold FillsVar; rw [writeScope_not_mem _ _ _ hv]; exact Or.inl rfl
  | hs s ws cs ih =>
    intro hf p x
    unfold FillOK at hf
    simp only [pass, passAt_eq]
    cases hk : cs[br p ws cs]? with
    | none => exact FillsVar.refl dom x v
    | some c => exact ih c (List.mem_of_getElem? hk) (hf c (List.mem_of_getElem? hk)) _ x
  | hp s cs ih =>
    intro hf p x
    unfold FillOK at hf
    simp only [pass]
    exact passAll_step br fill dom v p cs (fun c hc q y => ih c hc (hf c hc) q y) 0 x

section valid
variable [Zero α] [One α] [Add α] [Mul α]

theorem passAll_outside (v : Nat) (p : List Nat) (cs : List (TCirc α))
    (IH : ∀ c ∈ cs, ∀ (q : List Nat) (x : Ev), v ∉ c.scope → pass br fill q c x v = x v)
    (hv : v ∉ (cs.map scope).flatten) :
    ∀ (j : Nat) (x : Ev), passAll br fill p j cs x v = x v := by
  induction cs with
  | nil => intro j x; simp [passAll]
  | cons c cs ih =>
    intro j x
    simp only [List.map_cons, List.flatten_cons, List.mem_append, not_or] at hv
    simp only [passAll]
    rw [ih (fun d hd => IH d (List.mem_cons_of_mem _ hd)) hv.2, IH c List.mem_cons_self _ _ hv.1]

theorem pass_outside (dom : Nat → Nat) (v : Nat) : ∀ (c : TCirc α), Circ.Valid dom c.toCirc →
    ∀ (p : List Nat) (x : Ev), v ∉ c.scope → pass br fill p c x v = x v := by
  intro c
  induction c using TCirc.ind with
  | hl s f m cd =>
    intro _ p x hv
    simp only [scope] at hv
    simp only [pass]; exact writeScope_not_mem _ _ _ hv
  | hs s ws cs ih =>
    intro hval p x hv
    obtain ⟨_, _, hsc, hvc⟩ := valid_sum.1 hval
    simp only [scope] at hv
    simp only [pass, passAt_eq]
    cases hk : cs[br p ws cs]? with
    | none => rfl
    | some c =>
      have hc := List.mem_of_getElem? hk
      exact ih c hc (hvc c hc) _ x (fun h => hv ((hsc c hc v).1 h))
  | hp s cs ih =>
    intro hval p x hv
    obtain ⟨_, hsc, hvc⟩ := valid_prod.1 hval
    simp only [scope] at hv
    simp only [pass]
    exact passAll_outside br fill v p cs (fun c hc q y h => ih c hc (hvc c hc) q y h)
      (fun h => hv ((hsc v).1 h)) 0 x

/-- a branch function that answers with a child position wherever a sum node has children, and as many
weights as children, is a legal choice on every valid circuit -/
theorem brOK_of_valid (dom : Nat → Nat)
    (hbr : ∀ p (ws : List α) (cs : List (TCirc α)), cs ≠ [] → ws.length = cs.length → br p ws cs < cs.length) :
    ∀ (c : TCirc α), Circ.Valid dom c.toCirc → BrOK br c := by
  intro c
  induction c using TCirc.ind with
  | hl s f m cd => intro _; unfold BrOK; trivial
  | hs s ws cs ih =>
    intro hval
    obtain ⟨hne, hlen, _, hvc⟩ := valid_sum.1 hval
    unfold BrOK
    exact ⟨fun p => hbr p ws cs hne hlen, fun c hc => ih c hc (hvc c hc)⟩
  | hp s cs ih =>
    intro hval
    unfold BrOK
    exact fun c hc => ih c hc ((valid_prod.1 hval).2.2 c hc)

theorem passAll_outside' (dom : Nat → Nat) (v : Nat) (p : List Nat) (cs : List (TCirc α))
    (hval : ∀ c ∈ cs, Circ.Valid dom c.toCirc) (hv : v ∉ (cs.map scope).flatten) (j : Nat) (x : Ev) :
    passAll br fill p j cs x v = x v :=
  passAll_outside br fill v p cs (fun c hc q y h => pass_outside br fill dom v c (hval c hc) q y h) hv j x

theorem passAll_fills (dom : Nat → Nat) (v : Nat) (p : List Nat) (cs : List (TCirc α))
    (hstep : ∀ c ∈ cs, ∀ (q : List Nat) (x : Ev), FillsVar dom x (pass br fill q c x) v)
    (IH : ∀ c ∈ cs, ∀ (q : List Nat) (x : Ev), v ∈ c.scope → pass br fill q c x v ≠ none)
    (hv : v ∈ (cs.map scope).flatten) :
    ∀ (j : Nat) (x : Ev), passAll br fill p j cs x v ≠ none := by
  induction cs with
  | nil => simp at hv
  | cons c cs ih =>
    intro j x
    simp only [List.map_cons, List.flatten_cons, List.mem_append] at hv
    simp only [passAll]
    have hstep' : ∀ d ∈ cs, ∀ (q : List Nat) (x : Ev), FillsVar dom x (pass br fill q d x) v :=
      fun d hd => hstep d (List.mem_cons_of_mem _ hd)
    by_cases h1 : v ∈ (cs.map scope).flatten
    · exact ih hstep' (fun d hd => IH d (List.mem_cons_of_mem _ hd)) h1 (j+1) _
    · have hc : v ∈ c.scope := hv.resolve_right h1
      exact (passAll_step br fill dom v p cs hstep' (j+1) _).ne_none (IH c List.mem_cons_self _ x hc)

theorem pass_fills (dom : Nat → Nat) (v : Nat) : ∀ (c : TCirc α), Circ.Valid dom c.toCirc →
    BrOK br c → FillOK dom fill c →
    ∀ (p : List Nat) (x : Ev), v ∈ c.scope → pass br fill p c x v ≠ none := by
  intro c
  induction c using TCirc.ind with
  | hl s f m cd =>
    intro _ _ hf p x hv
    unfold FillOK at hf
    simp only [scope] at hv
    simp only [pass]; rw [writeScope_mem _ _ _ hv]; exact (hf p).fills x v hv
  | hs s ws cs ih =>
    intro hval hb hf p x hv
    obtain ⟨_, _, hsc, hvc⟩ := valid_sum.1 hval
    unfold BrOK at hb; unfold FillOK at hf
    simp only [scope] at hv
    simp only [pass, passAt_eq]
    have hlt := hb.1 p
    have hk : cs[br p ws cs]? = some cs[br p ws cs] := by simp [hlt]
    rw [hk]
    have hc : cs[br p ws cs] ∈ cs := List.getElem_mem hlt
    exact ih _ hc (hvc _ hc) (hb.2 _ hc) (hf _ hc) _ x ((hsc _ hc v).2 hv)
  | hp s cs ih =>
    intro hval hb hf p x hv
    obtain ⟨_, hsc, hvc⟩ := valid_prod.1 hval
    unfold BrOK at hb; unfold FillOK at hf
    simp only [scope] at hv
    simp only [pass]
    exact passAll_fills br fill dom v p cs
      (fun c hc q y => pass_step br fill dom v c (hf c hc) q y)
      (fun c hc q y h => ih c hc (hvc c hc) (hb c hc) (hf c hc) q y h)
      ((hsc v).2 hv) 0 x

end valid

theorem eval_congr' [CommSemiring α] (dom : Nat → Nat) (c : TCirc α) (hv : Circ.Valid dom c.toCirc) (a b : Ev)
    (h : ∀ v ∈ c.scope, a v = b v) : eval a c = eval b c :=
  Circ.eval_congr dom c.toCirc hv a b (by rwa [scope_toCirc])

end TCirc
end Deeprob
