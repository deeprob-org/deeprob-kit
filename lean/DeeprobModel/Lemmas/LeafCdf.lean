import DeeprobModel.Lemmas.LeafLemmas
import Mathlib.Order.Interval.Set.Basic
set_option linter.unusedVariables false
set_option linter.unusedSectionVars false
/-
The cdf / ppf pair of the histogram leaf as coded (`rv_continuous.cdf/ppf` wrappers around `np.interp`), over any
linearly ordered field: closed form, monotone, range, `cdf ∘ ppf = id` on `[0,1]`, `ppf ∘ cdf = id` on the support
when all heights are positive.
-/
namespace Deeprob.LeafTheory
variable {α : Type} [Field α] [LinearOrder α] [IsStrictOrderedRing α] {hs : List α} {b0 : α} {bs : List α}

/-- a histogram with mass has at least one bin -/
theorem lt_lastB (hb : Incr (b0 :: bs)) (hz : histZ hs (b0 :: bs) ≠ 0) : b0 < lastB b0 bs := by
  cases bs with
  | nil => cases hs <;> exact absurd rfl hz
  | cons hi bs => exact hb.1.trans_le (incr_le_lastB hb.2)

theorem histCdfRaw_at_lo (hs : List α) {lo : α} {bs : List α} (hb : Incr (lo :: bs)) :
    histCdfRaw lo hs (lo :: bs) = 0 := by
  induction hs, lo, bs using hist_induction with
  | nil | single => rfl
  | bin h hs lo hi bs => simp only [histCdfRaw, if_pos hb.1, sub_self, mul_zero]

theorem histCdf_cons (hs : List α) (b0 : α) (bs : List α) (x : α) :
    histCdf hs (b0 :: bs) x =
      if x < b0 then 0 else interpAux x b0 0 (histKnots (histZ hs (b0 :: bs)) 0 hs (b0 :: bs)) := rfl

theorem histPpf_cons (hs : List α) (b0 : α) (bs : List α) (u : α) :
    histPpf hs (b0 :: bs) u =
      if u < 0 then b0 else interpAux u 0 b0 ((histKnots (histZ hs (b0 :: bs)) 0 hs (b0 :: bs)).map Prod.swap) :=
  rfl

theorem histCdf_closed (hs : List α) (x : α) (hb : Incr (b0 :: bs)) :
    histCdf hs (b0 :: bs) x = if x < b0 then 0 else histCdfRaw x hs (b0 :: bs) / histZ hs (b0 :: bs) := by
  rw [histCdf_cons]
  split_ifs with hx
  · rfl
  · rw [interpAux_histKnots _ 0 hb (not_lt.1 hx), zero_add]

/-- **closed form of `distribution.cdf`** -/
theorem isoCdf_closed (hs : List α) (x : α) (hb : Incr (b0 :: bs)) (hz : histZ hs (b0 :: bs) ≠ 0) :
    isoCdf hs (b0 :: bs) x = if x < b0 then 0 else histCdfRaw x hs (b0 :: bs) / histZ hs (b0 :: bs) := by
  simp only [isoCdf]
  rcases lt_trichotomy x b0 with h | rfl | h
  · rw [if_neg h.not_gt, if_pos h]
  · rw [if_neg (lt_irrefl _), if_neg (lt_irrefl _), histCdfRaw_at_lo hs hb, zero_div]
  · rw [if_pos h, if_neg h.not_gt]
    split_ifs with h2
    · rw [histCdf_closed hs x hb, if_neg h.not_gt]
    · rw [histCdfRaw_ge_last hb (not_lt.1 h2), div_self hz]

/-- the wrapper of `rv_continuous.cdf` changes nothing: `np.interp` already answers `0` left and `1` right -/
theorem isoCdf_eq_histCdf (x : α) (hb : Incr (b0 :: bs)) (hz : histZ hs (b0 :: bs) ≠ 0) :
    isoCdf hs (b0 :: bs) x = histCdf hs (b0 :: bs) x :=
  (isoCdf_closed hs x hb hz).trans (histCdf_closed hs x hb).symm

theorem isoCdf_lo (hs : List α) (b0 : α) (bs : List α) : isoCdf hs (b0 :: bs) b0 = 0 :=
  if_neg (lt_irrefl _)

theorem isoCdf_of_last_le (hs : List α) {x : α} (h : b0 < x) (h' : lastB b0 bs ≤ x) :
    isoCdf hs (b0 :: bs) x = 1 :=
  (if_pos h).trans (if_neg h'.not_gt)

theorem knots_ok (hn : NonNeg hs) (hb : Incr (b0 :: bs)) (hz : 0 < histZ hs (b0 :: bs)) :
    KnotsOK b0 0 (histKnots (histZ hs (b0 :: bs)) 0 hs (b0 :: bs)) :=
  histKnots_ok hz 0 hn hb

theorem knots_lastY (hz : histZ hs (b0 :: bs) ≠ 0) :
    lastY 0 (histKnots (histZ hs (b0 :: bs)) 0 hs (b0 :: bs)) = 1 := by
  rw [lastY_histKnots, zero_add, div_self hz]

theorem histCdf_mem (x : α) (hn : NonNeg hs) (hb : Incr (b0 :: bs)) (hz : 0 < histZ hs (b0 :: bs)) :
    0 ≤ histCdf hs (b0 :: bs) x ∧ histCdf hs (b0 :: bs) x ≤ 1 := by
  rw [histCdf_cons]
  split_ifs with h
  · exact ⟨le_rfl, zero_le_one⟩
  · exact knots_lastY hz.ne' ▸ interpAux_mem x (knots_ok hn hb hz).weak (not_lt.1 h)

theorem histCdf_mono {x y : α} (hxy : x ≤ y) (hn : NonNeg hs) (hb : Incr (b0 :: bs))
    (hz : 0 < histZ hs (b0 :: bs)) : histCdf hs (b0 :: bs) x ≤ histCdf hs (b0 :: bs) y := by
  by_cases h : x < b0
  · rw [histCdf_cons hs b0 bs x, if_pos h]
    exact (histCdf_mem y hn hb hz).1
  · rw [histCdf_cons, histCdf_cons, if_neg h, if_neg (not_lt.2 ((not_lt.1 h).trans hxy))]
    exact interpAux_mono hxy (knots_ok hn hb hz).weak (not_lt.1 h)

theorem histPpf_ge {u : α} (hu : 0 ≤ u) (hn : NonNeg hs) (hb : Incr (b0 :: bs))
    (hz : 0 < histZ hs (b0 :: bs)) : b0 ≤ histPpf hs (b0 :: bs) u := by
  rw [histPpf_cons, if_neg (not_lt.2 hu)]
  exact (interpAux_mem u (knots_ok hn hb hz).weak_swap hu).1

/-- **`_cdf(_ppf(u)) = u`** for every `u ∈ [0,1]`, heights `≥ 0` (zero-height bins allowed), `Z > 0` -/
theorem histCdf_histPpf {u : α} (hn : NonNeg hs) (hb : Incr (b0 :: bs)) (hz : 0 < histZ hs (b0 :: bs))
    (h0 : 0 ≤ u) (h1 : u ≤ 1) : histCdf hs (b0 :: bs) (histPpf hs (b0 :: bs) u) = u := by
  rw [histCdf_cons, if_neg (not_lt.2 (histPpf_ge h0 hn hb hz)), histPpf_cons, if_neg (not_lt.2 h0)]
  exact interpAux_inverse u (knots_ok hn hb hz) h0 ((knots_lastY hz.ne').symm ▸ h1)

theorem lastY_swap_histKnots (z : α) {hs : List α} {lo : α} {bs : List α} (acc : α)
    (hl : hs.length = bs.length) : lastY lo ((histKnots z acc hs (lo :: bs)).map Prod.swap) = lastB lo bs := by
  induction hs, lo, bs using hist_induction generalizing acc with
  | nil lo bs => cases bs with
    | nil => rfl
    | cons => simp at hl
  | single => simp at hl
  | bin h hs lo hi bs ih => exact ih _ (Nat.succ.inj hl)

/-- **`_ppf(_cdf(t)) = t`** on the support when every height is positive: then the knots increase strictly in
both coordinates, so the swapped knots satisfy the hypothesis of `interpAux_inverse` as well -/
theorem histPpf_histCdf {t : α} (hp : AllPos hs) (hb : Incr (b0 :: bs)) (hz : 0 < histZ hs (b0 :: bs))
    (hl : hs.length = bs.length) (h0 : b0 ≤ t) (h1 : t ≤ lastB b0 bs) :
    histPpf hs (b0 :: bs) (histCdf hs (b0 :: bs) t) = t := by
  rw [histPpf_cons, if_neg (not_lt.2 (histCdf_mem t hp.nonNeg hb hz).1), histCdf_cons, if_neg (not_lt.2 h0)]
  have := interpAux_inverse t (histKnots_ss hz 0 hp hb).ok_swap h0 ((lastY_swap_histKnots _ 0 hl).symm ▸ h1)
  rwa [List.map_map, Prod.swap_swap_eq, List.map_id] at this

theorem isoCdf_injOn (hp : AllPos hs) (hb : Incr (b0 :: bs)) (hz : 0 < histZ hs (b0 :: bs))
    (hl : hs.length = bs.length) {s t : α} (hs0 : b0 ≤ s) (hs1 : s ≤ lastB b0 bs) (ht0 : b0 ≤ t)
    (ht1 : t ≤ lastB b0 bs) (h : isoCdf hs (b0 :: bs) s = isoCdf hs (b0 :: bs) t) : s = t := by
  rw [isoCdf_eq_histCdf s hb hz.ne', isoCdf_eq_histCdf t hb hz.ne'] at h
  rw [← histPpf_histCdf hp hb hz hl hs0 hs1, h, histPpf_histCdf hp hb hz hl ht0 ht1]

theorem isoPpf_zero (bad : α) (hs : List α) (b0 : α) (bs : List α) : isoPpf bad hs (b0 :: bs) 0 = b0 := by
  simp [isoPpf]

theorem isoPpf_one (bad : α) (hs : List α) (b0 : α) (bs : List α) : isoPpf bad hs (b0 :: bs) 1 = lastB b0 bs := by
  simp [isoPpf]

theorem isoPpf_of_mem (bad : α) (hs : List α) (b0 : α) (bs : List α) {u : α} (h0 : 0 < u) (h1 : u < 1) :
    isoPpf bad hs (b0 :: bs) u = histPpf hs (b0 :: bs) u :=
  if_pos ⟨h0, h1⟩

end Deeprob.LeafTheory
