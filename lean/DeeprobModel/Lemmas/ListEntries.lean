/-
List literals, entry by entry: a fact about every stored entry of a concrete table, stated as
`∀ i x, l[i]? = some x → P i x`, is given as the tuple of its instances.
-/
namespace Deeprob.E2E
variable {α : Type}

/-- `P k a₀ ∧ P (k+1) a₁ ∧ … ∧ True` over the entries of a list; on a list literal it reduces to that conjunction -/
def ForallIdx (P : Nat → α → Prop) : Nat → List α → Prop
  | _, [] => True
  | k, a :: l => P k a ∧ ForallIdx P (k + 1) l

theorem ForallIdx.getElem? {P : Nat → α → Prop} {l : List α} : ∀ {k : Nat}, ForallIdx P k l →
    ∀ i x, l[i]? = some x → P (k + i) x := by
  induction l with
  | nil => intro _ _ _ _ hx; cases hx
  | cons a l ih =>
    intro k h i x hx
    cases i with
    | zero => cases hx; exact h.1
    | succ i =>
      have := ih h.2 i x hx
      rwa [Nat.add_assoc, Nat.add_comm 1 i] at this

theorem forall_getElem?_of_forallIdx {P : Nat → α → Prop} {l : List α} (h : ForallIdx P 0 l) :
    ∀ i x, l[i]? = some x → P i x := by
  intro i x hx
  have := h.getElem? i x hx
  rwa [Nat.zero_add] at this

end Deeprob.E2E
