import DeeprobModel.Lemmas.NetLemmas
/-
Conditions on the stored table under which every node's unfolding is a valid / normalised tree circuit.
-/
namespace Deeprob
variable {α : Type} [CommSemiring α]

def scopeOf (net : Net α) (c : Nat) : List Nat := match net[c]? with | some y => y.scope | none => []

omit [CommSemiring α] in
theorem scopeOf_some (net : Net α) (i : Nat) (x : NNode α) (h : net[i]? = some x) : scopeOf net i = x.scope := by
  unfold scopeOf; rw [h]

/-- S-layer local condition of one stored node (scopes compared as sets) -/
def NodeOK (dom : Nat → Nat) (net : Net α) (dens : List α) (i : Nat) (x : NNode α) : Prop :=
  match x.kind with
  | .sum => x.ch ≠ [] ∧ x.ws.length = x.ch.length ∧ ∀ c ∈ x.ch, scopeEq (scopeOf net c) x.scope
  | .prod => (x.ch.map (scopeOf net)).flatten.Nodup ∧ scopeEq (x.ch.map (scopeOf net)).flatten x.scope
  | .leaf => LeafOK dom x.scope (x.leaf.fn x.scope (dens.getD i 0))

section nodeOK
variable {dom : Nat → Nat} {net : Net α} {dens : List α} {i : Nat} {x : NNode α}

theorem nodeOK_sum_iff (hk : x.kind = .sum) : NodeOK dom net dens i x ↔
    x.ch ≠ [] ∧ x.ws.length = x.ch.length ∧ ∀ c ∈ x.ch, scopeEq (scopeOf net c) x.scope := by
  rw [NodeOK, hk]

theorem nodeOK_prod_iff (hk : x.kind = .prod) : NodeOK dom net dens i x ↔
    (x.ch.map (scopeOf net)).flatten.Nodup ∧ scopeEq (x.ch.map (scopeOf net)).flatten x.scope := by
  rw [NodeOK, hk]

theorem nodeOK_leaf_iff (hk : x.kind = .leaf) : NodeOK dom net dens i x ↔
    LeafOK dom x.scope (x.leaf.fn x.scope (dens.getD i 0)) := by
  rw [NodeOK, hk]

end nodeOK

theorem scope_toTree_succ (net : Net α) (dens : List α) (fuel c : Nat) :
    Circ.scope (toTree net dens (fuel+1) c) = scopeOf net c := by
  simp only [toTree, scopeOf]
  cases net[c]? with
  | none => rfl
  | some x => simp only; cases x.kind <;> rfl

theorem scope_toTree (net : Net α) (dens : List α) (fuel c : Nat) (_ : c < net.length) :
    Circ.scope (toTree net dens (fuel+1) c) = scopeOf net c :=
  scope_toTree_succ net dens fuel c

theorem map_scope_toTree (net : Net α) (dens : List α) (ch : List Nat) :
    (ch.map fun c => toTree net dens (c+1) c).map Circ.scope = ch.map (scopeOf net) := by
  rw [List.map_map]; exact List.map_congr_left fun c _ => scope_toTree_succ net dens c c

/-- **stored-table validity ⇒ tree validity** of every node's unfolding -/
theorem valid_toTree (dom : Nat → Nat) (net : Net α) (dens : List α) (hw : WellOrdered net)
    (hok : ∀ i (x : NNode α), net[i]? = some x → NodeOK dom net dens i x) :
    ∀ i, i < net.length → Circ.Valid dom (toTree net dens (i+1) i) := by
  refine hw.induction fun i x hn ih => ?_
  have hx := hok i x hn
  rw [toTree_node dens hw hn]
  unfold NodeOK at hx
  cases hk : x.kind <;> simp only [hk] at hx ⊢
  · obtain ⟨hne, hlen, hsc⟩ := hx
    refine Circ.valid_sum_iff.2 ⟨mt List.map_eq_nil_iff.1 hne, by rw [List.length_map]; exact hlen,
      List.forall_mem_map.2 fun c hc => ?_, List.forall_mem_map.2 ih⟩
    rw [scope_toTree_succ]; exact hsc c hc
  · rw [Circ.valid_prod_iff, map_scope_toTree]
    exact ⟨hx.1, hx.2, List.forall_mem_map.2 ih⟩
  · exact Circ.valid_leaf_iff.2 hx

def NetNormW (net : Net α) : Prop := ∀ (i : Nat) (x : NNode α), net[i]? = some x → x.kind = .sum → tsum x.ws = 1

def NetLeafNorm (net : Net α) (dens : List α) : Prop :=
  ∀ (i : Nat) (x : NNode α), net[i]? = some x → x.kind = .leaf → x.leaf.fn x.scope (dens.getD i 0) (fun _ => none) = 1

theorem normW_toTree (net : Net α) (dens : List α) (hw : WellOrdered net) (hn : NetNormW net) :
    ∀ i, i < net.length → Circ.NormW (toTree net dens (i+1) i) := by
  refine hw.induction fun i x hni ih => ?_
  rw [toTree_node dens hw hni]
  cases hk : x.kind <;> simp only
  · exact Circ.normW_sum_iff.2 ⟨hn i x hni hk, List.forall_mem_map.2 ih⟩
  · exact Circ.normW_prod_iff.2 (List.forall_mem_map.2 ih)
  · exact Circ.normW_leaf

theorem leafNorm_toTree (dom : Nat → Nat) (net : Net α) (dens : List α) (hw : WellOrdered net) (hn : NetLeafNorm net dens) :
    ∀ i, i < net.length → Circ.LeafNorm dom (toTree net dens (i+1) i) := by
  refine hw.induction fun i x hni ih => ?_
  rw [toTree_node dens hw hni]
  cases hk : x.kind <;> simp only
  · exact Circ.leafNorm_sum_iff.2 (List.forall_mem_map.2 ih)
  · exact Circ.leafNorm_prod_iff.2 (List.forall_mem_map.2 ih)
  · exact Circ.leafNorm_leaf_iff.2 (hn i x hni hk)

end Deeprob
