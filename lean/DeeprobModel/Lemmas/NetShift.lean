import DeeprobModel.Model.RewriteNetClt
import DeeprobModel.Lemmas.RewriteNetLemmas
set_option linter.unusedSectionVars false
/-
Evaluation of a table stored behind another one (`shiftNet`), and independence of the supplied densities.
-/
namespace Deeprob
open Net
variable {α : Type} [CommSemiring α]

theorem evalNode_shift (e : Ev) (dens densT : List α) (va vT : List α) (x : NNode α)
    (hd : dens.getD (va.length + vT.length) 0 = densT.getD vT.length 0) :
    evalNode e dens (va ++ vT) (shiftNode va.length x) = evalNode e densT vT x := by
  unfold evalNode shiftNode
  simp only [List.length_append, hd]
  have : (x.ch.map (fun c => c + va.length)).map (fun c => (va ++ vT).getD c 0) = x.ch.map (fun c => vT.getD c 0) := by
    rw [List.map_map]; apply List.map_congr_left; intro c _
    simp only [Function.comp, List.getD_eq_getElem?_getD]
    rw [List.getElem?_append_right (by omega)]
    congr 2; omega
  rw [this]

/-- a table stored behind `a`, children shifted by `|a|`, evaluates as it does on its own -/
theorem evalNet_append_shift (e : Ev) (dens densT : List α) (a T : Net α)
    (hd : ∀ j, dens.getD (a.length + j) 0 = densT.getD j 0) :
    evalNet e dens (a ++ shiftNet a.length T) = evalNet e dens a ++ evalNet e densT T := by
  rw [evalNet_append]
  have hl : (evalNet e dens a).length = a.length := evalNet_length e dens a
  generalize evalNet e dens a = va at hl
  have key : ∀ (S : Net α) (vT : List α),
      (shiftNet a.length S).foldl (fun vals x => vals ++ [evalNode e dens vals x]) (va ++ vT)
        = va ++ S.foldl (fun vals x => vals ++ [evalNode e densT vals x]) vT := by
    intro S
    induction S with
    | nil => intro vT; rfl
    | cons x S ih =>
      intro vT
      simp only [shiftNet, List.map_cons, List.foldl_cons]
      have := evalNode_shift e dens densT va vT x (by rw [hl]; exact hd _)
      rw [hl] at this
      rw [this, List.append_assoc]
      exact ih _
  have := key T []
  simpa [evalNet] using this

theorem nval_append_shift (e : Ev) (dens densT : List α) (a T : Net α)
    (hd : ∀ j, dens.getD (a.length + j) 0 = densT.getD j 0) (j : Nat) (_ : j < T.length) :
    nval e dens (a ++ shiftNet a.length T) (a.length + j) = nval e densT T j := by
  unfold nval
  rw [evalNet_append_shift e dens densT a T hd, List.getD_eq_getElem?_getD, List.getD_eq_getElem?_getD,
    List.getElem?_append_right (by rw [evalNet_length]; omega), evalNet_length]
  congr 2; omega

/-- `evalNet` reads the supplied densities only through the values of the stored leaves -/
theorem evalNet_leaf_congr (e : Ev) (d1 d2 : List α) (T : Net α)
    (h : ∀ j (x : NNode α), T[j]? = some x → x.kind = .leaf →
      x.leaf.fn x.scope (d1.getD j 0) e = x.leaf.fn x.scope (d2.getD j 0) e) :
    evalNet e d1 T = evalNet e d2 T := by
  induction T using List.reverseRecOn with
  | nil => rfl
  | append_singleton T x ih =>
    rw [evalNet_append_one, evalNet_append_one, ih fun j y hy =>
      h j y (by rw [List.getElem?_append_left (List.getElem?_eq_some_iff.1 hy).1]; exact hy)]
    congr 2
    unfold evalNode
    cases hk : x.kind <;> simp only
    rw [evalNet_length]
    exact h T.length x (by rw [List.getElem?_append_right (Nat.le_refl _), Nat.sub_self]; rfl) hk

/-- tables without continuous / Chow-Liu leaves do not read the supplied densities -/
def NoDens (T : Net α) : Prop := ∀ x ∈ T, x.kind = .leaf → ∃ v tbl, x.leaf = .cat v tbl

theorem evalNet_noDens (e : Ev) (d1 d2 : List α) (T : Net α) (h : NoDens T) : evalNet e d1 T = evalNet e d2 T :=
  evalNet_leaf_congr e d1 d2 T fun j x hx hk => by
    obtain ⟨v, tbl, hl⟩ := h x (List.mem_of_getElem? hx) hk
    rw [hl]; rfl

/-- the values of a table depend on the supplied densities only at the table's own indices -/
theorem evalNet_dens_congr (e : Ev) (d1 d2 : List α) (T : Net α) (h : ∀ j, j < T.length → d1.getD j 0 = d2.getD j 0) :
    evalNet e d1 T = evalNet e d2 T :=
  evalNet_leaf_congr e d1 d2 T fun j x hx _ => by rw [h j (List.getElem?_eq_some_iff.1 hx).1]

end Deeprob
