import DeeprobModel.Lemmas.XpcLemmas
import DeeprobModel.Spec.Structured
import Mathlib.Data.List.GetD
/-
Structured decomposability of XPCs learned with `sd = True` (xpc.py: `learn_xpc`, `build_trees_dict`).

`scopes = conj_vars_l + [free_vars]`, `trees[k]` = spanning tree over `scopes[k]`.  The family of admissible
scopes (`InFamily`) consists of the column sets `colsAt scopes d` of the depths `d` and of the variable
sets of the sub-trees of the block trees.  Any two members are nested or disjoint (`inFamily_laminar`);
every scope in `sdScopes (buildXpc p)` is in the family when `p` follows the sd discipline (`sdAtB`),
provided the scopes `get_scopes()` reports for the trees of `trees_dict` are (`ChainOK`, proved in Lemmas/XpcChain.lean).
-/
namespace Deeprob
open List XC

namespace Xpc

/-- the block tree unfolded (`build_tree_structure`) -/
def blockTree (t : List Int) : RTree :=
  match Clt.rootOf t with
  | some r => Clt.build t t.length r
  | none => .node 0 []

theorem blockTree_eq {t : List Int} {r : Nat} (hr : Clt.rootOf t = some r) :
    blockTree t = Clt.build t t.length r := by
  unfold blockTree
  rw [hr]

/-- the admissible scopes under the sd discipline -/
def InFamily (trees : List (List Int)) (scopes : List (List Nat)) (s : List Nat) : Prop :=
  (∃ d, scopeEq s (colsAt scopes d)) ∨
  (∃ k, k < scopes.length ∧ ∃ u ∈ (blockTree (trees.getD k [])).subtrees,
    scopeEq s (Clt.lab (scopes.getD k []) u))

/-- what `blocksOkB` decides -/
structure BlocksOk (trees : List (List Int)) (scopes : List (List Nat)) : Prop where
  len : trees.length = scopes.length
  nodup : scopes.flatten.Nodup
  tree : ∀ k, k < scopes.length → Clt.isTree (trees.getD k []) = true ∧
    (trees.getD k []).length = (scopes.getD k []).length

section family
variable {trees : List (List Int)} {scopes : List (List Nat)}

theorem blocksOkB_imp (h : blocksOkB trees scopes = true) : BlocksOk trees scopes := by
  simp only [blocksOkB, Bool.and_eq_true, beq_iff_eq, nodupB_iff, List.all_eq_true] at h
  obtain ⟨⟨h1, h2⟩, h3⟩ := h
  refine ⟨h1, h2, ?_⟩
  intro k hk
  have hk' : k < trees.length := h1 ▸ hk
  have hm : (trees[k], scopes[k]) ∈ trees.zip scopes := by
    rw [List.mem_iff_getElem]
    exact ⟨k, by rw [List.length_zip]; omega, List.getElem_zip⟩
  rw [List.getD_eq_getElem _ _ hk, List.getD_eq_getElem _ _ hk']
  simpa using h3 _ hm

theorem block_lab_perm (hb : BlocksOk trees scopes) {k : Nat} (hk : k < scopes.length) :
    (Clt.lab (scopes.getD k []) (blockTree (trees.getD k []))).Perm (scopes.getD k []) := by
  obtain ⟨ht, hl⟩ := hb.tree k hk
  obtain ⟨r, hr, hperm⟩ := Clt.isTree_perm ht
  rw [blockTree_eq hr]
  exact Clt.lab_build_perm _ hl.symm hperm

theorem colsAt_succ {d : Nat} (hd : d < scopes.length) :
    colsAt scopes d = scopes.getD d [] ++ colsAt scopes (d + 1) := by
  unfold colsAt
  rw [List.drop_eq_getElem_cons hd, List.flatten_cons, List.getD_eq_getElem _ _ hd]

theorem colsAt_mono {d d' : Nat} (h : d ≤ d') : ∀ v ∈ colsAt scopes d', v ∈ colsAt scopes d := by
  intro v hv
  unfold colsAt at hv ⊢
  obtain ⟨l, hl, hvl⟩ := List.mem_flatten.1 hv
  have : scopes.drop d' = (scopes.drop d).drop (d' - d) := by
    rw [List.drop_drop]; congr 1; omega
  rw [this] at hl
  exact List.mem_flatten.2 ⟨l, List.mem_of_mem_drop hl, hvl⟩

theorem block_sub_colsAt {k d : Nat} (hk : k < scopes.length) (hdk : d ≤ k) :
    ∀ v ∈ scopes.getD k [], v ∈ colsAt scopes d := by
  intro v hv
  apply colsAt_mono hdk
  rw [colsAt_succ hk]
  exact List.mem_append_left _ hv

theorem block_disj_colsAt (hnd : scopes.flatten.Nodup) {k d : Nat} (hk : k < scopes.length) (hkd : k < d) :
    ∀ v, ¬ (v ∈ scopes.getD k [] ∧ v ∈ colsAt scopes d) := by
  rintro v ⟨hv1, hv2⟩
  have hsplit : scopes.flatten = (scopes.take (k + 1)).flatten ++ colsAt scopes (k + 1) := by
    unfold colsAt
    rw [← List.flatten_append, List.take_append_drop]
  rw [hsplit, List.nodup_append] at hnd
  refine hnd.2.2 v ?_ v (colsAt_mono hkd v hv2) rfl
  refine List.mem_flatten.2 ⟨scopes.getD k [], ?_, hv1⟩
  rw [List.getD_eq_getElem _ _ hk, List.mem_take_iff_getElem]
  exact ⟨k, by omega, rfl⟩

theorem blocks_disj (hnd : scopes.flatten.Nodup) {k k' : Nat} (hk : k < scopes.length) (hk' : k' < scopes.length)
    (hne : k ≠ k') : ∀ v, ¬ (v ∈ scopes.getD k [] ∧ v ∈ scopes.getD k' []) := by
  wlog hlt : k < k' generalizing k k'
  · intro v hv
    exact this hk' hk (Ne.symm hne) (by omega) v ⟨hv.2, hv.1⟩
  intro v hv
  exact block_disj_colsAt hnd hk (show k < k' from hlt) v ⟨hv.1, block_sub_colsAt hk' (le_refl _) v hv.2⟩

theorem block_nodup (hnd : scopes.flatten.Nodup) {k : Nat} (hk : k < scopes.length) :
    (scopes.getD k []).Nodup := by
  rw [List.getD_eq_getElem _ _ hk]
  exact (List.nodup_flatten.1 hnd).1 _ (List.getElem_mem hk)

theorem subtree_sub_block (hb : BlocksOk trees scopes) {k : Nat} (hk : k < scopes.length) {u : RTree}
    (hu : u ∈ (blockTree (trees.getD k [])).subtrees) :
    ∀ v ∈ Clt.lab (scopes.getD k []) u, v ∈ scopes.getD k [] := fun v hv =>
  (block_lab_perm hb hk).mem_iff.1 (Clt.subtree_lab_sub _ _ u hu v hv)

/-- two sets of variables are nested or disjoint -/
def Nested (a b : List Nat) : Prop := (∀ v ∈ a, v ∈ b) ∨ (∀ v ∈ b, v ∈ a) ∨ (∀ v, ¬ (v ∈ a ∧ v ∈ b))

theorem Nested.symm {a b : List Nat} (h : Nested a b) : Nested b a := by
  rcases h with h | h | h
  · exact Or.inr (Or.inl h)
  · exact Or.inl h
  · exact Or.inr (Or.inr fun v hv => h v hv.symm)

theorem Nested.congr {a a' b b' : List Nat} (ha : scopeEq a a') (hb : scopeEq b b') (h : Nested a' b') :
    Nested a b := by
  unfold Nested at h ⊢
  simp only [ha _, hb _]
  exact h

theorem nested_colsAt_subtree (hb : BlocksOk trees scopes) (d : Nat) {k : Nat} (hk : k < scopes.length) {u : RTree}
    (hu : u ∈ (blockTree (trees.getD k [])).subtrees) :
    Nested (colsAt scopes d) (Clt.lab (scopes.getD k []) u) := by
  by_cases hdk : d ≤ k
  · exact Or.inr (Or.inl fun v hv => block_sub_colsAt hk hdk v (subtree_sub_block hb hk hu v hv))
  · exact Or.inr (Or.inr fun v hv =>
      block_disj_colsAt hb.nodup hk (by omega) v ⟨subtree_sub_block hb hk hu v hv.2, hv.1⟩)

theorem inFamily_laminar (hb : BlocksOk trees scopes) {a b : List Nat} (ha : InFamily trees scopes a)
    (hB : InFamily trees scopes b) : Nested a b := by
  rcases ha with ⟨d, hd⟩ | ⟨k, hk, u, hu, hau⟩ <;> rcases hB with ⟨d', hd'⟩ | ⟨k', hk', u', hu', hbu⟩
  · refine Nested.congr hd hd' ?_
    rcases Nat.le_total d d' with h | h
    · exact Or.inr (Or.inl (colsAt_mono h))
    · exact Or.inl (colsAt_mono h)
  · exact Nested.congr hd hbu (nested_colsAt_subtree hb d hk' hu')
  · exact Nested.congr hau hd' (nested_colsAt_subtree hb d' hk hu).symm
  · refine Nested.congr hau hbu ?_
    by_cases hkk : k = k'
    · subst hkk
      exact Clt.subtrees_laminar _ _ ((block_lab_perm hb hk).nodup_iff.2 (block_nodup hb.nodup hk)) u hu u' hu'
    · exact Or.inr (Or.inr fun v hv => blocks_disj hb.nodup hk hk' hkk v
        ⟨subtree_sub_block hb hk hu v hv.1, subtree_sub_block hb hk' hu' v hv.2⟩)

theorem laminar_of_family (hb : BlocksOk trees scopes) (F : List (List Nat))
    (h : ∀ s ∈ F, InFamily trees scopes s) : Laminar F :=
  List.pairwise_of_forall_mem_list fun a ha b hb' => inFamily_laminar hb (h a ha) (h b hb')

theorem inFamily_of_scopeEq {a b : List Nat} (h : scopeEq a b) (hb : InFamily trees scopes b) :
    InFamily trees scopes a := by
  rcases hb with ⟨d, hd⟩ | ⟨k, hk, u, hu, hbu⟩
  · exact Or.inl ⟨d, h.trans hd⟩
  · exact Or.inr ⟨k, hk, u, hu, h.trans hbu⟩

/-- a whole block is in the family (the root sub-tree of its tree) -/
theorem inFamily_block (hb : BlocksOk trees scopes) {k : Nat} (hk : k < scopes.length) {s : List Nat}
    (hs : scopeEq s (scopes.getD k [])) : InFamily trees scopes s :=
  Or.inr ⟨k, hk, _, Clt.subtrees_self _, hs.trans (scopeEq_of_perm (block_lab_perm hb hk)).symm⟩

end family
end Xpc

section scopes
variable {α : Type}

theorem mem_flatten_map_append {β γ : Type} {f g : β → List γ} {cs : List β} {t : γ} :
    t ∈ (cs.map f).flatten ++ (cs.map g).flatten ↔ ∃ c ∈ cs, t ∈ f c ++ g c := by
  simp only [List.mem_append, List.mem_flatten, List.mem_map, exists_exists_and_eq_and, and_or_left, exists_or]

theorem mem_sdScopes_sum {s : List Nat} {ws : List α} {cs : List (XC α)} {t : List Nat} :
    t ∈ (XC.sum s ws cs).sdScopes ↔ ∃ c ∈ cs, t ∈ c.sdScopes := by
  unfold sdScopes
  rw [prodScopes, cltScopes, prodScopesL_eq, cltScopesL_eq]
  exact mem_flatten_map_append

theorem mem_sdScopes_prod {s : List Nat} {cs : List (XC α)} {t : List Nat} :
    t ∈ (XC.prod s cs).sdScopes ↔ t = s ∨ ∃ c ∈ cs, t ∈ c.sdScopes := by
  unfold sdScopes
  rw [prodScopes, cltScopes, prodScopesL_eq, cltScopesL_eq, List.cons_append, List.mem_cons]
  exact or_congr_right mem_flatten_map_append

theorem mem_sdScopes_mkSum {ws : List α} {cs : List (XC α)} {t : List Nat} :
    t ∈ (mkSum ws cs).sdScopes ↔ ∃ c ∈ cs, t ∈ c.sdScopes := mem_sdScopes_sum

theorem mem_sdScopes_mkProd {cs : List (XC α)} {t : List Nat} :
    t ∈ (mkProd cs).sdScopes ↔ t = (mkProd cs).scope ∨ ∃ c ∈ cs, t ∈ c.sdScopes := mem_sdScopes_prod

theorem sdScopes_clt (s : List Nat) (p : List Int) (c : List (List (List α))) :
    (XC.clt s p c).sdScopes = cltGetScopes s p := rfl

theorem mem_sdScopes_learnMle {cols : List Nat} {tbl : List (α × α)} {t : List Nat}
    (h : t ∈ (learnMle cols tbl).sdScopes) : t = cols := by
  unfold learnMle at h
  split at h
  · -- `sdScopes` of a `Bernoulli` is `[]`
    cases h
  · rcases mem_sdScopes_prod.1 h with rfl | ⟨c, hc, hcs⟩
    · rfl
    · rw [forall_zipWith (P := fun c => c.sdScopes = []) (fun _ _ _ _ => rfl) c hc] at hcs
      cases hcs

theorem mem_sdScopes_of_flattenChild {x c : XC α} (hc : c ∈ flattenChild x) {t : List Nat}
    (ht : t ∈ c.sdScopes) : t ∈ x.sdScopes := by
  rcases mem_flattenChild hc with rfl | ⟨s, cs, rfl, hm⟩ | ⟨s, ws, cs, rfl, hm⟩
  · exact ht
  · exact mem_sdScopes_prod.2 (Or.inr ⟨c, hm, ht⟩)
  · exact mem_sdScopes_sum.2 ⟨c, hm, ht⟩

variable [CommSemiring α]

theorem sdScopes_ind (v k : Nat) : (XC.ind (α := α) v k).sdScopes = [] := by
  unfold XC.ind; split <;> rfl

theorem mem_sdScopes_conjProd {cols a t : List Nat} (h : t ∈ (conjProd (α := α) cols a).sdScopes) :
    t = (conjProd (α := α) cols a).scope := by
  rcases mem_sdScopes_mkProd.1 h with rfl | ⟨c, hc, hcs⟩
  · rfl
  · rw [forall_zipWith (P := fun c => c.sdScopes = []) (fun v _ k _ => sdScopes_ind v k) c hc] at hcs
    cases hcs

theorem mem_sdScopes_buildDisjunction {cols : List Nat} {assign : List (List Nat)} {ws : List α} {t : List Nat}
    (hne : assign ≠ []) (hl : ∀ a ∈ assign, a.length = cols.length)
    (h : t ∈ (buildDisjunction cols assign ws).sdScopes) : t = cols := by
  have hprod : ∀ a ∈ assign, t ∈ (conjProd (α := α) cols a).sdScopes → t = cols :=
    fun a ha h => (mem_sdScopes_conjProd h).trans (scope_conjProd (hl a ha))
  unfold buildDisjunction at h
  simp only [List.length_map] at h
  split at h
  · obtain ⟨c, hc, hcs⟩ := mem_sdScopes_mkSum.1 h
    obtain ⟨a, ha, rfl⟩ := List.mem_map.1 hc
    exact hprod a ha hcs
  · cases assign with
    | nil => exact absurd rfl hne
    | cons a0 rest => exact hprod a0 List.mem_cons_self h

theorem buildLeaf_sdScopes {useClt det : Bool} {cols : List Nat} {isConj isNaive : Bool}
    {disc : List (List Nat)} {par : LeafPar α} (hi : LeafInv useClt det cols isConj isNaive disc par)
    {t : List Nat} (h : t ∈ (buildLeaf useClt det cols isConj isNaive disc par).sdScopes) :
    t = cols ∨ (Xpc.isCltLeaf useClt isConj isNaive = true ∧ t ∈ cltGetScopes par.cltScope par.cltPred) := by
  unfold buildLeaf at h
  unfold LeafInv at hi
  by_cases h1 : isConj = true
  · rw [if_pos h1] at hi h
    exact Or.inl ((mem_sdScopes_conjProd h).trans (scope_conjProd hi))
  rw [if_neg h1] at hi h
  by_cases h2 : (isNaive || !useClt) = true
  · rw [if_pos h2] at hi h
    by_cases h3 : mleBranch det disc = true
    · rw [if_pos h3] at h
      exact Or.inl (mem_sdScopes_learnMle h)
    · rw [if_neg h3] at hi h
      exact Or.inl (mem_sdScopes_buildDisjunction hi.1 hi.2.1 h)
  · rw [if_neg h2, sdScopes_clt] at h
    refine Or.inr ⟨?_, h⟩
    unfold Xpc.isCltLeaf
    rw [Bool.not_eq_true] at h1 h2
    rw [h1, h2]
    rfl

end scopes

namespace Xpc

section sdB
variable {α : Type} {useClt : Bool} {dict : List (List Int × List Nat)} {scopes : List (List Nat)} {d : Nat}

theorem sdAllB_iff {l : List (Part α)} :
    sdAllB useClt dict scopes l d = true ↔ ∀ s ∈ l, sdAtB useClt dict scopes s d = true := by
  induction l with
  | nil => simp [sdAllB]
  | cons a l ih => simp [sdAllB, ih]

theorem sdVertB_cases {subs : List (Part α)} (h : sdVertB useClt dict scopes subs d = true) :
    (∃ a, subs = [a] ∧ sdAtB useClt dict scopes a d = true) ∨
    ∃ a b, subs = [a, b] ∧ blockLeafB (scopes.getD d []) a = true ∧ sdAtB useClt dict scopes b (d + 1) = true := by
  match subs, h with
  | [a], h =>
    simp only [sdVertB] at h
    exact Or.inl ⟨a, rfl, h⟩
  | [a, b], h =>
    simp only [sdVertB, Bool.and_eq_true] at h
    exact Or.inr ⟨a, b, rfl, h.1, h.2⟩

end sdB

theorem dictLookup_mem {d : List (List Int × List Nat)} {n : Nat} {e : List Int × List Nat}
    (h : dictLookup d n = some e) : e ∈ d := by
  unfold dictLookup at h
  exact List.mem_reverse.1 (List.mem_of_find?_eq_some h)

section induction
variable {α : Type} {trees : List (List Int)} {scopes : List (List Nat)}

/-- product scopes and CLT scopes of the circuit are admissible -/
def ScopesIn (trees : List (List Int)) (scopes : List (List Nat)) (x : XC α) : Prop :=
  ∀ s ∈ x.sdScopes, InFamily trees scopes s

theorem scopesIn_mkSum (ws : List α) (cs : List (XC α)) (h : ∀ c ∈ cs, ScopesIn trees scopes c) :
    ScopesIn trees scopes (mkSum ws cs) := by
  intro s hs
  obtain ⟨c, hc, hsc⟩ := mem_sdScopes_mkSum.1 hs
  exact h c hc s hsc

theorem scopesIn_flatProd (cs : List (XC α)) (hsc : InFamily trees scopes (mkProd (cs.flatMap flattenChild)).scope)
    (h : ∀ c ∈ cs, ScopesIn trees scopes c) : ScopesIn trees scopes (mkProd (cs.flatMap flattenChild)) := by
  intro s hs
  rcases mem_sdScopes_mkProd.1 hs with rfl | ⟨f, hf, hsf⟩
  · exact hsc
  · obtain ⟨c, hc, hfc⟩ := List.mem_flatMap.1 hf
    exact h c hc s (mem_sdScopes_of_flattenChild hfc hsf)

/-- the tree dictionary only holds trees whose `get_scopes()` are admissible -/
def ChainOK (trees : List (List Int)) (scopes : List (List Nat)) : Prop :=
  ∀ e ∈ treesDict trees scopes, ∀ s ∈ cltGetScopes e.2 e.1, InFamily trees scopes s

theorem scopesIn_leaf [CommSemiring α] {useClt det : Bool} (hchain : ChainOK trees scopes)
    {cols : List Nat} {isConj isNaive : Bool} {disc : List (List Nat)} {par : LeafPar α}
    (hi : LeafInv useClt det cols isConj isNaive disc par) (hcols : InFamily trees scopes cols)
    (hclt : isCltLeaf useClt isConj isNaive = true →
      dictLookup (treesDict trees scopes) cols.length = some (par.cltPred, par.cltScope)) :
    ScopesIn trees scopes (buildLeaf useClt det cols isConj isNaive disc par) := by
  intro s hs
  rcases buildLeaf_sdScopes hi hs with rfl | ⟨hc, hs'⟩
  · exact hcols
  · exact hchain _ (dictLookup_mem (hclt hc)) s hs'

variable [Field α]

/-- the leaf a vertical split puts first: its columns are the block `scopes[d]`, it is no Chow-Liu leaf -/
theorem scopesIn_blockLeaf (hb : BlocksOk trees scopes) {useClt det : Bool} (hchain : ChainOK trees scopes)
    {d : Nat} {a : Part α} (hbl : blockLeafB (scopes.getD d []) a = true) (hi : PartInv useClt det a) :
    ScopesIn trees scopes (buildXpc useClt det a) := by
  match a, hbl, hi with
  | .leaf rows cols isConj isNaive disc par, hbl, hi =>
    simp only [blockLeafB, Bool.and_eq_true, sameSetB_iff, Bool.or_eq_true] at hbl
    have hdlt : d < scopes.length := by
      by_contra hge
      obtain ⟨v, hv⟩ := List.exists_mem_of_ne_nil cols hi.cols_ne
      have hv' := (hbl.1 v).1 hv
      rw [List.getD_eq_default _ _ (by omega)] at hv'
      cases hv'
    rw [buildXpc_leaf]
    refine scopesIn_leaf hchain hi.leafInv (inFamily_block hb hdlt hbl.1) ?_
    intro hc
    unfold isCltLeaf at hc
    rcases hbl.2 with h | h <;> simp [h] at hc

variable [LinearOrder α] [IsStrictOrderedRing α]

theorem sd_scopes_inFamily (hb : BlocksOk trees scopes) {useClt det : Bool} (hchain : ChainOK trees scopes)
    {p : Part α} : ∀ d, PartInv useClt det p → ParOK useClt det p →
      sdAtB useClt (treesDict trees scopes) scopes p d = true →
      ScopesIn trees scopes (buildXpc useClt det p) := by
  induction p using Part.inductOn with
  | leaf rows cols isConj isNaive disc par =>
    intro d hi _ hsd
    simp only [sdAtB, Bool.and_eq_true, sameSetB_iff, Bool.or_eq_true, Bool.not_eq_true', beq_iff_eq] at hsd
    rw [buildXpc_leaf]
    refine scopesIn_leaf hchain hi.leafInv (Or.inl ⟨d, hsd.1⟩) ?_
    intro hc
    exact hsd.2.resolve_left (fun h => by rw [hc] at h; cases h)
  | horiz rows cols subs ih =>
    intro d hi hp hsd
    simp only [sdAtB, Bool.and_eq_true, sdAllB_iff] at hsd
    rw [buildXpc_horiz]
    exact scopesIn_mkSum _ _
      (List.forall_mem_map.2 fun s hs => ih s hs d (hi.sub s hs) (hp.sub s hs) (hsd.2 s hs))
  | vert rows cols subs ih =>
    intro d hi hp hsd
    have hscope := (buildXpc_built (dom := fun _ => 2) (fun _ => rfl) hi hp).scope
    rw [buildXpc_vert] at hscope ⊢
    simp only [sdAtB, Bool.and_eq_true, sameSetB_iff] at hsd
    refine scopesIn_flatProd _ (Or.inl ⟨d, hscope.trans hsd.1⟩) (List.forall_mem_map.2 ?_)
    intro s hs
    rcases sdVertB_cases hsd.2 with ⟨a, rfl, ha⟩ | ⟨a, b, rfl, hbl, hb'⟩
    · obtain rfl := List.mem_singleton.1 hs
      exact ih s hs d (hi.sub s hs) (hp.sub s hs) ha
    · rcases List.mem_pair.1 hs with rfl | rfl
      · exact scopesIn_blockLeaf hb hchain hbl (hi.sub s hs)
      · exact ih s hs (d + 1) (hi.sub s hs) (hp.sub s hs) hb'

end induction

end Xpc
end Deeprob
