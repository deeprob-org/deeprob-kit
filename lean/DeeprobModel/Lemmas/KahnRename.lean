import DeeprobModel.Lemmas.RewriteNetFix
import DeeprobModel.Lemmas.RewriteNetOrder
import DeeprobModel.Lemmas.KahnLemmas
/-
`topological_order` (Kahn, `Net.kahn`) commutes with the relabelling of the canonical export:
`kahn (exportTable t order f) (n-1) = (kahn t r).map (posIn order)` (`kahn_export`). Consequence: exporting an
exported table reproduces it, ids included (`exportFrom_export_ids`).
-/
namespace Deeprob
open Net
variable {α : Type} [CommSemiring α]

omit [CommSemiring α] in
theorem kahnLoop_ord_len (t : Net α) : ∀ fuel q cnt ord, ord.length ≤ (kahnLoop t fuel q cnt ord).2.length := by
  intro fuel
  induction fuel with
  | zero => exact fun q cnt ord => Nat.le_refl _
  | succ fl ih =>
    intro q cnt ord
    cases q with
    | nil => exact Nat.le_refl _
    | cons a qs =>
      refine Nat.le_trans ?_ (ih (qs ++ (kahnVisit cnt (chOf t a)).2) (kahnVisit cnt (chOf t a)).1 (ord ++ [a]))
      rw [List.length_append]; exact Nat.le_add_right _ _

omit [CommSemiring α] in
/-- a run that stops before its fuel is exhausted does the same with any other sufficient fuel -/
theorem kahnLoop_fuel (t : Net α) : ∀ f1 f2 q cnt ord,
    (kahnLoop t f1 q cnt ord).2.length < ord.length + f1 → (kahnLoop t f1 q cnt ord).2.length < ord.length + f2 →
    kahnLoop t f2 q cnt ord = kahnLoop t f1 q cnt ord := by
  intro f1
  induction f1 with
  | zero => intro f2 q cnt ord h; simp [kahnLoop] at h
  | succ fl ih =>
    intro f2 q cnt ord h1 h2
    match q with
    | [] => cases f2 <;> simp [kahnLoop]
    | a :: qs =>
      simp only [kahnLoop] at h1 h2 ⊢
      have hge := kahnLoop_ord_len t fl (qs ++ (kahnVisit cnt (chOf t a)).2) (kahnVisit cnt (chOf t a)).1 (ord ++ [a])
      simp only [List.length_append, List.length_singleton] at hge
      match f2 with
      | 0 => omega
      | f2' + 1 =>
        simp only [kahnLoop]
        apply ih
        · simp only [List.length_append, List.length_singleton]; omega
        · simp only [List.length_append, List.length_singleton]; omega

section sim
variable (t : Net α) (order : List Nat) (f : Nat → Nat)

/-- counters of the exported table = counters of the source table read through the relabelling -/
def CRel (cnt cnt' : List Nat) : Prop :=
  cnt'.length = order.length ∧ ∀ i ∈ order, cnt'.getD (posIn order i) 0 = cnt.getD i 0

theorem kstep_sim (st st' : List Nat × List Nat) (c : Nat) (hc : c ∈ order)
    (hrel : CRel order st.1 st'.1) (hq : st'.2 = st.2.map (posIn order)) :
    CRel order (Net.kstep st c).1 (Net.kstep st' (posIn order c)).1 ∧
      (Net.kstep st' (posIn order c)).2 = (Net.kstep st c).2.map (posIn order) := by
  refine ⟨⟨by rw [Net.kstep_length]; exact hrel.1, fun i hi => ?_⟩, ?_⟩
  · have hinj : posIn order i = posIn order c ↔ i = c := ⟨posIn_inj order i c hi, fun e => by rw [e]⟩
    rw [Net.kstep_fst, Net.kstep_fst, hrel.2 i hi, if_congr hinj rfl rfl]
  · rw [Net.kstep_snd, Net.kstep_snd, hrel.2 c hc, hq]
    split
    · rw [List.map_append]; rfl
    · rfl

theorem kfold_sim (ch : List Nat) : ∀ (st st' : List Nat × List Nat), (∀ c ∈ ch, c ∈ order) →
    CRel order st.1 st'.1 → st'.2 = st.2.map (posIn order) →
    CRel order (ch.foldl Net.kstep st).1 ((ch.map (posIn order)).foldl Net.kstep st').1 ∧
      ((ch.map (posIn order)).foldl Net.kstep st').2 = (ch.foldl Net.kstep st).2.map (posIn order) := by
  induction ch with
  | nil => intro st st' _ h1 h2; exact ⟨h1, h2⟩
  | cons c cs ih =>
    intro st st' hch h1 h2
    obtain ⟨g1, g2⟩ := kstep_sim order st st' c (hch c List.mem_cons_self) h1 h2
    exact ih _ _ (fun d hd => hch d (List.mem_cons_of_mem _ hd)) g1 g2

theorem count_map_posIn (l : List Nat) (i : Nat) (hl : ∀ a ∈ l, a ∈ order) :
    List.count (posIn order i) (l.map (posIn order)) = List.count i l := by
  rw [List.count_eq_countP, List.countP_map, List.count_eq_countP]
  refine List.countP_congr (fun a ha => ?_)
  simp only [Function.comp_apply, beq_iff_eq]
  exact ⟨posIn_inj order a i (hl a ha), fun e => by rw [e]⟩

variable (hcl : Closed t order) (hlt : ∀ i ∈ order, i < t.length)
include hcl hlt

theorem export_chOf_pos (i : Nat) (hi : i ∈ order) :
    chOf (exportTable t order f) (posIn order i) = (chOf t i).map (posIn order) := by
  have hp : posIn order i < order.length := List.idxOf_lt_length_iff.2 hi
  have hget : order[posIn order i] = i := List.getElem_idxOf hp
  rw [export_chOf t order f hcl hlt _ hp, hget]

theorem kahnLoop_sim : ∀ fuel q cnt cnt' ord, (∀ a ∈ q, a ∈ order) → CRel order cnt cnt' →
    CRel order (kahnLoop t fuel q cnt ord).1
        (kahnLoop (exportTable t order f) fuel (q.map (posIn order)) cnt' (ord.map (posIn order))).1 ∧
      (kahnLoop (exportTable t order f) fuel (q.map (posIn order)) cnt' (ord.map (posIn order))).2
        = (kahnLoop t fuel q cnt ord).2.map (posIn order) := by
  intro fuel
  induction fuel with
  | zero => intro q cnt cnt' ord _ h; exact ⟨h, rfl⟩
  | succ fl ih =>
    intro q cnt cnt' ord hq hrel
    match q with
    | [] => exact ⟨hrel, rfl⟩
    | a :: qs =>
      have ha := hq a List.mem_cons_self
      have hch : ∀ c ∈ chOf t a, c ∈ order := closed_mem t order hcl a ha
      simp only [List.map_cons, kahnLoop]
      rw [export_chOf_pos t order f hcl hlt a ha, Net.kahnVisit_eq, Net.kahnVisit_eq]
      obtain ⟨g1, g2⟩ := kfold_sim order (chOf t a) (cnt, []) (cnt', []) hch hrel rfl
      have := ih (qs ++ ((chOf t a).foldl Net.kstep (cnt, [])).2) ((chOf t a).foldl Net.kstep (cnt, [])).1
        (((chOf t a).map (posIn order)).foldl Net.kstep (cnt', [])).1 (ord ++ [a]) ?_ g1
      · rw [g2]
        simpa using this
      · intro b hb
        rcases List.mem_append.1 hb with h | h
        · exact hq b (List.mem_cons_of_mem _ h)
        · exact (Net.kfold_snd_sub (chOf t a) (cnt, []) b h).elim nofun (hch b)

end sim

section exported
variable (t : Net α) (ht : WellOrdered t) (r : Nat) (f : Nat → Nat) (order : List Nat) (ho : OrderOK t r order)
include ho

omit [CommSemiring α] in
theorem posIn_root : posIn order r = order.length - 1 := by
  have hp : order.length - 1 < order.length :=
    Nat.sub_lt (List.length_pos_iff.2 ho.ne) Nat.one_pos
  have h1 := ho.last
  rw [List.getElem?_eq_getElem hp] at h1
  rw [← Option.some.inj h1]
  exact posIn_getElem order ho.nodup _ hp

include ht

theorem collect_perm_order : (collect t r).Perm order := by
  rw [List.perm_ext_iff_of_nodup (collect_nodup _ _) ho.nodup]
  intro a
  rw [order_mem_iff_reach t r order ho a, mem_collect_iff_reach t r (inRange_of_wellOrdered t ht) a]

theorem collect_export_perm :
    (collect (exportTable t order f) (order.length - 1)).Perm ((collect t r).map (posIn order)) := by
  have hclo : WellOrdered (exportTable t order f) := export_chLt t order f ho.closed ho.lt
  have hlen : (exportTable t order f).length = order.length := exportTable_length _ _ _
  have hne : order.length ≠ 0 := fun h0 => ho.ne (List.eq_nil_of_length_eq_zero h0)
  have h1 : (collect (exportTable t order f) (order.length - 1)).Perm (List.range order.length) := by
    rw [List.perm_ext_iff_of_nodup (collect_nodup _ _) List.nodup_range]
    intro a
    rw [List.mem_range]
    constructor
    · intro ha
      have := Net.collect_le_root _ (order.length - 1) (chLt_of_wellOrdered _ hclo) a ha
      omega
    · intro hp
      rw [mem_collect_iff_reach _ _ (inRange_of_wellOrdered _ hclo) a, ← posIn_root t r order ho]
      have h1 := export_reach t r order ho f order[a]
        ((order_mem_iff_reach t r order ho _).1 (List.getElem_mem hp))
      rwa [posIn_getElem order ho.nodup a hp] at h1
  refine h1.trans ?_
  rw [← map_posIn_self order ho.nodup]
  exact ((collect_perm_order t ht r order ho).map _).symm

theorem kahnCounts_export :
    CRel order (kahnCounts t r) (kahnCounts (exportTable t order f) (order.length - 1)) := by
  have hcl := ho.closed
  have hlt := ho.lt
  have hcm : ∀ a ∈ collect t r, a ∈ order := fun a ha => (collect_perm_order t ht r order ho).mem_iff.1 ha
  obtain ⟨_, c1⟩ := Net.kahnCounts_spec t r (inRange_of_chLt t (chLt_of_wellOrdered t ht))
  obtain ⟨l2, c2⟩ := Net.kahnCounts_spec (exportTable t order f) (order.length - 1)
    (inRange_of_chLt _ (chLt_of_wellOrdered _ (export_chLt t order f hcl hlt)))
  refine ⟨by rw [l2, exportTable_length], fun i hi => ?_⟩
  rw [c1, c2]
  unfold Sched.edgesOf
  rw [((collect_export_perm t ht r f order ho).flatMap_right _).count_eq, List.flatMap_map]
  have : (collect t r).flatMap (fun a => chOf (exportTable t order f) (posIn order a))
      = ((collect t r).flatMap (chOf t)).map (posIn order) := by
    rw [List.map_flatMap]
    exact List.flatMap_congr (fun a ha => export_chOf_pos t order f hcl hlt a (hcm a ha))
  rw [this]
  refine count_map_posIn order _ i (fun a ha => ?_)
  obtain ⟨p, hp, hap⟩ := List.mem_flatMap.1 ha
  exact closed_mem t order hcl p (hcm p hp) a hap

/-- **Kahn's order of an exported table is the relabelled Kahn order of the source** -/
theorem kahn_export (ko : List Nat) (hk : kahn t r = some ko) :
    kahn (exportTable t order f) (order.length - 1) = some (ko.map (posIn order)) := by
  have hlen : (exportTable t order f).length = order.length := exportTable_length _ _ _
  have hrmem : r ∈ order := List.mem_of_getElem? ho.last
  have hlastpos := posIn_root t r order ho
  have hcnt := kahnCounts_export t ht r f order ho
  obtain ⟨h0, hall0, hord⟩ := (Net.kahn_eq_some_iff t r ko).1 hk
  obtain ⟨hkn, hkm, _⟩ := Net.kahn_spec t r (inRange_of_chLt t (chLt_of_wellOrdered t ht)) ko hk
  have hkolen : ko.length = order.length := by
    have : ko.Perm (collect t r) := (List.perm_ext_iff_of_nodup hkn (collect_nodup _ _)).2 hkm
    rw [this.length_eq, (collect_perm_order t ht r order ho).length_eq]
  -- fuel: the source run needs only `order.length + 1` rounds
  have hfuel : kahnLoop t (order.length + 1) [r] (kahnCounts t r) []
      = kahnLoop t (t.length + 1) [r] (kahnCounts t r) [] := by
    apply kahnLoop_fuel
    · rw [← hord, hkolen]; simp; have := nodup_length_le order t.length ho.nodup ho.lt; omega
    · rw [← hord, hkolen]; simp
  obtain ⟨s1, s2⟩ := kahnLoop_sim t order f ho.closed ho.lt (order.length + 1) [r] (kahnCounts t r)
    (kahnCounts (exportTable t order f) (order.length - 1)) [] (by simpa using hrmem) hcnt
  rw [hfuel] at s1 s2
  simp only [List.map_cons, List.map_nil, hlastpos] at s1 s2
  rw [Net.kahn_eq_some_iff, hlen, s2, ← hord]
  refine ⟨by have := hcnt.2 r hrmem; rw [hlastpos] at this; rw [this]; exact h0, ?_, rfl⟩
  rw [Net.all_zero_iff]
  intro v
  rcases Nat.lt_or_ge v order.length with hv | hv
  · have := s1.2 order[v] (List.getElem_mem hv)
    rw [posIn_getElem order ho.nodup v hv] at this
    rw [this]
    exact (Net.all_zero_iff _).1 hall0 _
  · exact Net.getD_of_length_le _ _ (by rw [s1.1]; exact hv)

end exported

theorem idxOf_map_posIn (order ko : List Nat) (a : Nat) (hko : ∀ b ∈ ko, b ∈ order) :
    posIn (ko.map (posIn order)) (posIn order a) = posIn ko a := by
  unfold posIn
  induction ko with
  | nil => rfl
  | cons b ko ih =>
    have hb : (List.idxOf b order == List.idxOf a order) = (b == a) :=
      Bool.eq_iff_iff.2 (by
        simp only [beq_iff_eq]
        exact ⟨posIn_inj order b a (hko b List.mem_cons_self), fun e => by rw [e]⟩)
    rw [List.map_cons, List.idxOf_cons, List.idxOf_cons, hb, ih (fun c hc => hko c (List.mem_cons_of_mem _ hc))]

/-- **exporting an exported table reproduces it, ids included** -/
theorem exportFrom_export_ids (t : Net α) (ht : WellOrdered t) (r : Nat) (hr : r < t.length)
    (out : Net α) (order : List Nat) (h : exportFrom t r = some (out, order)) :
    exportFrom out (out.length - 1) = some (out, List.range out.length) := by
  obtain ⟨ko, hk, hord, he⟩ := exportFrom_unpack t r out order h
  have ho : OrderOK t r order := by rw [hord]; exact orderOK_dfsPost t ht r hr
  have hlen : out.length = order.length := by rw [he]; exact exportTable_length _ _ _
  have hk' := kahn_export t ht r (posIn ko) order ho ko hk
  rw [← he, ← hlen] at hk'
  have hcl : WellOrdered out := by rw [he]; exact export_chLt t order (posIn ko) ho.closed ho.lt
  -- the second export, up to the ids
  cases h2 : exportFrom out (out.length - 1) with
  | none =>
    exfalso
    unfold exportFrom at h2
    rw [hk'] at h2
    cases h2
  | some res =>
    have key := exportFrom_export t ht r hr (posIn ko) res
    simp only at key
    rw [← hord, ← he] at key
    obtain ⟨k1, _, ko', k3, k4⟩ := key h2
    rw [hk'] at k3
    have hko' : ko' = ko.map (posIn order) := (Option.some.inj k3).symm
    obtain ⟨_, hkm, _⟩ := Net.kahn_spec t r (inRange_of_chLt t (chLt_of_wellOrdered t ht)) ko hk
    have hkosub : ∀ b ∈ ko, b ∈ order := by
      intro b hb
      rw [order_mem_iff_reach t r order ho b, ← mem_collect_iff_reach t r (inRange_of_wellOrdered t ht) b]
      exact (hkm b).1 hb
    have htab : res.1 = out := by
      rw [k4]
      apply List.ext_getElem?
      intro p
      cases hx : out[p]? with
      | none =>
        rw [List.getElem?_eq_none_iff] at hx ⊢
        rw [exportTable_length]; simpa using hx
      | some x =>
        rw [exportTable_range out hcl _ p x hx]
        have hp : p < order.length := by rw [← hlen]; exact (List.getElem?_eq_some_iff.1 hx).1
        obtain ⟨y, hy, hoy, _⟩ := export_node t order (posIn ko) ho.closed ho.lt p hp
        rw [he, hoy] at hx
        cases hx
        congr 2
        rw [hko']
        have := idxOf_map_posIn order ko order[p] hkosub
        rw [posIn_getElem order ho.nodup p hp] at this
        exact this
    obtain ⟨r1, r2⟩ := res
    simp only at htab k1
    rw [htab, k1]

theorem kahnOrdOK_of_wellOrdered (net : Net α) (hw : WellOrdered net) (root : Nat) (ko : List Nat)
    (hk : kahn net root = some ko) : KahnOrdOK net root ko := by
  obtain ⟨h1, h2, _, h4, _⟩ := Net.kahn_spec net root (inRange_of_chLt net (chLt_of_wellOrdered net hw)) ko hk
  exact ⟨h1, h2, h4⟩

end Deeprob
