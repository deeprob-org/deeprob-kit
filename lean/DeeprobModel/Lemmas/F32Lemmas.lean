import DeeprobModel.Model.F32
import DeeprobModel.Lemmas.RoundLemmas
import DeeprobModel.Lemmas.IoLemmas
import Mathlib.Algebra.Order.Field.Power
import Mathlib.Algebra.Order.Field.Rat
import Mathlib.Data.Nat.Log
import Mathlib.Tactic.Linarith
import Mathlib.Tactic.NormNum
import Mathlib.Tactic.FieldSimp
import Mathlib.Tactic.Ring
import Mathlib.Tactic.Positivity
set_option linter.unusedSimpArgs false
set_option linter.unusedVariables false
/-
Facts about `Model/F32.lean`: `ilog2` is `⌊log₂|q|⌋`, `fpr p emin` is odd, idempotent, monotone, nearest.
Then the interplay with the 8-decimal writer `round8`: the structure `TwoRegime` (below a threshold loading moves a
document number by less than half a grid step, above it a number of the format is recovered exactly) with its
consequences `gen1`/`gen2`, its instances for binary64 and binary32, and what save + load does to a model (`reloadNode`).
-/
namespace Deeprob.Io32
open Deeprob

theorem pow2_eq (e : ℤ) : pow2 e = 2 ^ e := by
  unfold pow2
  split_ifs with h
  · rw [← zpow_natCast, Int.toNat_of_nonneg h]
  · rw [one_div, ← zpow_natCast, ← zpow_neg, Int.toNat_of_nonneg (by omega), neg_neg]

theorem absQ_eq (q : ℚ) : absQ q = |q| := by
  unfold absQ
  split_ifs with h
  · rw [abs_of_neg h]
  · rw [abs_of_nonneg (not_lt.1 h)]

theorem two_zpow_pos (e : ℤ) : (0 : ℚ) < 2 ^ e := zpow_pos two_pos e

theorem two_zpow_le {a b : ℤ} (h : a ≤ b) : (2 : ℚ) ^ a ≤ 2 ^ b :=
  zpow_le_zpow_right₀ one_le_two h

theorem two_zpow_lt {a b : ℤ} (h : a < b) : (2 : ℚ) ^ a < (2 : ℚ) ^ b :=
  zpow_lt_zpow_right₀ one_lt_two h

theorem two_zpow_add (a b : ℤ) : (2 : ℚ) ^ (a + b) = 2 ^ a * 2 ^ b :=
  zpow_add₀ two_ne_zero a b

theorem two_zpow_sub (a b : ℤ) : (2 : ℚ) ^ (a - b) = 2 ^ a / 2 ^ b :=
  zpow_sub₀ two_ne_zero a b

theorem two_zpow_succ (e : ℤ) : (2 : ℚ) ^ (e + 1) = 2 * 2 ^ e := by
  rw [two_zpow_add, zpow_one, mul_comm]

theorem two_zpow_pred (e : ℤ) : (2 : ℚ) ^ (e - 1) = 2 ^ e / 2 := by
  rw [two_zpow_sub, zpow_one]

theorem two_zpow_int {j : ℤ} (h : 0 ≤ j) : 2 ^ j = (((2 : ℤ) ^ j.toNat : ℤ) : ℚ) := by
  rw [Int.cast_pow, Int.cast_ofNat, ← zpow_natCast, Int.toNat_of_nonneg h]

theorem two_zpow_p (p : ℕ) : 2 ^ (p : ℤ) = (((2 : ℤ) ^ p : ℤ) : ℚ) := by
  rw [zpow_natCast, Int.cast_pow, Int.cast_ofNat]

theorem two_zpow_pm1 (p : ℕ) (hp : 1 ≤ p) : 2 ^ ((p : ℤ) - 1) = (((2 : ℤ) ^ (p - 1) : ℤ) : ℚ) := by
  rw [← two_zpow_p, Nat.cast_sub hp, Nat.cast_one]

theorem two_zpow_eq_int_mul {K j : ℤ} (h : K ≤ j) :
    2 ^ j = (((2 : ℤ) ^ (j - K).toNat : ℤ) : ℚ) * 2 ^ K := by
  rw [← two_zpow_int (sub_nonneg.2 h), ← two_zpow_add, sub_add_cancel]

theorem two_pow_succ_pred (p : ℕ) (hp : 1 ≤ p) : (2 : ℤ) ^ p = 2 * 2 ^ (p - 1) := by
  rw [← pow_succ', Nat.sub_add_cancel hp]

theorem abs_eq_natAbs_div (q : ℚ) : |q| = (q.num.natAbs : ℚ) / (q.den : ℚ) := by
  conv_lhs => rw [← Rat.num_div_den q]
  rw [abs_div, Nat.abs_cast, Nat.cast_natAbs, Int.cast_abs]

theorem nat_log2_bounds {n : ℕ} (hn : n ≠ 0) :
    2 ^ (n.log2 : ℤ) ≤ (n : ℚ) ∧ (n : ℚ) < 2 * 2 ^ (n.log2 : ℤ) := by
  rw [zpow_natCast]
  constructor
  · exact_mod_cast Nat.log2_self_le hn
  · have : n < 2 * 2 ^ n.log2 := by rw [← Nat.pow_succ']; exact Nat.lt_log2_self
    exact_mod_cast this

theorem div_mem_of_mem {A a B b : ℚ} (hA : 0 < A) (hB : 0 < B) (ha1 : A ≤ a) (ha2 : a < 2 * A)
    (hb1 : B ≤ b) (hb2 : b < 2 * B) : A / B / 2 < a / b ∧ a / b < 2 * (A / B) := by
  have hb : 0 < b := hB.trans_le hb1
  constructor
  · calc A / B / 2 = A / (2 * B) := by rw [div_div, mul_comm]
      _ < A / b := div_lt_div_of_pos_left hA hb hb2
      _ ≤ a / b := div_le_div_of_nonneg_right ha1 hb.le
  · calc a / b < 2 * A / b := div_lt_div_of_pos_right ha2 hb
      _ ≤ 2 * A / B := div_le_div_of_nonneg_left (mul_pos two_pos hA).le hB hb1
      _ = 2 * (A / B) := mul_div_assoc _ _ _

/-- `ilog2 q = ⌊log₂ |q|⌋` -/
theorem ilog2_spec (q : ℚ) (h : q ≠ 0) : 2 ^ (ilog2 q) ≤ |q| ∧ |q| < 2 ^ (ilog2 q + 1) := by
  -- the bit lengths of numerator and denominator give `2^(e0-1) < |q| < 2^(e0+1)`; one comparison decides
  obtain ⟨a1, a2⟩ := nat_log2_bounds (Int.natAbs_ne_zero.2 (Rat.num_ne_zero.2 h))
  obtain ⟨b1, b2⟩ := nat_log2_bounds q.den_nz
  obtain ⟨lo, hi⟩ := div_mem_of_mem (two_zpow_pos _) (two_zpow_pos _) a1 a2 b1 b2
  rw [← abs_eq_natAbs_div, ← two_zpow_sub] at lo hi
  rw [← two_zpow_pred] at lo
  rw [← two_zpow_succ] at hi
  unfold ilog2
  simp only [pow2_eq, absQ_eq]
  split_ifs with hc
  · exact ⟨hc, hi⟩
  · exact ⟨lo.le, by rw [sub_add_cancel]; exact not_le.1 hc⟩

theorem le_ilog2_iff {q : ℚ} (hq : q ≠ 0) {j : ℤ} : j ≤ ilog2 q ↔ 2 ^ j ≤ |q| := by
  obtain ⟨s1, s2⟩ := ilog2_spec q hq
  constructor
  · exact fun h => (two_zpow_le h).trans s1
  · intro h
    by_contra hn
    exact absurd (s2.trans_le (two_zpow_le (by omega))) (not_lt.2 h)

theorem ne_zero_of_two_zpow_le_abs {q : ℚ} {j : ℤ} (h : 2 ^ j ≤ |q|) : q ≠ 0 :=
  abs_pos.1 ((two_zpow_pos j).trans_le h)

theorem le_ilog2 {q : ℚ} {j : ℤ} (h : 2 ^ j ≤ |q|) : j ≤ ilog2 q :=
  (le_ilog2_iff (ne_zero_of_two_zpow_le_abs h)).2 h

theorem ilog2_lt {q : ℚ} {j : ℤ} (hq : q ≠ 0) (h : |q| < 2 ^ j) : ilog2 q < j :=
  lt_of_not_ge fun hj => absurd ((le_ilog2_iff hq).1 hj) (not_le.2 h)

theorem ilog2_unique {q : ℚ} {e : ℤ} (h1 : 2 ^ e ≤ |q|) (h2 : |q| < 2 ^ (e + 1)) : ilog2 q = e :=
  le_antisymm (Int.lt_add_one_iff.1 (ilog2_lt (ne_zero_of_two_zpow_le_abs h1) h2)) (le_ilog2 h1)

theorem ilog2_mono {a b : ℚ} (ha : a ≠ 0) (h : |a| ≤ |b|) : ilog2 a ≤ ilog2 b :=
  le_ilog2 (le_trans (ilog2_spec a ha).1 h)

theorem ilog2_neg (q : ℚ) : ilog2 (-q) = ilog2 q := by
  unfold ilog2
  simp only [Rat.neg_num, Rat.neg_den, Int.natAbs_neg, absQ_eq, abs_neg]

theorem emin_le_qexp (p : ℕ) (emin : ℤ) (q : ℚ) : emin ≤ qexp p emin q := le_max_right _ _

section
variable (p : ℕ) (emin : ℤ) (q : ℚ)

theorem qexp_neg : qexp p emin (-q) = qexp p emin q := by
  unfold qexp; rw [ilog2_neg]

theorem le_qexp : ilog2 q - ((p : ℤ) - 1) ≤ qexp p emin q := le_max_left _ _

theorem fpr_eq : fpr p emin q = (roundHalfEven (q / 2 ^ (qexp p emin q)) : ℚ) * 2 ^ (qexp p emin q) := by
  unfold fpr; rw [pow2_eq]

theorem fpr_neg : fpr p emin (-q) = -fpr p emin q := by
  rw [fpr_eq, fpr_eq, qexp_neg, neg_div, rhe_neg, Int.cast_neg, neg_mul]

theorem fpr_zero : fpr p emin 0 = 0 := by
  have : roundHalfEven (0 : ℚ) = 0 := by simpa using roundHalfEven_intCast 0
  rw [fpr_eq, zero_div, this, Int.cast_zero, zero_mul]

theorem fpr_nearest_mul (n : ℤ) : |fpr p emin q - q| ≤ |(n : ℚ) * 2 ^ (qexp p emin q) - q| := by
  have hU := two_zpow_pos (qexp p emin q)
  rw [fpr_eq, abs_mul_sub_eq hU, abs_mul_sub_eq hU]
  exact mul_le_mul_of_nonneg_right (rhe_nearest_int _ n) hU.le

theorem fpr_err : |fpr p emin q - q| ≤ 2 ^ (qexp p emin q) / 2 := by
  have hU := two_zpow_pos (qexp p emin q)
  rw [fpr_eq, abs_mul_sub_eq hU, ← one_div_mul_eq_div (2 : ℚ)]
  exact mul_le_mul_of_nonneg_right (rhe_abs_err _) hU.le

end

variable {p : ℕ} {emin : ℤ}

theorem qexp_le {q : ℚ} {k : ℤ} (h1 : ilog2 q - ((p : ℤ) - 1) ≤ k) (h2 : emin ≤ k) : qexp p emin q ≤ k :=
  max_le h1 h2

/-- normal range: the quantum is `p - 1` binary places below the leading bit -/
theorem qexp_eq_normal {q : ℚ} (h : emin ≤ ilog2 q - ((p : ℤ) - 1)) : qexp p emin q = ilog2 q - ((p : ℤ) - 1) :=
  max_eq_left h

theorem qexp_eq_of_emin_lt {q : ℚ} (h : emin < qexp p emin q) : qexp p emin q = ilog2 q - ((p : ℤ) - 1) := by
  unfold qexp at h ⊢; omega

theorem qexp_mono {a b : ℚ} (ha : a ≠ 0) (h : |a| ≤ |b|) : qexp p emin a ≤ qexp p emin b :=
  max_le_max (sub_le_sub_right (ilog2_mono ha h) _) le_rfl

theorem abs_repr_lt {m : ℤ} (k : ℤ) (hm : |m| < 2 ^ p) : |(m : ℚ) * 2 ^ k| < 2 ^ ((p : ℤ) + k) := by
  rw [abs_mul, abs_of_pos (two_zpow_pos k), two_zpow_add, two_zpow_p]
  exact mul_lt_mul_of_pos_right (by exact_mod_cast hm) (two_zpow_pos k)

/-- the next multiple of `2^k` above a significand `m < 2^p` is still at most `2^(p+k)` -/
theorem repr_add_quantum_le {m : ℤ} (k : ℤ) (hm : m < 2 ^ p) : (m : ℚ) * 2 ^ k + 2 ^ k ≤ 2 ^ ((p : ℤ) + k) := by
  rw [two_zpow_add, two_zpow_p, ← add_one_mul]
  exact mul_le_mul_of_nonneg_right (by exact_mod_cast Int.add_one_le_iff.2 hm) (two_zpow_pos k).le

theorem fpr_fixed {m k : ℤ} (hm : |m| < 2 ^ p) (hk : emin ≤ k) : fpr p emin ((m : ℚ) * 2 ^ k) = (m : ℚ) * 2 ^ k := by
  by_cases hm0 : m = 0
  · subst hm0; simp [fpr_zero]
  set q : ℚ := (m : ℚ) * 2 ^ k with hq
  have hq0 : q ≠ 0 := mul_ne_zero (Int.cast_ne_zero.2 hm0) (two_zpow_pos k).ne'
  -- the quantum of `q` is at most `2^k`, so `q` is an integer multiple of it
  have hK : qexp p emin q ≤ k := qexp_le (by have := ilog2_lt hq0 (abs_repr_lt k hm); omega) hk
  have hdiv : q / 2 ^ (qexp p emin q) = ((m * 2 ^ (k - qexp p emin q).toNat : ℤ) : ℚ) := by
    rw [div_eq_iff (two_zpow_pos _).ne', Int.cast_mul, mul_assoc, ← two_zpow_eq_int_mul hK]
  rw [fpr_eq, hdiv, roundHalfEven_intCast, ← hdiv, div_mul_cancel₀ _ (two_zpow_pos _).ne']

theorem fpr_le_int_mul {q : ℚ} {n : ℤ} (h : q ≤ (n : ℚ) * 2 ^ (qexp p emin q)) :
    fpr p emin q ≤ (n : ℚ) * 2 ^ (qexp p emin q) := by
  have hU := two_zpow_pos (qexp p emin q)
  rw [fpr_eq]
  exact mul_le_mul_of_nonneg_right (Int.cast_le.2 (roundHalfEven_le_int ((div_le_iff₀ hU).2 h))) hU.le

theorem int_mul_le_fpr {q : ℚ} {n : ℤ} (h : (n : ℚ) * 2 ^ (qexp p emin q) ≤ q) :
    (n : ℚ) * 2 ^ (qexp p emin q) ≤ fpr p emin q := by
  have hU := two_zpow_pos (qexp p emin q)
  rw [fpr_eq]
  exact mul_le_mul_of_nonneg_right (Int.cast_le.2 (int_le_roundHalfEven ((le_div_iff₀ hU).2 h))) hU.le

theorem fpr_nonneg {q : ℚ} (h : 0 ≤ q) : 0 ≤ fpr p emin q := by
  have := int_mul_le_fpr (p := p) (emin := emin) (q := q) (n := 0) (by rwa [Int.cast_zero, zero_mul])
  rwa [Int.cast_zero, zero_mul] at this

theorem fpr_le_pow {q : ℚ} {j : ℤ} (hj : qexp p emin q ≤ j) (h : q ≤ 2 ^ j) : fpr p emin q ≤ 2 ^ j := by
  rw [two_zpow_eq_int_mul hj] at h ⊢
  exact fpr_le_int_mul h

theorem pow_le_fpr {q : ℚ} {j : ℤ} (hj : qexp p emin q ≤ j) (h : 2 ^ j ≤ q) : 2 ^ j ≤ fpr p emin q := by
  rw [two_zpow_eq_int_mul hj] at h ⊢
  exact int_mul_le_fpr h

theorem fpr_repr_pos (hp : 1 ≤ p) {q : ℚ} (hq : 0 < q) :
    ∃ m k : ℤ, fpr p emin q = (m : ℚ) * 2 ^ k ∧ 0 ≤ m ∧ m < 2 ^ p ∧ qexp p emin q ≤ k ∧
      (emin ≤ ilog2 q - ((p : ℤ) - 1) → 2 ^ (p - 1) ≤ m) := by
  obtain ⟨s1, s2⟩ := ilog2_spec q hq.ne'
  rw [abs_of_pos hq] at s1 s2
  have hfe := fpr_eq p emin q
  set K := qexp p emin q with hK
  have hU := two_zpow_pos K
  set m0 := roundHalfEven (q / 2 ^ K)
  -- the scaled value lies in `[0, 2^p]`, and in `[2^(p-1), 2^p]` in the normal range; so does its rounding
  have h0 : 0 ≤ m0 := int_le_roundHalfEven (by rw [Int.cast_zero]; exact (div_pos hq hU).le)
  have hhi : m0 ≤ 2 ^ p := by
    apply roundHalfEven_le_int
    rw [div_le_iff₀ hU, ← two_zpow_p, ← two_zpow_add]
    exact s2.le.trans (two_zpow_le (by have := le_qexp p emin q; omega))
  have hlo : emin ≤ ilog2 q - ((p : ℤ) - 1) → 2 ^ (p - 1) ≤ m0 := by
    intro hn
    apply int_le_roundHalfEven
    rwa [le_div_iff₀ hU, ← two_zpow_pm1 p hp, ← two_zpow_add, hK, qexp_eq_normal hn, add_sub_cancel]
  have hpow := two_pow_succ_pred p hp
  have hpos : (0 : ℤ) < 2 ^ (p - 1) := by positivity
  by_cases hA : m0 = 2 ^ p
  · -- rounding up to `2^p`: carry into the next binade
    refine ⟨2 ^ (p - 1), K + 1, ?_, hpos.le, by omega, by omega, fun _ => le_rfl⟩
    rw [hfe, hA, two_zpow_succ, hpow]; push_cast; ring
  · exact ⟨m0, K, hfe, h0, lt_of_le_of_ne hhi hA, le_rfl, hlo⟩

theorem fpr_repr (hp : 1 ≤ p) (q : ℚ) : ∃ m k : ℤ, fpr p emin q = (m : ℚ) * 2 ^ k ∧ |m| < 2 ^ p ∧ emin ≤ k := by
  rcases lt_trichotomy 0 q with h | h | h
  · obtain ⟨m, k, e, m0, m1, hk, _⟩ := fpr_repr_pos (emin := emin) hp h
    exact ⟨m, k, e, by rwa [abs_of_nonneg m0], (emin_le_qexp p emin q).trans hk⟩
  · exact ⟨0, emin, by rw [← h, fpr_zero]; simp, by simp, le_rfl⟩
  · obtain ⟨m, k, e, m0, m1, hk, _⟩ := fpr_repr_pos (emin := emin) hp (neg_pos.2 h)
    refine ⟨-m, k, ?_, by rwa [abs_neg, abs_of_nonneg m0], (emin_le_qexp p emin _).trans hk⟩
    rw [Int.cast_neg, neg_mul, ← e, fpr_neg, neg_neg]

theorem fpr_normal_repr (hp : 1 ≤ p) {x : ℚ} {j : ℤ} (hj : emin ≤ j - ((p : ℤ) - 1)) (hx : 2 ^ j ≤ x) :
    ∃ m k : ℤ, fpr p emin x = (m : ℚ) * 2 ^ k ∧ 2 ^ (p - 1) ≤ m ∧ m < 2 ^ p ∧ j - ((p : ℤ) - 1) ≤ k := by
  have hxpos : 0 < x := (two_zpow_pos j).trans_le hx
  have hje : j ≤ ilog2 x := le_ilog2 (by rwa [abs_of_pos hxpos])
  obtain ⟨m, k, e, _, m1, hk, hn⟩ := fpr_repr_pos (emin := emin) hp hxpos
  exact ⟨m, k, e, hn (by omega), m1, by have := le_qexp p emin x; omega⟩

theorem fpr_idem (hp : 1 ≤ p) (q : ℚ) : fpr p emin (fpr p emin q) = fpr p emin q := by
  obtain ⟨m, k, h, hm, hk⟩ := fpr_repr (emin := emin) hp q
  rw [h]; exact fpr_fixed hm hk

theorem fpr_mono_pos (hp : 1 ≤ p) {a b : ℚ} (ha : 0 < a) (h : a ≤ b) : fpr p emin a ≤ fpr p emin b := by
  have hb : 0 < b := lt_of_lt_of_le ha h
  have hab : |a| ≤ |b| := by rwa [abs_of_pos ha, abs_of_pos hb]
  rcases eq_or_lt_of_le (qexp_mono (p := p) (emin := emin) ha.ne' hab) with heq | hlt
  · rw [fpr_eq, fpr_eq, heq]
    have hU := two_zpow_pos (qexp p emin b)
    apply mul_le_mul_of_nonneg_right _ hU.le
    exact_mod_cast roundHalfEven_mono (div_le_div_of_nonneg_right h hU.le)
  · -- different quanta: the power of two `2^(ilog2 b)` separates the results
    have hKa := le_qexp p emin a
    have hKb := qexp_eq_of_emin_lt ((emin_le_qexp p emin a).trans_lt hlt)
    have sa2 := (ilog2_spec a ha.ne').2
    have sb1 := (ilog2_spec b hb.ne').1
    rw [abs_of_pos ha] at sa2
    rw [abs_of_pos hb] at sb1
    exact (fpr_le_pow (j := ilog2 b) (by omega) (sa2.le.trans (two_zpow_le (by omega)))).trans
      (pow_le_fpr (by omega) sb1)

theorem fpr_mono (hp : 1 ≤ p) {a b : ℚ} (h : a ≤ b) : fpr p emin a ≤ fpr p emin b := by
  rcases lt_trichotomy 0 a with ha | ha | ha
  · exact fpr_mono_pos hp ha h
  · rw [← ha, fpr_zero]; exact fpr_nonneg (ha ▸ h)
  · rcases le_or_gt 0 b with hb | hb
    · have h1 := fpr_nonneg (p := p) (emin := emin) (neg_pos.2 ha).le
      rw [fpr_neg, neg_nonneg] at h1
      exact h1.trans (fpr_nonneg hb)
    · have := fpr_mono_pos (emin := emin) hp (neg_pos.2 hb) (neg_le_neg h)
      rwa [fpr_neg, fpr_neg, neg_le_neg_iff] at this

theorem fpr_pow_fixed (hp : 1 ≤ p) {j : ℤ} (hj : emin ≤ j) : fpr p emin (2 ^ j) = 2 ^ j := by
  have := fpr_fixed (p := p) (m := 1) (by rw [abs_one]; exact one_lt_pow₀ one_lt_two (by omega)) hj
  rwa [Int.cast_one, one_mul] at this

theorem load32_pow_fixed {j : ℤ} (hj : -149 ≤ j) : load32 (2 ^ j) = 2 ^ j := by
  unfold load32 f32 f64
  rw [fpr_pow_fixed (by norm_num) (by omega), fpr_pow_fixed (by norm_num) hj]

theorem load64_pow_fixed {j : ℤ} (hj : -1074 ≤ j) : load64 (2 ^ j) = 2 ^ j := fpr_pow_fixed (by norm_num) hj

/-- a normal representable `g = m·2^k` attracts every `x` of its own binade that is closer than
half a quantum -/
theorem fpr_capture (hp : 1 ≤ p) {m k : ℤ} (hm1 : 2 ^ (p - 1) ≤ m) (hm2 : m < 2 ^ p) (hk : emin ≤ k) {x : ℚ}
    (hx : 2 ^ ((p : ℤ) - 1 + k) ≤ x) (hc : |x - (m : ℚ) * 2 ^ k| < 2 ^ k / 2) : fpr p emin x = (m : ℚ) * 2 ^ k := by
  have hU := two_zpow_pos k
  have hxpos : 0 < x := (two_zpow_pos _).trans_le hx
  -- `x` lies in the binade `[2^(p-1+k), 2^(p+k))`, so its quantum is `2^k`
  have hup : x < 2 ^ ((p : ℤ) - 1 + k + 1) := by
    rw [show (p : ℤ) - 1 + k + 1 = (p : ℤ) + k by ring]
    calc x < (m : ℚ) * 2 ^ k + 2 ^ k / 2 := sub_lt_iff_lt_add'.1 (abs_lt.1 hc).2
      _ < (m : ℚ) * 2 ^ k + 2 ^ k := add_lt_add_right (half_lt_self hU) _
      _ ≤ _ := repr_add_quantum_le k hm2
  have hK : qexp p emin x = k := by
    have hil : ilog2 x = (p : ℤ) - 1 + k := ilog2_unique (by rwa [abs_of_pos hxpos]) (by rwa [abs_of_pos hxpos])
    rw [qexp_eq_normal (by omega), hil, add_sub_cancel_left]
  -- and in units of `2^k` it is less than ½ from `m`
  rw [fpr_eq, hK, rhe_of_close _ m]
  rwa [abs_sub_comm, abs_mul_sub_eq hU, ← one_div_mul_eq_div (2 : ℚ), mul_lt_mul_iff_left₀ hU, abs_sub_comm] at hc

theorem fpr_err_small (hp : 1 ≤ p) {x : ℚ} {j : ℤ} (hj : emin ≤ j - (p : ℤ)) (h0 : 0 ≤ x) (h1 : x ≤ 2 ^ j) :
    |fpr p emin x - x| ≤ 2 ^ (j - (p : ℤ)) / 2 := by
  have hpos : (0 : ℚ) ≤ 2 ^ (j - (p : ℤ)) / 2 := (half_pos (two_zpow_pos _)).le
  rcases eq_or_lt_of_le h0 with hx0 | hxpos
  · rwa [← hx0, fpr_zero, sub_self, abs_zero]
  rcases eq_or_lt_of_le h1 with hxe | hxlt
  · rwa [hxe, fpr_pow_fixed hp (by omega), sub_self, abs_zero]
  have hl : ilog2 x < j := ilog2_lt hxpos.ne' (by rwa [abs_of_pos hxpos])
  have hK : qexp p emin x ≤ j - (p : ℤ) := qexp_le (by omega) hj
  exact (fpr_err p emin x).trans (div_le_div_of_nonneg_right (two_zpow_le hK) zero_le_two)

theorem fpr_rel_err (hp : 1 ≤ p) {q : ℚ} (hq : 2 ^ (emin + (p : ℤ) - 1) ≤ |q|) :
    |fpr p emin q - q| ≤ 2 ^ (-(p : ℤ)) * |q| := by
  have hje := le_ilog2 hq
  have s1 := (ilog2_spec q (ne_zero_of_two_zpow_le_abs hq)).1
  have herr := fpr_err p emin q
  -- half the quantum is `2^(-p)` times the lower end of the binade
  have e : (2 : ℚ) ^ (ilog2 q - ((p : ℤ) - 1)) / 2 = 2 ^ (-(p : ℤ)) * 2 ^ (ilog2 q) := by
    rw [← two_zpow_pred, ← two_zpow_add]; congr 1; ring
  rw [qexp_eq_normal (by omega), e] at herr
  exact herr.trans (mul_le_mul_of_nonneg_left s1 (two_zpow_pos _).le)

theorem fpr_nearest_pos (hp : 1 ≤ p) {q : ℚ} (hq : 0 < q) {g : ℚ} (hg : fpr p emin g = g) :
    |fpr p emin q - q| ≤ |g - q| := by
  obtain ⟨m', k', hrep, hm', hk'⟩ := fpr_repr (emin := emin) hp g
  rw [hg] at hrep
  rcases le_or_gt (qexp p emin q) k' with hkk | hkk
  · -- `g` is a multiple of the quantum of `q`
    have := fpr_nearest_mul p emin q (m' * 2 ^ (k' - qexp p emin q).toNat)
    rwa [Int.cast_mul, mul_assoc, ← two_zpow_eq_int_mul hkk, ← hrep] at this
  · -- `g` lies in a lower binade: the lower end `2^e` of the binade of `q` is a multiple of the quantum
    -- and lies between `g` and `q`
    have hKe := qexp_eq_of_emin_lt (hk'.trans_lt hkk)
    have s1 := (ilog2_spec q hq.ne').1
    rw [abs_of_pos hq] at s1
    have hglt : g < 2 ^ (ilog2 q) :=
      calc g ≤ |g| := le_abs_self g
        _ < 2 ^ ((p : ℤ) + k') := by rw [hrep]; exact abs_repr_lt k' hm'
        _ ≤ 2 ^ (ilog2 q) := two_zpow_le (by omega)
    have := fpr_nearest_mul p emin q (2 ^ (p - 1))
    rw [← two_zpow_pm1 p hp, ← two_zpow_add, hKe, add_sub_cancel, abs_sub_comm (2 ^ (ilog2 q)) q,
      abs_of_nonneg (sub_nonneg.2 s1)] at this
    rw [abs_sub_comm g, abs_of_nonneg (sub_nonneg.2 (hglt.le.trans s1))]
    exact this.trans (sub_le_sub_left hglt.le q)

theorem fpr_nearest_repr (hp : 1 ≤ p) (q : ℚ) {g : ℚ} (hg : fpr p emin g = g) : |fpr p emin q - q| ≤ |g - q| := by
  rcases lt_trichotomy 0 q with h | h | h
  · exact fpr_nearest_pos hp h hg
  · rw [← h, fpr_zero, sub_self, abs_zero]; exact abs_nonneg _
  · have := fpr_nearest_pos hp (neg_pos.2 h) (g := -g) (by rw [fpr_neg, hg])
    rwa [fpr_neg, ← neg_sub', abs_neg, ← neg_sub', abs_neg] at this

/-- powers of two from `2⁻³ = 12500000·10⁻⁸` upwards lie on the decimal grid -/
theorem round8_pow_fixed (J : ℤ) (h : -3 ≤ J) : round8 (2 ^ J) = 2 ^ J := by
  have hn : (2 : ℚ) ^ J = ((2 ^ (J + 3).toNat * 12500000 : ℤ) : ℚ) / 10 ^ 8 := by
    rw [Int.cast_mul, ← two_zpow_int (by omega), two_zpow_add]
    norm_num
    ring
  rw [hn]; exact round8_grid _

/-- half a step of the decimal grid is less than `½ − 2⁻³⁰` quanta once the quantum is at least `2⁻²⁶` -/
theorem half_grid_lt_quantum {k : ℤ} (hk : -26 ≤ k) :
    (1 : ℚ) / (2 * 10 ^ 8) + 2 ^ k / 2 ^ 30 < 2 ^ k / 2 := by
  have hU : (2 : ℚ) ^ (-26 : ℤ) ≤ 2 ^ k := two_zpow_le hk
  rw [show (2 : ℚ) ^ (-26 : ℤ) = 1 / 67108864 by norm_num] at hU
  linarith

theorem half_grid_lt_half_quantum {k : ℤ} (hk : -26 ≤ k) : (1 : ℚ) / (2 * 10 ^ 8) < 2 ^ k / 2 :=
  (le_add_of_nonneg_right (div_nonneg (two_zpow_pos k).le (by positivity))).trans_lt (half_grid_lt_quantum hk)

/-- what the writer does to a normal value `y = m·2^k` whose quantum is at least `2⁻²⁶` and whose binade starts on
the decimal grid: the document number stays in the binade -/
theorem round8_of_normal (p : ℕ) (hp : 1 ≤ p) (m k : ℤ) (hm1 : 2 ^ (p - 1) ≤ m) (hm2 : m < 2 ^ p)
    (hk : -26 ≤ k) (hgrid : -3 ≤ (p : ℤ) - 1 + k) :
    2 ^ ((p : ℤ) - 1 + k) ≤ round8 ((m : ℚ) * 2 ^ k) ∧
    round8 ((m : ℚ) * 2 ^ k) < 2 ^ ((p : ℤ) + k) := by
  have hU := two_zpow_pos k
  constructor
  · rw [← round8_pow_fixed _ hgrid]
    apply round8_mono
    rw [two_zpow_add, two_zpow_pm1 p hp]
    exact mul_le_mul_of_nonneg_right (Int.cast_le.2 hm1) hU.le
  · have hstep := (half_grid_lt_half_quantum hk).trans (half_lt_self hU)
    calc round8 ((m : ℚ) * 2 ^ k)
        ≤ (m : ℚ) * 2 ^ k + 1 / (2 * 10 ^ 8) := sub_le_iff_le_add'.1 (abs_le.1 (round8_err _)).2
      _ < (m : ℚ) * 2 ^ k + 2 ^ k := add_lt_add_right hstep _
      _ ≤ _ := repr_add_quantum_le k hm2

theorem load64_round8_normal (m k : ℤ) (hm1 : 2 ^ 52 ≤ m) (hm2 : m < 2 ^ 53) (hk : -26 ≤ k) :
    load64 (round8 ((m : ℚ) * 2 ^ k)) = (m : ℚ) * 2 ^ k := by
  obtain ⟨r1, _⟩ := round8_of_normal 53 (by norm_num) m k hm1 hm2 hk (by norm_num; omega)
  exact fpr_capture (p := 53) (by norm_num) hm1 hm2 (by omega) r1
    ((round8_err _).trans_lt (half_grid_lt_half_quantum hk))

theorem load64_small (d : ℚ) (h0 : 0 ≤ d) (h1 : d < 2 ^ (26 : ℤ)) : |load64 d - d| < 1 / (2 * 10 ^ 8) := by
  exact (fpr_err_small (p := 53) (emin := -1074) (by norm_num) (by norm_num) h0 h1.le).trans_lt (by norm_num)

/-- binary32 storage (through the binary64 the parser produced), small regime: below `1/8` the stored value is
within `2⁻²⁸ + 2⁻⁵⁷ < ½·10⁻⁸` of the document number -/
theorem load32_small (d : ℚ) (h0 : 0 ≤ d) (h1 : d < 2 ^ (-3 : ℤ)) : |load32 d - d| < 1 / (2 * 10 ^ 8) := by
  have e1 := fpr_err_small (p := 53) (emin := -1074) (by norm_num) (by norm_num) h0 h1.le
  have hx0 : 0 ≤ f64 d := fpr_nonneg h0
  have hx1 : f64 d ≤ 2 ^ (-3 : ℤ) := (fpr_mono (by norm_num) h1.le).trans_eq (load64_pow_fixed (by norm_num))
  have e2 := fpr_err_small (p := 24) (emin := -149) (by norm_num) (by norm_num) hx0 hx1
  calc |load32 d - d| ≤ |f32 (f64 d) - f64 d| + |f64 d - d| := abs_sub_le _ _ _
    _ ≤ _ := add_le_add e2 e1
    _ < 1 / (2 * 10 ^ 8) := by norm_num

/-- a normal binary32 value with quantum `≥ 2⁻²⁶` survives save ∘ parse ∘ cast -/
theorem load32_round8_normal (m k : ℤ) (hm1 : 2 ^ 23 ≤ m) (hm2 : m < 2 ^ 24) (hk : -26 ≤ k) :
    load32 (round8 ((m : ℚ) * 2 ^ k)) = (m : ℚ) * 2 ^ k := by
  obtain ⟨r1, r2⟩ := round8_of_normal 24 (by norm_num) m k hm1 hm2 hk (by norm_num; omega)
  set d' := round8 ((m : ℚ) * 2 ^ k) with hd'
  have hd'pos : 0 < d' := (two_zpow_pos _).trans_le r1
  -- the binary64 the parser produces stays in the binade and within 2^(k-30) of d'
  have hx2 : 2 ^ (((24 : ℕ) : ℤ) - 1 + k) ≤ f64 d' :=
    (load64_pow_fixed (by norm_num; omega)).symm.trans_le (fpr_mono (by norm_num) r1)
  have e1 : |f64 d' - d'| ≤ 2 ^ k / 2 ^ 30 := by
    have := fpr_err_small (p := 53) (emin := -1074) (by norm_num) (by omega) hd'pos.le r2.le
    rwa [show ((24 : ℕ) : ℤ) + k - ((53 : ℕ) : ℤ) = k - 30 + 1 by push_cast; ring, two_zpow_succ,
      mul_div_cancel_left₀ _ two_ne_zero, two_zpow_sub, zpow_ofNat] at this
  apply fpr_capture (p := 24) (by norm_num) hm1 hm2 (by omega) hx2
  calc |f64 d' - (m : ℚ) * 2 ^ k| ≤ |f64 d' - d'| + |d' - (m : ℚ) * 2 ^ k| := abs_sub_le _ _ _
    _ ≤ 2 ^ k / 2 ^ 30 + 1 / (2 * 10 ^ 8) := add_le_add e1 (round8_err _)
    _ < 2 ^ k / 2 := by rw [add_comm]; exact half_grid_lt_quantum hk

theorem load32_neg (d : ℚ) : load32 (-d) = -load32 d := by
  unfold load32 f32 f64; rw [fpr_neg, fpr_neg]

/-- What the two-regime argument needs of a loader `load` into a format whose numbers are the `Rep`: below the
threshold `2^j` (a point of the decimal grid) loading moves a non-negative document number by less than half a grid
step; from `2^j` on a number of the format is recovered exactly from its 8-decimal rendering. -/
structure TwoRegime (load : ℚ → ℚ) (Rep : ℚ → Prop) (j : ℤ) : Prop where
  grid : -3 ≤ j
  odd : ∀ d, load (-d) = -load d
  mono : ∀ {a b}, a ≤ b → load a ≤ load b
  fixT : load (2 ^ j) = 2 ^ j
  rep_load : ∀ d, Rep (load d)
  rep_neg : ∀ {y}, Rep y → Rep (-y)
  small : ∀ d, 0 ≤ d → d < 2 ^ j → |load d - d| < 1 / (2 * 10 ^ 8)
  normal : ∀ y, Rep y → 2 ^ j ≤ y → load (round8 y) = y

namespace TwoRegime
variable {load : ℚ → ℚ} {Rep : ℚ → Prop} {j : ℤ} (T : TwoRegime load Rep j)
include T

theorem save_load_small {y : ℚ} (hy : 0 ≤ y) (h : round8 y < 2 ^ j) :
    round8 (load (round8 y)) = round8 y := by
  obtain ⟨n, hn⟩ := round8_is_grid y
  have hs := T.small _ (round8_nonneg hy) h
  rw [hn] at hs ⊢
  exact round8_of_close _ n hs

theorem gen2_nonneg {y : ℚ} (hy : 0 ≤ y) : load (round8 (load (round8 y))) = load (round8 y) := by
  rcases lt_or_ge (round8 y) (2 ^ j) with hlt | hge
  · rw [T.save_load_small hy hlt]
  · exact T.normal _ (T.rep_load _) (by have := T.mono hge; rwa [T.fixT] at this)

/-- memory is a fixed point of save ∘ load after one reload, for every rational start value -/
theorem gen2 (y : ℚ) : load (round8 (load (round8 y))) = load (round8 y) := by
  rcases le_or_gt 0 y with hy | hy
  · exact T.gen2_nonneg hy
  · have := T.gen2_nonneg (neg_pos.2 hy).le
    rwa [round8_neg, T.odd, round8_neg, T.odd, neg_inj] at this

theorem gen1_nonneg {y : ℚ} (hy : 0 ≤ y) (hr : Rep y) : round8 (load (round8 y)) = round8 y := by
  rcases lt_or_ge (round8 y) (2 ^ j) with hlt | hge
  · exact T.save_load_small hy hlt
  · rcases le_or_gt (2 ^ j) y with hy1 | hy1
    · rw [T.normal y hr hy1]
    · -- `y < 2^j ≤ round8 y`: the document number is the threshold itself
      have h1 : round8 y ≤ 2 ^ j := by
        have := round8_mono hy1.le; rwa [round8_pow_fixed j T.grid] at this
      rw [le_antisymm h1 hge, T.fixT, round8_pow_fixed j T.grid]

/-- documents are already stable from the first generation when the start value is a number of the storage
format -/
theorem gen1 {y : ℚ} (hr : Rep y) : round8 (load (round8 y)) = round8 y := by
  rcases le_or_gt 0 y with hy | hy
  · exact T.gen1_nonneg hy hr
  · have := T.gen1_nonneg (neg_pos.2 hy).le (T.rep_neg hr)
    rwa [round8_neg, T.odd, round8_neg, neg_inj] at this

theorem map_gen2 (l : List ℚ) :
    (((l.map round8).map load).map round8).map load = (l.map round8).map load := by
  simp only [List.map_map]
  exact List.map_congr_left fun y _ => T.gen2 y

end TwoRegime

/-- binary64 storage: regimes split at `2²⁶`, where the quantum of a normal value reaches `2⁻²⁶` -/
theorem load64_twoRegime : TwoRegime load64 (fun y => f64 y = y) 26 where
  grid := by norm_num
  odd := fpr_neg 53 (-1074)
  mono := fun h => fpr_mono (by norm_num) h
  fixT := load64_pow_fixed (by norm_num)
  rep_load := fun d => fpr_idem (by norm_num) d
  rep_neg := fun h => (fpr_neg 53 (-1074) _).trans (congrArg Neg.neg h)
  small := load64_small
  normal := fun y hy h => by
    obtain ⟨m, k, e, hm1, hm2, hk⟩ := fpr_normal_repr (p := 53) (emin := -1074) (by norm_num) (by norm_num) h
    rw [hy.symm.trans e]
    exact load64_round8_normal m k hm1 hm2 (by omega)

theorem load32_twoRegime : TwoRegime load32 (fun y => f32 y = y) (-3) where
  grid := le_rfl
  odd := load32_neg
  mono := fun h => fpr_mono (by norm_num) (fpr_mono (by norm_num) h)
  fixT := load32_pow_fixed (by norm_num)
  rep_load := fun d => fpr_idem (by norm_num) _
  rep_neg := fun h => (fpr_neg 24 (-149) _).trans (congrArg Neg.neg h)
  small := load32_small
  normal := fun y hy h => by
    obtain ⟨m, k, e, hm1, hm2, hk⟩ := fpr_normal_repr (p := 24) (emin := -149) (by norm_num) (by norm_num) h
    rw [hy.symm.trans e]
    exact load32_round8_normal m k hm1 hm2 (by omega)

/-- the product `x·10⁸` of a binary32 value is exact in binary64 (24 + 19 significant bits) -/
theorem f64_mul_1e8_exact (x : ℚ) (hx : f32 x = x) : f64 (x * 10 ^ 8) = x * 10 ^ 8 := by
  obtain ⟨m, k, hrep, hm, hk⟩ := fpr_repr (p := 24) (emin := -149) (by norm_num) x
  have e : x * 10 ^ 8 = ((m * 390625 : ℤ) : ℚ) * 2 ^ (k + 8) := by
    rw [← hx, show f32 x = _ from hrep, two_zpow_add]; push_cast; norm_num; ring
  rw [e]
  apply fpr_fixed (p := 53) _ (by omega)
  rw [abs_mul, abs_of_pos (by norm_num : (0 : ℤ) < 390625)]
  calc |m| * 390625 < 2 ^ 24 * 2 ^ 29 := mul_lt_mul'' hm (by norm_num) (abs_nonneg m) (by norm_num)
    _ = 2 ^ 53 := by norm_num

/-- the array writer is the scalar writer on float32 arrays: NumPy's binary64 `np.around(x, 8)` of a binary32
value is the binary64 nearest to the correctly rounded decimal -/
theorem around64_eq_save_of_f32 (x : ℚ) (hx : f32 x = x) : around64 x = f64 (save x) := by
  unfold around64 save round8 roundN
  rw [f64_mul_1e8_exact x hx]

/-- what one save + load does to a node in memory -/
def reloadNode (n : MNode) : MNode := storeNode (roundNode n)

theorem reloadNode_idem (n : MNode) : reloadNode (reloadNode n) = reloadNode n := by
  cases n with
  | mk id cls scope ws ps ch =>
    simp only [reloadNode, storeNode, roundNode]
    by_cases hc : paramsAreF32 cls = true <;>
      simp only [hc, Bool.false_eq_true, if_true, if_false, load32_twoRegime.map_gen2, load64_twoRegime.map_gen2]

theorem reloadNode_shape (n : MNode) :
    (reloadNode n).id = n.id ∧ (reloadNode n).cls = n.cls ∧ (reloadNode n).scope = n.scope ∧ (reloadNode n).ch = n.ch :=
  ⟨rfl, rfl, rfl, rfl⟩

theorem noRepeat_reload (m : Model) (h : NoRepeat m) : NoRepeat (m.map reloadNode) :=
  h.map reloadNode (fun _ => rfl) (fun _ => rfl)

theorem loadDoc_encode (m : Model) (h : NoRepeat m) : loadDoc (encode m) = some (m.map reloadNode) := by
  unfold loadDoc
  have := decode_perm_encode m h (encode m).edges (List.Perm.refl _)
  have e : ({ nodes := (encode m).nodes, edges := (encode m).edges } : Doc) = encode m := rfl
  rw [e] at this
  rw [this, Option.map_some, List.map_map]
  rfl

theorem loadModel_encode (m : Model) (h : NoRepeat m) : loadModel (encode m) = m.map reloadNode := by
  unfold loadModel; rw [loadDoc_encode m h]; rfl

theorem reload_reload (m : Model) : (m.map reloadNode).map reloadNode = m.map reloadNode := by
  rw [List.map_map]; exact List.map_congr_left fun n _ => reloadNode_idem n

end Deeprob.Io32
