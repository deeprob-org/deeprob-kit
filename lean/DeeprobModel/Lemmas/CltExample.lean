import DeeprobModel.Lemmas.CltMpe
import Mathlib.Algebra.Order.Field.Rat
import Mathlib.Tactic.NormNum.Basic
import Mathlib.Tactic.IntervalCases
/-
Concrete objects for the non-vacuity examples of Props/Clt.lean: a 4-variable Chow-Liu tree with
non-contiguous scope labels (7 → {2 → {4}, 9}), rational tables, one observed variable.
-/
namespace Deeprob
namespace Clt

section eval
variable {α : Type} [Zero α] [One α] [Add α] [Mul α] (scope : List Nat) (cpt : List (List (List α)))

mutual
/-- `up` by structural recursion (the children through `upsE` instead of `List.map`), so that closed instances
evaluate -/
def upE (scope : List Nat) (cpt : List (List (List α))) : RTree → Nat → Ev → α
  | .node i cs, l, e => match e (scope.getD i 0) with
    | some o => cptAt cpt i l o * upsE scope cpt cs o e
    | none => sumVar 2 (fun k => cptAt cpt i l k * upsE scope cpt cs k e)
/-- `msgAt` by structural recursion -/
def upsE (scope : List Nat) (cpt : List (List (List α))) : List RTree → Nat → Ev → α
  | [], _, _ => 1
  | c :: cs, k, e => upE scope cpt c k e * upsE scope cpt cs k e
end

theorem upsE_eq (cs : List RTree) (k : Nat) (e : Ev)
    (h : ∀ c ∈ cs, ∀ k, upE scope cpt c k e = up scope cpt c k e) :
    upsE scope cpt cs k e = msgAt scope cpt cs k e := by
  induction cs with
  | nil => rfl
  | cons c cs ih =>
    rw [upsE, msgAt, List.map_cons, lprod, h c List.mem_cons_self, ih (fun d hd => h d (List.mem_cons_of_mem _ hd))]
    rfl

theorem up_eq_upE (t : RTree) (l : Nat) (e : Ev) :
    up scope cpt t l e = upE scope cpt t l e := by
  induction t using RTree.ind generalizing l with
  | node i cs ih =>
    rw [up, upE]
    simp only [upsE_eq scope cpt cs _ e (fun c hc k => (ih c hc k).symm), msgAt]
    rfl

theorem msgAt_eq_upsE (cs : List RTree) (k : Nat) (e : Ev) :
    msgAt scope cpt cs k e = upsE scope cpt cs k e :=
  (upsE_eq scope cpt cs k e (fun c _ k => (up_eq_upE scope cpt c k e).symm)).symm

end eval

namespace Ex

/-- local indices: 0 → {1 → {3}, 2} -/
def tree : RTree := .node 0 [.node 1 [.node 3 []], .node 2 []]
/-- variable ids of the local indices 0,1,2,3 -/
def scope : List Nat := [7, 2, 9, 4]
/-- predecessor vector of `tree` -/
def pred : List Int := [-1, 0, 0, 1]
/-- `cpt[i][l][k] = P(X_i = k | parent = l)`; both rows of the root are equal -/
def cpt : List (List (List ℚ)) :=
  [[[3/10, 7/10], [3/10, 7/10]], [[1/5, 4/5], [3/5, 2/5]], [[1/2, 1/2], [9/10, 1/10]], [[1/4, 3/4], [13/20, 7/20]]]
/-- variable 2 observed with value 1, everything else missing -/
def ev : Ev := fun v => if v = 2 then some 1 else none
/-- a completion of `ev` -/
def full : Ev := fun v => if v = 2 then some 1 else if v = 7 then some 1 else if v = 9 then some 0 else if v = 4 then some 0 else none

theorem root_eq : rootOf pred = some 0 := by rfl
theorem build_eq : build pred pred.length 0 = tree := by rfl
theorem vars_eq : tree.vars = [0, 1, 3, 2] := by simp [tree, RTree.vars]
theorem lab_eq : lab scope tree = [7, 2, 4, 9] := by simp [lab, vars_eq, scope]
theorem lab_nodup : (lab scope tree).Nodup := by rw [lab_eq]; decide
theorem scope_nodup : scope.Nodup := by decide
theorem scope_len : scope.length = pred.length := by rfl
theorem isTree_eq : isTree pred = true := by
  have hb := build_eq
  simp only [isTree, root_eq, hb, vars_eq]
  simp [pred]
  omega

theorem cpt_pos : ∀ i ∈ tree.vars, ∀ l < 2, ∀ k < 2, 0 < cptAt cpt i l k := by
  rw [vars_eq]; decide +kernel

theorem cpt_nonneg : ∀ i l k, 0 ≤ cptAt cpt i l k :=
  cptAt_nonneg_of_forall cpt (by decide +kernel)

theorem rows : ∀ i ∈ tree.vars, ∀ l < 2, cptAt cpt i l 0 + cptAt cpt i l 1 = 1 := by
  rw [vars_eq]; decide +kernel

theorem root_rows : ∀ r, rootOf pred = some r → ∀ k, cptAt cpt r 0 k = cptAt cpt r 1 k := by
  intro r hr k
  rw [root_eq] at hr
  have : r = 0 := by simpa using hr.symm
  subst this
  unfold cptAt; split <;> simp [cpt]

theorem ev_obs : ∀ v ∈ lab scope tree, ∀ o, ev v = some o → o < 2 := by
  intro v _ o h
  unfold ev at h
  split at h
  · have : o = 1 := by simpa using h.symm
    omega
  · simp at h

theorem full_agree : ∀ v, ev v ≠ none → full v = ev v := by
  intro v h
  unfold ev at h ⊢
  unfold full
  by_cases hv : v = 2 <;> simp [hv] at h ⊢

theorem full_fill : ∀ v ∈ lab scope tree, full v ≠ none := by
  intro v hv
  rw [lab_eq] at hv
  simp only [List.mem_cons, List.not_mem_nil, or_false] at hv
  rcases hv with rfl | rfl | rfl | rfl <;> simp [full]

theorem full_lt : ∀ v ∈ lab scope tree, (full v).getD 0 < 2 := by
  intro v hv
  rw [lab_eq] at hv
  simp only [List.mem_cons, List.not_mem_nil, or_false] at hv
  rcases hv with rfl | rfl | rfl | rfl <;> simp [full]

theorem full_mis : ∀ v ∈ lab scope tree, ev v = none → ∃ k, k < 2 ∧ full v = some k := by
  intro v hv _
  rw [lab_eq] at hv
  simp only [List.mem_cons, List.not_mem_nil, or_false] at hv
  rcases hv with rfl | rfl | rfl | rfl <;> simp [full]

end Ex
end Clt
end Deeprob
