import DeeprobModel.Lemmas.CltFitLemmas
import DeeprobModel.Lemmas.CltLemmas
/-
A CLT whose table rows sum to one sends the all-missing evidence to 1
(`message_passing` with every entry NaN), for every rooted tree shape; the root of a rooted spanning tree
is the root `Clt.rootOf` finds.
-/
namespace Deeprob

/-- every variable index in the tree is `< n` -/
def RTree.Below (n : Nat) : RTree → Prop
  | .node i cs => i < n ∧ ∀ c ∈ cs, RTree.Below n c

theorem RTree.Below.vars_lt {n : Nat} {t : RTree} (h : t.Below n) : ∀ j ∈ t.vars, j < n := by
  induction t using RTree.ind with
  | node i cs ih =>
    rw [RTree.Below] at h
    intro j hj
    rw [RTree.vars, List.mem_cons, List.mem_flatten] at hj
    rcases hj with rfl | ⟨_, hm, hjl⟩
    · exact h.1
    · obtain ⟨c, hc, rfl⟩ := List.mem_map.1 hm
      exact ih c hc (h.2 c hc) j hjl

namespace Clt
variable {α : Type} [CommSemiring α]

theorem childrenOf_lt (pred : List Int) (j c : Nat) (h : c ∈ childrenOf pred j) : c < pred.length :=
  (mem_childrenOf_iff.1 h).1

theorem build_below (pred : List Int) (fuel i : Nat) (hi : i < pred.length) : (build pred fuel i).Below pred.length := by
  induction fuel generalizing i with
  | zero => rw [build, RTree.Below]; exact ⟨hi, fun _ hc => absurd hc List.not_mem_nil⟩
  | succ fuel ih =>
    rw [build, RTree.Below]
    refine ⟨hi, fun c hc => ?_⟩
    obtain ⟨j, hj, rfl⟩ := List.mem_map.1 hc
    exact ih j (childrenOf_lt pred i j hj)

/-- with nothing observed the message-passing value of the CLT is one -/
theorem value_none_one (scope : List Nat) (pred : List Int) (cpt : List (List (List α))) (r : Nat)
    (hroot : rootOf pred = some r) (hr : r < pred.length)
    (hrow : ∀ i, i < pred.length → ∀ l, l < 2 → cptAt cpt i l 0 + cptAt cpt i l 1 = 1) :
    value scope pred cpt (fun _ => none) = 1 := by
  rw [value_eq_up scope pred cpt hroot]
  exact up_all_missing scope cpt _ 0 (by omega) (fun i hi => hrow i ((build_below pred _ r hr).vars_lt i hi))

end Clt

namespace CltFit

theorem rootOf_of_isRST {pred : List Int} {root : Nat} (h : isRootedSpanningTree pred root = true) :
    Clt.rootOf pred = some root := by
  obtain ⟨hr, hm, hp, _⟩ := (isRST_iff pred root).mp h
  refine Clt.rootOf_eq_some_iff.2 ⟨hr, fun c hc => ?_⟩
  constructor
  · intro hcm
    rcases hp c hc with h1 | h1
    · exact h1
    · obtain ⟨p, hp'⟩ := Option.isSome_iff_exists.mp h1
      have := (parent_some hp').1
      rw [getD_irrel pred hc (-1) 0, hcm] at this
      omega
  · rintro rfl; exact hm

end CltFit
end Deeprob
