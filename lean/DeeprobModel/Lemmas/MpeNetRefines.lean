import DeeprobModel.Lemmas.TopDownNetLemmas
import DeeprobModel.Lemmas.PassLocal
import DeeprobModel.Lemmas.MpeLemmas
/-
The top-down MPE pass over the stored table (mask propagation, sharing visible) against the tree pass of
the unfoldings: topological orders `TopoOrd` of the table, the invariant `Inv` that relates the state of
the table pass to the tree passes of the nodes still to be processed, its preservation by one `tdStep`,
and the row the whole run ends with.  Props/C06Net.lean draws `mpeNet` = `mpeDescent` of the unfolded tree
from it.
-/
namespace Deeprob
open TCirc

/-- blocks whose concatenation is duplicate-free are pairwise disjoint -/
theorem disjoint_of_nodup_flatten_map {β : Type} (f : β → List Nat) (l : List β) (h : (l.map f).flatten.Nodup)
    (a b : β) (ha : a ∈ l) (hb : b ∈ l) (hab : a ≠ b) : List.Disjoint (f a) (f b) := by
  have hp : l.Pairwise fun a b => a ≠ b → List.Disjoint (f a) (f b) :=
    (List.pairwise_map.1 (List.nodup_flatten.1 h).2).imp fun {a b} h (_ : a ≠ b) => h
  exact hp.forall_of_forall_of_flip (fun _ _ h => absurd rfl h) (hp.imp fun {a b} h (hne : b ≠ a) => (h hne.symm).symm) ha hb hab

section
variable {α : Type}

/-- `ord` lists stored nodes only, none twice, and every child of a listed node later in the list (a
topological order, parents first, of a part of the table that is closed under children) -/
def TopoOrd (net : Net α) : List Nat → Prop
  | [] => True
  | k :: rest => k ∉ rest ∧ k < net.length ∧ (∀ c ∈ Net.chOf net k, c ∈ rest) ∧ TopoOrd net rest

theorem TopoOrd.lt_length {net : Net α} : ∀ {ord : List Nat}, TopoOrd net ord → ∀ j ∈ ord, j < net.length
  | [], _, j, hj => by simp at hj
  | k :: rest, h, j, hj => by
      unfold TopoOrd at h
      rcases List.mem_cons.1 hj with rfl | hj'
      · exact h.2.1
      · exact TopoOrd.lt_length h.2.2.2 j hj'

/-- reverse storage order of a children-first table is a topological order -/
theorem topoOrd_range_reverse (net : Net α) (hw : WellOrdered net) : ∀ k, k ≤ net.length → TopoOrd net (List.range k).reverse := by
  intro k
  induction k with
  | zero => intro _; trivial
  | succ k ih =>
    intro hk
    have hn := List.getElem?_eq_getElem (Nat.lt_of_succ_le hk)
    rw [List.range_succ, List.reverse_append, List.reverse_singleton, List.singleton_append]
    refine ⟨by simp, hk, fun c hc => ?_, ih (Nat.le_of_succ_le hk)⟩
    rw [Net.chOf, hn] at hc
    exact List.mem_reverse.2 (List.mem_range.2 (hw k _ hn c hc))

end

section
variable {α : Type} [CommSemiring α] [LinearOrder α]

theorem fillLocal_toTTree (net : Net α) (dens : List α) (isBern : Nat → Bool) :
    ∀ fuel i, FillLocal mpeFill (toTTree net dens isBern fuel i) := by
  have hdflt : FillLocal (α := α) mpeFill (.leaf [] (fun _ => 0) (fun x => x) (fun _ _ => 0)) := by
    unfold FillLocal; exact fun _ _ _ _ _ _ hv => nomatch hv
  intro fuel
  induction fuel with
  | zero => exact fun _ => hdflt
  | succ f ih =>
    intro i
    simp only [toTTree]
    cases net[i]? with
    | none => exact hdflt
    | some x =>
      simp only
      cases x.kind <;> simp only <;> unfold FillLocal
      · exact List.forall_mem_map.2 fun j _ => ih j
      · exact List.forall_mem_map.2 fun j _ => ih j
      · exact fun p q a b hab v hv => LeafP.mode_local _ _ x.scope a b hab v hv

variable (dom : Nat → Nat) (net : Net α) (dens : List α) (isBern : Nat → Bool) (e : Ev)
variable (hw : WellOrdered net) (hok : ∀ i (x : NNode α), net[i]? = some x → NodeOK dom net dens i x)

/-- unfolding of node `i` with exactly enough fuel -/
abbrev TT (i : Nat) : TCirc α := toTTree net dens isBern (i+1) i

include hw hok in
theorem TT_valid (i : Nat) (hi : i < net.length) : Circ.Valid dom (TT net dens isBern i).toCirc := by
  rw [TT, toCirc_toTTree]; exact valid_toTree dom net dens hw hok i hi

theorem TT_scope (i : Nat) : (TT net dens isBern i).scope = scopeOf net i := by
  rw [← scope_toCirc, TT, toCirc_toTTree]; exact scope_toTree_succ net dens i i

theorem map_scope_TT (ch : List Nat) :
    (ch.map fun c => TT net dens isBern c).map scope = ch.map (scopeOf net) := by
  rw [List.map_map]; exact List.map_congr_left fun c _ => TT_scope net dens isBern c

include hw in
theorem eval_TT (c : Nat) (hc : c < net.length) :
    TCirc.eval e (TT net dens isBern c) = (evalNet e dens net).getD c 0 := by
  rw [TCirc.eval, toCirc_toTTree, evalNet_refines e dens net hw c hc]

include hw in
/-- the tree-level arg-max at the unfolding of a stored sum node is the net-level one -/
theorem mpeBr_eq_sumMpeNet (k : Nat) (x : NNode α) (hn : net[k]? = some x) (p : List Nat) :
    mpeBr e p x.ws (x.ch.map fun c => TT net dens isBern c) = sumMpeNet (evalNet e dens net) x := by
  have hk := (List.getElem?_eq_some_iff.1 hn).1
  unfold mpeBr sumMpeNet
  rw [List.map_map]
  exact congrArg _ (congrArg _ (List.map_congr_left fun c hc =>
    eval_TT net dens isBern e hw c (Nat.lt_trans (hw k x hn c hc) hk)))

/-- the tree-level MPE pass of the unfolding of stored node `j` -/
def passTT (j : Nat) (row : Ev) : Ev := pass (mpeBr e) mpeFill [] (TT net dens isBern j) row

/-- invariant of the table pass when the nodes `U` are still to be processed: the reached nodes of `U`
have pairwise disjoint scopes; running the tree pass of each of them on the current row gives the
target on its scope; everything else already holds the target. -/
structure Inv (target : Ev) (U : List Nat) (st : TDState) : Prop where
  disj : ∀ a b, a ∈ U → b ∈ U → st.reach a = true → st.reach b = true → a ≠ b →
    List.Disjoint (scopeOf net a) (scopeOf net b)
  on : ∀ j, j ∈ U → st.reach j = true → ∀ v ∈ scopeOf net j,
    target v = passTT net dens isBern e j st.row v
  off : ∀ v, (∀ j, j ∈ U → st.reach j = true → v ∉ scopeOf net j) → target v = st.row v

theorem mpeBr_indep : ∀ (p q : List Nat) (ws : List α) (cs : List (TCirc α)), mpeBr e p ws cs = mpeBr e q ws cs :=
  fun _ _ _ _ => rfl

include hw hok in
/-- on its scope, the tree pass of a stored node depends on the scope entries of the row only -/
theorem pass_TT_local (j : Nat) (hj : j < net.length) (p q : List Nat) (a b : Ev)
    (hab : ∀ v ∈ scopeOf net j, a v = b v) : ∀ v ∈ scopeOf net j,
      pass (mpeBr e) mpeFill p (TT net dens isBern j) a v = pass (mpeBr e) mpeFill q (TT net dens isBern j) b v := by
  rw [← TT_scope net dens isBern j] at hab ⊢
  exact pass_local (mpeBr e) mpeFill dom (mpeBr_indep e) _ (TT_valid dom net dens isBern hw hok j hj)
    (fillLocal_toTTree net dens isBern _ _) p q a b hab

variable {dom net dens isBern e}

/-- a node that is not reached may be dropped from the nodes still to be processed -/
theorem Inv.tail {target : Ev} {k : Nat} {rest : List Nat} {st : TDState}
    (h : Inv net dens isBern e target (k :: rest) st) (hr : st.reach k ≠ true) :
    Inv net dens isBern e target rest st :=
  ⟨fun a b ha hb => h.disj a b (List.mem_cons_of_mem _ ha) (List.mem_cons_of_mem _ hb),
    fun j hj => h.on j (List.mem_cons_of_mem _ hj),
    fun v hv => h.off v fun j hj hrj => by
      rcases List.mem_cons.1 hj with rfl | hj'
      · exact absurd hrj hr
      · exact hv j hj' hrj⟩

/-- a reached inner node hands its scope over to the nodes `S` it marks: they are still to be processed,
their scopes are pairwise disjoint and cover the scope of the node, and on the scope of each of them the
tree pass of the node is the tree pass of that child -/
theorem Inv.push {target : Ev} {k : Nat} {rest : List Nat} {st : TDState}
    (h : Inv net dens isBern e target (k :: rest) st) (hknot : k ∉ rest) (hr : st.reach k = true)
    (S : List Nat) (reach' : Nat → Bool) (hreach : ∀ j, reach' j = true ↔ j ∈ S ∨ st.reach j = true)
    (hS : ∀ c ∈ S, c ∈ rest)
    (hdisj : ∀ a ∈ S, ∀ b ∈ S, a ≠ b → List.Disjoint (scopeOf net a) (scopeOf net b))
    (hsub : ∀ c ∈ S, ∀ v ∈ scopeOf net c, v ∈ scopeOf net k)
    (hcov : ∀ v ∈ scopeOf net k, ∃ c ∈ S, v ∈ scopeOf net c)
    (hon : ∀ c ∈ S, ∀ v ∈ scopeOf net c, passTT net dens isBern e k st.row v = passTT net dens isBern e c st.row v) :
    Inv net dens isBern e target rest ⟨reach', st.row⟩ := by
  have hne : ∀ j ∈ rest, j ≠ k := fun j hj hjk => hknot (hjk ▸ hj)
  have tl : ∀ {j}, j ∈ rest → j ∈ k :: rest := List.mem_cons_of_mem _
  have hd : k ∈ k :: rest := List.mem_cons_self
  refine ⟨?_, ?_, ?_⟩
  · intro a b ha hb hra hrb hab
    rcases (hreach a).1 hra with ha1 | ha1 <;> rcases (hreach b).1 hrb with hb1 | hb1
    · exact hdisj a ha1 b hb1 hab
    · exact fun v hva hvb => h.disj k b hd (tl hb) hr hb1 (hne b hb).symm (hsub a ha1 v hva) hvb
    · exact fun v hva hvb => h.disj a k (tl ha) hd ha1 hr (hne a ha) hva (hsub b hb1 v hvb)
    · exact h.disj a b (tl ha) (tl hb) ha1 hb1 hab
  · intro j hj hrj v hv
    rcases (hreach j).1 hrj with hj1 | hj1
    · rw [h.on k hd hr v (hsub j hj1 v hv)]; exact hon j hj1 v hv
    · exact h.on j (tl hj) hj1 v hv
  · intro v hv
    refine h.off v fun j hj hrj hvj => ?_
    rcases List.mem_cons.1 hj with rfl | hj'
    · obtain ⟨c, hc, hvc⟩ := hcov v hvj
      exact hv c (hS c hc) ((hreach c).2 (Or.inl hc)) hvc
    · exact hv j hj' ((hreach j).2 (Or.inr hrj)) hvj

variable (dom net dens isBern e)

include hw hok in
theorem inv_step (target : Ev) (k : Nat) (rest : List Nat) (hknot : k ∉ rest) (x : NNode α) (hn : net[k]? = some x)
    (hch : ∀ c ∈ x.ch, c ∈ rest) (hrest : ∀ j ∈ rest, j < net.length) (st : TDState)
    (h : Inv net dens isBern e target (k :: rest) st) :
    Inv net dens isBern e target rest (tdStep net (evalNet e dens net) isBern st k) := by
  have hk := (List.getElem?_eq_some_iff.1 hn).1
  have hsck : scopeOf net k = x.scope := by simp only [scopeOf, hn]
  have tl : ∀ {j}, j ∈ rest → j ∈ k :: rest := List.mem_cons_of_mem _
  have hd : k ∈ k :: rest := List.mem_cons_self
  unfold tdStep
  rw [hn]
  by_cases hr : st.reach k = true
  swap
  · simp only [hr]; exact h.tail hr
  simp only [hr, if_true]
  have hchlt : ∀ c ∈ x.ch, c < net.length := fun c hc => Nat.lt_trans (hw k x hn c hc) hk
  have hnode := hok k x hn
  unfold NodeOK at hnode
  have hTk := toTTree_node dens isBern hw hn
  cases hkind : x.kind <;> simp only [hkind] at hTk hnode ⊢
  · -- sum: only the arg-max child `c` is marked, `Inv.push` with `S = [c]`. The child has the scope of the
    -- node (`NodeOK`), and the tree pass of `k` descends into `c` only, so on that scope it is the tree pass
    -- of `c` (`pass_TT_local`).
    obtain ⟨hne, hlen, hsc⟩ := hnode
    have hbr := mpeBr_eq_sumMpeNet net dens isBern e hw k x hn
    have hblt : sumMpeNet (evalNet e dens net) x < x.ch.length := by
      have := TD.argmax_zipWith_lt x.ws (x.ch.map fun c => (evalNet e dens net).getD c 0)
        (mt List.map_eq_nil_iff.1 hne) (by rw [List.length_map]; exact hlen)
      rwa [List.length_map] at this
    generalize sumMpeNet (evalNet e dens net) x = b at hblt hbr ⊢
    have hcb : x.ch[b]? = some x.ch[b] := List.getElem?_eq_getElem hblt
    have hcmem : x.ch[b] ∈ x.ch := List.getElem_mem hblt
    generalize x.ch[b] = c at hcb hcmem
    have hsceq : ∀ v, v ∈ scopeOf net c ↔ v ∈ scopeOf net k := fun v => hsck ▸ hsc c hcmem v
    refine h.push hknot hr [c] _
      (fun j => by rw [hcb, Bool.or_eq_true, beq_iff_eq, Option.some.injEq, List.mem_singleton, eq_comm])
      (fun _ hc => List.mem_singleton.1 hc ▸ hch c hcmem)
      (fun a ha b hb hab => absurd ((List.mem_singleton.1 ha).trans (List.mem_singleton.1 hb).symm) hab)
      (fun _ hc v hv => (hsceq v).1 (List.mem_singleton.1 hc ▸ hv))
      (fun v hv => ⟨c, List.mem_singleton_self c, (hsceq v).2 hv⟩) ?_
    intro c' hc' v hv
    rw [List.mem_singleton.1 hc'] at hv ⊢
    unfold passTT
    rw [TT, hTk]
    simp only [pass, passAt_eq, hbr, List.getElem?_map, hcb, Option.map_some]
    exact pass_TT_local dom net dens isBern e hw hok c (hchlt c hcmem) _ _ _ _ (fun _ _ => rfl) v hv
  · -- product: every child is marked, `Inv.push` with `S = x.ch`. The scopes of the children are pairwise
    -- disjoint and cover the scope of the node (`NodeOK`), and on the scope of one child the tree pass through
    -- all children is the tree pass of that child (`passAll_pointwise`).
    obtain ⟨hnd, hsc⟩ := hnode
    refine h.push hknot hr x.ch _ (fun j => by simp) hch
      (fun a ha b hb hab => disjoint_of_nodup_flatten_map (scopeOf net) _ hnd a b ha hb hab)
      (fun c hc v hv => hsck ▸ (hsc v).1 (List.mem_flatten_of_mem (List.mem_map_of_mem hc) hv))
      (fun v hv => by
        obtain ⟨s, hs, hvs⟩ := List.mem_flatten.1 ((hsc v).2 (hsck ▸ hv))
        obtain ⟨c, hc, rfl⟩ := List.mem_map.1 hs
        exact ⟨c, hc, hvs⟩) ?_
    intro c hc v hv
    unfold passTT
    rw [TT, hTk]
    simp only [pass]
    exact passAll_pointwise (mpeBr e) mpeFill dom (mpeBr_indep e) _
      (by rw [map_scope_TT]; exact hnd)
      (List.forall_mem_map.2 fun i hi => TT_valid dom net dens isBern hw hok i (hchlt i hi))
      (List.forall_mem_map.2 fun i _ => fillLocal_toTTree net dens isBern _ _) [] [] 0 st.row
      _ (List.mem_map_of_mem hc) v (by rw [TT_scope]; exact hv)
  · -- leaf: the node writes its mode on its own scope; the other reached nodes have scopes disjoint from it,
    -- so their tree passes do not see the write (`pass_TT_local`).
    have hpass : ∀ y : Ev, passTT net dens isBern e k y = writeScope x.scope (x.leaf.mode (isBern k) y) y := by
      intro y; rw [passTT, TT, hTk]; simp only [pass, mpeFill]
    refine ⟨fun a b ha hb => h.disj a b (tl ha) (tl hb), ?_, ?_⟩
    · intro j hj hrj v hv
      rw [h.on j (tl hj) hrj v hv]
      refine pass_TT_local dom net dens isBern e hw hok j (hrest j hj) [] [] _ _ (fun w hwj => ?_) v hv
      have hjk : j ≠ k := fun hjk => hknot (hjk ▸ hj)
      exact (writeScope_not_mem _ _ _ fun hc => h.disj j k (tl hj) hd hrj hr hjk hwj (hsck ▸ hc)).symm
    · intro v hv
      dsimp only
      by_cases hvk : v ∈ x.scope
      · rw [h.on k hd hr v (hsck ▸ hvk), hpass]
      · rw [writeScope_not_mem _ _ _ hvk]
        refine h.off v fun j hj hrj => ?_
        rcases List.mem_cons.1 hj with rfl | hj'
        · rwa [hsck]
        · exact hv j hj' hrj

include hw hok in
theorem inv_run (target : Ev) : ∀ ord : List Nat, TopoOrd net ord → ∀ st : TDState, Inv net dens isBern e target ord st →
    (ord.foldl (tdStep net (evalNet e dens net) isBern) st).row = target := by
  intro ord
  induction ord with
  | nil =>
    intro _ st h
    funext v
    exact (h.off v (fun j hj => nomatch hj)).symm
  | cons k rest ih =>
    intro ht st h
    obtain ⟨hknot, hk, hch, hrest⟩ := ht
    have hn := List.getElem?_eq_getElem hk
    rw [List.foldl_cons]
    refine ih hrest _ (inv_step dom net dens isBern e hw hok target k rest hknot _ hn ?_ (TopoOrd.lt_length hrest) st h)
    simpa only [Net.chOf, hn] using hch

end
end Deeprob
