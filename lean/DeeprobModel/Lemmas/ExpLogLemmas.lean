import DeeprobModel.Spec.ExpLog
import Mathlib.Algebra.Order.Field.Basic
/-
Consequences of the laws of `ExpLog` (exponential and logarithm of an ordered field given by their laws): the
algebra that the log-domain code paths need.
-/
namespace Deeprob.ExpLog

variable {F : Type} [Field F] [LinearOrder F] (E : ExpLog F)

theorem exp_ne_zero (a : F) : E.exp a ≠ 0 := (E.exp_pos a).ne'

theorem exp_mul_exp_neg (a : F) : E.exp a * E.exp (-a) = 1 := by
  rw [← E.exp_add, add_neg_cancel, E.exp_zero]

theorem exp_neg_mul_exp (a : F) : E.exp (-a) * E.exp a = 1 := by
  rw [mul_comm, E.exp_mul_exp_neg]

theorem exp_sub (a b : F) : E.exp (a - b) = E.exp a / E.exp b := by
  rw [eq_div_iff (E.exp_ne_zero b), ← E.exp_add, sub_add_cancel]

theorem log_one : E.log 1 = 0 := by rw [← E.exp_zero, E.log_exp]

theorem exp_log_add {a b : F} (ha : 0 < a) (hb : 0 < b) : E.exp (E.log a + E.log b) = a * b := by
  rw [E.exp_add, E.exp_log a ha, E.exp_log b hb]

theorem log_mul {a b : F} (ha : 0 < a) (hb : 0 < b) : E.log (a * b) = E.log a + E.log b := by
  rw [← E.exp_log_add ha hb, E.log_exp]

theorem log_div [IsStrictOrderedRing F] {a b : F} (ha : 0 < a) (hb : 0 < b) : E.log (a / b) = E.log a - E.log b := by
  rw [eq_sub_iff_add_eq, ← E.log_mul (div_pos ha hb) hb, div_mul_cancel₀ a hb.ne']

theorem sqrt_ne_zero {a : F} (ha : 0 < a) : E.sqrt a ≠ 0 := by
  intro h
  have := E.sqrt_sq a ha.le
  rw [h, zero_mul] at this
  exact ha.ne this

theorem sqrt_pos {a : F} (ha : 0 < a) : 0 < E.sqrt a :=
  lt_of_le_of_ne (E.sqrt_nonneg a) (E.sqrt_ne_zero ha).symm

/-- `log √a = ½ log a`, the half given by `half + half = 1` -/
theorem log_sqrt (half : F) (hhalf : half + half = 1) {a : F} (ha : 0 < a) : E.log (E.sqrt a) = half * E.log a := by
  have h := E.log_mul (E.sqrt_pos ha) (E.sqrt_pos ha)
  rw [E.sqrt_sq a ha.le] at h
  rw [h, mul_add, ← add_mul, hhalf, one_mul]

theorem map_exp_log (vs : List F) (h : ∀ v ∈ vs, 0 < v) : (vs.map E.log).map E.exp = vs := by
  rw [List.map_map]
  exact (List.map_congr_left fun v hv => E.exp_log v (h v hv)).trans (List.map_id _)

/-- a log-value written under a mask (`zeros`, then `lls[mask] = log …`) exponentiates to the value written under the
same mask (`ones`, then `ls[mask] = …`) -/
theorem exp_ite_log (c : Bool) (a : F) (h : 0 < if c then a else 1) :
    E.exp (if c then E.log a else 0) = if c then a else 1 := by
  cases c
  · exact E.exp_zero
  · exact E.exp_log a h

end Deeprob.ExpLog
