import DeeprobModel.Lemmas.XpcSdLemmas
/-
The tree `build_trees_dict` stores for the columns of depth `d` is the chain of the block trees (the root of
every block tree hangs under the root of the previous block), hence every scope `get_scopes()` reports
for a Chow-Liu leaf using it is admissible (`Xpc.InFamily`).
-/
namespace Deeprob
open List

namespace Clt

theorem build_succ (P : List Int) (f i : Nat) :
    build P (f + 1) i = .node i ((childrenOf P i).map (build P f)) := rfl

theorem vars_length_pos (t : RTree) : 1 ≤ t.vars.length := by
  cases t with
  | node i cs => simp [RTree.vars]

theorem vars_length_build_child (P : List Int) (f : Nat) {i c : Nat} (hc : c ∈ childrenOf P i) :
    (build P f c).vars.length + 1 ≤ (build P (f + 1) i).vars.length := by
  rw [build_succ, RTree.vars, List.length_cons, List.map_map]
  exact Nat.succ_le_succ
    (List.sublist_flatten_of_mem (List.mem_map_of_mem (f := RTree.vars ∘ build P f) hc)).length_le

/-- an unfolding with fuel `n` that has at most `n` nodes is complete: fuel `n - 1` and any larger fuel give
the same tree -/
theorem build_fuel_irrel (P : List Int) (n i : Nat) (h : (build P n i).vars.length ≤ n) :
    ∀ g, n ≤ g + 1 → build P g i = build P n i := by
  induction n generalizing i with
  | zero =>
    have := vars_length_pos (build P 0 i)
    omega
  | succ n ih =>
    intro g hg
    have hc : ∀ c ∈ childrenOf P i, (build P n c).vars.length ≤ n := by
      intro c hc
      have := vars_length_build_child P n hc
      omega
    cases g with
    | zero =>
      -- then `n = 0`, and a child would have no variables at all
      obtain rfl : n = 0 := by omega
      have hnil : childrenOf P i = [] := by
        apply List.eq_nil_iff_forall_not_mem.2
        intro c hcm
        have h1 := vars_length_pos (build P 0 c)
        have h2 := hc c hcm
        omega
      rw [build_succ, hnil]
      rfl
    | succ g =>
      rw [build_succ, build_succ]
      congr 1
      exact List.map_congr_left fun c hcm => ih c (hc c hcm) g (by omega)

theorem mem_vars_build (P : List Int) (f i x : Nat) (hi : i < P.length) (hx : x ∈ (build P f i).vars) :
    x = i ∨ ∃ p, p < P.length ∧ x ∈ childrenOf P p := by
  induction f generalizing i with
  | zero =>
    rw [build, RTree.vars] at hx
    exact Or.inl (List.mem_singleton.1 hx)
  | succ f ih =>
    rw [build_succ] at hx
    simp only [RTree.vars, List.mem_cons, List.mem_flatten, List.mem_map] at hx
    rcases hx with rfl | ⟨l, ⟨t, ⟨c, hc, rfl⟩, rfl⟩, hxl⟩
    · exact Or.inl rfl
    · rcases ih c (childrenOf_lt P i c hc) hxl with rfl | h
      · exact Or.inr ⟨i, hi, hc⟩
      · exact Or.inr h

section isTree
variable {P : List Int} {r : Nat} (ht : isTree P = true) (hr : rootOf P = some r)
include ht hr

theorem isTree_root_perm : (build P P.length r).vars.Perm (List.range P.length) := by
  obtain ⟨r', hr', hperm⟩ := isTree_perm ht
  rw [hr] at hr'
  cases hr'
  exact hperm

theorem isTree_stable : ∀ f, P.length ≤ f + 1 → build P f r = build P P.length r :=
  build_fuel_irrel P P.length r (by rw [(isTree_root_perm ht hr).length_eq, List.length_range])

theorem isTree_parent : ∀ j, j < P.length → j ≠ r → ∃ p, p < P.length ∧ P.getD j (-1) = (p : Int) := by
  intro j hj hne
  have hjm : j ∈ (build P P.length r).vars := (isTree_root_perm ht hr).mem_iff.2 (List.mem_range.2 hj)
  rcases mem_vars_build P P.length _ _ (rootOf_eq_some_iff.1 hr).1 hjm with h | ⟨p, hp, hjp⟩
  · exact absurd h hne
  · exact ⟨p, hp, mem_childrenOf hjp⟩

end isTree

/-- `P` encodes a rooted spanning tree with root `r` -/
structure Rooted (P : List Int) (r : Nat) : Prop where
  tree : isTree P = true
  root : rootOf P = some r

theorem Rooted.of_isTree {P : List Int} (h : isTree P = true) : ∃ r, Rooted P r := by
  obtain ⟨r, hr, _⟩ := isTree_perm h
  exact ⟨r, h, hr⟩

section rooted
variable {P : List Int} {r : Nat} (h : Rooted P r)
include h

theorem Rooted.lt : r < P.length := (rootOf_eq_some_iff.1 h.root).1

theorem Rooted.perm : (build P P.length r).vars.Perm (List.range P.length) := isTree_root_perm h.tree h.root

theorem Rooted.stable : ∀ f, P.length ≤ f + 1 → build P f r = build P P.length r := isTree_stable h.tree h.root

theorem Rooted.entry {c : Nat} (hc : c < P.length) :
    (c = r ∧ P.getD c (-1) = -1) ∨ (c ≠ r ∧ ∃ p, p < P.length ∧ P.getD c (-1) = (p : Int)) := by
  by_cases hcr : c = r
  · exact Or.inl ⟨hcr, hcr ▸ rootOf_spec h.root⟩
  · exact Or.inr ⟨hcr, isTree_parent h.tree h.root c hc hcr⟩

theorem Rooted.child_ne_root {c c' : Nat} (hc : c' ∈ childrenOf P c) : c' ≠ r := by
  intro hcs
  have h1 := mem_childrenOf hc
  rcases h.entry (childrenOf_lt P c c' hc) with ⟨_, h2⟩ | ⟨hne, _⟩
  · omega
  · exact hne hcs

end rooted

theorem subtree_vars_sub (t : RTree) : ∀ u ∈ t.subtrees, ∀ i ∈ u.vars, i ∈ t.vars := by
  induction t using RTree.ind with
  | node j cs ih =>
    intro u hu i hi
    rcases (subtrees_node j cs u).1 hu with rfl | ⟨c, hc, huc⟩
    · exact hi
    · rw [RTree.vars]
      exact List.mem_cons_of_mem _ (List.mem_flatten.2 ⟨_, List.mem_map_of_mem hc, ih c hc u huc i hi⟩)

end Clt
namespace Xpc
open Clt

/-- the vector after one round: `P` with its root re-hung under the root `s` of the shifted `Q` -/
def concatPred (P Q : List Int) (r s : Nat) : List Int :=
  (P ++ shiftPred P.length Q).set r ((P.length + s : Nat) : Int)

section round
variable {P Q : List Int} {r s : Nat}

theorem concatPred_length : (concatPred P Q r s).length = P.length + Q.length := by
  unfold concatPred shiftPred
  rw [List.length_set, List.length_append, List.length_map]

theorem concatPred_left {c : Nat} (hc : c < P.length) (hne : c ≠ r) (a : Int) :
    (concatPred P Q r s).getD c a = P.getD c a := by
  unfold concatPred
  rw [List.getD_eq_getElem?_getD, List.getD_eq_getElem?_getD, List.getElem?_set_ne (Ne.symm hne),
    List.getElem?_append_left hc]

theorem concatPred_root (hr : r < P.length) (a : Int) :
    (concatPred P Q r s).getD r a = ((P.length + s : Nat) : Int) := by
  unfold concatPred
  rw [List.getD_eq_getElem?_getD, List.getElem?_set_self (by rw [List.length_append]; omega)]
  rfl

theorem concatPred_right (hr : r < P.length) {j : Nat} (hj : j < Q.length) (a : Int) :
    (concatPred P Q r s).getD (P.length + j) a =
      if Q.getD j a = -1 then -1 else Q.getD j a + (P.length : Int) := by
  unfold concatPred
  rw [List.getD_eq_getElem?_getD, List.getElem?_set_ne (by omega), List.getElem?_append_right (by omega)]
  simp only [Nat.add_sub_cancel_left, shiftPred, List.getElem?_map, List.getD_eq_getElem?_getD,
    List.getElem?_eq_getElem hj, Option.map_some, Option.getD_some]
  exact ite_congr rfl (fun h => h) (fun _ => rfl)

end round

mutual
/-- the same tree over the indices shifted by `m` -/
def _root_.Deeprob.RTree.shift (m : Nat) : RTree → RTree
  | .node i cs => .node (m + i) (RTree.shiftL m cs)
termination_by structural t => t
/-- `cs.map (RTree.shift m)` (`shift_node`), spelled out so that the recursion is structural -/
def _root_.Deeprob.RTree.shiftL (m : Nat) : List RTree → List RTree
  | [] => []
  | c :: cs => c.shift m :: RTree.shiftL m cs
termination_by structural l => l
end

theorem shift_node (m i : Nat) (cs : List RTree) :
    (RTree.node i cs).shift m = .node (m + i) (cs.map (RTree.shift m)) := by
  have hL : ∀ l : List RTree, RTree.shiftL m l = l.map (RTree.shift m) := by
    intro l
    induction l with
    | nil => rfl
    | cons c l ih => rw [RTree.shiftL, ih, List.map_cons]
  rw [RTree.shift, hL]

theorem vars_shift (m : Nat) (t : RTree) : (t.shift m).vars = t.vars.map (m + ·) := by
  induction t using RTree.ind with
  | node i cs ih =>
    rw [shift_node, RTree.vars, RTree.vars, List.map_cons, List.map_flatten, List.map_map, List.map_map]
    congr 2
    exact List.map_congr_left ih

theorem subtrees_shift (m : Nat) (t : RTree) : (t.shift m).subtrees = t.subtrees.map (RTree.shift m) := by
  induction t using RTree.ind with
  | node i cs ih =>
    rw [shift_node, RTree.subtrees, RTree.subtrees, List.map_cons, shift_node, List.map_flatten,
      List.map_map, List.map_map]
    congr 2
    exact List.map_congr_left ih

theorem lab_shift (S B : List Nat) (t : RTree) : lab (S ++ B) (t.shift S.length) = lab B t := by
  unfold lab
  rw [vars_shift, List.map_map]
  apply List.map_congr_left
  intro i _
  simp only [Function.comp, List.getD_eq_getElem?_getD]
  rw [List.getElem?_append_right (by omega), Nat.add_sub_cancel_left]

theorem lab_append_left {S : List Nat} (B : List Nat) {t : RTree} (hb : ∀ i ∈ t.vars, i < S.length) :
    lab (S ++ B) t = lab S t := by
  unfold lab
  apply List.map_congr_left
  intro i hi
  rw [List.getD_eq_getElem?_getD, List.getD_eq_getElem?_getD, List.getElem?_append_left (hb i hi)]

theorem isTree_of_perm {N : List Int} {r' : Nat} (hr : rootOf N = some r')
    (hp : (build N N.length r').vars.Perm (List.range N.length)) : isTree N = true := by
  unfold isTree
  rw [hr]
  simp only [Bool.and_eq_true, beq_iff_eq, List.all_eq_true, List.mem_range, List.contains_iff_mem]
  refine ⟨by rw [hp.length_eq, List.length_range], ?_⟩
  intro i hi
  exact hp.mem_iff.2 (List.mem_range.2 hi)

/-- the variables of `build N f i`, computed without the tree (closed instances evaluate) -/
def buildVars (N : List Int) : Nat → Nat → List Nat
  | 0, i => [i]
  | f + 1, i => i :: ((childrenOf N i).map (buildVars N f)).flatten

theorem vars_build_eq (N : List Int) (f i : Nat) : (build N f i).vars = buildVars N f i := by
  induction f generalizing i with
  | zero => rw [build, RTree.vars, buildVars]; rfl
  | succ f ih =>
    rw [build_succ, RTree.vars, buildVars, List.map_map]
    congr 2
    exact List.map_congr_left fun c _ => ih c

theorem isTree_of_buildVars {N : List Int} {r' : Nat} (hr : rootOf N = some r')
    (hp : (buildVars N N.length r').Perm (List.range N.length)) : isTree N = true :=
  isTree_of_perm hr (vars_build_eq N N.length r' ▸ hp)

theorem idxOf_root {P : List Int} {r : Nat} (hr : rootOf P = some r) : (-1 : Int) ∈ P ∧ P.idxOf (-1) = r := by
  obtain ⟨hlt, huniq⟩ := rootOf_eq_some_iff.1 hr
  have hroot := (huniq r hlt).2 rfl
  rw [List.getD_eq_getElem _ _ hlt] at hroot
  have hmem : (-1 : Int) ∈ P := hroot ▸ List.getElem_mem hlt
  have hi : P.idxOf (-1) < P.length := List.idxOf_lt_length_iff.2 hmem
  refine ⟨hmem, (huniq _ hi).1 ?_⟩
  rw [List.getD_eq_getElem _ _ hi]
  exact List.getElem_idxOf hi

theorem idxOf_map_of_iff {f : Int → Int} {a : Int} (l : List Int) (h : ∀ x ∈ l, f x = a ↔ x = a) :
    (l.map f).idxOf a = l.idxOf a := by
  induction l with
  | nil => rfl
  | cons x l ih =>
    have hx : (f x == a) = (x == a) := by
      rw [Bool.eq_iff_iff, beq_iff_eq, beq_iff_eq]
      exact h x List.mem_cons_self
    rw [List.map_cons, List.idxOf_cons, List.idxOf_cons, hx, ih fun y hy => h y (List.mem_cons_of_mem _ hy)]

section rootIdx
variable {P Q : List Int} {r s : Nat}

theorem rootIdx_left (hrP : rootOf P = some r) (X : List Int) : rootIdxFrom (P ++ X) 0 = r := by
  unfold rootIdxFrom
  rw [List.drop_zero, Nat.zero_add, List.idxOf_append_of_mem (idxOf_root hrP).1, (idxOf_root hrP).2]

theorem rootIdx_right (hQ : Rooted Q s) (P : List Int) :
    rootIdxFrom (P ++ shiftPred P.length Q) P.length = P.length + s := by
  -- shifting keeps `-1` and moves no other entry of a well-formed vector to `-1`
  have hshift : ∀ x ∈ Q, (if x = -1 then x else x + (P.length : Int)) = -1 ↔ x = -1 := by
    intro x hx
    obtain ⟨j, hj, rfl⟩ := List.getElem_of_mem hx
    rcases hQ.entry hj with ⟨_, h⟩ | ⟨_, p, _, h⟩ <;> rw [List.getD_eq_getElem _ _ hj] at h <;> rw [h]
    · rw [if_pos rfl]
    · rw [if_neg (by omega)]; omega
  unfold rootIdxFrom shiftPred
  rw [List.drop_left, idxOf_map_of_iff Q hshift, (idxOf_root hQ.root).2]

end rootIdx

section concat
variable {P Q : List Int} {r s : Nat} (hP : Rooted P r) (hQ : Rooted Q s)
include hP hQ

theorem childrenOf_concat_left {i : Nat} (hi : i < P.length) :
    childrenOf (concatPred P Q r s) i = childrenOf P i := by
  have hr := hP.lt
  unfold childrenOf
  rw [concatPred_length, List.range_add, List.filter_append]
  have h2 : ((List.range Q.length).map (P.length + ·)).filter
      (fun c => (concatPred P Q r s).getD c (-1) == (i : Int)) = [] := by
    rw [List.filter_eq_nil_iff]
    intro c hc
    obtain ⟨j, hj, rfl⟩ := List.mem_map.1 hc
    have hj' := List.mem_range.1 hj
    rw [concatPred_right hr hj', beq_iff_eq]
    rcases hQ.entry hj' with ⟨_, h⟩ | ⟨_, p, _, h⟩
    · rw [h, if_pos rfl]; omega
    · rw [h, if_neg (by omega)]; omega
  rw [h2, List.append_nil]
  apply List.filter_congr
  intro c hc
  have hc' := List.mem_range.1 hc
  rcases hP.entry hc' with ⟨hcr, h⟩ | ⟨hne, p, _, h⟩
  · rw [hcr, concatPred_root hr, ← hcr, h, Bool.eq_iff_iff, beq_iff_eq, beq_iff_eq]
    omega
  · rw [concatPred_left hc' hne]

theorem childrenOf_concat_right (c : Nat) :
    childrenOf (concatPred P Q r s) (P.length + c) =
      (if c = s then [r] else []) ++ (childrenOf Q c).map (P.length + ·) := by
  have hr := hP.lt
  unfold childrenOf
  rw [concatPred_length, List.range_add, List.filter_append]
  congr 1
  · -- among the entries of `P` only the root can point into the shifted block
    have hentry : ∀ c', c' < P.length →
        ((concatPred P Q r s).getD c' (-1) = ((P.length + c : Nat) : Int) ↔ c' = r ∧ c = s) := by
      intro c' hc'
      rcases hP.entry hc' with ⟨hcr, _⟩ | ⟨hne, p, hp, h⟩
      · rw [hcr, concatPred_root hr]; omega
      · rw [concatPred_left hc' hne, h]; omega
    split
    · rename_i hcs
      apply filter_range_singleton _ r _ hr
      intro c' hc'
      rw [beq_iff_eq, hentry c' hc']
      exact and_iff_left hcs
    · rename_i hcs
      rw [List.filter_eq_nil_iff]
      intro c' hc'
      rw [beq_iff_eq, hentry c' (List.mem_range.1 hc')]
      exact fun h => hcs h.2
  · rw [List.filter_map]
    congr 1
    apply List.filter_congr
    intro j hj
    have hj' := List.mem_range.1 hj
    simp only [Function.comp]
    rw [concatPred_right hr hj', Bool.eq_iff_iff, beq_iff_eq, beq_iff_eq]
    rcases hQ.entry hj' with ⟨_, h⟩ | ⟨_, p, _, h⟩
    · rw [h, if_pos rfl]; omega
    · rw [h, if_neg (by omega)]; omega

theorem build_concat_left (f : Nat) {i : Nat} (hi : i < P.length) :
    build (concatPred P Q r s) f i = build P f i := by
  induction f generalizing i with
  | zero => rfl
  | succ f ih =>
    rw [build_succ, build_succ, childrenOf_concat_left hP hQ hi]
    congr 1
    exact List.map_congr_left fun c hc => ih (childrenOf_lt P i c hc)

theorem build_concat_right (f : Nat) {c : Nat} (hne : c ≠ s) :
    build (concatPred P Q r s) f (P.length + c) = (build Q f c).shift P.length := by
  induction f generalizing c with
  | zero => rw [build, build, shift_node, List.map_nil]
  | succ f ih =>
    rw [build_succ, build_succ, childrenOf_concat_right hP hQ c, if_neg hne, List.nil_append,
      shift_node, List.map_map, List.map_map]
    congr 1
    exact List.map_congr_left fun c' hc' => ih (hQ.child_ne_root hc')

/-- the tree after one round: the old tree hangs as first child under the root of the shifted block tree -/
theorem build_concat_root : ∃ cs, build Q Q.length s = .node s cs ∧
    build (concatPred P Q r s) (P.length + Q.length) (P.length + s) =
      .node (P.length + s) (build P P.length r :: cs.map (RTree.shift P.length)) := by
  have hq := hQ.lt
  obtain ⟨g, hg⟩ : ∃ g, P.length + Q.length = g + 1 := ⟨P.length + Q.length - 1, by omega⟩
  refine ⟨(childrenOf Q s).map (build Q g), ?_, ?_⟩
  · rw [← hQ.stable (g + 1) (by omega), build_succ]
  · rw [hg, build_succ, childrenOf_concat_right hP hQ s, if_pos rfl, List.singleton_append, List.map_cons,
      build_concat_left hP hQ g hP.lt, hP.stable g (by omega), List.map_map, List.map_map]
    congr 2
    exact List.map_congr_left fun c hc => build_concat_right hP hQ g (hQ.child_ne_root hc)

theorem rootOf_concat :
    rootOf (concatPred P Q r s) = some (P.length + s) := by
  have hr := hP.lt
  have hs := hQ.lt
  refine rootOf_eq_some_iff.2 ⟨by rw [concatPred_length]; omega, fun c hc => ?_⟩
  rw [concatPred_length] at hc
  by_cases hcm : c < P.length
  · rcases hP.entry hcm with ⟨hcr, h⟩ | ⟨hne, p, _, h⟩
    · rw [hcr, concatPred_root hr]; omega
    · rw [concatPred_left hcm hne, CltFit.getD_irrel P hcm 0 (-1), h]; omega
  · obtain ⟨j, rfl⟩ : ∃ j, c = P.length + j := ⟨c - P.length, by omega⟩
    have hj : j < Q.length := by omega
    rw [concatPred_right hr hj, CltFit.getD_irrel Q hj 0 (-1)]
    rcases hQ.entry hj with ⟨hjs, h⟩ | ⟨hne, p, _, h⟩
    · rw [h, if_pos rfl, hjs]; simp
    · rw [h, if_neg (by omega)]; omega

theorem rooted_concat : Rooted (concatPred P Q r s) (P.length + s) := by
  have hroot := rootOf_concat hP hQ
  refine ⟨isTree_of_perm hroot ?_, hroot⟩
  obtain ⟨cs, hQs, hN⟩ := build_concat_root hP hQ
  have h1 : ((RTree.node s cs).shift P.length).vars.Perm ((List.range Q.length).map (P.length + ·)) := by
    rw [vars_shift, ← hQs]
    exact hQ.perm.map _
  rw [shift_node, RTree.vars] at h1
  rw [concatPred_length, hN, RTree.vars, List.map_cons, List.flatten_cons, List.range_add]
  exact List.perm_middle.symm.trans (hP.perm.append h1)

/-- a sub-tree of the tree after one round is the whole tree, a sub-tree of the old tree (same labels) or a
shifted sub-tree of the block tree -/
theorem subtrees_concat {S : List Nat} (B : List Nat) (hl : P.length = S.length)
    {u : RTree} (hu : u ∈ (blockTree (concatPred P Q r s)).subtrees) :
    u = blockTree (concatPred P Q r s) ∨ (u ∈ (blockTree P).subtrees ∧ lab (S ++ B) u = lab S u) ∨
    ∃ u' ∈ (blockTree Q).subtrees, lab (S ++ B) u = lab B u' := by
  obtain ⟨cs, hQs, hN⟩ := build_concat_root hP hQ
  rw [blockTree_eq hP.root, blockTree_eq hQ.root, hQs]
  rw [blockTree_eq (rootOf_concat hP hQ), concatPred_length, hN] at hu ⊢
  rcases (subtrees_node _ _ u).1 hu with rfl | ⟨c, hc, huc⟩
  · exact Or.inl rfl
  · rcases List.mem_cons.1 hc with rfl | hc
    · refine Or.inr (Or.inl ⟨huc, lab_append_left B fun i hi => ?_⟩)
      rw [← hl]
      exact List.mem_range.1 (hP.perm.mem_iff.1 (subtree_vars_sub _ u huc i hi))
    · obtain ⟨c', hc', rfl⟩ := List.mem_map.1 hc
      rw [subtrees_shift] at huc
      obtain ⟨u', hu', rfl⟩ := List.mem_map.1 huc
      exact Or.inr (Or.inr ⟨u', (subtrees_node _ _ u').2 (Or.inr ⟨c', hc', hu'⟩), by rw [hl, lab_shift]⟩)

theorem concatStep_eq {S : List Nat} (B : List Nat) (hl : P.length = S.length) :
    concatStep (P, S) Q B = (concatPred P Q r s, S ++ B) := by
  unfold concatStep concatPred
  simp only
  rw [← hl, rootIdx_left hP.root, rootIdx_right hQ]

end concat

section loop
variable {trees : List (List Int)} {scopes : List (List Nat)}

/-- invariant of the accumulator `(tree, scope)` once the blocks `d, d+1, …` have been merged -/
structure AccOK (trees : List (List Int)) (scopes : List (List Nat)) (d : Nat) (acc : List Int × List Nat) :
    Prop where
  tree : isTree acc.1 = true
  len : acc.1.length = acc.2.length
  cols : scopeEq acc.2 (colsAt scopes d)
  fam : ∀ u ∈ (blockTree acc.1).subtrees, InFamily trees scopes (lab acc.2 u)

variable (hb : BlocksOk trees scopes)
include hb

theorem accOK_base {d : Nat} (hd : d + 1 = scopes.length) :
    AccOK trees scopes d (trees.getD d [], scopes.getD d []) := by
  have hdl : d < scopes.length := by omega
  obtain ⟨ht, hl⟩ := hb.tree d hdl
  refine ⟨ht, hl, ?_, ?_⟩
  · have : colsAt scopes (d + 1) = [] := by
      unfold colsAt; rw [List.drop_eq_nil_of_le (by omega)]; rfl
    rw [colsAt_succ hdl, this, List.append_nil]
    exact scopeEq.rfl'
  · intro u hu
    exact Or.inr ⟨d, hdl, u, hu, scopeEq.rfl'⟩

theorem accOK_step {d : Nat} (hd : d < scopes.length) {acc : List Int × List Nat}
    (h : AccOK trees scopes (d + 1) acc) :
    AccOK trees scopes d (concatStep acc (trees.getD d []) (scopes.getD d [])) := by
  obtain ⟨P, S⟩ := acc
  obtain ⟨htP, hl, hcols, hfam⟩ := h
  simp only at htP hl hcols hfam
  obtain ⟨htQ, hlQ⟩ := hb.tree d hd
  obtain ⟨r, hP⟩ := Rooted.of_isTree htP
  obtain ⟨s, hQ⟩ := Rooted.of_isTree htQ
  have hN := rooted_concat hP hQ
  rw [concatStep_eq hP hQ _ hl]
  have hlenN : (concatPred P (trees.getD d []) r s).length = (S ++ scopes.getD d []).length := by
    rw [concatPred_length, List.length_append, hl, hlQ]
  have hcolsN : scopeEq (S ++ scopes.getD d []) (colsAt scopes d) := by
    rw [colsAt_succ hd]
    intro v
    rw [List.mem_append, List.mem_append, hcols v]
    exact or_comm
  refine ⟨hN.tree, hlenN, hcolsN, ?_⟩
  intro u hu
  rcases subtrees_concat hP hQ (scopes.getD d []) hl hu with rfl | ⟨hu', hlab⟩ | ⟨u', hu', hlab⟩
  · -- the whole tree: all columns of depth d
    have hperm : (lab (S ++ scopes.getD d []) (blockTree (concatPred P (trees.getD d []) r s))).Perm
        (S ++ scopes.getD d []) := by
      rw [blockTree_eq hN.root]
      exact lab_build_perm _ hlenN.symm hN.perm
    exact Or.inl ⟨d, (scopeEq_of_perm hperm).trans hcolsN⟩
  · rw [hlab]
    exact hfam u hu'
  · rw [hlab]
    exact Or.inr ⟨d, hd, u', hu', scopeEq.rfl'⟩

theorem zip_getElem {d : Nat} (hd : d < scopes.length)
    (hz : d < (trees.zip scopes).length) : (trees.zip scopes)[d] = (trees.getD d [], scopes.getD d []) := by
  rw [List.getElem_zip, List.getD_eq_getElem _ _ (hb.len ▸ hd), List.getD_eq_getElem _ _ hd]

theorem dictLoop_ok (d : Nat) (acc : List Int × List Nat) (hd : d ≤ scopes.length)
    (hacc : AccOK trees scopes d acc) :
    ∀ e ∈ dictLoop acc ((trees.zip scopes).take d).reverse, ∃ d', AccOK trees scopes d' e := by
  induction d generalizing acc with
  | zero =>
    intro e he
    cases he
  | succ d ih =>
    intro e he
    have hdl : d < (trees.zip scopes).length := by rw [List.length_zip, hb.len]; omega
    rw [List.take_succ_eq_append_getElem hdl, List.reverse_append, List.reverse_singleton, List.singleton_append,
      zip_getElem hb (by omega) hdl] at he
    simp only [dictLoop, List.mem_cons] at he
    rcases he with rfl | he
    · exact ⟨d + 1, hacc⟩
    · exact ih _ (by omega) (accOK_step hb (by omega) hacc) e he

theorem treesDict_ok :
    ∀ e ∈ treesDict trees scopes, ∃ d, AccOK trees scopes d e := by
  intro e he
  unfold treesDict at he
  rcases Nat.eq_zero_or_pos scopes.length with h0 | hpos
  · have : trees.zip scopes = [] := by
      have : scopes = [] := List.eq_nil_of_length_eq_zero h0
      simp [this]
    rw [this] at he
    simp at he
  · obtain ⟨d, hd⟩ : ∃ d, scopes.length = d + 1 := ⟨scopes.length - 1, by omega⟩
    have hzl : (trees.zip scopes).length = d + 1 := by rw [List.length_zip, hb.len, hd, Nat.min_self]
    have hsplit : trees.zip scopes = (trees.zip scopes).take d ++ [(trees.getD d [], scopes.getD d [])] := by
      have hdl : d < (trees.zip scopes).length := by omega
      rw [← zip_getElem hb (by omega) hdl, ← List.take_succ_eq_append_getElem hdl, ← hzl, List.take_length]
    rw [hsplit, List.reverse_append, List.reverse_singleton, List.singleton_append] at he
    simp only at he
    exact dictLoop_ok hb d _ (by omega) (accOK_base hb hd.symm) e he

/-- every scope `get_scopes()` reports for a Chow-Liu leaf that takes its tree and scope from `trees_dict`
is admissible -/
theorem chain_inFamily : ChainOK trees scopes := by
  intro e he x hx
  obtain ⟨d, hacc⟩ := treesDict_ok hb e he
  obtain ⟨r, hr, _⟩ := isTree_perm hacc.tree
  unfold XC.cltGetScopes at hx
  rw [hr] at hx
  simp only at hx
  obtain ⟨u, hu, _, rfl⟩ := (mem_getScopes e.2 x _).1 hx
  exact inFamily_of_scopeEq (scopeEq_of_perm (getScopeTop_perm e.2 u)) (hacc.fam u (blockTree_eq hr ▸ hu))

end loop

end Xpc

end Deeprob
