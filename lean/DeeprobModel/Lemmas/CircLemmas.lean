import DeeprobModel.Lemmas.SumLemmas
/-
Tree circuits: induction through membership, the equations of `Valid` / `NormW` / `LeafNorm` / `eval`, and the
two list facts behind `Circ.marg` (a weighted sum and a decomposable product commute with completion sums).
-/
namespace Deeprob

theorem nodup_flatten_map_cons {β γ : Type} (f : β → List γ) (a : β) (l : List β) :
    ((a :: l).map f).flatten.Nodup ↔
      (f a).Nodup ∧ (l.map f).flatten.Nodup ∧ ∀ v ∈ f a, v ∉ (l.map f).flatten := by
  rw [List.map_cons, List.flatten_cons, List.nodup_append]
  exact and_congr_right fun _ => and_congr_right fun _ =>
    ⟨fun h v hv hc => h v hv v hc rfl, fun h v hv w hw hvw => h v hv (hvw ▸ hw)⟩

theorem scopeEq.rfl' {a : List Nat} : scopeEq a a := fun _ => Iff.rfl
theorem scopeEq.symm {a b : List Nat} (h : scopeEq a b) : scopeEq b a := fun v => (h v).symm
theorem scopeEq.trans {a b c : List Nat} (h : scopeEq a b) (h2 : scopeEq b c) : scopeEq a c :=
  fun v => (h v).trans (h2 v)

instance (a b : List Nat) : Decidable (scopeEq a b) :=
  decidable_of_iff ((∀ v ∈ a, v ∈ b) ∧ ∀ v ∈ b, v ∈ a)
    ⟨fun h v => ⟨h.1 v, h.2 v⟩, fun h => ⟨fun v => (h v).1, fun v => (h v).2⟩⟩

namespace Circ
variable {α : Type}

theorem ind {motive : Circ α → Prop}
    (hl : ∀ s f, motive (.leaf s f))
    (hs : ∀ s ws cs, (∀ c ∈ cs, motive c) → motive (.sum s ws cs))
    (hp : ∀ s cs, (∀ c ∈ cs, motive c) → motive (.prod s cs)) : ∀ c, motive c :=
  Circ.rec (motive_2 := fun cs => ∀ c ∈ cs, motive c) hl hs hp (fun _ h => nomatch h)
    (fun _ _ ihc ihcs _ hd => (List.mem_cons.1 hd).elim (· ▸ ihc) (ihcs _))

theorem mem_flatten_scope {cs : List (Circ α)} {c : Circ α} {v : Nat} (hc : c ∈ cs) (hv : v ∈ scope c) :
    v ∈ (cs.map scope).flatten :=
  List.mem_flatten_of_mem (List.mem_map_of_mem hc) hv

section equations
variable {dom : Nat → Nat} {s : List Nat} {ws : List α} {cs : List (Circ α)} {f : Ev → α}

theorem valid_leaf_iff [Zero α] [Add α] : Valid dom (.leaf s f) ↔ LeafOK dom s f := by
  rw [Valid]

theorem valid_sum_iff [Zero α] [Add α] : Valid dom (.sum s ws cs) ↔
    cs ≠ [] ∧ ws.length = cs.length ∧ (∀ c ∈ cs, scopeEq (scope c) s) ∧ ∀ c ∈ cs, Valid dom c := by
  rw [Valid]

theorem valid_prod_iff [Zero α] [Add α] : Valid dom (.prod s cs) ↔
    (cs.map scope).flatten.Nodup ∧ scopeEq (cs.map scope).flatten s ∧ ∀ c ∈ cs, Valid dom c := by
  rw [Valid]

theorem normW_leaf [Zero α] [One α] [Add α] : NormW (.leaf s f) := by
  rw [NormW]; trivial

theorem normW_sum_iff [Zero α] [One α] [Add α] : NormW (.sum s ws cs) ↔ tsum ws = 1 ∧ ∀ c ∈ cs, NormW c := by
  rw [NormW]

theorem normW_prod_iff [Zero α] [One α] [Add α] : NormW (.prod s cs) ↔ ∀ c ∈ cs, NormW c := by
  rw [NormW]

theorem leafNorm_leaf_iff [One α] : LeafNorm dom (.leaf s f) ↔ f (fun _ => none) = 1 := by
  rw [LeafNorm]

theorem leafNorm_sum_iff [One α] : LeafNorm dom (.sum s ws cs) ↔ ∀ c ∈ cs, LeafNorm dom c := by
  rw [LeafNorm]

theorem leafNorm_prod_iff [One α] : LeafNorm dom (.prod s cs) ↔ ∀ c ∈ cs, LeafNorm dom c := by
  rw [LeafNorm]

variable [Zero α] [One α] [Add α] [Mul α] (e : Ev)

theorem eval_leaf : eval e (.leaf s f) = f e := by rw [eval]
theorem eval_sum : eval e (.sum s ws cs) = wsum ws (cs.map (eval e)) := by rw [eval]
theorem eval_prod : eval e (.prod s cs) = lprod (cs.map (eval e)) := by rw [eval]

end equations

variable [CommSemiring α]

theorem sumVar_tbl (tbl : List α) : sumVar tbl.length (fun k => tbl.getD k 0) = tsum tbl := by
  rw [sumVar_eq_sum_map, tsum_eq_sum]
  congr 1
  apply List.ext_getElem (by simp)
  intro i h1 h2
  simp [List.getD_eq_getElem?_getD, List.getElem?_eq_getElem h2]

/-- a normalised table leaf is a distribution over its variable -/
theorem catLeaf_ok (dom : Nat → Nat) (v : Nat) (tbl : List α) (hl : tbl.length = dom v) (hs : tsum tbl = 1) :
    LeafOK dom [v] (catLeafFn v tbl) where
  local_ := by
    intro a b h
    simp only [catLeafFn, h v List.mem_cons_self]
  marg := by
    intro e
    simp only [sumOver]
    split
    · rfl
    · rename_i hnone
      simp only [catLeafFn, hnone, Ev.set_self]
      rw [← hl, sumVar_tbl, hs]

/-- a valid circuit looks only at the variables of its scope -/
theorem eval_congr (dom : Nat → Nat) : (c : Circ α) → Valid dom c → ∀ a b : Ev, (∀ v ∈ scope c, a v = b v) → eval a c = eval b c := by
  intro c
  induction c using Circ.ind with
  | hl s f =>
    intro hv a b h
    rw [eval_leaf, eval_leaf]; exact (valid_leaf_iff.1 hv).local_ a b h
  | hs s ws cs ih =>
    intro hv a b h
    obtain ⟨_, _, hsc, hval⟩ := valid_sum_iff.1 hv
    rw [eval_sum, eval_sum, List.map_congr_left fun c hc =>
      ih c hc (hval c hc) a b fun v hvc => h v ((hsc c hc v).1 hvc)]
  | hp s cs ih =>
    intro hv a b h
    obtain ⟨_, hsc, hval⟩ := valid_prod_iff.1 hv
    rw [eval_prod, eval_prod, List.map_congr_left fun c hc =>
      ih c hc (hval c hc) a b fun v hvc => h v ((hsc v).1 (mem_flatten_scope hc hvc))]

/-- Fubini for a product of local factors: when the scopes `sc c` of the entries of `cs` are pairwise disjoint and the
factor `F c` looks only at `sc c`, the completion sum over all the scopes of the product is the product of the
completion sums over the single scopes -/
theorem sumOver_lprod {β : Type} (dom : Nat → Nat) (sc : β → List Nat) (F : β → Ev → α) (cs : List β)
    (hloc : ∀ c ∈ cs, ∀ a b : Ev, (∀ u ∈ sc c, a u = b u) → F c a = F c b)
    (hnd : (cs.map sc).flatten.Nodup) (e : Ev) :
    sumOver dom (cs.map sc).flatten e (fun x => lprod (cs.map (F · x)))
      = lprod (cs.map fun c => sumOver dom (sc c) e (F c)) := by
  induction cs generalizing e with
  | nil => rfl
  | cons c cs ih =>
    obtain ⟨_, hnd2, hdisj⟩ := (nodup_flatten_map_cons sc c cs).1 hnd
    have hloc' : ∀ d ∈ cs, _ := fun d hd => hloc d (List.mem_cons_of_mem _ hd)
    -- the sum over the later scopes leaves the first factor alone, and the sums of the later factors do not see
    -- how `sc c` was completed
    have inner : ∀ e1, (∀ u, u ∉ sc c → e1 u = e u) →
        sumOver dom (cs.map sc).flatten e1 (fun x => F c x * lprod (cs.map (F · x)))
          = lprod (cs.map fun d => sumOver dom (sc d) e (F d)) * F c e1 := by
      intro e1 he1
      rw [sumOver_congr dom _ e1 _ (fun x => F c e1 * lprod (cs.map (F · x)))
          fun x hx => by rw [hloc c List.mem_cons_self x e1 fun u hu => hx u (hdisj u hu)],
        sumOver_mul, ih hloc' hnd2 e1, mul_comm,
        List.map_congr_left fun d hd => sumOver_ev_congr dom (sc d) e1 e (F d) (sc d) (hloc' d hd) (fun _ h => h)
          fun u hu => he1 u fun hc => hdisj u hc (List.mem_flatten.2 ⟨_, List.mem_map_of_mem hd, hu⟩)]
    simp only [List.map_cons, List.flatten_cons, lprod]
    rw [sumOver_append, sumOver_congr dom _ e _ _ inner, sumOver_mul, mul_comm]

theorem wsum_sumOver {β : Type} (dom : Nat → Nat) (S : List Nat) (e : Ev) (ws : List α) (cs : List β)
    (F : β → Ev → α) :
    sumOver dom S e (fun e' => wsum ws (cs.map (F · e'))) = wsum ws (cs.map fun c => sumOver dom S e (F c)) := by
  induction ws generalizing cs with
  | nil => exact sumOver_zero dom S e
  | cons w ws ih =>
    cases cs with
    | nil => exact sumOver_zero dom S e
    | cons c cs =>
      simp only [List.map_cons, wsum]
      rw [sumOver_add, sumOver_mul, ih]

theorem wsum_ones (ws : List α) (xs : List α) (h : ∀ x ∈ xs, x = 1) (hl : ws.length = xs.length) :
    wsum ws xs = tsum ws := by
  rw [wsum_eq_sum, tsum_eq_sum]
  congr 1
  apply List.ext_getElem (by simp [hl])
  intro i h1 h2
  rw [List.getElem_zipWith, h _ (List.getElem_mem _), mul_one]

theorem lprod_ones (xs : List α) (h : ∀ x ∈ xs, x = 1) : lprod xs = 1 :=
  lprod_eq_prod xs ▸ List.prod_eq_one h

end Circ
end Deeprob
