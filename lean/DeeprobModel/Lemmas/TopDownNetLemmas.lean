import DeeprobModel.Model.TopDownNet
import DeeprobModel.Lemmas.NetValid
set_option linter.unusedSectionVars false
/-
First facts about the top-down MPE pass over a stored table: the unfolding `toTTree` (it forgets to `toTree`, and
unfolds node by node on a well-ordered table), and that a leaf's mode completion, hence `tdStep`, never changes
an entry that is already set and depends on the row only within the agreed variables.
-/
namespace Deeprob

section basics
variable {α : Type} [Zero α] [One α] [Add α] [Mul α] [LT α] [DecidableLT α]

/-- forgetting the top-down leaf data of the unfolding gives the unfolding of Model/Net.lean -/
theorem toCirc_toTTree (net : Net α) (dens : List α) (isBern : Nat → Bool) :
    ∀ fuel i, (toTTree net dens isBern fuel i).toCirc = toTree net dens fuel i := by
  intro fuel
  induction fuel with
  | zero => intro i; simp [toTTree, toTree, TCirc.toCirc]
  | succ f ih =>
    intro i
    simp only [toTTree, toTree]
    cases hn : net[i]? with
    | none => simp [TCirc.toCirc]
    | some x =>
      simp only
      cases x.kind <;> simp [TCirc.toCirc, List.map_map, Function.comp_def, ih]

theorem toTTree_node {net : Net α} (dens : List α) (isBern : Nat → Bool)
    (hw : WellOrdered net) {i : Nat} {x : NNode α} (hn : net[i]? = some x) :
    toTTree net dens isBern (i+1) i = match x.kind with
      | .leaf => .leaf x.scope (x.leaf.fn x.scope (dens.getD i 0)) (x.leaf.mode (isBern i)) x.leaf.cond
      | .sum => .sum x.scope x.ws (x.ch.map fun c => toTTree net dens isBern (c+1) c)
      | .prod => .prod x.scope (x.ch.map fun c => toTTree net dens isBern (c+1) c) :=
  hw.unfold_node (toTTree net dens isBern) _
    (fun i x cs => match x.kind with
      | .leaf => .leaf x.scope (x.leaf.fn x.scope (dens.getD i 0)) (x.leaf.mode (isBern i)) x.leaf.cond
      | .sum => .sum x.scope x.ws cs
      | .prod => .prod x.scope cs)
    (fun _ _ => rfl) hn

/-- the completion that writes `k` into a missing entry `v`, read at `w` -/
theorem setMode_apply (v k : Nat) (x : Ev) (w : Nat) :
    (match x v with | none => x.set v k | some _ => x) w = if w = v ∧ x v = none then some k else x w := by
  cases hx : x v with
  | some _ => rw [if_neg fun h => nomatch h.2]
  | none =>
    by_cases hw : w = v
    · rw [if_pos ⟨hw, rfl⟩, hw]; exact Ev.set_self x v k
    · rw [if_neg fun h => hw h.1]; exact Ev.set_ne x k hw

theorem setMode_keeps (v k : Nat) (x : Ev) (w : Nat) (h : x w ≠ none) :
    (match x v with | none => x.set v k | some _ => x) w = x w := by
  rw [setMode_apply, if_neg]
  rintro ⟨rfl, hx⟩
  exact h hx

theorem setMode_local (v k : Nat) (s : List Nat) (a b : Ev) (hab : ∀ w ∈ s, a w = b w) :
    ∀ w ∈ s, (match a v with | none => a.set v k | some _ => a) w = (match b v with | none => b.set v k | some _ => b) w := by
  intro w hw
  rw [setMode_apply, setMode_apply]
  by_cases hwv : w = v
  · subst hwv; rw [hab w hw]
  · rw [if_neg fun h => hwv h.1, if_neg fun h => hwv h.1]; exact hab w hw

theorem LeafP.mode_keeps (bern : Bool) (lf : LeafP α) (x : Ev) (w : Nat) (h : x w ≠ none) :
    lf.mode bern x w = x w := by
  cases lf with
  | cat v tbl => cases bern <;> exact setMode_keeps v _ x w h
  | ext v => rfl
  | clt p c => rfl
  | absent => rfl

theorem LeafP.mode_local (bern : Bool) (lf : LeafP α) (s : List Nat) (a b : Ev) (hab : ∀ w ∈ s, a w = b w) :
    ∀ w ∈ s, lf.mode bern a w = lf.mode bern b w := by
  cases lf with
  | cat v tbl => cases bern <;> exact setMode_local v _ s a b hab
  | ext v => exact hab
  | clt p c => exact hab
  | absent => exact hab

theorem tdStep_keeps (net : Net α) (vals : List α) (isBern : Nat → Bool) (st : TDState) (i v : Nat)
    (h : st.row v ≠ none) : (tdStep net vals isBern st i).row v = st.row v := by
  unfold tdStep
  cases hn : net[i]? with
  | none => rfl
  | some x =>
    simp only
    split
    · cases x.kind with
      | leaf =>
        simp only [writeScope]
        split
        · exact LeafP.mode_keeps _ _ _ _ h
        · rfl
      | prod => rfl
      | sum => rfl
    · rfl

theorem foldl_tdStep_keeps (net : Net α) (vals : List α) (isBern : Nat → Bool) (ord : List Nat) :
    ∀ (st : TDState) (v : Nat), st.row v ≠ none → (ord.foldl (tdStep net vals isBern) st).row v = st.row v := by
  induction ord with
  | nil => intro st v _; rfl
  | cons i ord ih =>
    intro st v h
    simp only [List.foldl_cons]
    have h1 := tdStep_keeps net vals isBern st i v h
    rw [ih _ v (by rw [h1]; exact h), h1]

end basics
end Deeprob
