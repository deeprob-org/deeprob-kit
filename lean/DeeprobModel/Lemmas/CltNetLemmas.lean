import DeeprobModel.Lemmas.NetShift
import DeeprobModel.Lemmas.MargNetLemmas
import DeeprobModel.Lemmas.CltLemmas
set_option linter.unusedSectionVars false
/-
The table of `BinaryCLT.to_pc()` (`Clt.pcNet`, Model/RewriteNetClt.lean): its last two entries evaluate to the upward
messages of the Chow-Liu tree (`pcNet_spec`), and it satisfies everything `marginalizeNetWith_eval` asks of a table
(`TableOK`).
-/
namespace Deeprob
open Net Clt
variable {α : Type} [CommSemiring α]

/-- what `marginalizeNetWith_eval` asks of a table -/
structure TableOK (T : Net α) : Prop where
  wo : WellOrdered T
  sumOK : NetSumOK T
  nodeOK : ∀ (i : Nat) (x : NNode α), T[i]? = some x → MargNodeOK T x

theorem getElem?_append_at {β : Type} (body L : List β) (k : Nat) : (body ++ L)[body.length + k]? = L[k]? := by
  rw [List.getElem?_append_right (by omega)]; congr 1; omega

theorem Clt.getElem?_append_cases {β : Type} (a L : List β) (i : Nat) (x : β) (h : (a ++ L)[i]? = some x) :
    (i < a.length ∧ a[i]? = some x) ∨ ∃ k, i = a.length + k ∧ L[k]? = some x := by
  rcases Nat.lt_or_ge i a.length with hi | hi
  · exact Or.inl ⟨hi, by rwa [List.getElem?_append_left hi] at h⟩
  · exact Or.inr ⟨i - a.length, by omega, by rwa [List.getElem?_append_right hi] at h⟩

theorem scopeOf_append_left (a b : Net α) (c : Nat) (h : c < a.length) : scopeOf (a ++ b) c = scopeOf a c := by
  unfold scopeOf; rw [List.getElem?_append_left h]

theorem scopeOf_append_at (a L : Net α) (k : Nat) : scopeOf (a ++ L) (a.length + k) = scopeOf L k := by
  unfold scopeOf; rw [getElem?_append_at]

theorem scopeOf_snoc_self (a : Net α) (y : NNode α) : scopeOf (a ++ [y]) a.length = y.scope :=
  scopeOf_append_at a [y] 0

theorem scopeEq_flatten_map (l : List Nat) (f g : Nat → List Nat) (h : ∀ c ∈ l, scopeEq (f c) (g c)) :
    scopeEq (l.map f).flatten (l.map g).flatten := by
  intro v
  simp only [List.mem_flatten, List.mem_map]
  constructor
  · rintro ⟨s, ⟨c, hc, rfl⟩, hv⟩; exact ⟨_, ⟨c, hc, rfl⟩, (h c hc v).1 hv⟩
  · rintro ⟨s, ⟨c, hc, rfl⟩, hv⟩; exact ⟨_, ⟨c, hc, rfl⟩, (h c hc v).2 hv⟩

/-- a node stays well-formed when it is stored in another table with its children renamed, as long as the renamed
children have the same variables -/
theorem margNodeOK_rename (T T' : Net α) (y y' : NNode α) (f : Nat → Nat)
    (hk : y'.kind = y.kind) (hs : y'.scope = y.scope) (hl : y'.leaf = y.leaf) (hc : y'.ch = y.ch.map f)
    (h : ∀ c ∈ y.ch, scopeEq (scopeOf T' (f c)) (scopeOf T c)) (hy : MargNodeOK T y) : MargNodeOK T' y' := by
  unfold MargNodeOK at hy ⊢
  rw [hk, hs, hl, hc]
  revert hy
  cases y.kind <;> intro hy
  · refine ⟨by simpa using hy.1, fun c hcm => ?_⟩
    obtain ⟨c0, hc0, rfl⟩ := List.mem_map.1 hcm
    exact (h c0 hc0).trans (hy.2 c0 hc0)
  · show scopeEq ((y.ch.map f).map (scopeOf T')).flatten y.scope
    rw [List.map_map]
    exact (scopeEq_flatten_map y.ch _ _ h).trans hy
  · exact hy

theorem margNodeOK_congr (T T' : Net α) (x : NNode α) (h : ∀ c ∈ x.ch, scopeOf T' c = scopeOf T c)
    (hx : MargNodeOK T x) : MargNodeOK T' x :=
  margNodeOK_rename T T' x x id rfl rfl rfl (List.map_id _).symm
    (fun c hc => by rw [id, h c hc]; exact scopeEq.rfl') hx

theorem tableOK_nil : TableOK ([] : Net α) :=
  ⟨by intro i x h; simp at h, by intro i x h; simp at h, by intro i x h; simp at h⟩

/-- what `TableOK T` asks of the entry `x` stored at index `i` -/
structure EntryOK (T : Net α) (i : Nat) (x : NNode α) : Prop where
  ch_lt : ∀ c ∈ x.ch, c < i
  sumOK : x.kind = .sum → x.ws.length = x.ch.length ∧ tsum x.ws = 1
  nodeOK : MargNodeOK T x

theorem tableOK_iff (T : Net α) : TableOK T ↔ ∀ (i : Nat) (x : NNode α), T[i]? = some x → EntryOK T i x :=
  ⟨fun h i x hx => ⟨h.wo i x hx, h.sumOK i x hx, h.nodeOK i x hx⟩,
   fun h => ⟨fun i x hx => (h i x hx).ch_lt, fun i x hx => (h i x hx).sumOK, fun i x hx => (h i x hx).nodeOK⟩⟩

/-- storing a block `L` behind a table: it is enough to check every entry of the block against the whole -/
theorem tableOK_append (a L : Net α) (ha : TableOK a)
    (hL : ∀ (k : Nat) (y : NNode α), L[k]? = some y → EntryOK (a ++ L) (a.length + k) y) : TableOK (a ++ L) := by
  rw [tableOK_iff]
  intro i x hx
  rcases getElem?_append_cases a L i x hx with ⟨hi, h⟩ | ⟨k, rfl, h⟩
  · exact ⟨ha.wo i x h, ha.sumOK i x h, margNodeOK_congr a _ x
      (fun c hc => scopeOf_append_left a L c (by have := ha.wo i x h c hc; omega)) (ha.nodeOK i x h)⟩
  · exact hL k x h

theorem Clt.forall_getElem?_cons {β : Type} {P : Nat → β → Prop} (x : β) (L : List β) :
    (∀ (k : Nat) (y : β), (x :: L)[k]? = some y → P k y) ↔ P 0 x ∧ ∀ (k : Nat) (y : β), L[k]? = some y → P (k + 1) y :=
  ⟨fun h => ⟨h 0 x rfl, fun k y hy => h (k + 1) y hy⟩, fun h k y hy => by
    cases k with
    | zero => cases hy; exact h.1
    | succ k => exact h.2 k y hy⟩

theorem Clt.forall_getElem?_nil {β : Type} {P : Nat → β → Prop} :
    (∀ (k : Nat) (y : β), ([] : List β)[k]? = some y → P k y) ↔ True :=
  ⟨fun _ => trivial, fun _ k y hy => by cases hy⟩

/-- appending one node whose children are already stored -/
theorem tableOK_snoc (a : Net α) (y : NNode α) (ha : TableOK a) (hch : ∀ c ∈ y.ch, c < a.length)
    (hs : y.kind = .sum → y.ws.length = y.ch.length ∧ tsum y.ws = 1) (hn : MargNodeOK a y) :
    TableOK (a ++ [y]) :=
  tableOK_append a [y] ha ((forall_getElem?_cons y []).2
    ⟨⟨hch, hs, margNodeOK_congr a _ y (fun c hc => scopeOf_append_left a [y] c (hch c hc)) hn⟩,
      forall_getElem?_nil.2 trivial⟩)

theorem getElem?_shiftNet (off : Nat) (T : Net α) (j : Nat) :
    (shiftNet off T)[j]? = (T[j]?).map (shiftNode off) := by
  unfold shiftNet; rw [List.getElem?_map]

theorem scopeOf_append_shift (a T : Net α) (c : Nat) :
    scopeOf (a ++ shiftNet a.length T) (c + a.length) = scopeOf T c := by
  rw [Nat.add_comm, scopeOf_append_at]
  unfold scopeOf
  rw [getElem?_shiftNet]
  cases T[c]? <;> rfl

/-- storing a table behind another one -/
theorem tableOK_append_shift (a T : Net α) (ha : TableOK a) (hT : TableOK T) :
    TableOK (a ++ shiftNet a.length T) := by
  refine tableOK_append a _ ha (fun k x hx => ?_)
  rw [getElem?_shiftNet, Option.map_eq_some_iff] at hx
  obtain ⟨y, hy, rfl⟩ := hx
  refine ⟨fun c hc => ?_, fun hk => ?_, ?_⟩
  · obtain ⟨c0, hc0, rfl⟩ := List.mem_map.1 hc
    have := hT.wo k y hy c0 hc0
    omega
  · have := hT.sumOK k y hy hk
    exact ⟨by rw [shiftNode, List.length_map]; exact this.1, this.2⟩
  · exact margNodeOK_rename T _ y _ (· + a.length) rfl rfl rfl rfl
      (fun c _ => by rw [scopeOf_append_shift]; exact scopeEq.rfl') (hT.nodeOK k y hy)

theorem noDens_append (a b : Net α) (ha : NoDens a) (hb : NoDens b) : NoDens (a ++ b) := by
  intro x hx; rcases List.mem_append.1 hx with h | h
  · exact ha x h
  · exact hb x h

theorem noDens_shift (off : Nat) (T : Net α) (h : NoDens T) : NoDens (shiftNet off T) := by
  intro x hx hk
  simp only [shiftNet, List.mem_map] at hx
  obtain ⟨y, hy, rfl⟩ := hx
  exact h y hy hk

/-- value of a `NoDens` table stored behind another one -/
theorem nval_append_shift_noDens (e : Ev) (dens : List α) (a T : Net α) (hT : NoDens T) (j : Nat) (hj : j < T.length) :
    nval e dens (a ++ shiftNet a.length T) (a.length + j) = nval e dens T j := by
  rw [nval_append_shift e dens (dens.drop a.length) a T (fun j => by
    rw [List.getD_eq_getElem?_getD, List.getD_eq_getElem?_getD, List.getElem?_drop]) j hj]
  unfold nval; rw [evalNet_noDens e _ dens T hT]

theorem placeTables_snoc (kids : List (Net α)) (T : Net α) :
    placeTables (kids ++ [T]) =
      ((placeTables kids).1 ++ shiftNet (placeTables kids).1.length T,
       (placeTables kids).2 ++ [((placeTables kids).1.length + (T.length - 2), (placeTables kids).1.length + (T.length - 1))]) := by
  simp [placeTables, List.foldl_append]

/-- what `placeTables` produces: the recorded pairs are `(o, o + 1)`, and entry `o + l` of the body is entry
`length - 2 + l` of the table stored there -/
theorem placeTables_spec (kids : List (Net α)) (hnd : ∀ K ∈ kids, NoDens K) (h2 : ∀ K ∈ kids, 2 ≤ K.length) :
    ∃ offs : List Nat, (placeTables kids).2 = offs.map (fun o => (o, o + 1)) ∧
      NoDens (placeTables kids).1 ∧ (∀ o ∈ offs, o + 1 < (placeTables kids).1.length) ∧
      (∀ (e : Ev) (dens : List α) (l : Nat), l < 2 →
        offs.map (fun o => nval e dens (placeTables kids).1 (o + l)) =
          kids.map (fun K => nval e dens K (K.length - 2 + l))) ∧
      (∀ l, l < 2 → offs.map (fun o => scopeOf (placeTables kids).1 (o + l)) =
          kids.map (fun K => scopeOf K (K.length - 2 + l))) ∧
      ((∀ K ∈ kids, TableOK K) → TableOK (placeTables kids).1) := by
  induction kids using List.reverseRecOn with
  | nil => exact ⟨[], rfl, fun _ h => absurd h List.not_mem_nil, fun _ h => absurd h List.not_mem_nil,
      fun _ _ _ _ => rfl, fun _ _ => rfl, fun _ => tableOK_nil⟩
  | append_singleton kids T ih =>
    obtain ⟨offs, i1, i2, i3, i4, i5, i6⟩ := ih (fun K hK => hnd K (List.mem_append_left _ hK))
      (fun K hK => h2 K (List.mem_append_left _ hK))
    have hT := hnd T (by simp)
    have hT2 := h2 T (by simp)
    rw [placeTables_snoc]
    generalize (placeTables kids).1 = body at *
    generalize (placeTables kids).2 = roots at *
    simp only
    have hlen : (body ++ shiftNet body.length T).length = body.length + T.length := by
      rw [List.length_append, shiftNet, List.length_map]
    refine ⟨offs ++ [body.length + (T.length - 2)], ?_, noDens_append _ _ i2 (noDens_shift _ _ hT), ?_, ?_, ?_, ?_⟩
    · rw [i1, List.map_append, List.map_singleton]
      congr 3; omega
    · intro o ho
      rw [hlen]
      rcases List.mem_append.1 ho with h | h
      · have := i3 o h; omega
      · rw [List.mem_singleton.1 h]; omega
    · intro e dens l hl
      rw [List.map_append, List.map_append, ← i4 e dens l hl, List.map_singleton, List.map_singleton, Nat.add_assoc,
        nval_append_shift_noDens e dens body T hT _ (by omega)]
      congr 1
      exact List.map_congr_left (fun o ho => nval_append_lt e dens body _ _ (by have := i3 o ho; omega))
    · intro l hl
      rw [List.map_append, List.map_append, ← i5 l hl, List.map_singleton, List.map_singleton, Nat.add_assoc,
        Nat.add_comm body.length, scopeOf_append_shift]
      congr 1
      exact List.map_congr_left (fun o ho => scopeOf_append_left body _ _ (by have := i3 o ho; omega))
    · intro hok
      exact tableOK_append_shift body T (i6 (fun K hK => hok K (List.mem_append_left _ hK))) (hok T (by simp))

theorem bern_fn (v k : Nat) (d : α) (e : Ev) :
    (bern (α := α) v k).leaf.fn (bern (α := α) v k).scope d e = Circ.catLeafFn v (indicator k) e := rfl

theorem margNodeOK_bern (T : Net α) (v k : Nat) : MargNodeOK T (bern (α := α) v k) := by
  unfold MargNodeOK bern
  exact ⟨v, rfl, Or.inl ⟨_, rfl⟩⟩

/-- a sum / product entry as `to_pc` stores it (ids are assigned later) -/
def sumNode (sc ch : List Nat) (ws : List α) : NNode α :=
  { id := 0, kind := .sum, scope := sc, ch := ch, ws := ws, leaf := .absent }
def prodNode (sc ch : List Nat) : NNode α :=
  { id := 0, kind := .prod, scope := sc, ch := ch, ws := [], leaf := .absent }

/-- the six entries of an inner tree node; `ch0`, `ch1`: the buffered entries of the children for parent value 0 / 1 -/
def topInner (n v : Nat) (sc ch0 ch1 : List Nat) (w0 w1 : List α) : Net α :=
  [bern v 0, bern v 1, prodNode sc (n :: ch0), prodNode sc ((n+1) :: ch1),
   sumNode sc [n+2, n+3] w0, sumNode sc [n+2, n+3] w1]

/-- the four entries of a tree leaf -/
def topLeaf (n v : Nat) (w0 w1 : List α) : Net α :=
  [bern v 0, bern v 1, sumNode [v] [n, n+1] w0, sumNode [v] [n, n+1] w1]

theorem nval_bern (e : Ev) (dens : List α) (T : Net α) (j v k : Nat) (h : T[j]? = some (bern v k)) :
    nval e dens T j = Circ.catLeafFn v (indicator k) e := by
  rw [nval_unfold e dens T j _ h (fun c hc => absurd hc List.not_mem_nil)]; rfl

theorem nval_prodNode (e : Ev) (dens : List α) (T : Net α) (j : Nat) (sc ch : List Nat)
    (h : T[j]? = some (prodNode sc ch)) (hc : ∀ c ∈ ch, c < j) :
    nval e dens T j = lprod (ch.map (nval e dens T)) := by
  rw [nval_unfold e dens T j _ h hc]; rfl

theorem nval_sumNode (e : Ev) (dens : List α) (T : Net α) (j : Nat) (sc ch : List Nat) (ws : List α)
    (h : T[j]? = some (sumNode sc ch ws)) (hc : ∀ c ∈ ch, c < j) :
    nval e dens T j = wsum ws (ch.map (nval e dens T)) := by
  rw [nval_unfold e dens T j _ h hc]; rfl

/-- value of the product `[indicator leaf] + buffer[-n:]` -/
theorem nval_branch (e : Ev) (dens : List α) (T : Net α) (b j v k : Nat) (sc ch : List Nat)
    (hb : T[b]? = some (bern v k)) (hj : T[j]? = some (prodNode sc (b :: ch))) (hbj : b < j)
    (hc : ∀ c ∈ ch, c < j) :
    nval e dens T j = Circ.catLeafFn v (indicator k) e * lprod (ch.map (nval e dens T)) := by
  rw [nval_prodNode e dens T j sc _ hj (List.forall_mem_cons.2 ⟨hbj, hc⟩), List.map_cons, lprod,
    nval_bern e dens T b v k hb]

theorem topInner_val (e : Ev) (dens : List α) (body : Net α) (v : Nat) (sc ch0 ch1 : List Nat) (w0 w1 : List α)
    (h0 : ∀ c ∈ ch0, c < body.length) (h1 : ∀ c ∈ ch1, c < body.length) (l : Nat) (hl : l < 2) :
    nval e dens (body ++ topInner body.length v sc ch0 ch1 w0 w1) (body.length + 4 + l) =
      wsum (if l = 0 then w0 else w1)
        [Circ.catLeafFn v (indicator 0) e * lprod (ch0.map (nval e dens body)),
         Circ.catLeafFn v (indicator 1) e * lprod (ch1.map (nval e dens body))] := by
  have hold : ∀ ch : List Nat, (∀ c ∈ ch, c < body.length) →
      ch.map (nval e dens (body ++ topInner body.length v sc ch0 ch1 w0 w1)) = ch.map (nval e dens body) :=
    fun ch h => List.map_congr_left (fun c hc => nval_append_lt e dens body _ c (h c hc))
  have g := getElem?_append_at body (topInner body.length v sc ch0 ch1 w0 w1)
  generalize body ++ topInner body.length v sc ch0 ch1 w0 w1 = T at hold g ⊢
  have p0 : nval e dens T (body.length + 2) =
      Circ.catLeafFn v (indicator 0) e * lprod (ch0.map (nval e dens body)) := by
    rw [nval_branch e dens T body.length _ v 0 sc ch0 (g 0) (g 2) (by omega)
      (fun c hc => by have := h0 c hc; omega), hold ch0 h0]
  have p1 : nval e dens T (body.length + 3) =
      Circ.catLeafFn v (indicator 1) e * lprod (ch1.map (nval e dens body)) := by
    rw [nval_branch e dens T (body.length + 1) _ v 1 sc ch1 (g 1) (g 3) (by omega)
      (fun c hc => by have := h1 c hc; omega), hold ch1 h1]
  obtain rfl | rfl : l = 0 ∨ l = 1 := by omega
  · rw [nval_sumNode e dens T _ sc _ w0 (g 4) (forall_mem_pair.2 ⟨by omega, by omega⟩), List.map_cons,
      List.map_cons, List.map_nil, p0, p1]
    rfl
  · rw [nval_sumNode e dens T _ sc _ w1 (g 5) (forall_mem_pair.2 ⟨by omega, by omega⟩), List.map_cons,
      List.map_cons, List.map_nil, p0, p1]
    rfl

theorem topLeaf_val (e : Ev) (dens : List α) (body : Net α) (v : Nat) (w0 w1 : List α) (l : Nat) (hl : l < 2) :
    nval e dens (body ++ topLeaf body.length v w0 w1) (body.length + 2 + l) =
      wsum (if l = 0 then w0 else w1) [Circ.catLeafFn v (indicator 0) e, Circ.catLeafFn v (indicator 1) e] := by
  have g := getElem?_append_at body (topLeaf body.length v w0 w1)
  generalize body ++ topLeaf body.length v w0 w1 = T at g ⊢
  have v0 := nval_bern e dens T body.length v 0 (g 0)
  have v1 := nval_bern e dens T (body.length + 1) v 1 (g 1)
  obtain rfl | rfl : l = 0 ∨ l = 1 := by omega
  · rw [nval_sumNode e dens T _ [v] _ w0 (g 2) (forall_mem_pair.2 ⟨by omega, by omega⟩), List.map_cons,
      List.map_cons, List.map_nil, v0, v1]
    rfl
  · rw [nval_sumNode e dens T _ [v] _ w1 (g 3) (forall_mem_pair.2 ⟨by omega, by omega⟩), List.map_cons,
      List.map_cons, List.map_nil, v0, v1]
    rfl

theorem entryOK_bern (T : Net α) (i v k : Nat) : EntryOK T i (bern (α := α) v k) :=
  ⟨fun _ hc => absurd hc List.not_mem_nil, fun h => (by cases h), margNodeOK_bern T v k⟩

theorem entryOK_prodNode (T : Net α) (i : Nat) (sc ch : List Nat) (hc : ∀ c ∈ ch, c < i)
    (hs : scopeEq (ch.map (scopeOf T)).flatten sc) : EntryOK T i (prodNode (α := α) sc ch) :=
  ⟨hc, fun h => (by cases h), hs⟩

theorem entryOK_sumNode (T : Net α) (i : Nat) (sc : List Nat) (a b : Nat) (ws : List α) (ha : a < i) (hb : b < i)
    (hw : ws.length = 2 ∧ tsum ws = 1) (hsa : scopeOf T a = sc) (hsb : scopeOf T b = sc) :
    EntryOK T i (sumNode sc [a, b] ws) :=
  ⟨forall_mem_pair.2 ⟨ha, hb⟩, fun _ => hw,
    ⟨List.cons_ne_nil _ _, forall_mem_pair.2 ⟨hsa ▸ scopeEq.rfl', hsb ▸ scopeEq.rfl'⟩⟩⟩

theorem topInner_ok (body : Net α) (v : Nat) (sc ch0 ch1 : List Nat) (w0 w1 : List α)
    (hb : TableOK body) (h0 : ∀ c ∈ ch0, c < body.length) (h1 : ∀ c ∈ ch1, c < body.length)
    (hS0 : scopeEq ([v] ++ (ch0.map (scopeOf body)).flatten) sc)
    (hS1 : scopeEq ([v] ++ (ch1.map (scopeOf body)).flatten) sc)
    (hw0 : w0.length = 2 ∧ tsum w0 = 1) (hw1 : w1.length = 2 ∧ tsum w1 = 1) :
    TableOK (body ++ topInner body.length v sc ch0 ch1 w0 w1) := by
  apply tableOK_append body _ hb
  have hold : ∀ ch : List Nat, (∀ c ∈ ch, c < body.length) →
      ch.map (scopeOf (body ++ topInner body.length v sc ch0 ch1 w0 w1)) = ch.map (scopeOf body) :=
    fun ch h => List.map_congr_left (fun c hc => scopeOf_append_left body _ c (h c hc))
  have s := scopeOf_append_at body (topInner body.length v sc ch0 ch1 w0 w1)
  generalize body ++ topInner body.length v sc ch0 ch1 w0 w1 = T at hold s ⊢
  have s0 : scopeOf T body.length = [v] := s 0
  have s1 : scopeOf T (body.length + 1) = [v] := s 1
  rw [topInner]
  simp only [forall_getElem?_cons, forall_getElem?_nil, and_true]
  refine ⟨entryOK_bern T _ v 0, entryOK_bern T _ v 1, entryOK_prodNode T _ sc _ ?_ ?_, entryOK_prodNode T _ sc _ ?_ ?_,
    entryOK_sumNode T _ sc _ _ w0 (by omega) (by omega) hw0 (s 2) (s 3),
    entryOK_sumNode T _ sc _ _ w1 (by omega) (by omega) hw1 (s 2) (s 3)⟩
  · exact List.forall_mem_cons.2 ⟨by omega, fun c hc => by have := h0 c hc; omega⟩
  · rw [List.map_cons, List.flatten_cons, s0, hold ch0 h0]; exact hS0
  · exact List.forall_mem_cons.2 ⟨by omega, fun c hc => by have := h1 c hc; omega⟩
  · rw [List.map_cons, List.flatten_cons, s1, hold ch1 h1]; exact hS1

theorem topLeaf_ok (body : Net α) (v : Nat) (w0 w1 : List α) (hb : TableOK body)
    (hw0 : w0.length = 2 ∧ tsum w0 = 1) (hw1 : w1.length = 2 ∧ tsum w1 = 1) :
    TableOK (body ++ topLeaf body.length v w0 w1) := by
  apply tableOK_append body _ hb
  have s := scopeOf_append_at body (topLeaf body.length v w0 w1)
  generalize body ++ topLeaf body.length v w0 w1 = T at s ⊢
  rw [topLeaf]
  simp only [forall_getElem?_cons, forall_getElem?_nil, and_true]
  exact ⟨entryOK_bern T _ v 0, entryOK_bern T _ v 1,
    entryOK_sumNode T _ [v] _ _ w0 (by omega) (by omega) hw0 (s 0) (s 1),
    entryOK_sumNode T _ [v] _ _ w1 (by omega) (by omega) hw1 (s 0) (s 1)⟩

theorem pcNet_node (scope : List Nat) (cpt : List (List (List α))) (i : Nat) (cs : List RTree) :
    pcNet scope cpt (.node i cs) =
      if cs.isEmpty then
        (placeTables ((cs.map (pcNet scope cpt)).reverse)).1 ++
          topLeaf (placeTables ((cs.map (pcNet scope cpt)).reverse)).1.length (scope.getD i 0)
            [cptAt cpt i 0 0, cptAt cpt i 0 1] [cptAt cpt i 1 0, cptAt cpt i 1 1]
      else
        (placeTables ((cs.map (pcNet scope cpt)).reverse)).1 ++
          topInner (placeTables ((cs.map (pcNet scope cpt)).reverse)).1.length (scope.getD i 0)
            (pcScope scope (.node i cs)) ((placeTables ((cs.map (pcNet scope cpt)).reverse)).2.map Prod.fst)
            ((placeTables ((cs.map (pcNet scope cpt)).reverse)).2.map Prod.snd)
            [cptAt cpt i 0 0, cptAt cpt i 0 1] [cptAt cpt i 1 0, cptAt cpt i 1 1] := by
  rw [pcNet]; rfl

/-- what the table of `to_pc()` for a sub-tree satisfies -/
structure PcSpec (scope : List Nat) (cpt : List (List (List α))) (t : RTree) : Prop where
  len : 2 ≤ (pcNet scope cpt t).length
  noDens : NoDens (pcNet scope cpt t)
  val : ∀ (e : Ev) (dens : List α) (l : Nat), l < 2 →
    nval e dens (pcNet scope cpt t) ((pcNet scope cpt t).length - 2 + l) = up scope cpt t l e
  sc : ∀ l, l < 2 → scopeOf (pcNet scope cpt t) ((pcNet scope cpt t).length - 2 + l) = pcScope scope t
  ok : (∀ j ∈ t.vars, ∀ l, l < 2 → cptAt cpt j l 0 + cptAt cpt j l 1 = 1) → TableOK (pcNet scope cpt t)

theorem noDens_top_inner (n v : Nat) (sc ch0 ch1 : List Nat) (w0 w1 : List α) :
    NoDens (topInner n v sc ch0 ch1 w0 w1) := by
  intro x hx hk
  simp only [topInner, List.mem_cons, List.not_mem_nil, or_false] at hx
  rcases hx with rfl | rfl | rfl | rfl | rfl | rfl
  · exact ⟨v, _, rfl⟩
  · exact ⟨v, _, rfl⟩
  all_goals cases hk

theorem noDens_top_leaf (n v : Nat) (w0 w1 : List α) : NoDens (topLeaf n v w0 w1) := by
  intro x hx hk
  simp only [topLeaf, List.mem_cons, List.not_mem_nil, or_false] at hx
  rcases hx with rfl | rfl | rfl | rfl
  · exact ⟨v, _, rfl⟩
  · exact ⟨v, _, rfl⟩
  all_goals cases hk

/-- a row `[a, b]` with `a + b = 1` is a normalised weight vector of a binary sum -/
theorem row_ok {a b : α} (h : a + b = 1) : [a, b].length = 2 ∧ tsum [a, b] = 1 :=
  ⟨rfl, by show a + (b + 0) = 1; rw [add_zero]; exact h⟩

/-- the table of `to_pc()`: its last two entries (what goes to `neg_buffer` / `pos_buffer`) evaluate to the
upward messages of the sub-tree for parent value 0 / 1 under every evidence, carry the scope `to_pc` stores, and the
table is children-first, smooth, with normalised sums when the rows of the conditional tables are.
Induction on the tree.  `placeTables_spec` says where the children's tables sit in `body`: at offsets `o`, entry
`o + l` having the value and scope of the child's buffered entry for parent value `l` (the induction hypothesis).
`topInner_val` / `topInner_ok` (`topLeaf_*` at a tree leaf) then evaluate and check the entries stored behind `body`,
and `up_node` recognises the value as the message. -/
theorem pcNet_spec (scope : List Nat) (cpt : List (List (List α))) (t : RTree) : PcSpec scope cpt t := by
  induction t using RTree.ind with
  | node i cs ih =>
    have hnode := pcNet_node scope cpt i cs
    have hrow : (∀ j ∈ (RTree.node i cs).vars, ∀ l, l < 2 → cptAt cpt j l 0 + cptAt cpt j l 1 = 1) →
        ∀ l, l < 2 → [cptAt cpt i l 0, cptAt cpt i l 1].length = 2 ∧ tsum [cptAt cpt i l 0, cptAt cpt i l 1] = 1 :=
      fun hrows l hl => row_ok (hrows i (root_mem_vars i cs) l hl)
    cases cs with
    | nil =>
      -- a leaf of the tree: the table is the four entries
      replace hnode : pcNet scope cpt (.node i []) = [] ++ topLeaf ([] : Net α).length (scope.getD i 0)
          [cptAt cpt i 0 0, cptAt cpt i 0 1] [cptAt cpt i 1 0, cptAt cpt i 1 1] := hnode
      have hlen : (pcNet scope cpt (.node i [])).length = 4 := by rw [hnode]; rfl
      refine ⟨by omega, ?_, ?_, ?_, ?_⟩
      · rw [hnode]; exact noDens_append _ _ (fun x hx => nomatch hx) (noDens_top_leaf _ _ _ _)
      · intro e dens l hl
        rw [hlen, hnode, show 4 - 2 + l = ([] : Net α).length + 2 + l by rw [List.length_nil],
          topLeaf_val e dens [] _ _ _ l hl, up_node]
        obtain rfl | rfl : l = 0 ∨ l = 1 := by omega
        all_goals (simp only [List.map_nil, lprod, mul_one]; rfl)
      · intro l hl
        rw [hlen, hnode]
        obtain rfl | rfl : l = 0 ∨ l = 1 := by omega
        all_goals (rw [pcScope]; rfl)
      · intro hrows
        rw [hnode]
        exact topLeaf_ok [] _ _ _ tableOK_nil (hrow hrows 0 (by omega)) (hrow hrows 1 (by omega))
    | cons c0 cs0 =>
      -- an inner node: the children's tables (last child first), then the six entries
      rw [List.isEmpty_cons, if_neg Bool.false_ne_true] at hnode
      generalize c0 :: cs0 = cs at ih hnode hrow ⊢
      have hK : ∀ T ∈ (cs.map (pcNet scope cpt)).reverse, ∃ c ∈ cs, T = pcNet scope cpt c := fun T hT => by
        obtain ⟨c, hc, rfl⟩ := List.mem_map.1 (List.mem_reverse.1 hT)
        exact ⟨c, hc, rfl⟩
      obtain ⟨offs, hroots, q1, q2, q4, q5, q6⟩ := placeTables_spec ((cs.map (pcNet scope cpt)).reverse)
        (fun T hT => by obtain ⟨c, hc, rfl⟩ := hK T hT; exact (ih c hc).noDens)
        (fun T hT => by obtain ⟨c, hc, rfl⟩ := hK T hT; exact (ih c hc).len)
      -- the buffered entries of the children for parent value `l` are the entries `o + l`
      have hfst : (placeTables ((cs.map (pcNet scope cpt)).reverse)).2.map Prod.fst = offs.map (· + 0) := by
        rw [hroots, List.map_map]; rfl
      have hsnd : (placeTables ((cs.map (pcNet scope cpt)).reverse)).2.map Prod.snd = offs.map (· + 1) := by
        rw [hroots, List.map_map]; rfl
      rw [hfst, hsnd] at hnode
      generalize (placeTables ((cs.map (pcNet scope cpt)).reverse)).1 = body at hnode q1 q2 q4 q5 q6
      have hlen : (pcNet scope cpt (.node i cs)).length = body.length + 6 := by
        rw [hnode, List.length_append]; rfl
      have hch : ∀ l, l < 2 → ∀ c ∈ offs.map (· + l), c < body.length := fun l hl c hc => by
        obtain ⟨o, ho, rfl⟩ := List.mem_map.1 hc
        have := q2 o ho
        omega
      have hv : ∀ (e : Ev) (dens : List α) (l : Nat), l < 2 →
          lprod ((offs.map (· + l)).map (nval e dens body)) = lprod (cs.map (fun c => up scope cpt c l e)) := by
        intro e dens l hl
        rw [List.map_map]
        show lprod (offs.map (fun o => nval e dens body (o + l))) = _
        rw [q4 e dens l hl, List.map_reverse, lprod_reverse, List.map_map]
        exact congrArg lprod (List.map_congr_left (fun c hc => (ih c hc).val e dens l hl))
      have hs : ∀ l, l < 2 → (offs.map (· + l)).map (scopeOf body) = (cs.map (pcScope scope)).reverse := by
        intro l hl
        rw [List.map_map]
        show offs.map (fun o => scopeOf body (o + l)) = _
        rw [q5 l hl, List.map_reverse, List.map_map]
        exact congrArg List.reverse (List.map_congr_left (fun c hc => (ih c hc).sc l hl))
      refine ⟨by omega, ?_, ?_, ?_, ?_⟩
      · rw [hnode]; exact noDens_append _ _ q1 (noDens_top_inner _ _ _ _ _ _ _)
      · intro e dens l hl
        rw [hlen, hnode, show body.length + 6 - 2 + l = body.length + 4 + l by omega,
          topInner_val e dens body _ _ _ _ _ _ (hch 0 (by omega)) (hch 1 (by omega)) l hl,
          hv e dens 0 (by omega), hv e dens 1 (by omega), up_node]
        obtain rfl | rfl : l = 0 ∨ l = 1 := by omega
        all_goals rfl
      · intro l hl
        rw [hlen, hnode, show body.length + 6 - 2 + l = body.length + (4 + l) by omega, scopeOf_append_at]
        obtain rfl | rfl : l = 0 ∨ l = 1 := by omega
        all_goals rfl
      · intro hrows
        rw [hnode]
        refine topInner_ok body _ _ _ _ _ _ (q6 (fun T hT => ?_)) (hch 0 (by omega)) (hch 1 (by omega)) ?_ ?_
          (hrow hrows 0 (by omega)) (hrow hrows 1 (by omega))
        · obtain ⟨c, hc, rfl⟩ := hK T hT
          exact (ih c hc).ok (fun j hj => hrows j (vars_child_sub i cs c hc j hj))
        · rw [hs 0 (by omega), pcScope]; exact scopeEq.rfl'
        · rw [hs 1 (by omega), pcScope]; exact scopeEq.rfl'
end Deeprob
