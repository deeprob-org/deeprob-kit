import DeeprobModel.Spec.ValidSpec
import DeeprobModel.Lemmas.LayersLemmas
import Mathlib.Data.List.Perm.Subperm
import Mathlib.Data.List.Range
import Mathlib.Logic.Relation
/-
Bool/Prop bridges for the tests of `validity.py` (`is_labeled`, `is_smooth`, `is_decomposable`, `check_spn`);
correctness of the breadth-first traversal: `collect n root` is duplicate-free and is exactly the set reachable
from `root`; and the example tables of C03 with the hypotheses of `checkSpn_sound` on them.
-/
namespace Deeprob
namespace Net
variable {α : Type}

/-! `max(ids)` and `min(ids)` as modelled are `List.max` and `List.min` -/

theorem maxL_eq (l : List Nat) (h : l ≠ []) : maxL l = l.max h := by
  rw [maxL, List.foldl_max_eq_max h, Nat.zero_max]

theorem minL_eq (l : List Nat) (h : l ≠ []) : minL l = l.min h := by
  cases l with
  | nil => exact absurd rfl h
  | cons y ys => rfl

theorem le_maxL (l : List Nat) : ∀ x ∈ l, x ≤ maxL l := fun x hx => by
  rw [maxL_eq l (List.ne_nil_of_mem hx)]; exact List.le_max_of_mem hx

theorem maxL_mem (l : List Nat) (h : l ≠ []) : maxL l ∈ l := by
  rw [maxL_eq l h]; exact List.max_mem h

theorem minL_le (l : List Nat) : ∀ x ∈ l, minL l ≤ x := fun x hx => by
  rw [minL_eq l (List.ne_nil_of_mem hx)]; exact List.min_le_of_mem hx

theorem minL_mem (l : List Nat) (h : l ≠ []) : minL l ∈ l := by
  rw [minL_eq l h]; exact List.min_mem h

theorem labeled_list_iff (ids : List Nat) :
    (ids.Nodup ∧ minL ids = 0 ∧ maxL ids = ids.length - 1) ↔ ids.Perm (List.range ids.length) := by
  cases hl : ids with
  | nil => simp [minL, maxL]
  | cons y ys =>
    rw [← hl]
    have hne : ids ≠ [] := by rw [hl]; simp
    have hpos : 0 < ids.length := List.length_pos_iff.2 hne
    constructor
    · rintro ⟨hnd, _, hmax⟩
      have hsub : ids ⊆ List.range ids.length := by
        intro x hx
        have := le_maxL ids x hx
        rw [List.mem_range]; omega
      exact (List.subperm_of_subset hnd hsub).perm_of_length_le (by simp)
    · intro hp
      have hmem : ∀ x, x ∈ ids ↔ x < ids.length := fun x => by rw [hp.mem_iff, List.mem_range]
      refine ⟨hp.nodup_iff.2 List.nodup_range, ?_, ?_⟩
      · have := minL_le ids 0 ((hmem 0).2 hpos); omega
      · have h1 := le_maxL ids (ids.length - 1) ((hmem _).2 (by omega))
        have h2 := (hmem _).1 (maxL_mem ids hne)
        omega

theorem ite3_none {A : Type} (c1 c2 c3 : Prop) [Decidable c1] [Decidable c2] [Decidable c3] (a b c : A) :
    (if c1 then some a else if c2 then some b else if c3 then some c else none) = none ↔ ¬c1 ∧ ¬c2 ∧ ¬c3 := by
  by_cases h1 : c1 <;> by_cases h2 : c2 <;> by_cases h3 : c3 <;> simp [h1, h2, h3]

theorem ite2_none {A : Type} (c1 c2 : Prop) [Decidable c1] [Decidable c2] (a b : A) :
    (if c1 then some a else if c2 then some b else none) = none ↔ ¬c1 ∧ ¬c2 := by
  by_cases h1 : c1 <;> by_cases h2 : c2 <;> simp [h1, h2]

theorem length_beq_zero {β : Type} (l : List β) : ¬ ((l.length == 0) = true) ↔ l ≠ [] := by
  simp

theorem isLabeled_unfold (n : Net α) (nodes : List Nat) :
    isLabeled n nodes =
      (if !nodupB (nodes.map (idOf n)) then some "repeated"
       else if minL (nodes.map (idOf n)) != 0 then some "min"
       else if maxL (nodes.map (idOf n)) != (nodes.map (idOf n)).length - 1 then some "max"
       else none) := rfl

theorem isLabeled_eq_none_iff (n : Net α) (nodes : List Nat) :
    isLabeled n nodes = none ↔
      (nodes.map (idOf n)).Nodup ∧ minL (nodes.map (idOf n)) = 0 ∧
        maxL (nodes.map (idOf n)) = (nodes.map (idOf n)).length - 1 := by
  rw [isLabeled_unfold, ite3_none, ← nodupB_iff]
  simp only [Bool.not_eq_true', Bool.not_eq_false, bne_iff_ne, ne_eq, not_not]

theorem childScopes_eq (n : Net α) (x : NNode α) : childScopes n x = (x.ch.map (scopeOf n)).flatten := rfl

theorem isSmooth_unfold (n : Net α) (nodes : List Nat) :
    isSmooth n nodes = nodes.findSome? (fun i => match n[i]? with
      | some x => if x.kind = .sum then
          (if x.ch.length == 0 then some "nochildren"
           else if x.ch.length != x.ws.length then some "weights"
           else if x.ch.any (fun c => !scopeEqB (scopeOf n c) x.scope) then some "scopes"
           else none) else none
      | none => none) := rfl

/-- the shape shared by `is_smooth` and `is_decomposable`: the first listed node of kind `k` on which `body`
reports something decides; nothing is reported iff every such node passes -/
theorem findSome?_kind_eq_none_iff (n : Net α) (nodes : List Nat) (k : Kind) (body : NNode α → Option String)
    (P : NNode α → Prop) (h : ∀ x, body x = none ↔ P x) :
    nodes.findSome? (fun i => match n[i]? with
      | some x => if x.kind = k then body x else none
      | none => none) = none ↔ ∀ i ∈ nodes, ∀ x, n[i]? = some x → x.kind = k → P x := by
  rw [List.findSome?_eq_none_iff]
  refine forall₂_congr (fun i _ => ?_)
  cases n[i]? with
  | none => exact ⟨fun _ => nofun, fun _ => rfl⟩
  | some x =>
    simp only [Option.some.injEq, forall_eq', ite_eq_right_iff, h]

theorem isSmooth_eq_none_iff (n : Net α) (nodes : List Nat) :
    isSmooth n nodes = none ↔ ∀ i ∈ nodes, ∀ x, n[i]? = some x → x.kind = .sum → SumOK n x := by
  rw [isSmooth_unfold]
  refine findSome?_kind_eq_none_iff n nodes .sum _ _ (fun x => ?_)
  unfold SumOK
  rw [ite3_none, length_beq_zero]
  refine and_congr Iff.rfl (and_congr ?_ ?_)
  · simp only [bne_iff_ne, ne_eq, not_not]; exact eq_comm
  · simp only [List.any_eq_true, Bool.not_eq_true', ← scopeEqB_iff, not_exists, not_and,
      Bool.not_eq_false]

theorem isDecomposable_unfold (n : Net α) (nodes : List Nat) :
    isDecomposable n nodes = nodes.findSome? (fun i => match n[i]? with
      | some x => if x.kind = .prod then
          (if x.ch.length == 0 then some "nochildren"
           else if !nodupB (x.ch.map (scopeOf n)).flatten || !scopeEqB x.scope (x.ch.map (scopeOf n)).flatten
             then some "scopes"
           else none) else none
      | none => none) := rfl

theorem isDecomposableUnionOnly_unfold (n : Net α) (nodes : List Nat) :
    isDecomposableUnionOnly n nodes = nodes.findSome? (fun i => match n[i]? with
      | some x => if x.kind = .prod then
          (if x.ch.length == 0 then some "nochildren"
           else if !scopeEqB x.scope (x.ch.map (scopeOf n)).flatten then some "scopes"
           else none) else none
      | none => none) := rfl

theorem scopeEq_comm {a b : List Nat} : scopeEq a b ↔ scopeEq b a :=
  ⟨scopeEq.symm, scopeEq.symm⟩

/-- duplicate-free concatenation ⇔ each child scope duplicate-free and the scopes pairwise disjoint -/
theorem prodOK'_iff (n : Net α) (x : NNode α) : ProdOK' n x ↔ ProdOK n x := by
  unfold ProdOK' ProdOK
  rw [List.nodup_flatten]
  constructor
  · rintro ⟨h1, ⟨h2, h3⟩, h4⟩
    exact ⟨h1, fun c hc => h2 _ (List.mem_map_of_mem hc), h3, h4⟩
  · rintro ⟨h1, h2, h3, h4⟩
    refine ⟨h1, ⟨?_, h3⟩, h4⟩
    intro l hl
    obtain ⟨c, hc, rfl⟩ := List.mem_map.1 hl
    exact h2 c hc

theorem isDecomposable_eq_none_iff' (n : Net α) (nodes : List Nat) :
    isDecomposable n nodes = none ↔ ∀ i ∈ nodes, ∀ x, n[i]? = some x → x.kind = .prod → ProdOK' n x := by
  rw [isDecomposable_unfold]
  refine findSome?_kind_eq_none_iff n nodes .prod _ _ (fun x => ?_)
  unfold ProdOK'
  rw [ite2_none, length_beq_zero]
  simp only [Bool.or_eq_true, Bool.not_eq_true', not_or, Bool.not_eq_false, nodupB_iff, scopeEqB_iff]
  exact and_congr Iff.rfl (and_congr Iff.rfl scopeEq_comm)

theorem isDecomposable_eq_none_iff (n : Net α) (nodes : List Nat) :
    isDecomposable n nodes = none ↔ ∀ i ∈ nodes, ∀ x, n[i]? = some x → x.kind = .prod → ProdOK n x := by
  rw [isDecomposable_eq_none_iff']
  simp only [prodOK'_iff]

/-- what the union-only test (`is_decomposable` before the library's correction) establishes: non-empty and
union = scope, nothing about overlap -/
theorem isDecomposableUnionOnly_eq_none_iff (n : Net α) (nodes : List Nat) :
    isDecomposableUnionOnly n nodes = none ↔ ∀ i ∈ nodes, ∀ x, n[i]? = some x → x.kind = .prod →
      x.ch ≠ [] ∧ scopeEq (x.ch.map (scopeOf n)).flatten x.scope := by
  rw [isDecomposableUnionOnly_unfold]
  refine findSome?_kind_eq_none_iff n nodes .prod _ _ (fun x => ?_)
  rw [ite2_none, length_beq_zero]
  simp only [Bool.not_eq_true', Bool.not_eq_false, scopeEqB_iff]
  exact and_congr Iff.rfl scopeEq_comm

theorem chOf_nil_of_ge (t : Net α) (i : Nat) (h : t.length ≤ i) : chOf t i = [] := by
  unfold chOf; rw [List.getElem?_eq_none h]

/-- a statement about every child edge can be read through `chOf` or off the table entries -/
theorem forall_mem_chOf_iff (t : Net α) (P : Nat → Nat → Prop) :
    (∀ a, ∀ c ∈ chOf t a, P a c) ↔ ∀ (i : Nat) (x : NNode α), t[i]? = some x → ∀ c ∈ x.ch, P i c := by
  constructor
  · intro h i x hx c hc
    exact h i c (by rw [chOf_some t i x hx]; exact hc)
  · intro h a c hc
    rcases Nat.lt_or_ge a t.length with ha | ha
    · rw [chOf_some t a _ (List.getElem?_eq_getElem ha)] at hc
      exact h a _ (List.getElem?_eq_getElem ha) c hc
    · rw [chOf_nil_of_ge t a ha] at hc; cases hc

/-- children-first storage (`WellOrdered` read through `chOf`) -/
def ChLt (t : Net α) : Prop := ∀ i, ∀ c ∈ chOf t i, c < i

theorem chLt_of_wellOrdered [CommSemiring α] (t : Net α) (hw : WellOrdered t) : ChLt t :=
  (forall_mem_chOf_iff t _).2 hw

theorem bfsAux_seen_subset (n : Net α) : ∀ fuel q seen, ∀ a ∈ seen, a ∈ bfsAux n fuel q seen := by
  intro fuel
  induction fuel with
  | zero => intro q seen a ha; simpa [bfsAux] using ha
  | succ f ih =>
    intro q seen a ha
    cases q with
    | nil => simpa [bfsAux] using ha
    | cons b qs =>
      simp only [bfsAux]
      exact ih _ _ a (List.mem_append_left _ ha)

theorem root_mem_collect (n : Net α) (root : Nat) : root ∈ collect n root :=
  bfsAux_seen_subset n _ _ _ root (by simp)

theorem collect_ne_nil (n : Net α) (root : Nat) : collect n root ≠ [] :=
  List.ne_nil_of_mem (root_mem_collect n root)

/-- one BFS step: the children of the popped node that are not yet seen, first occurrence only -/
def bfsNew (S : List Nat) (l : List Nat) (acc : List Nat) : List Nat :=
  l.foldl (fun acc c => if (S ++ acc).contains c then acc else acc ++ [c]) acc

theorem bfsNew_cons (S : List Nat) (c : Nat) (cs acc : List Nat) :
    bfsNew S (c :: cs) acc = bfsNew S cs (if (S ++ acc).contains c then acc else acc ++ [c]) := rfl

theorem mem_bfsNew (S : List Nat) : ∀ (l acc : List Nat) (x : Nat),
    x ∈ bfsNew S l acc ↔ x ∈ acc ∨ (x ∈ l ∧ x ∉ S) := by
  intro l
  induction l with
  | nil => intro acc x; simp [bfsNew]
  | cons c cs ih =>
    intro acc x
    -- what the accumulator holds after looking at `c`
    have hacc : x ∈ (if (S ++ acc).contains c then acc else acc ++ [c]) ↔ x ∈ acc ∨ (x = c ∧ x ∉ S) := by
      split
      next hc =>
        have hc' : c ∈ S ∨ c ∈ acc := by simpa using hc
        refine ⟨Or.inl, fun h => h.elim id ?_⟩
        rintro ⟨rfl, hS⟩
        exact hc'.resolve_left hS
      next hc =>
        have hc' : c ∉ S ∧ c ∉ acc := by simpa using hc
        rw [List.mem_append, List.mem_singleton]
        exact or_congr_right ⟨fun e => ⟨e, e ▸ hc'.1⟩, And.left⟩
    rw [bfsNew_cons, ih, hacc, List.mem_cons, or_assoc, or_and_right]

theorem nodup_bfsNew (S : List Nat) : ∀ (l acc : List Nat), acc.Nodup → (bfsNew S l acc).Nodup := by
  intro l
  induction l with
  | nil => intro acc h; exact h
  | cons c cs ih =>
    intro acc h
    rw [bfsNew_cons]
    apply ih
    split
    · exact h
    · next hc =>
      have hc' : c ∉ S ∧ c ∉ acc := by simpa using hc
      exact h.append (List.nodup_singleton c) (fun a ha hb => hc'.2 (List.mem_singleton.1 hb ▸ ha))

theorem bfsAux_step (n : Net α) (fuel a : Nat) (qs seen : List Nat) :
    bfsAux n (fuel+1) (a :: qs) seen =
      bfsAux n fuel (qs ++ bfsNew seen (chOf n a) []) (seen ++ bfsNew seen (chOf n a) []) := rfl

theorem mem_bfsNew_nil (seen l : List Nat) (x : Nat) : x ∈ bfsNew seen l [] ↔ x ∈ l ∧ x ∉ seen := by
  rw [mem_bfsNew]; exact or_iff_right List.not_mem_nil

theorem nodup_append_bfsNew (seen l : List Nat) (h : seen.Nodup) : (seen ++ bfsNew seen l []).Nodup :=
  h.append (nodup_bfsNew _ _ _ List.nodup_nil) (fun x hx hy => ((mem_bfsNew_nil seen l x).1 hy).2 hx)

theorem bfsAux_nodup (n : Net α) : ∀ fuel q seen, seen.Nodup → (bfsAux n fuel q seen).Nodup := by
  intro fuel
  induction fuel with
  | zero => exact fun q seen h => h
  | succ f ih =>
    intro q seen h
    cases q with
    | nil => exact h
    | cons a qs => exact ih _ _ (nodup_append_bfsNew seen _ h)

theorem collect_nodup (n : Net α) (root : Nat) : (collect n root).Nodup :=
  bfsAux_nodup n _ _ _ (List.nodup_singleton root)

theorem nodup_length_le (l : List Nat) (N : Nat) (hnd : l.Nodup) (hlt : ∀ a ∈ l, a < N) : l.length ≤ N := by
  have hsub : l ⊆ List.range N := fun a ha => List.mem_range.2 (hlt a ha)
  simpa using (List.subperm_of_subset hnd hsub).length_le

/-- the edge relation of the stored graph -/
def Edge (n : Net α) (a b : Nat) : Prop := b ∈ chOf n a

/-- BFS invariant ⇒ on return the `seen` list is exactly the set reachable from the root; `done` are the
nodes already popped from the queue.  Termination is the fuel bound `n.length + 1 ≤ fuel + done.length`: each step
moves one node to `done`, and `seen` (duplicate-free, in range) has at most `n.length` entries, so the queue is
empty before the fuel is. -/
theorem bfsAux_spec (n : Net α) (root : Nat) (hch : ∀ a, ∀ c ∈ chOf n a, c < n.length) :
    ∀ (fuel : Nat) (done q seen : List Nat), seen = done ++ q →
      seen.Nodup → (∀ a ∈ seen, a < n.length) → root ∈ seen →
      (∀ a ∈ seen, Relation.ReflTransGen (Edge n) root a) →
      (∀ a ∈ done, ∀ c ∈ chOf n a, c ∈ seen) →
      n.length + 1 ≤ fuel + done.length →
      ∀ i, i ∈ bfsAux n fuel q seen ↔ Relation.ReflTransGen (Edge n) root i := by
  intro fuel
  induction fuel with
  | zero =>
    intro done q seen hs hnd hlt _ _ _ hfuel
    have h1 := nodup_length_le _ _ hnd hlt
    rw [hs, List.length_append] at h1
    omega
  | succ f ih =>
    intro done q seen hs hnd hlt hroot hreach hclosed hfuel
    cases q with
    | nil =>
      rw [List.append_nil] at hs
      subst hs
      refine fun i => ⟨hreach i, fun h => ?_⟩
      induction h with
      | refl => exact hroot
      | tail _ hbc ihb => exact hclosed _ ihb _ hbc
    | cons a qs =>
      rw [bfsAux_step]
      have hnew := mem_bfsNew_nil seen (chOf n a)
      have ha : a ∈ seen := hs ▸ List.mem_append_right _ List.mem_cons_self
      refine ih (done ++ [a]) _ _ (by rw [hs]; simp) (nodup_append_bfsNew seen _ hnd) ?_
        (List.mem_append_left _ hroot) ?_ ?_ (by rw [List.length_append, List.length_singleton]; omega)
      · exact fun x hx => (List.mem_append.1 hx).elim (hlt x) (fun hx => hch a x ((hnew x).1 hx).1)
      · exact fun x hx => (List.mem_append.1 hx).elim (hreach x)
          (fun hx => Relation.ReflTransGen.tail (hreach a ha) ((hnew x).1 hx).1)
      · intro b hb c hc
        rcases List.mem_append.1 hb with hb | hb
        · exact List.mem_append_left _ (hclosed b hb c hc)
        · rw [List.mem_singleton.1 hb] at hc
          exact (em (c ∈ seen)).elim (List.mem_append_left _) (fun hcs => List.mem_append_right _ ((hnew c).2 ⟨hc, hcs⟩))

/-- BFS correctness: with in-range child indices, `collect` is exactly the reachable set -/
theorem mem_collect_iff_reach (n : Net α) (root : Nat)
    (h : ∀ (i : Nat) (x : NNode α), n[i]? = some x → ∀ c ∈ x.ch, c < n.length) (i : Nat) :
    i ∈ collect n root ↔ Relation.ReflTransGen (Edge n) root i := by
  by_cases hr : root < n.length
  · refine bfsAux_spec n root ((forall_mem_chOf_iff n _).2 h) (n.length + 1) [] [root] [root] rfl
      (List.nodup_singleton root) ?_ List.mem_cons_self ?_ nofun (Nat.le_refl _) i
    · exact fun a ha => List.mem_singleton.1 ha ▸ hr
    · exact fun a ha => List.mem_singleton.1 ha ▸ Relation.ReflTransGen.refl
  · have hnone : chOf n root = [] := chOf_nil_of_ge n root (Nat.le_of_not_lt hr)
    have hc : collect n root = [root] := by
      unfold collect
      rw [bfsAux_step, hnone]
      simp only [bfsNew, List.foldl_nil, List.append_nil]
      cases n.length <;> rfl
    rw [hc, List.mem_singleton]
    constructor
    · rintro rfl; exact Relation.ReflTransGen.refl
    · intro hreach
      rcases Relation.ReflTransGen.cases_head hreach with h0 | ⟨c, hc1, _⟩
      · exact h0.symm
      · unfold Edge at hc1; rw [hnone] at hc1; cases hc1

theorem collect_closed (n : Net α) (root : Nat)
    (h : ∀ (i : Nat) (x : NNode α), n[i]? = some x → ∀ c ∈ x.ch, c < n.length)
    (p c : Nat) (hp : p ∈ collect n root) (hc : c ∈ chOf n p) : c ∈ collect n root :=
  (mem_collect_iff_reach n root h c).2
    (Relation.ReflTransGen.tail ((mem_collect_iff_reach n root h p).1 hp) hc)

theorem collect_parent (n : Net α) (root : Nat)
    (h : ∀ (i : Nat) (x : NNode α), n[i]? = some x → ∀ c ∈ x.ch, c < n.length)
    (i : Nat) (hi : i ∈ collect n root) (hne : i ≠ root) :
    ∃ p ∈ collect n root, i ∈ chOf n p := by
  rcases Relation.ReflTransGen.cases_tail ((mem_collect_iff_reach n root h i).1 hi) with h0 | ⟨p, hp, hpi⟩
  · exact absurd h0 hne
  · exact ⟨p, (mem_collect_iff_reach n root h p).2 hp, hpi⟩

/-- the facts about `collect` that the two Kahn loops rely on (in-range child indices) -/
theorem reachOK_collect (n : Net α) (root : Nat)
    (h : ∀ (i : Nat) (x : NNode α), n[i]? = some x → ∀ c ∈ x.ch, c < n.length) :
    Sched.ReachOK n root (collect n root) :=
  ⟨root_mem_collect n root, fun p hp c hc => collect_closed n root h p c hp hc,
    fun v hv => (em (v = root)).imp_right (collect_parent n root h v hv)⟩

theorem inRange_of_wellOrdered (n : Net α) (hw : WellOrdered n) :
    ∀ (i : Nat) (x : NNode α), n[i]? = some x → ∀ c ∈ x.ch, c < n.length :=
  fun i x hx c hc => lt_trans (hw i x hx c hc) (List.getElem?_eq_some_iff.1 hx).1

/-- `check_spn` reports the first of its three tests that fails -/
def firstFailure (a b c : Option String) : Verdict :=
  match a with
  | some w => .labeled w
  | none => match b with
    | some w => .smooth w
    | none => match c with
      | some w => .decomposable w
      | none => .accept

theorem checkSpn_eq (n : Net α) (root : Nat) (l s d : Bool) :
    checkSpn n root l s d = firstFailure (if l then isLabeled n (collect n root) else none)
      (if s then isSmooth n (collect n root) else none) (if d then isDecomposable n (collect n root) else none) :=
  rfl

theorem firstFailure_accept_iff (a b c : Option String) :
    firstFailure a b c = .accept ↔ a = none ∧ b = none ∧ c = none := by
  cases a with
  | some a => simp [firstFailure]
  | none =>
    cases b with
    | some b => simp [firstFailure]
    | none => cases c <;> simp [firstFailure]

theorem firstFailure_labeled_iff (a b c : Option String) (w : String) :
    firstFailure a b c = .labeled w ↔ a = some w := by
  cases a with
  | some a => simp [firstFailure]
  | none =>
    cases b with
    | some b => simp [firstFailure]
    | none => cases c <;> simp [firstFailure]

theorem firstFailure_smooth_iff (a b c : Option String) (w : String) :
    firstFailure a b c = .smooth w ↔ a = none ∧ b = some w := by
  cases a with
  | some a => simp [firstFailure]
  | none =>
    cases b with
    | some b => simp [firstFailure]
    | none => cases c <;> simp [firstFailure]

theorem firstFailure_decomposable_iff (a b c : Option String) (w : String) :
    firstFailure a b c = .decomposable w ↔ a = none ∧ b = none ∧ c = some w := by
  cases a with
  | some a => simp [firstFailure]
  | none =>
    cases b with
    | some b => simp [firstFailure]
    | none => cases c <;> simp [firstFailure]

theorem checkSpn_accept_iff_flags (n : Net α) (root : Nat) (l s d : Bool) :
    checkSpn n root l s d = .accept ↔
      (l = true → isLabeled n (collect n root) = none) ∧
      (s = true → isSmooth n (collect n root) = none) ∧
      (d = true → isDecomposable n (collect n root) = none) := by
  rw [checkSpn_eq, firstFailure_accept_iff]
  simp only [ite_eq_right_iff]

theorem checkSpn_labeled_iff (n : Net α) (root : Nat) (l s d : Bool) (w : String) :
    checkSpn n root l s d = .labeled w ↔ l = true ∧ isLabeled n (collect n root) = some w := by
  rw [checkSpn_eq, firstFailure_labeled_iff, Option.ite_none_right_eq_some]

theorem checkSpn_smooth_iff (n : Net α) (root : Nat) (l s d : Bool) (w : String) :
    checkSpn n root l s d = .smooth w ↔
      (l = true → isLabeled n (collect n root) = none) ∧ s = true ∧ isSmooth n (collect n root) = some w := by
  rw [checkSpn_eq, firstFailure_smooth_iff, ite_eq_right_iff, Option.ite_none_right_eq_some]

theorem checkSpn_decomposable_iff (n : Net α) (root : Nat) (l s d : Bool) (w : String) :
    checkSpn n root l s d = .decomposable w ↔
      (l = true → isLabeled n (collect n root) = none) ∧ (s = true → isSmooth n (collect n root) = none) ∧
        d = true ∧ isDecomposable n (collect n root) = some w := by
  rw [checkSpn_eq, firstFailure_decomposable_iff, ite_eq_right_iff, ite_eq_right_iff,
    Option.ite_none_right_eq_some]

end Net

namespace C03

/-- table leaf over variable `v` with Python id `id` -/
def lf (id v : Nat) (tbl : List Rat) : NNode Rat := ⟨id, .leaf, [v], [], [], .cat v tbl⟩

/-- a valid normalised DAG with a **shared** child: `0.25·(A₀·B₁) + 0.75·(A₀·C₁)` where leaf `A₀`
(table index 0) is a child of both products; ids follow BFS order from the root (index 5) -/
def exNet : Net Rat :=
  [ lf 3 0 [1/2, 1/2], lf 4 1 [1/3, 2/3], lf 5 1 [1/2, 1/2],
    ⟨1, .prod, [0, 1], [0, 1], [], .absent⟩,
    ⟨2, .prod, [1, 0], [0, 2], [], .absent⟩,
    ⟨0, .sum, [0, 1], [3, 4], [1/4, 3/4], .absent⟩ ]

/-- the counterexample to the union-only test: product over `[0,1]` (index 3) whose children are the leaf over
variable 0 (index 0, shared) and the product (index 2) of the leaves over variables 0 and 1 -/
def witnessNet : Net Rat :=
  [ lf 1 0 [1/2, 1/2], lf 3 1 [1/2, 1/2],
    ⟨2, .prod, [0, 1], [0, 1], [], .absent⟩,
    ⟨0, .prod, [0, 1], [0, 2], [], .absent⟩ ]

/-- `exNet` with the id of the shared leaf clashing with the root's id -/
def badIdNet : Net Rat :=
  [ lf 0 0 [1/2, 1/2], lf 4 1 [1/3, 2/3], lf 5 1 [1/2, 1/2],
    ⟨1, .prod, [0, 1], [0, 1], [], .absent⟩,
    ⟨2, .prod, [1, 0], [0, 2], [], .absent⟩,
    ⟨0, .sum, [0, 1], [3, 4], [1/4, 3/4], .absent⟩ ]

/-- `exNet` with one weight missing at the root (labels fine, not smooth) and an overlapping product -/
def badSmoothNet : Net Rat :=
  [ lf 3 0 [1/2, 1/2], lf 4 1 [1/3, 2/3], lf 5 0 [1/2, 1/2],
    ⟨1, .prod, [0, 1], [0, 1], [], .absent⟩,
    ⟨2, .prod, [1, 0], [0, 2], [], .absent⟩,
    ⟨0, .sum, [0, 1], [3, 4], [1/4], .absent⟩ ]

theorem tsum_half_half : tsum [(1/2 : Rat), 1/2] = 1 := by norm_num [tsum]
theorem tsum_third_two_thirds : tsum [(1/3 : Rat), 2/3] = 1 := by norm_num [tsum]

theorem lf_ok (id v : Nat) (tbl : List Rat) (hl : tbl.length = 2) (hs : tsum tbl = 1) (d : Rat) :
    LeafOK (fun _ => 2) (lf id v tbl).scope ((lf id v tbl).leaf.fn (lf id v tbl).scope d) :=
  Circ.catLeaf_ok _ v tbl hl hs

theorem exNet_wellOrdered : WellOrdered exNet := (wellOrderedB_iff _).1 (by decide)

theorem exNet_leafOK : ∀ (i : Nat) (x : NNode Rat), exNet[i]? = some x → x.kind = .leaf →
      LeafOK (fun _ => 2) x.scope (x.leaf.fn x.scope (([] : List Rat).getD i 0)) := by
  unfold exNet
  simp only [forall_idx_cons, forall_idx_nil]
  exact ⟨fun _ => lf_ok _ _ _ rfl tsum_half_half _, fun _ => lf_ok _ _ _ rfl tsum_third_two_thirds _,
    fun _ => lf_ok _ _ _ rfl tsum_half_half _, nofun, nofun, nofun, trivial⟩

theorem exNet_normW : NetNormW exNet := by
  unfold NetNormW exNet
  simp only [forall_idx_cons, forall_idx_nil]
  exact ⟨nofun, nofun, nofun, nofun, nofun, fun _ => by norm_num [tsum], trivial⟩

theorem exNet_leafNorm : NetLeafNorm exNet [] := by
  unfold NetLeafNorm exNet
  simp only [forall_idx_cons, forall_idx_nil]
  exact ⟨fun _ => rfl, fun _ => rfl, fun _ => rfl, nofun, nofun, nofun, trivial⟩

theorem witnessNet_wellOrdered : WellOrdered witnessNet := (wellOrderedB_iff _).1 (by decide)

theorem witnessNet_leafOK : ∀ (i : Nat) (x : NNode Rat), witnessNet[i]? = some x → x.kind = .leaf →
      LeafOK (fun _ => 2) x.scope (x.leaf.fn x.scope (([] : List Rat).getD i 0)) := by
  unfold witnessNet
  simp only [forall_idx_cons, forall_idx_nil]
  exact ⟨fun _ => lf_ok _ _ _ rfl tsum_half_half _, fun _ => lf_ok _ _ _ rfl tsum_half_half _, nofun, nofun,
    trivial⟩

theorem witnessNet_normW : NetNormW witnessNet := by
  unfold NetNormW witnessNet
  simp only [forall_idx_cons, forall_idx_nil]
  exact ⟨nofun, nofun, nofun, nofun, trivial⟩

theorem witnessNet_leafNorm : NetLeafNorm witnessNet [] := by
  unfold NetLeafNorm witnessNet
  simp only [forall_idx_cons, forall_idx_nil]
  exact ⟨fun _ => rfl, fun _ => rfl, nofun, nofun, trivial⟩

end C03
end Deeprob
