import DeeprobModel.Lemmas.RatSamplePmf
import DeeprobModel.Lemmas.ArgmaxLemmas
set_option linter.unusedSimpArgs false
set_option linter.unusedVariables false
set_option linter.unusedSectionVars false
/-
C16 (MPE clause): the layer-wise index propagation of `RatSpn.mpe` selects exactly the nodes that the MPE
descent (`TCirc.mpeDescent`) of the unrolled circuit visits.
-/
namespace Deeprob
namespace RatSample
open RatSpn TCirc Tensor

section shapes
variable {α : Type} [Zero α] [One α] [Add α] [Mul α]

theorem innerVal_groups (w : Nat → Nat → Nat → List α) (rgSum : Nat) :
    ∀ (k l : Nat) (V : Tab α), (innerVal w rgSum k l V).groups = V.groups / 2 ^ k
  | 0, _, V => (Nat.div_one _).symm
  | 1, _, V => by rw [Nat.pow_one]; rfl
  | k + 2, l, V => by
      rw [innerVal, innerVal_groups w rgSum (k + 1) (l + 1), Nat.pow_succ 2 (k + 1), Nat.mul_comm,
        ← Nat.div_div_eq_div_mul]
      rfl

theorem innerVal_nodes_pos (w : Nat → Nat → Nat → List α) (rgSum : Nat) (hs : 0 < rgSum) :
    ∀ (k l : Nat) (V : Tab α), 0 < V.nodes → 0 < (innerVal w rgSum k l V).nodes
  | 0, _, _, h => h
  | 1, _, _, h => Nat.mul_pos h h
  | k + 2, l, _, _ => innerVal_nodes_pos w rgSum hs (k + 1) (l + 1) _ hs

theorem prodDownI_len (m : Nat) (io : Idx) (h : io.2.length = io.1.length) :
    (prodDownI m io).2.length = (prodDownI m io).1.length := by
  simp only [prodDownI, prodDown, List.length_flatMap, List.length_cons, List.length_nil, List.map_const',
    List.sum_replicate_nat, h]

variable [LT α] [DecidableLT α]

/-- the groups reached by the MPE loop do not depend on the offsets -/
theorem mpeDown_fst (w : Nat → Nat → Nat → List α) (rgSum : Nat) :
    ∀ (k l : Nat) (V : Tab α) (io : Idx), (mpeDown w rgSum k l V io).1 = expandG k io.1
  | 0, _, _, _ => rfl
  | 1, _, _, _ => rfl
  | k + 2, l, V, io => by
      rw [expandG, ← mpeDown_fst w rgSum (k + 1) (l + 1) (sumVal (w l) rgSum (prodVal V)) io]
      rfl

theorem mpeDown_groups (w : Nat → Nat → Nat → List α) (rgSum : Nat) (g : Nat) (k l : Nat) (V : Tab α)
    (os : List Nat) : (mpeDown w rgSum k l V ([g], os)).1 = leafGroups g k := by
  rw [mpeDown_fst, leafGroups_eq_expandG]

theorem mpeDown_len (w : Nat → Nat → Nat → List α) (rgSum : Nat) :
    ∀ (k l : Nat) (V : Tab α) (io : Idx), io.2.length = io.1.length →
      (mpeDown w rgSum k l V io).2.length = (mpeDown w rgSum k l V io).1.length
  | 0, _, _, _, h => h
  | 1, _, _, _, h => prodDownI_len _ _ h
  | k + 2, l, V, io, h => by
      refine prodDownI_len _ _ ?_
      have ih := mpeDown_len w rgSum (k + 1) (l + 1) (sumVal (w l) rgSum (prodVal V)) io h
      simp only [sumMpe, List.length_zipWith, ih, Nat.min_self]

end shapes

section desc
variable {α : Type} [Field α] [LinearOrder α] [IsStrictOrderedRing α]

/-- the MPE pass through one node, started at the empty path -/
def desc (e : Ev) (c : TCirc α) (x : Ev) : Ev := pass (mpeBr e) mpeFill [] c x

theorem passAll_path (e : Ev) (cs : List (TCirc α))
    (IH : ∀ c ∈ cs, ∀ (p q : List Nat) (x : Ev), pass (mpeBr e) mpeFill p c x = pass (mpeBr e) mpeFill q c x) :
    ∀ (p q : List Nat) (j j' : Nat) (x : Ev),
      passAll (mpeBr e) mpeFill p j cs x = passAll (mpeBr e) mpeFill q j' cs x := by
  induction cs with
  | nil => intro p q j j' x; rfl
  | cons c cs ih =>
    intro p q j j' x
    simp only [passAll]
    rw [IH c List.mem_cons_self (j :: p) (j' :: q) x]
    exact ih (fun d hd => IH d (List.mem_cons_of_mem _ hd)) p q (j + 1) (j' + 1) _

/-- the MPE branch and leaf functions ignore the path -/
theorem pass_path (e : Ev) : ∀ (c : TCirc α) (p q : List Nat) (x : Ev),
    pass (mpeBr e) mpeFill p c x = pass (mpeBr e) mpeFill q c x := by
  intro c
  induction c using TCirc.ind with
  | hl s f m cd => intro p q x; simp only [pass, mpeFill]
  | hs s ws cs ih =>
    intro p q x
    simp only [pass, passAt_eq]
    have hb : mpeBr e p ws cs = mpeBr e q ws cs := rfl
    rw [hb]
    cases hk : cs[mpeBr e q ws cs]? with
    | none => rfl
    | some c => exact ih c (List.mem_of_getElem? hk) _ _ x
  | hp s cs ih =>
    intro p q x
    simp only [pass]
    exact passAll_path e cs ih p q 0 0 x

/-- a product forwards to its children, left to right -/
theorem desc_prod (e : Ev) (s : List Nat) {β : Type} (F : β → TCirc α) (l : List β) (x : Ev) :
    desc e (.prod s (l.map F)) x = l.foldl (fun x k => desc e (F k) x) x := by
  have h : ∀ (l : List β) (p : List Nat) (j : Nat) (x : Ev),
      passAll (mpeBr e) mpeFill p j (l.map F) x = l.foldl (fun x k => desc e (F k) x) x := by
    intro l
    induction l with
    | nil => intro p j x; rfl
    | cons k l ih =>
      intro p j x
      simp only [List.map_cons, passAll, List.foldl_cons]
      rw [pass_path e (F k) (j :: p) []]
      exact ih p (j + 1) _
  unfold desc
  simp only [pass]
  exact h l [] 0 x

theorem desc_sum (e : Ev) (s : List Nat) (ws : List α) (cs : List (TCirc α)) (x : Ev) :
    desc e (.sum s ws cs) x =
      match cs[argmax (List.zipWith (· * ·) ws (cs.map (TCirc.eval e)))]? with
      | some c => desc e c x
      | none => x := by
  unfold desc
  simp only [pass, passAt_eq, mpeBr]
  cases hk : cs[argmax (List.zipWith (· * ·) ws (cs.map (TCirc.eval e)))]? with
  | none => rfl
  | some c => exact pass_path e c _ _ x

/-- sequential MPE passes through the nodes selected by an index pair -/
def foldDesc (e : Ev) (T : Tab (TCirc α)) (io : Idx) (x : Ev) : Ev :=
  (io.1.zip io.2).foldl (fun x go => desc e (T.at_ go.1 go.2) x) x

theorem foldDesc_prodT (e : Ev) (T : Tab (TCirc α)) (gs os : List Nat) (x : Ev) :
    foldDesc e (prodT T) (gs, os) x = foldDesc e T (prodDownI T.nodes (gs, os)) x := by
  unfold foldDesc
  rw [zip_prodDownI, List.foldl_flatMap]
  refine congrArg (fun f => List.foldl f x _) (funext fun x => funext fun go => ?_)
  simp only [prodT]
  exact desc_prod e _ id [_, _] x

omit [Field α] [IsStrictOrderedRing α] in
theorem argmax_lt_of_pos (l : List α) (m : Nat) (hm : 0 < m) (hl : l.length ≤ m) : argmax l < m := by
  by_cases h : l = []
  · subst h; exact hm
  · exact Nat.lt_of_lt_of_le (argmax_lt_length l h) hl

/-- the arg-max over the weighted values of a row of `m` nodes is one of the `m` positions -/
theorem argmax_row_lt (ws : List α) (m : Nat) (hm : 0 < m) (f : Nat → α) :
    argmax (List.zipWith (· * ·) ws ((List.range m).map f)) < m :=
  argmax_lt_of_pos _ _ hm (by
    rw [List.length_zipWith, List.length_map, List.length_range]; exact Nat.min_le_right _ _)

theorem desc_sumT (e : Ev) (T : Tab (TCirc α)) (V : Tab α) (hA : Aligned e T V) (hpos : 0 < V.nodes)
    (w : Nat → Nat → List α) (out g o : Nat) (x : Ev) :
    desc e ((sumT w out T).at_ g o) x =
      desc e (T.at_ g (argmax (List.zipWith (· * ·) (w g o) ((List.range V.nodes).map (fun t => V.at_ g t))))) x := by
  simp only [sumT]
  rw [desc_sum, hA.map_row, hA.2.1, List.getElem?_map, List.getElem?_range (argmax_row_lt _ _ hpos _)]
  rfl

/-- the index pair after the arg-max of a sum layer, entry by entry -/
theorem zip_sumMpe (w : Nat → Nat → List α) (V : Tab α) : ∀ (gs os : List Nat),
    (sumMpe w V (gs, os)).1.zip (sumMpe w V (gs, os)).2 = (gs.zip os).map (fun go =>
      (go.1, argmax (List.zipWith (· * ·) (w go.1 go.2) ((List.range V.nodes).map (fun t => V.at_ go.1 t)))))
  | [], os => rfl
  | g :: gs, [] => rfl
  | g :: gs, o :: os => by
      have ih := zip_sumMpe w V gs os
      simp only [sumMpe, List.zipWith_cons_cons, List.zip_cons_cons, List.map_cons] at ih ⊢
      rw [ih]

theorem foldDesc_sumT (e : Ev) (T : Tab (TCirc α)) (V : Tab α) (hA : Aligned e T V) (hpos : 0 < V.nodes)
    (w : Nat → Nat → List α) (out : Nat) (gs os : List Nat) (x : Ev) :
    foldDesc e (sumT w out T) (gs, os) x = foldDesc e T (sumMpe w V (gs, os)) x := by
  unfold foldDesc
  rw [zip_sumMpe, List.foldl_map]
  exact congrArg (fun f => List.foldl f x _) (funext fun x => funext fun go => desc_sumT e T V hA hpos w out _ _ x)

/-- **simulation of the MPE loop**: the descent through the nodes selected at the top of the inner
layers is the descent through the nodes that `mpeDown` selects at the bottom -/
theorem foldDesc_inner (e : Ev) (w : Nat → Nat → Nat → List α) (rgSum : Nat) (hs : 0 < rgSum) :
    ∀ (k l : Nat) (T : Tab (TCirc α)) (V : Tab α), Aligned e T V → 0 < V.nodes →
      ∀ (io : Idx) (x : Ev),
        foldDesc e (innerT w rgSum k l T) io x = foldDesc e T (mpeDown w rgSum k l V io) x := by
  intro k
  induction k with
  | zero => exact fun _ _ _ _ _ _ _ => rfl
  | succ k ih =>
    intro l T V hA hpos io x
    cases k with
    | zero =>
      simp only [innerT, mpeDown]
      rw [← hA.2.1]
      exact foldDesc_prodT e T io.1 io.2 x
    | succ k =>
      simp only [innerT, mpeDown]
      have hA1 := aligned_prod hA
      rw [ih (l + 1) _ _ (aligned_sum (w l) rgSum hA1) hs io x,
        foldDesc_sumT e _ _ hA1 (Nat.mul_pos hpos hpos) (w l) rgSum _ _ x, ← hA.2.1]
      exact foldDesc_prodT e T _ _ x

end desc

end RatSample
end Deeprob
