import DeeprobModel.Lemmas.RewriteNetProps
set_option linter.unusedSectionVars false
set_option linter.unusedSimpArgs false
set_option linter.unusedVariables false
/-
The canonical export of a rewritten table (`dfsPost`, `exportTable`, `exportFrom` = `assign_ids` + harness
`children_first`): the post-order lists the nodes reachable from its start, each once, children first
(`OrderOK`); entry `p` of the exported table is node `order[p]` with children renamed by position (`export_node`),
and has its value (`export_eval`).
-/
namespace Deeprob
open Net
variable {α : Type} [CommSemiring α]

theorem foldl_inv {σ β : Type} (M : σ → Prop) (f : σ → β → σ) (l : List β)
    (h : ∀ s, M s → ∀ b ∈ l, M (f s b)) (s : σ) (hs : M s) : M (l.foldl f s) := by
  induction l generalizing s with
  | nil => exact hs
  | cons b l ih =>
    exact ih (fun s hs c hc => h s hs c (List.mem_cons_of_mem _ hc)) _ (h s hs b List.mem_cons_self)

/-- `out` lists children before parents and is closed under taking children -/
def Closed (t : Net α) (out : List Nat) : Prop :=
  ∀ p (hp : p < out.length), ∀ c ∈ chOf t out[p], c ∈ out.take p

theorem closed_snoc (t : Net α) (out : List Nat) (i : Nat) (h : Closed t out) (hi : ∀ c ∈ chOf t i, c ∈ out) :
    Closed t (out ++ [i]) := by
  intro p hp c hc
  rw [List.length_append, List.length_singleton] at hp
  rcases Nat.lt_or_ge p out.length with h1 | h1
  · rw [List.getElem_append_left h1] at hc
    rw [List.take_append_of_le_length (Nat.le_of_lt h1)]
    exact h p h1 c hc
  · obtain rfl : p = out.length := by omega
    rw [List.getElem_concat_length rfl] at hc
    rw [List.take_left' rfl]
    exact hi c hc

theorem closed_mem (t : Net α) (order : List Nat) (hcl : Closed t order) :
    ∀ i ∈ order, ∀ c ∈ chOf t i, c ∈ order := by
  intro i hi c hc
  obtain ⟨p, hp, rfl⟩ := List.getElem_of_mem hi
  exact List.mem_of_mem_take (hcl p hp c hc)

theorem dfsPost_sub (t : Net α) (Q : Nat → Prop) (hQ : ∀ i, Q i → ∀ c ∈ chOf t i, Q c) :
    ∀ fuel out i, Q i → ∀ j ∈ dfsPost t fuel out i, j ∈ out ∨ Q j := by
  intro fuel
  induction fuel with
  | zero => exact fun out i _ j hj => Or.inl hj
  | succ fuel ih =>
    intro out i hi j hj
    unfold dfsPost at hj
    split at hj
    · exact Or.inl hj
    · rcases List.mem_append.1 hj with h | h
      · exact foldl_inv (fun o => ∀ j ∈ o, j ∈ out ∨ Q j) _ (chOf t i)
          (fun o ho c hc j hj => (ih o c (hQ i hi c hc) j hj).elim (ho j) Or.inr) out (fun j hj => Or.inl hj) j h
      · exact Or.inr (List.mem_singleton.1 h ▸ hi)

theorem dfsPost_le (t : Net α) (ht : WellOrdered t) (fuel : Nat) (out : List Nat) (i : Nat) :
    ∀ j ∈ dfsPost t fuel out i, j ∈ out ∨ j ≤ i :=
  dfsPost_sub t (fun j => j ≤ i) (fun a ha c hc => Nat.le_trans (Nat.le_of_lt (chLt_of_wellOrdered t ht a c hc)) ha)
    fuel out i (Nat.le_refl i)

theorem dfsPost_nodup (t : Net α) (ht : WellOrdered t) : ∀ fuel out i, out.Nodup → (dfsPost t fuel out i).Nodup := by
  intro fuel
  induction fuel with
  | zero => exact fun out i h => h
  | succ fuel ih =>
    intro out i hnd
    unfold dfsPost
    split
    · exact hnd
    · rename_i hin
      have hni : i ∉ out := fun h => hin (List.contains_iff_mem.2 h)
      -- what the children add lies below `i`
      have hlt := foldl_inv (fun o => ∀ j ∈ o, j ∈ out ∨ j < i) (dfsPost t fuel) (chOf t i)
        (fun o ho c hc j hj => (dfsPost_le t ht fuel o c j hj).elim (ho j)
          (fun h => Or.inr (Nat.lt_of_le_of_lt h (chLt_of_wellOrdered t ht i c hc)))) out (fun j hj => Or.inl hj)
      refine List.nodup_append.2 ⟨foldl_inv List.Nodup _ _ (fun o ho c _ => ih o c ho) out hnd,
        List.nodup_singleton i, fun a ha b hb hab => ?_⟩
      obtain rfl := List.mem_singleton.1 hb
      exact (hlt a ha).elim (fun h => hni (hab ▸ h)) (fun h => Nat.lt_irrefl _ (hab ▸ h))

theorem dfsPost_spec (t : Net α) (ht : WellOrdered t) : ∀ fuel out i, i < fuel → Closed t out →
    Closed t (dfsPost t fuel out i) ∧ i ∈ dfsPost t fuel out i ∧
    (∃ s, dfsPost t fuel out i = out ++ s) ∧ (i ∉ out → ∃ s, dfsPost t fuel out i = s ++ [i]) := by
  intro fuel
  induction fuel with
  | zero => intro out i hi; omega
  | succ fuel ih =>
    intro out i hi hcl
    unfold dfsPost
    split
    · rename_i hin
      have : i ∈ out := List.contains_iff_mem.1 hin
      exact ⟨hcl, this, ⟨[], (List.append_nil _).symm⟩, fun h => absurd this h⟩
    · have hch := chLt_of_wellOrdered t ht i
      have fold : ∀ (cs : List Nat) (o : List Nat), (∀ c ∈ cs, c < fuel) → Closed t o →
          Closed t (cs.foldl (dfsPost t fuel) o) ∧ (∀ c ∈ cs, c ∈ cs.foldl (dfsPost t fuel) o) ∧
          (∃ s, cs.foldl (dfsPost t fuel) o = o ++ s) := by
        intro cs
        induction cs with
        | nil => exact fun o _ ho => ⟨ho, fun _ h => absurd h List.not_mem_nil, ⟨[], (List.append_nil _).symm⟩⟩
        | cons c cs ihc =>
          intro o hlt ho
          obtain ⟨h1, h2, ⟨s1, h3⟩, _⟩ := ih o c (hlt c List.mem_cons_self) ho
          obtain ⟨k1, k2, ⟨s2, k3⟩⟩ := ihc (dfsPost t fuel o c) (fun d hd => hlt d (List.mem_cons_of_mem _ hd)) h1
          rw [List.foldl_cons]
          refine ⟨k1, fun d hd => ?_, ⟨s1 ++ s2, by rw [k3, h3, List.append_assoc]⟩⟩
          rcases List.mem_cons.1 hd with rfl | hd
          · rw [k3]; exact List.mem_append_left _ h2
          · exact k2 d hd
      obtain ⟨f1, f2, ⟨s, f3⟩⟩ := fold (chOf t i) out (fun c hc => by have := hch c hc; omega) hcl
      exact ⟨closed_snoc t _ i f1 f2, List.mem_append_right _ (List.mem_singleton_self i),
        ⟨s ++ [i], by rw [f3, List.append_assoc]⟩, fun _ => ⟨_, rfl⟩⟩

/-- facts about the post-order from `r` of a children-first table -/
structure OrderOK (t : Net α) (r : Nat) (order : List Nat) : Prop where
  closed : Closed t order
  nodup : order.Nodup
  lt : ∀ i ∈ order, i < t.length
  ne : order ≠ []
  last : order[order.length - 1]? = some r
  sub : ∀ (Q : Nat → Prop), (∀ i, Q i → ∀ c ∈ chOf t i, Q c) → Q r → ∀ i ∈ order, Q i

theorem orderOK_dfsPost (t : Net α) (ht : WellOrdered t) (r : Nat) (hr : r < t.length) :
    OrderOK t r (dfsPost t (t.length + 1) [] r) := by
  obtain ⟨hcl, hmem, _, hlast⟩ := dfsPost_spec t ht (t.length + 1) [] r (by omega) (fun p hp => nomatch hp)
  obtain ⟨s, hs⟩ := hlast (List.not_mem_nil)
  refine { closed := hcl, nodup := dfsPost_nodup t ht _ _ _ List.nodup_nil, lt := ?_, ne := ?_, last := ?_, sub := ?_ }
  · intro i hi
    rcases dfsPost_le t ht _ _ _ i hi with h | h
    · cases h
    · omega
  · rw [hs]; exact List.concat_ne_nil _ _
  · rw [hs, List.length_append, List.length_singleton, Nat.add_sub_cancel, List.getElem?_concat_length]
  · intro Q hQ hQr i hi
    rcases dfsPost_sub t Q hQ _ _ _ hQr i hi with h | h
    · cases h
    · exact h

theorem OrderOK.posIn_root {t : Net α} {r : Nat} {order : List Nat} (ho : OrderOK t r order) :
    posIn order r = order.length - 1 := by
  have hp : order.length - 1 < order.length :=
    Nat.sub_lt (List.length_pos_iff.2 ho.ne) Nat.one_pos
  have h1 := ho.last
  rw [List.getElem?_eq_getElem hp] at h1
  have := ho.nodup.idxOf_getElem _ hp
  rwa [Option.some.inj h1] at this

theorem idxOf_lt_of_mem_take (l : List Nat) (p c : Nat) (h : c ∈ l.take p) : l.idxOf c < p := by
  have h1 : (l.take p).idxOf c < (l.take p).length := List.idxOf_lt_length_iff.2 h
  have h2 : l.idxOf c = (l.take p).idxOf c := by
    conv => lhs; rw [← List.take_append_drop p l]
    exact List.idxOf_append_of_mem h
  rw [h2]
  exact Nat.lt_of_lt_of_le h1 (List.length_take_le p l)

/-- relabelled copy of the nodes listed in `order` (what `exportFrom` builds) -/
def exportTable (t : Net α) (order : List Nat) (f : Nat → Nat) : Net α :=
  order.map (fun i => match t[i]? with
    | some x => { x with id := f i, ch := x.ch.map (posIn order) }
    | none => default)

theorem exportTable_length (t : Net α) (order : List Nat) (f : Nat → Nat) :
    (exportTable t order f).length = order.length := List.length_map _

theorem exportFrom_unpack (t : Net α) (r : Nat) (out : Net α) (order : List Nat)
    (h : exportFrom t r = some (out, order)) :
    ∃ ko, kahn t r = some ko ∧ order = dfsPost t (t.length + 1) [] r ∧ out = exportTable t order (posIn ko) := by
  unfold exportFrom at h
  cases hk : kahn t r with
  | none => rw [hk] at h; cases h
  | some ko =>
    rw [hk] at h
    obtain ⟨hout, hord⟩ := Prod.mk.inj (Option.some.inj h)
    exact ⟨ko, rfl, hord.symm, by rw [← hout, hord]; rfl⟩

theorem export_node (t : Net α) (order : List Nat) (f : Nat → Nat) (hcl : Closed t order)
    (hlt : ∀ i ∈ order, i < t.length) (p : Nat) (hp : p < order.length) :
    ∃ y, t[order[p]]? = some y ∧
      (exportTable t order f)[p]? = some { y with id := f order[p], ch := y.ch.map (posIn order) } ∧
      ∀ c ∈ y.ch, posIn order c < p ∧ ∃ (h : posIn order c < order.length), order[posIn order c] = c := by
  have hi : order[p] < t.length := hlt _ (List.getElem_mem hp)
  have hy : t[order[p]]? = some t[order[p]] := List.getElem?_eq_getElem hi
  generalize t[order[p]] = y at hy
  refine ⟨y, hy, ?_, ?_⟩
  · unfold exportTable
    rw [List.getElem?_map, List.getElem?_eq_getElem hp]
    simp only [Option.map_some, hy]
  · intro c hc
    have hmem := hcl p hp c (by rw [chOf_some t _ y hy]; exact hc)
    have h1 := idxOf_lt_of_mem_take order p c hmem
    have h2 : posIn order c < order.length := Nat.lt_trans h1 hp
    exact ⟨h1, h2, List.getElem_idxOf h2⟩

theorem export_kind_scope (t : Net α) (order : List Nat) (f : Nat → Nat) (hcl : Closed t order)
    (hlt : ∀ i ∈ order, i < t.length) (p : Nat) (hp : p < order.length) :
    kindOf (exportTable t order f) p = kindOf t order[p] ∧ scopeOf (exportTable t order f) p = scopeOf t order[p] := by
  obtain ⟨y, hy, ho, _⟩ := export_node t order f hcl hlt p hp
  rw [kindOf_some _ p _ ho, scopeOf_some _ p _ ho, kindOf_some t _ y hy, scopeOf_some t _ y hy]
  exact ⟨rfl, rfl⟩

theorem export_chLt (t : Net α) (order : List Nat) (f : Nat → Nat) (hcl : Closed t order)
    (hlt : ∀ i ∈ order, i < t.length) : WellOrdered (exportTable t order f) := by
  intro p z hz c hc
  have hp : p < order.length := exportTable_length t order f ▸ (List.getElem?_eq_some_iff.1 hz).1
  obtain ⟨y, hy, ho, hch⟩ := export_node t order f hcl hlt p hp
  rw [ho] at hz
  cases hz
  obtain ⟨c0, hc0, rfl⟩ := List.mem_map.1 hc
  exact (hch c0 hc0).1

theorem export_eval (t : Net α) (ht : WellOrdered t) (order : List Nat) (f : Nat → Nat) (hcl : Closed t order)
    (hlt : ∀ i ∈ order, i < t.length) (e : Ev) (dens : List α) :
    ∀ p (hp : p < order.length),
      nval e (order.map (fun i => dens.getD i 0)) (exportTable t order f) p = nval e dens t order[p] := by
  intro p
  induction p using Nat.strong_induction_on with
  | _ p ih =>
    intro hp
    obtain ⟨y, hy, hout, hpos⟩ := export_node t order f hcl hlt p hp
    rw [nval_unfold e _ _ p _ hout (fun c hc => by
          obtain ⟨c0, hc0, rfl⟩ := List.mem_map.1 hc; exact (hpos c0 hc0).1),
        nval_unfold e dens t order[p] y hy (ht _ y hy)]
    have hmap : (y.ch.map (posIn order)).map (nval e (order.map (fun i => dens.getD i 0)) (exportTable t order f))
        = y.ch.map (nval e dens t) := by
      rw [List.map_map]
      apply List.map_congr_left
      intro c hc
      obtain ⟨h1, h2, h3⟩ := hpos c hc
      show nval _ _ _ (posIn order c) = _
      rw [ih _ h1 h2, h3]
    have hd : (order.map (fun i => dens.getD i 0)).getD p 0 = dens.getD order[p] 0 := by
      rw [List.getD_eq_getElem?_getD, List.getElem?_map, List.getElem?_eq_getElem hp]; rfl
    simp only [hmap, hd]

theorem collect_closed_of_wellOrdered (t : Net α) (ht : WellOrdered t) (root : Nat) :
    ∀ i, i ∈ collect t root → ∀ c ∈ chOf t i, c ∈ collect t root :=
  fun i hi c hc => collect_closed t root (inRange_of_wellOrdered t ht) i c hi hc

theorem collect_lt_of_chLt (t : Net α) (ht : WellOrdered t) (root : Nat) (hr : root < t.length) :
    ∀ i ∈ collect t root, i ≤ root := by
  intro i hi
  have hreach := (mem_collect_iff_reach t root (inRange_of_wellOrdered t ht) i).1 hi
  clear hi
  induction hreach with
  | refl => exact Nat.le_refl _
  | tail _ hbc ih => exact Nat.le_trans (Nat.le_of_lt (chLt_of_wellOrdered t ht _ _ hbc)) ih

theorem pruneNetWith_unpack (b : Bool) (net : Net α) (root : Nat) (hw : WellOrdered net) (hr : root < net.length)
    (out : Net α) (order : List Nat) (h : pruneNetWith b net root = some (out, order)) :
    ∃ ko, kahn (prunePass b net).1 ((prunePass b net).2.getD root root) = some ko ∧
      OrderOK (prunePass b net).1 ((prunePass b net).2.getD root root) order ∧
      out = exportTable (prunePass b net).1 order (posIn ko) := by
  have S := prunePass_sol b net hw
  obtain ⟨ko, hk, ho, he⟩ := exportFrom_unpack _ _ _ _ h
  refine ⟨ko, hk, ?_, he⟩
  rw [ho]
  exact orderOK_dfsPost _ S.wellOrdered _ (S.lt ▸ Nat.lt_of_le_of_lt (S.basic root hr).rep_le hr)

/-- the set of replacements of the nodes of `P` -/
def RepOf (net : Net α) (rep : List Nat) (P : Nat → Prop) (r : Nat) : Prop :=
  ∃ j, j < net.length ∧ P j ∧ rep.getD j j = r

theorem export_good (net t : Net α) (rep : List Nat) (hw : WellOrdered net) (S : Sol true net t rep)
    (P : Nat → Prop) (hP : ∀ i, P i → ∀ c ∈ chOf net i, P c) (hsh : ShapeOK net P)
    (root : Nat) (hr : root < net.length) (hPr : P root) (order : List Nat)
    (ho : OrderOK t (rep.getD root root) order) :
    ∀ i ∈ order, RepOf net rep P i ∧ GoodAt t rep P i := by
  have hgood : ∀ r, RepOf net rep P r → GoodAt t rep P r := by
    rintro r ⟨j, hj, hPj, rfl⟩
    exact sol_good net t rep hw S P hP hsh j hj hPj
  have hcl : ∀ i, RepOf net rep P i → ∀ c ∈ chOf t i, RepOf net rep P c := by
    intro i hi c hc
    obtain ⟨y, hy, hg⟩ := hgood i hi
    rw [chOf_some t i y hy] at hc
    rcases hg with ⟨_, h0⟩ | ⟨_, _, h3⟩
    · rw [h0] at hc; cases hc
    · obtain ⟨_, j, hj, hPj, hjc⟩ := h3 c hc
      obtain ⟨j0, hj0, _, hj0i⟩ := hi
      have := (S.basic j0 hj0).rep_le
      exact ⟨j, by omega, hPj, hjc⟩
  intro i hi
  have := ho.sub (RepOf net rep P) hcl ⟨root, hr, hPr, rfl⟩ i hi
  exact ⟨this, hgood i this⟩

end Deeprob
