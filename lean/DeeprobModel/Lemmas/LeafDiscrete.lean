import DeeprobModel.Model.LeafQ
import DeeprobModel.Lemmas.MomentLemmas
import DeeprobModel.Lemmas.ArgmaxLemmas
import DeeprobModel.Lemmas.ListSums
import Mathlib.Data.List.Nodup
/-
Discrete leaf families (`Bernoulli`, `Categorical`) of `Model/LeafQ.lean`: the pmf is indexed by category value,
sums over the support, raw moments, the mode (`np.argmax` = first maximal entry), and the bridge to the dense
value-indexed tables `Circ.catLeaf` / `MCirc.cat` of the circuit theory.
-/
namespace Deeprob.LeafTheory
open Deeprob

section Semiring
variable {α : Type} [CommSemiring α]

theorem catPmf_not_mem : ∀ (cats : List Int) (ps : List α) (x : Int), x ∉ cats → catPmf cats ps x = 0
  | [], _, _, _ | _ :: _, [], _, _ => rfl
  | _ :: cs, _ :: ps, x, h =>
      (if_neg (List.ne_of_not_mem_cons h)).trans (catPmf_not_mem cs ps x (List.not_mem_of_not_mem_cons h))

/-- a category listed once contributes its own probability and nothing else -/
theorem catPmf_cons_of_not_mem {c : Int} {cs : List Int} (h : c ∉ cs) (p : α) (ps : List α) (x : Int) :
    catPmf (c :: cs) (p :: ps) x = (if x = c then p else 0) + catPmf cs ps x := by
  rw [catPmf]
  split_ifs with hx
  · rw [hx, catPmf_not_mem cs ps c h, add_zero]
  · rw [zero_add]

/-- the probability stored at position `j` is the pmf of the category stored at position `j` -/
theorem catPmf_getElem : ∀ (cats : List Int) (ps : List α) (j : Nat) (c : Int) (p : α), cats.Nodup →
    cats[j]? = some c → ps[j]? = some p → catPmf cats ps c = p
  | [], _, _, _, _, _, h, _ => by simp at h
  | _ :: _, [], _, _, _, _, _, h => by simp at h
  | c0 :: cs, p0 :: ps, 0, c, p, _, h1, h2 => by
      cases h1; cases h2; exact if_pos rfl
  | c0 :: cs, p0 :: ps, j + 1, c, p, hn, h1, h2 => by
      obtain ⟨hc0, hn'⟩ := List.nodup_cons.1 hn
      rw [List.getElem?_cons_succ] at h1 h2
      rw [catPmf, if_neg fun hc : c = c0 => hc0 (hc ▸ List.mem_of_getElem? h1)]
      exact catPmf_getElem cs ps j c p hn' h1 h2

/-- Σ over the listed categories of a function of the category times its probability -/
def catSum (F : Int → α) : List Int → List α → α
  | c :: cs, p :: ps => F c * p + catSum F cs ps
  | _, _ => 0

/-- **sum over the support = sum over the stored pairs**: with pairwise different categories,
`Σ_{c ∈ cats} F c · pmf c = Σᵢ F cᵢ · pᵢ` -/
theorem tsum_support (F : Int → α) : ∀ (cats : List Int) (ps : List α), cats.Nodup → cats.length = ps.length →
    tsum (cats.map (fun c => F c * catPmf cats ps c)) = catSum F cats ps
  | [], _, _, _ => rfl
  | _ :: _, [], _, h => by simp at h
  | c :: cs, p :: ps, hn, hl => by
      have hn' := List.nodup_cons.1 hn
      simp only [List.map_cons, tsum, catSum, catPmf, if_true]
      rw [← tsum_support F cs ps hn'.2 (Nat.succ.inj hl)]
      congr 2
      exact List.map_congr_left fun x hx => by rw [if_neg (fun hc : x = c => hn'.1 (hc ▸ hx))]

theorem catSum_one : ∀ (cats : List Int) (ps : List α), cats.length = ps.length →
    catSum (fun _ => 1) cats ps = tsum ps
  | [], [], _ => rfl
  | [], _ :: _, h | _ :: _, [], h => by simp at h
  | c :: cs, p :: ps, hl => by
      simp only [catSum, tsum, one_mul]
      rw [catSum_one cs ps (Nat.succ.inj hl)]

/-- value-indexed rearrangement: `Σ_{j<n} F j · pmf j = Σᵢ F cᵢ · pᵢ` when the categories are pairwise different
naturals below `n` -/
theorem sumVar_catPmf (F : Nat → α) (n : Nat) : ∀ (cats : List Int) (ps : List α), cats.Nodup →
    (∀ c ∈ cats, 0 ≤ c ∧ c < n) →
    sumVar n (fun j => F j * catPmf cats ps (Int.ofNat j)) = catSum (fun c => F c.toNat) cats ps
  | [], _, _, _ | _ :: _, [], _, _ => by
      simp only [catPmf, mul_zero, catSum]; exact sumVar_zero n
  | c :: cs, p :: ps, hn, hr => by
      have hn' := List.nodup_cons.1 hn
      obtain ⟨hc0, hcn⟩ := hr c (List.mem_cons_self ..)
      have hm : ((c.toNat : Nat) : Int) = c := Int.toNat_of_nonneg hc0
      have hiff : ∀ j : Nat, Int.ofNat j = c ↔ j = c.toNat :=
        fun j => ⟨fun h => h ▸ (Int.toNat_natCast j).symm, fun h => h ▸ hm⟩
      simp only [catPmf_cons_of_not_mem hn'.1, mul_add, sumVar_add, hiff, mul_ite, mul_zero]
      rw [sumVar_single n c.toNat _ (by omega) fun k _ hk => if_neg hk, if_pos rfl,
        sumVar_catPmf F n cs ps hn'.2 (fun x hx => hr x (List.mem_cons_of_mem _ hx))]
      rfl

theorem denseTbl_length (cats : List Int) (ps : List α) (n : Nat) : (denseTbl cats ps n).length = n := by
  simp [denseTbl]

theorem denseTbl_getD (cats : List Int) (ps : List α) (n j : Nat) (hj : j < n) :
    (denseTbl cats ps n).getD j 0 = catPmf cats ps (Int.ofNat j) := by
  simp [denseTbl, List.getD_eq_getElem?_getD, List.getElem?_map, List.getElem?_range hj]

/-- the dense table carries the same total mass as the probability list -/
theorem denseTbl_tsum (cats : List Int) (ps : List α) (n : Nat) (hn : cats.Nodup)
    (hr : ∀ c ∈ cats, 0 ≤ c ∧ c < n) (hl : cats.length = ps.length) :
    tsum (denseTbl cats ps n) = tsum ps := by
  rw [← Circ.sumVar_tbl, denseTbl_length,
    sumVar_congr_lt n _ (fun j => 1 * catPmf cats ps (Int.ofNat j))
      (fun j hj => by rw [denseTbl_getD cats ps n j hj, one_mul]),
    sumVar_catPmf (fun _ => 1) n cats ps hn hr, catSum_one cats ps hl]

end Semiring

section Ring
variable {α : Type} [CommRing α]

theorem powN_eq_pow (x : α) : ∀ k : Nat, powN x k = x ^ k
  | 0 => by simp [powN]
  | k + 1 => by simp [powN, powN_eq_pow x k, pow_succ']

theorem catMoment_eq_catSum (k : Nat) : ∀ (cats : List Int) (ps : List α),
    catMoment k cats ps = catSum (fun c => ((c : Int) : α) ^ k) cats ps
  | [], _ | _ :: _, [] => rfl
  | c :: cs, p :: ps => by simp only [catMoment, catSum]; rw [catMoment_eq_catSum k cs ps]

theorem catSum_congr (F G : Int → α) : ∀ (cats : List Int) (ps : List α), (∀ c ∈ cats, F c = G c) →
    catSum F cats ps = catSum G cats ps
  | [], _, _ | _ :: _, [], _ => rfl
  | c :: cs, p :: ps, h => by
      simp only [catSum]
      rw [h c (List.mem_cons_self ..), catSum_congr F G cs ps (fun x hx => h x (List.mem_cons_of_mem _ hx))]

/-- **the leaf-moment hypothesis of C19, discharged**: the closed form `tblMoment` that the circuit theory uses
for a table leaf (`Σ_j jᵏ·tbl[j]`) on the dense table of a Categorical leaf is the leaf's own
`rv_discrete.moment(k) = Σ_c cᵏ·p_c` over category values -/
theorem tblMoment_denseTbl (k n : Nat) (cats : List Int) (ps : List α) (hn : cats.Nodup)
    (hr : ∀ c ∈ cats, 0 ≤ c ∧ c < n) :
    tblMoment k (denseTbl cats ps n) = catMoment k cats ps := by
  unfold tblMoment
  rw [denseTbl_length,
    sumVar_congr_lt n _ (fun j => powN (natC j) k * catPmf cats ps (Int.ofNat j))
      (fun j hj => by rw [denseTbl_getD cats ps n j hj]),
    sumVar_catPmf (fun j => powN (natC j) k) n cats ps hn hr, catMoment_eq_catSum]
  apply catSum_congr
  intro c hc
  have h0 := (hr c hc).1
  have e : ((c.toNat : ℕ) : α) = ((c : ℤ) : α) := by
    rw [← Int.cast_natCast, Int.toNat_of_nonneg h0]
  rw [powN_eq_pow, natC_eq_cast, e]

end Ring

section Order
variable {α : Type} [LinearOrder α]

theorem argmaxAux_eq : ∀ (xs : List α) (bi : Nat) (bv : α) (i : Nat),
    argmaxAux bi bv i xs = Deeprob.argmaxAux xs i bi bv
  | [], _, _, _ => rfl
  | x :: xs, bi, bv, i => by simp only [argmaxAux, Deeprob.argmaxAux, argmaxAux_eq xs]

/-- the same scan as `Deeprob.argmax` of the top-down layer -/
theorem argmaxFirst_eq : ∀ l : List α, argmaxFirst l = Deeprob.argmax l
  | [] => rfl
  | x :: xs => argmaxAux_eq xs 0 x 1

/-- `np.argmax` returns the first position of a maximal entry -/
theorem argmaxFirst_spec (l : List α) (hne : l ≠ []) :
    ∃ m, l[argmaxFirst l]? = some m ∧ (∀ x ∈ l, x ≤ m) ∧
      (∀ j, j < argmaxFirst l → ∀ x, l[j]? = some x → x < m) :=
  argmaxFirst_eq l ▸ argmax_spec l hne

end Order

end Deeprob.LeafTheory
