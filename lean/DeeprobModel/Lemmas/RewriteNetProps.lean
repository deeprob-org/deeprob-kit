import DeeprobModel.Lemmas.RewriteNetLemmas
import DeeprobModel.Lemmas.CheckLemmas
set_option linter.unusedSectionVars false
set_option linter.unusedSimpArgs false
set_option linter.unusedVariables false
/-
The net-level `prune` pass (`Model/RewriteNet.lean`) as the solution of local equations: one iteration of
`for node in reversed(nodes)` has five outcomes and reads `nodes_map` and the table only at descendants of the node, so
the pass in storage order is the solution of `(t[k], rep[k]) = pruneStep b t rep k net[k]` (`Sol`). Closure, value
and the invariant of `nodes_map` behind the normal form are then inductions over a solved state.
-/
namespace Deeprob
open Net
variable {α : Type} [CommSemiring α]

theorem single?_some {l : List Nat} {c : Nat} (h : single? l = some c) : l = [c] := by
  match l, h with
  | [d], h => rw [Option.some.inj h]

theorem single?_none {l : List Nat} (h : single? l = none) : l.length ≠ 1 := by
  match l, h with
  | [], _ => exact Nat.zero_ne_one
  | a :: b :: r, _ => exact fun h => Nat.succ_ne_zero _ (Nat.succ.inj h)

theorem single?_of_length_ne {l : List Nat} (h : l.length ≠ 1) : single? l = none := by
  match l, h with
  | [], _ => rfl
  | [a], h => simp at h
  | a :: b :: r, _ => rfl

theorem singleKey?_some {l : List (Nat × α)} {g : Nat} (h : singleKey? l = some g) : ∃ p, l = [p] ∧ p.1 = g := by
  match l, h with
  | [p], h => exact ⟨p, rfl, Option.some.inj h⟩

theorem singleKey?_none_iff {l : List (Nat × α)} : singleKey? l = none ↔ l.length ≠ 1 := by
  match l with
  | [] => simp [singleKey?]
  | [a] => simp [singleKey?]
  | a :: b :: r => simp [singleKey?]

theorem getElem?_take_lt' {β : Type} (l : List β) (k i : Nat) (h : i < k) : (l.take k)[i]? = l[i]? :=
  List.getElem?_take_of_lt h

theorem pruneStep_cases (b : Bool) (t : Net α) (rep : List Nat) (k : Nat) (x : NNode α) :
    (x.kind = .leaf ∧ pruneStep b t rep k x = (x, k)) ∨
    (x.kind ≠ .leaf ∧ ∃ c, repCh rep x = [c] ∧ pruneStep b t rep k x = (x, c)) ∨
    (x.kind = .prod ∧ (repCh rep x).length ≠ 1 ∧
      pruneStep b t rep k x = ({ x with ch := prodItems t rep (repCh rep x) }, k)) ∨
    (x.kind = .sum ∧ (repCh rep x).length ≠ 1 ∧ b = true ∧
      ∃ p, sumAcc t rep x = [p] ∧ pruneStep b t rep k x = (x, p.1)) ∨
    (x.kind = .sum ∧ (repCh rep x).length ≠ 1 ∧ (b = true → (sumAcc t rep x).length ≠ 1) ∧
      pruneStep b t rep k x
        = ({ x with ch := (sumAcc t rep x).map Prod.fst, ws := (sumAcc t rep x).map Prod.snd }, k)) := by
  have hrc : x.ch.map (fun c => rep.getD c c) = repCh rep x := rfl
  cases hkind : x.kind with
  | leaf => left; unfold pruneStep; rw [hkind]; exact ⟨rfl, rfl⟩
  | prod =>
    right
    cases hsing : single? (repCh rep x) with
    | some c =>
      left
      refine ⟨Kind.noConfusion, c, single?_some hsing, ?_⟩
      unfold pruneStep; simp only [hkind, hrc, hsing]
    | none =>
      right; left
      refine ⟨rfl, single?_none hsing, ?_⟩
      unfold pruneStep; simp only [hkind, hrc, hsing]
  | sum =>
    right
    cases hsing : single? (repCh rep x) with
    | some c =>
      left
      refine ⟨Kind.noConfusion, c, single?_some hsing, ?_⟩
      unfold pruneStep; simp only [hkind, hrc, hsing]
    | none =>
      right; right
      cases hcol : (if b then singleKey? (sumAcc t rep x) else none) with
      | some g =>
        left
        have hb : b = true := by
          cases b with
          | true => rfl
          | false => cases hcol
        subst hb
        have hcol : singleKey? (sumAcc t rep x) = some g := hcol
        obtain ⟨p, hp, rfl⟩ := singleKey?_some hcol
        refine ⟨rfl, single?_none hsing, rfl, p, hp, ?_⟩
        unfold pruneStep; simp only [hkind, hrc, hsing, if_true, hcol]
      | none =>
        right
        refine ⟨rfl, single?_none hsing, fun hb => ?_, ?_⟩
        · subst hb; exact singleKey?_none_iff.1 hcol
        · unfold pruneStep; simp only [hkind, hrc, hsing, hcol]

theorem sumItems_congr (t t' : Net α) (rep rep' : List Nat) (cn : List Nat) (ws : List α)
    (h : ∀ c ∈ cn, t[c]? = t'[c]? ∧ ∀ g ∈ chOf t c, rep.getD g g = rep'.getD g g) :
    sumItems t rep cn ws = sumItems t' rep' cn ws := by
  unfold sumItems
  congr 1
  apply List.map_congr_left
  intro p hp
  obtain ⟨h1, h2⟩ := h p.1 (List.of_mem_zip hp).1
  have hm : (chOf t p.1).map (fun g => rep.getD g g) = (chOf t p.1).map (fun g => rep'.getD g g) :=
    List.map_congr_left h2
  unfold kindOf chOf wsOf at *
  rw [← h1, hm]

theorem prodItems_congr (t t' : Net α) (rep rep' : List Nat) (cn : List Nat)
    (h : ∀ c ∈ cn, t[c]? = t'[c]? ∧ ∀ g ∈ chOf t c, rep.getD g g = rep'.getD g g) :
    prodItems t rep cn = prodItems t' rep' cn := by
  unfold prodItems
  congr 1
  apply List.map_congr_left
  intro c hcm
  obtain ⟨h1, h2⟩ := h c hcm
  have hm : (chOf t c).map (fun g => rep.getD g g) = (chOf t c).map (fun g => rep'.getD g g) :=
    List.map_congr_left h2
  unfold kindOf chOf at *
  rw [← h1, hm]

/-- **locality**: one iteration of `prune` reads `nodes_map` at the children of the node and at the children of
their replacements, and node objects only at those replacements -/
theorem pruneStep_congr (b : Bool) (t t' : Net α) (rep rep' : List Nat) (k : Nat) (x : NNode α)
    (h1 : ∀ c ∈ x.ch, rep.getD c c = rep'.getD c c)
    (h2 : ∀ c ∈ repCh rep x, t[c]? = t'[c]? ∧ ∀ g ∈ chOf t c, rep.getD g g = rep'.getD g g) :
    pruneStep b t rep k x = pruneStep b t' rep' k x := by
  have hcn : x.ch.map (fun c => rep.getD c c) = x.ch.map (fun c => rep'.getD c c) := List.map_congr_left h1
  unfold repCh at h2
  have hp := prodItems_congr t t' rep rep' _ h2
  have hs : sumAcc t rep x = sumAcc t' rep' x := by
    unfold sumAcc; rw [sumItems_congr t t' rep rep' _ x.ws h2, hcn]
  unfold pruneStep
  rw [hs, hp, hcn]

/-- basic facts about node `k` of the state `(t, rep)` -/
structure Basic (t : Net α) (rep : List Nat) (k : Nat) : Prop where
  rep_le : rep.getD k k ≤ k
  rep_fix : rep.getD (rep.getD k k) (rep.getD k k) = rep.getD k k
  ch_lt : ∀ c ∈ chOf t k, c < k
  ch_fix : kindOf t k ≠ .leaf → rep.getD k k = k → ∀ c ∈ chOf t k, rep.getD c c = c

/-- `(t, rep)` solves the local equations of the pass on the table `net` -/
structure Sol (b : Bool) (net t : Net α) (rep : List Nat) : Prop where
  lt : t.length = net.length
  lr : rep.length = net.length
  eq : ∀ (k : Nat) (x : NNode α), net[k]? = some x →
    t[k]? = some (pruneStep b t rep k x).1 ∧ rep.getD k k = (pruneStep b t rep k x).2
  basic : ∀ k, k < net.length → Basic t rep k

theorem reads_facts (t : Net α) (rep : List Nat) (k : Nat) (x : NNode α) (hch : ∀ c ∈ x.ch, c < k)
    (IH : ∀ j, j < k → Basic t rep j) :
    (∀ c ∈ repCh rep x, c < k ∧ rep.getD c c = c) ∧
    (∀ c ∈ repCh rep x, kindOf t c ≠ .leaf → ∀ g ∈ chOf t c, rep.getD g g = g) ∧
    (∀ c ∈ repCh rep x, ∀ g ∈ chOf t c, g < c) := by
  have h1 : ∀ c ∈ repCh rep x, c < k ∧ rep.getD c c = c := by
    intro c hc
    obtain ⟨c0, hc0, rfl⟩ := (mem_repCh rep x c).1 hc
    have B := IH c0 (hch c0 hc0)
    exact ⟨Nat.lt_of_le_of_lt B.rep_le (hch c0 hc0), B.rep_fix⟩
  exact ⟨h1, fun c hc hnl g hg => (IH c (h1 c hc).1).ch_fix hnl (h1 c hc).2 g hg,
    fun c hc g hg => (IH c (h1 c hc).1).ch_lt g hg⟩

theorem basic_step (b : Bool) (t : Net α) (rep : List Nat) (k : Nat) (x : NNode α) (hch : ∀ c ∈ x.ch, c < k)
    (IH : ∀ j, j < k → Basic t rep j)
    (e1 : t[k]? = some (pruneStep b t rep k x).1) (e2 : rep.getD k k = (pruneStep b t rep k x).2) :
    Basic t rep k := by
  obtain ⟨R1, R2, R3⟩ := reads_facts t rep k x hch IH
  -- everything a rebuilt node takes over is an earlier fixed point
  have hall := items_all (α := α) t (repCh rep x) (fun g => g < k ∧ rep.getD g g = g) R1
    (fun c hc hnl g hg => ⟨Nat.lt_trans (R3 c hc g hg) (R1 c hc).1, R2 c hc hnl g hg⟩)
  have hkeep : ∀ r, r < k → rep.getD r r = r → t[k]? = some x → rep.getD k k = r → Basic t rep k := by
    intro r hr hfix e1 e2
    refine ⟨by omega, by rw [e2]; exact hfix, ?_, fun _ h => by omega⟩
    rw [chOf_some t k x e1]; exact hch
  have hnew : ∀ y : NNode α, (∀ g ∈ y.ch, g < k ∧ rep.getD g g = g) → t[k]? = some y → rep.getD k k = k →
      Basic t rep k := by
    intro y hy e1 e2
    refine ⟨by omega, by rw [e2]; exact e2, ?_, ?_⟩ <;> rw [chOf_some t k y e1]
    · exact fun g hg => (hy g hg).1
    · exact fun _ _ g hg => (hy g hg).2
  rcases pruneStep_cases b t rep k x with ⟨hk, hst⟩ | ⟨hk, c, hc, hst⟩ | ⟨hk, hlen, hst⟩ | ⟨hk, hlen, hb, p, hp, hst⟩ |
      ⟨hk, hlen, hb, hst⟩ <;> rw [hst] at e1 e2
  · refine ⟨by omega, by rw [e2]; exact e2, ?_, ?_⟩
    · rw [chOf_some t k x e1]; exact hch
    · rw [kindOf_some t k x e1, hk]; exact fun h => absurd rfl h
  · have hcf := R1 c (by rw [hc]; exact List.mem_singleton_self c)
    exact hkeep c hcf.1 hcf.2 e1 e2
  · rw [prodItems_eq t rep _ R2] at e1
    exact hnew _ hall.1 e1 e2
  · rw [sumAcc_eq t rep x R2] at hp
    have hcf := hall.2 x.ws p.1 (by rw [hp]; exact List.mem_singleton_self _)
    exact hkeep p.1 hcf.1 hcf.2 e1 e2
  · rw [sumAcc_eq t rep x R2] at e1
    exact hnew _ (hall.2 x.ws) e1 e2

/-- the pass in storage order solves the local equations -/
theorem prunePass_sol (b : Bool) (net : Net α) (hw : WellOrdered net) :
    Sol b net (prunePass b net).1 (prunePass b net).2 := by
  -- the step on the first `k` entries reads what it reads in the final state
  have hloc : ∀ (t : Net α) (rep : List Nat) k x, net[k]? = some x → (∀ j, j < k → Basic t rep j) →
      pruneStep b (t.take k) (rep.take k) k x = pruneStep b t rep k x := by
    intro t rep k x hx IH
    have hch := hw k x hx
    obtain ⟨R1, _, R3⟩ := reads_facts t rep k x hch IH
    have g1 : ∀ c ∈ x.ch, (rep.take k).getD c c = rep.getD c c := fun c hc => getD_take_lt rep k c c (hch c hc)
    apply pruneStep_congr b _ _ _ _ k _ g1
    intro c hc
    unfold repCh at hc
    rw [List.map_congr_left g1] at hc
    have e : (t.take k)[c]? = t[c]? := List.getElem?_take_of_lt (R1 c hc).1
    refine ⟨e, fun g hg => ?_⟩
    have : chOf (t.take k) c = chOf t c := by unfold chOf; rw [e]
    rw [this] at hg
    exact getD_take_lt rep k g g (Nat.lt_trans (R3 c hc g hg) (R1 c hc).1)
  obtain ⟨hl1, hl2, key⟩ := snocPass_sol (pruneStep b) net Basic hloc
    (fun t rep k x hx IH e1 e2 =>
      basic_step b t rep k x (hw k x hx) IH e1 (by rw [List.getD_eq_getElem?_getD, e2]; rfl))
    (t := (prunePass b net).1) (r := (prunePass b net).2) rfl
  exact { lt := hl1, lr := hl2, basic := fun k hk => (key k _ (List.getElem?_eq_getElem hk)).2.2
          eq := fun k x hx => ⟨(key k x hx).1, by rw [List.getD_eq_getElem?_getD, (key k x hx).2.1]; rfl⟩ }

theorem Sol.wellOrdered {b : Bool} {net t : Net α} {rep : List Nat} (S : Sol b net t rep) : WellOrdered t := by
  intro i y hy c hc
  have hi : i < net.length := S.lt ▸ (List.getElem?_eq_some_iff.1 hy).1
  exact (S.basic i hi).ch_lt c (by rw [chOf_some t i y hy]; exact hc)

theorem Sol.repCh_lt {b : Bool} {net t : Net α} {rep : List Nat} (S : Sol b net t rep) (hw : WellOrdered net)
    {k : Nat} {x : NNode α} (hx : net[k]? = some x) {c : Nat} (hc : c ∈ repCh rep x) :
    ∃ c0 ∈ x.ch, c0 < k ∧ rep.getD c0 c0 = c ∧ c ≤ c0 := by
  obtain ⟨c0, hc0, rfl⟩ := (mem_repCh rep x c).1 hc
  have h0 := hw k x hx c0 hc0
  have hk := (List.getElem?_eq_some_iff.1 hx).1
  exact ⟨c0, hc0, h0, rfl, (S.basic c0 (by omega)).rep_le⟩

/-- **outcome of node `k`** in a solved state, with the idle look-ups removed -/
theorem sol_outcome (b : Bool) (net t : Net α) (rep : List Nat) (hw : WellOrdered net) (S : Sol b net t rep)
    (k : Nat) (x : NNode α) (hx : net[k]? = some x) :
    (x.kind = .leaf ∧ t[k]? = some x ∧ rep.getD k k = k) ∨
    (x.kind ≠ .leaf ∧ ∃ c, repCh rep x = [c] ∧ t[k]? = some x ∧ rep.getD k k = c) ∨
    (x.kind = .prod ∧ (repCh rep x).length ≠ 1 ∧
      t[k]? = some { x with ch := prodItems' t (repCh rep x) } ∧ rep.getD k k = k) ∨
    (x.kind = .sum ∧ (repCh rep x).length ≠ 1 ∧ b = true ∧
      ∃ p, sumAcc' t (repCh rep x) x.ws = [p] ∧ t[k]? = some x ∧ rep.getD k k = p.1) ∨
    (x.kind = .sum ∧ (repCh rep x).length ≠ 1 ∧ (b = true → (sumAcc' t (repCh rep x) x.ws).length ≠ 1) ∧
      t[k]? = some { x with ch := (sumAcc' t (repCh rep x) x.ws).map Prod.fst,
                            ws := (sumAcc' t (repCh rep x) x.ws).map Prod.snd } ∧ rep.getD k k = k) := by
  have hk : k < net.length := (List.getElem?_eq_some_iff.1 hx).1
  obtain ⟨e1, e2⟩ := S.eq k x hx
  obtain ⟨R1, R2, R3⟩ := reads_facts t rep k x (hw k x hx) (fun j hj => S.basic j (by omega))
  have hP := prodItems_eq t rep _ R2
  have hS := sumAcc_eq t rep x R2
  rcases pruneStep_cases b t rep k x with ⟨hk, hst⟩ | ⟨hk, c, hc, hst⟩ | ⟨hk, hlen, hst⟩ | ⟨hk, hlen, hb, p, hp, hst⟩ |
      ⟨hk, hlen, hb, hst⟩ <;> rw [hst] at e1 e2
  · exact Or.inl ⟨hk, e1, e2⟩
  · exact Or.inr (Or.inl ⟨hk, c, hc, e1, e2⟩)
  · rw [hP] at e1; exact Or.inr (Or.inr (Or.inl ⟨hk, hlen, e1, e2⟩))
  · rw [hS] at hp; exact Or.inr (Or.inr (Or.inr (Or.inl ⟨hk, hlen, hb, p, hp, e1, e2⟩)))
  · rw [hS] at hb e1; exact Or.inr (Or.inr (Or.inr (Or.inr ⟨hk, hlen, hb, e1, e2⟩)))

theorem sol_same (b : Bool) (net t : Net α) (rep : List Nat) (hw : WellOrdered net) (S : Sol b net t rep)
    (k : Nat) (x : NNode α) (hx : net[k]? = some x) :
    ∃ y, t[k]? = some y ∧ y.kind = x.kind ∧ y.scope = x.scope ∧ y.id = x.id ∧ y.leaf = x.leaf := by
  rcases sol_outcome b net t rep hw S k x hx with ⟨_, e, _⟩ | ⟨_, c, _, e, _⟩ | ⟨_, _, e, _⟩ | ⟨_, _, _, p, _, e, _⟩ |
      ⟨_, _, _, e, _⟩
  all_goals exact ⟨_, e, rfl, rfl, rfl, rfl⟩

theorem sol_kind_scope (b : Bool) (net t : Net α) (rep : List Nat) (hw : WellOrdered net) (S : Sol b net t rep)
    (k : Nat) : kindOf t k = kindOf net k ∧ scopeOf t k = scopeOf net k := by
  cases hx : net[k]? with
  | none =>
    have : t[k]? = none := by rw [List.getElem?_eq_none_iff] at hx ⊢; rw [S.lt]; exact hx
    unfold kindOf scopeOf; rw [hx, this]; exact ⟨rfl, rfl⟩
  | some x =>
    obtain ⟨y, hy, h1, h2, _⟩ := sol_same b net t rep hw S k x hx
    rw [kindOf_some t k y hy, kindOf_some net k x hx, scopeOf_some t k y hy, scopeOf_some net k x hx, h1, h2]
    exact ⟨rfl, rfl⟩

/-- **closure**: a set of nodes closed under the children of the input table is closed under replacement and
under the children of the rewritten table -/
theorem sol_closed (b : Bool) (net t : Net α) (rep : List Nat) (hw : WellOrdered net) (S : Sol b net t rep)
    (P : Nat → Prop) (hP : ∀ i, P i → ∀ c ∈ chOf net i, P c) :
    ∀ k, k < net.length → P k → P (rep.getD k k) ∧ ∀ g ∈ chOf t k, P g := by
  intro k
  induction k using Nat.strong_induction_on with
  | _ k ih =>
    intro hk hPk
    have hx : net[k]? = some net[k] := List.getElem?_eq_getElem hk
    generalize net[k] = x at hx
    have hPc : ∀ c ∈ x.ch, P c := fun c hc => hP k hPk c (by rw [chOf_some net k x hx]; exact hc)
    have hcn : ∀ c ∈ repCh rep x, P c ∧ ∀ g ∈ chOf t c, P g := by
      intro c hc
      obtain ⟨c0, hc0, h0, rfl, hle⟩ := S.repCh_lt hw hx hc
      have h1 := (ih c0 h0 (by omega) (hPc c0 hc0)).1
      exact ⟨h1, (ih _ (by omega) (by omega) h1).2⟩
    have hall := items_all (α := α) t (repCh rep x) P (fun c hc => (hcn c hc).1)
      (fun c hc _ g hg => (hcn c hc).2 g hg)
    rcases sol_outcome b net t rep hw S k x hx with ⟨_, e, r⟩ | ⟨_, c, hc, e, r⟩ | ⟨_, _, e, r⟩ | ⟨_, _, _, p, hp, e, r⟩ |
        ⟨_, _, _, e, r⟩ <;> rw [r, chOf_some t k _ e]
    · exact ⟨hPk, hPc⟩
    · exact ⟨(hcn c (by rw [hc]; exact List.mem_singleton_self c)).1, hPc⟩
    · exact ⟨hPk, hall.1⟩
    · exact ⟨hall.2 x.ws p.1 (by rw [hp]; exact List.mem_singleton_self _), hPc⟩
    · exact ⟨hPk, hall.2 x.ws⟩

/-- **value**: in a solved state the replacement of a node has the node's value (for every evidence, shared
sub-circuits and merged coinciding children included), and every stored sum is still normalised -/
theorem sol_val (b : Bool) (net t : Net α) (rep : List Nat) (hw : WellOrdered net) (hs : NetSumOK net)
    (S : Sol b net t rep) (e : Ev) (dens : List α) :
    ∀ k, k < net.length → nval e dens t (rep.getD k k) = nval e dens net k ∧
      ∀ y, t[k]? = some y → y.kind = .sum → y.ws.length = y.ch.length ∧ tsum y.ws = 1 := by
  have ht := S.wellOrdered
  intro k
  induction k using Nat.strong_induction_on with
  | _ k ih =>
    intro hk
    have hx : net[k]? = some net[k] := List.getElem?_eq_getElem hk
    generalize net[k] = x at hx
    have hch := hw k x hx
    have hcn : ∀ c ∈ repCh rep x, c < k := by
      intro c hc
      obtain ⟨c0, _, h0, _, hle⟩ := S.repCh_lt hw hx hc
      omega
    have hvals : x.ch.map (nval e dens net) = (repCh rep x).map (nval e dens t) := by
      unfold repCh; rw [List.map_map]
      exact List.map_congr_left fun c hc => (ih c (hch c hc) (Nat.lt_trans (hch c hc) hk)).1.symm
    -- an inner node among the replaced children: its value through its children, and its weights
    have hget : ∀ c ∈ repCh rep x, ∃ y, t[c]? = some y := fun c hc =>
      ⟨t[c]'(by rw [S.lt]; have := hcn c hc; omega), List.getElem?_eq_getElem _⟩
    have hprod : ∀ c ∈ repCh rep x, kindOf t c = .prod →
        lprod ((chOf t c).map (nval e dens t)) = nval e dens t c := by
      intro c hc hkp
      obtain ⟨y, hy⟩ := hget c hc
      rw [kindOf_some t c y hy] at hkp
      rw [chOf_some t c y hy, nval_unfold e dens t c y hy (ht c y hy), hkp]
    have hsum : ∀ c ∈ repCh rep x, kindOf t c = .sum →
        wsum (wsOf t c) ((chOf t c).map (nval e dens t)) = nval e dens t c ∧
        wsum (wsOf t c) ((chOf t c).map (fun _ => (1:α))) = 1 := by
      intro c hc hks
      obtain ⟨y, hy⟩ := hget c hc
      rw [kindOf_some t c y hy] at hks
      obtain ⟨h1, h2⟩ := (ih c (hcn c hc) (Nat.lt_trans (hcn c hc) hk)).2 y hy hks
      rw [chOf_some t c y hy, wsOf_some t c y hy]
      refine ⟨by rw [nval_unfold e dens t c y hy (ht c y hy), hks], ?_⟩
      rw [Circ.wsum_ones y.ws _ (fun v hv => by obtain ⟨_, _, rfl⟩ := List.mem_map.1 hv; rfl)
        (by rw [List.length_map, h1]), h2]
    -- the merged `children_weights` of a sum node: its value, and its total weight
    have hacc : x.kind = .sum →
        dot (nval e dens t) (sumAcc' t (repCh rep x) x.ws) = wsum x.ws ((repCh rep x).map (nval e dens t)) ∧
        dot (fun _ => (1:α)) (sumAcc' t (repCh rep x) x.ws) = 1 := by
      intro hkd
      obtain ⟨hxlen, hxsum⟩ := hs k x hx hkd
      refine ⟨dot_sumAcc' _ t _ x.ws (fun c hc hks => (hsum c hc hks).1), ?_⟩
      rw [dot_sumAcc' _ t _ x.ws (fun c hc hks => (hsum c hc hks).2),
        Circ.wsum_ones x.ws _ (fun v hv => by obtain ⟨_, _, rfl⟩ := List.mem_map.1 hv; rfl)
          (by unfold repCh; rw [List.length_map, List.length_map, hxlen]), hxsum]
    have hkeep : ∀ y, some x = some y → y.kind = .sum → y.ws.length = y.ch.length ∧ tsum y.ws = 1 :=
      fun y hy hks => by cases hy; exact hs k x hx hks
    rw [nval_unfold e dens net k x hx hch, hvals]
    rcases sol_outcome b net t rep hw S k x hx with ⟨hkd, e1, r⟩ | ⟨hkd, c, hc, e1, r⟩ | ⟨hkd, hlen, e1, r⟩ |
        ⟨hkd, hlen, _, p, hp, e1, r⟩ | ⟨hkd, hlen, hb, e1, r⟩ <;> rw [r, e1]
    · exact ⟨by rw [nval_unfold e dens t k x e1 hch, hkd], hkeep⟩
    · refine ⟨?_, hkeep⟩
      rw [hc]
      cases hkd' : x.kind with
      | leaf => exact absurd hkd' hkd
      | prod => exact (mul_one _).symm
      | sum =>
        -- a single child of a normalised sum carries the weight 1
        obtain ⟨hxlen, hxsum⟩ := hs k x hx hkd'
        have h1 : x.ws.length = 1 := by
          have := congrArg List.length hc; unfold repCh at this
          rw [List.length_map] at this; rw [hxlen, this]; rfl
        rw [Circ.ws_eq_one h1 hxsum]
        simp only [List.map_cons, List.map_nil, wsum, one_mul, add_zero]
    · refine ⟨?_, fun y hy hks => by cases hy; rw [hkd] at hks; cases hks⟩
      rw [nval_unfold e dens t k _ e1 (fun g hg => (S.basic k hk).ch_lt g (by rw [chOf_some t k _ e1]; exact hg)), hkd]
      exact lprod_prodItems' _ t _ hprod
    · obtain ⟨hv, h1⟩ := hacc hkd
      rw [hp] at hv h1
      simp only [dot, mul_one, add_zero] at h1
      simp only [dot, add_zero, h1, one_mul] at hv
      exact ⟨by rw [hkd]; exact hv, hkeep⟩
    · obtain ⟨hv, h1⟩ := hacc hkd
      constructor
      · rw [nval_unfold e dens t k _ e1 (fun g hg => (S.basic k hk).ch_lt g (by rw [chOf_some t k _ e1]; exact hg)), hkd]
        show wsum _ (List.map _ (List.map _ _)) = _
        rw [wsum_eq_dot, hv]
      · intro y hy _
        cases hy
        exact ⟨by rw [List.length_map, List.length_map], by rw [tsum_eq_dot, h1]⟩

/-- what `check_spn` guarantees about the shape of the nodes in `P`: sums and products have children, sums have one
weight per child; and leaves have no children (`Leaf.__init__` passes none; `check_spn` does not look) -/
def ShapeOK (net : Net α) (P : Nat → Prop) : Prop :=
  ∀ (i : Nat) (x : NNode α), P i → net[i]? = some x →
    (x.kind = .sum → x.ch ≠ [] ∧ x.ws.length = x.ch.length) ∧ (x.kind = .prod → x.ch ≠ []) ∧
    (x.kind = .leaf → x.ch = [])

/-- **the invariant of `nodes_map`**: the replacement `r` is a leaf, or an inner node with at least two children,
none of which has the node's own kind, and every child is itself the replacement of an earlier node of `P` -/
def GoodAt (t : Net α) (rep : List Nat) (P : Nat → Prop) (r : Nat) : Prop :=
  ∃ y, t[r]? = some y ∧ ((y.kind = .leaf ∧ y.ch = []) ∨ (2 ≤ y.ch.length ∧ (y.kind = .sum → y.ws.length = y.ch.length) ∧
    ∀ c ∈ y.ch, kindOf t c ≠ y.kind ∧ ∃ j, j < r ∧ P j ∧ rep.getD j j = c))

theorem kindOf_eq_of (t : Net α) (k : Nat) (y : NNode α) (h : t[k]? = some y) : kindOf t k = y.kind := kindOf_some t k y h

theorem sol_good (net t : Net α) (rep : List Nat) (hw : WellOrdered net) (S : Sol true net t rep)
    (P : Nat → Prop) (hP : ∀ i, P i → ∀ c ∈ chOf net i, P c) (hsh : ShapeOK net P) :
    ∀ k, k < net.length → P k → GoodAt t rep P (rep.getD k k) := by
  intro k
  induction k using Nat.strong_induction_on with
  | _ k ih =>
    intro hk hPk
    have hx : net[k]? = some net[k] := List.getElem?_eq_getElem hk
    generalize net[k] = x at hx
    have hPc : ∀ c ∈ x.ch, P c := fun c hc => hP k hPk c (by rw [chOf_some net k x hx]; exact hc)
    obtain ⟨hshS, hshP, hshL⟩ := hsh k x hPk hx
    have hne : x.kind ≠ .leaf → repCh rep x ≠ [] := by
      intro hnl h0
      have : x.ch = [] := List.map_eq_nil_iff.1 h0
      cases hkd : x.kind with
      | leaf => exact hnl hkd
      | sum => exact (hshS hkd).1 this
      | prod => exact hshP hkd this
    -- every replaced child is good and is the replacement of an earlier node of `P`
    have hcn : ∀ c ∈ repCh rep x, GoodAt t rep P c ∧ ∃ j, j < k ∧ P j ∧ rep.getD j j = c := by
      intro c hc
      obtain ⟨c0, hc0, h0, rfl, _⟩ := S.repCh_lt hw hx hc
      exact ⟨ih c0 h0 (by omega) (hPc c0 hc0), c0, h0, hPc c0 hc0, rfl⟩
    -- an inner replaced child: number, weights and kinds of its children
    have hkids : ∀ c ∈ repCh rep x, kindOf t c ≠ .leaf →
        2 ≤ (chOf t c).length ∧ (kindOf t c = .sum → (wsOf t c).length = (chOf t c).length) ∧
        ∀ g ∈ chOf t c, kindOf t g ≠ kindOf t c ∧ ∃ j, j < k ∧ P j ∧ rep.getD j j = g := by
      intro c hc hnl
      obtain ⟨⟨y, hy, hgood⟩, j0, hj0, _, hjc⟩ := hcn c hc
      have hck : c < k := by have := (S.basic j0 (by omega)).rep_le; omega
      rw [kindOf_some t c y hy] at hnl ⊢
      rw [chOf_some t c y hy, wsOf_some t c y hy]
      rcases hgood with h | ⟨h1, h2, h3⟩
      · exact absurd h.1 hnl
      · refine ⟨h1, h2, fun g hg => ?_⟩
        obtain ⟨h4, j, hj, hPj, hjg⟩ := h3 g hg
        exact ⟨h4, j, by omega, hPj, hjg⟩
    -- the children of a rebuilt node of kind `K`: none of kind `K`, each the replacement of an earlier node
    have hnew : ∀ K, K ≠ .leaf →
        (∀ c ∈ repCh rep x, kindOf t c ≠ K → kindOf t c ≠ K ∧ ∃ j, j < k ∧ P j ∧ rep.getD j j = c) ∧
        (∀ c ∈ repCh rep x, kindOf t c = K → ∀ g ∈ chOf t c, kindOf t g ≠ K ∧ ∃ j, j < k ∧ P j ∧ rep.getD j j = g) :=
      fun K hK => ⟨fun c hc h => ⟨h, (hcn c hc).2⟩,
        fun c hc h g hg => h ▸ (hkids c hc (h ▸ hK)).2.2 g hg⟩
    rcases sol_outcome true net t rep hw S k x hx with ⟨hkd, e, r⟩ | ⟨_, c, hc, e, r⟩ | ⟨hkd, hlen, e, r⟩ |
        ⟨hkd, hlen, _, p, hp, e, r⟩ | ⟨hkd, hlen, hb, e, r⟩ <;> rw [r]
    · exact ⟨x, e, Or.inl ⟨hkd, hshL hkd⟩⟩
    · exact (hcn c (by rw [hc]; exact List.mem_singleton_self c)).1
    · refine ⟨_, e, Or.inr ⟨?_, fun h => (by rw [hkd] at h; cases h), ?_⟩⟩
      · have h1 := length_prodItems' t (repCh rep x) (fun c hc hkp =>
          Nat.le_of_lt (hkids c hc (by rw [hkp]; exact Kind.noConfusion)).1)
        have h2 := List.length_pos_iff.2 (hne (by rw [hkd]; exact Kind.noConfusion))
        show 2 ≤ (prodItems' t (repCh rep x)).length
        omega
      · obtain ⟨h1, h2⟩ := hnew .prod Kind.noConfusion
        rw [hkd]
        exact forall_prodItems' t _ _ h1 h2
    · obtain ⟨h1, h2⟩ := hnew .sum Kind.noConfusion
      have := forall_sumAcc'_keys t _ x.ws _ h1 h2 p.1 (by rw [hp]; exact List.mem_singleton_self _)
      obtain ⟨j, hj, hPj, hjp⟩ := this.2
      rw [← hjp]; exact ih j hj (by omega) hPj
    · refine ⟨_, e, Or.inr ⟨?_, fun _ => (by rw [List.length_map, List.length_map]), ?_⟩⟩
      · have h0 := sumAcc'_ne_nil t (repCh rep x) x.ws (hne (by rw [hkd]; exact Kind.noConfusion))
          (by unfold repCh; rw [List.length_map]; exact (hshS hkd).2)
          (fun c hc hks => by
            obtain ⟨g1, g2, _⟩ := hkids c hc (by rw [hks]; exact Kind.noConfusion)
            exact ⟨Nat.le_of_lt g1, g2 hks⟩)
        have h1 := hb rfl
        have h2 := List.length_pos_iff.2 h0
        show 2 ≤ ((sumAcc' t (repCh rep x) x.ws).map Prod.fst).length
        rw [List.length_map]; omega
      · obtain ⟨h1, h2⟩ := hnew .sum Kind.noConfusion
        rw [hkd]
        exact forall_sumAcc'_keys t _ x.ws _ h1 h2

end Deeprob
