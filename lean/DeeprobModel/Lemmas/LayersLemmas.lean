import DeeprobModel.Model.Sched
import Mathlib.Data.List.Basic
import Mathlib.Data.List.Perm.Subperm
import Mathlib.Data.List.Nodup
import Mathlib.Data.List.Flatten
import Mathlib.Algebra.Order.BigOperators.Group.List
import Mathlib.Algebra.Order.Group.Int
import Mathlib.Tactic.Common
/-
Correctness of the modelled layered Kahn order (`Sched.layers`): whenever it returns `some L`,
the layers are duplicate-free, pairwise disjoint, cover exactly the node list `R = collect n root`,
and no edge leads from a layer to the same or an earlier layer.

The counting argument is stated once (`CountInv`), for a set `done` of nodes whose out-edges have been
consumed and a list `pending` of nodes that are listed but not yet processed. The layered loop
(`pending` = the last layer) and the queue loop of `Net.kahn` (`pending` = the queue, KahnLemmas) are
both instances.
-/
namespace Deeprob.Sched
open List

section fold

theorem procEdge_fst (st : (Nat → Int) × List Nat) (c v : Nat) :
    (procEdge st c).1 v = st.1 v - (if v = c then 1 else 0) := by
  have h : (procEdge st c).1 = setF st.1 c (st.1 c - 1) := by unfold procEdge; dsimp only; split <;> rfl
  rw [h, setF]
  by_cases e : v = c
  · rw [if_pos e, if_pos e, e]
  · rw [if_neg e, if_neg e, Int.sub_zero]

theorem procEdge_snd (st : (Nat → Int) × List Nat) (c : Nat) :
    (procEdge st c).2 = if st.1 c - 1 = 0 then st.2 ++ [c] else st.2 := by
  have hc : setF st.1 c (st.1 c - 1) c = st.1 c - 1 := if_pos rfl
  unfold procEdge
  simp only [hc]
  split <;> rfl

theorem fold_fst (es : List Nat) (st : (Nat → Int) × List Nat) (v : Nat) :
    (es.foldl procEdge st).1 v = st.1 v - (es.count v : Nat) := by
  induction es generalizing st with
  | nil => simp
  | cons c es ih =>
    rw [foldl_cons, ih, procEdge_fst, count_cons]
    by_cases h : v = c
    · subst h; rw [if_pos rfl, if_pos (beq_self_eq_true v)]; omega
    · rw [if_neg h, if_neg (by simpa using Ne.symm h)]; omega

/-- invariant used for duplicate-freeness: every node already listed (in earlier layers, the current layer
or the layer under construction) has a non-positive counter -/
def Good (listed : List Nat) (st : (Nat → Int) × List Nat) : Prop :=
  (listed ++ st.2).Nodup ∧ ∀ v ∈ listed ++ st.2, st.1 v ≤ 0

theorem good_step (listed : List Nat) (st : (Nat → Int) × List Nat) (c : Nat) (h : Good listed st) :
    Good listed (procEdge st c) := by
  obtain ⟨hn, hle⟩ := h
  have hmono : ∀ v, st.1 v ≤ 0 → (procEdge st c).1 v ≤ 0 := by
    intro v hv; rw [procEdge_fst]; split <;> omega
  unfold Good
  rw [procEdge_snd]
  split
  next h1 =>
    -- `c` is appended: its counter was 1, so it was not listed, and it is 0 now
    have hc : c ∉ listed ++ st.2 := fun hm => by have := hle c hm; omega
    rw [← append_assoc]
    refine ⟨Nodup.append hn (nodup_singleton c) (fun x hx hx' => hc (mem_singleton.1 hx' ▸ hx)), ?_⟩
    intro v hv
    rcases mem_append.1 hv with hv | hv
    · exact hmono v (hle v hv)
    · rw [mem_singleton.1 hv, procEdge_fst, if_pos rfl]; omega
  next => exact ⟨hn, fun v hv => hmono v (hle v hv)⟩

theorem good_fold (listed : List Nat) (es : List Nat) (st : (Nat → Int) × List Nat) (h : Good listed st) :
    Good listed (es.foldl procEdge st) := by
  induction es generalizing st with
  | nil => exact h
  | cons c es ih => exact ih _ (good_step listed st c h)

theorem fold_snd_mono (es : List Nat) (st : (Nat → Int) × List Nat) :
    ∀ v ∈ st.2, v ∈ (es.foldl procEdge st).2 := by
  induction es generalizing st with
  | nil => intro v hv; exact hv
  | cons c es ih =>
    intro v hv
    refine ih _ v ?_
    rw [procEdge_snd]; split
    · exact mem_append_left _ hv
    · exact hv

theorem fold_snd_sub (es : List Nat) (st : (Nat → Int) × List Nat) :
    ∀ v ∈ (es.foldl procEdge st).2, v ∈ st.2 ∨ v ∈ es := by
  induction es generalizing st with
  | nil => intro v hv; exact Or.inl hv
  | cons c es ih =>
    intro v hv
    rcases ih _ v hv with h | h
    · rw [procEdge_snd] at h
      split at h
      · rcases mem_append.1 h with h | h
        · exact Or.inl h
        · exact Or.inr (mem_singleton.1 h ▸ mem_cons_self ..)
      · exact Or.inl h
    · exact Or.inr (mem_cons_of_mem _ h)

/-- a counter that starts positive and ends non-positive has passed through zero: the node was appended -/
theorem fold_hit (es : List Nat) (st : (Nat → Int) × List Nat) (v : Nat)
    (h0 : 0 < st.1 v) (h1 : (es.foldl procEdge st).1 v ≤ 0) : v ∈ (es.foldl procEdge st).2 := by
  induction es generalizing st with
  | nil => rw [foldl_nil] at h1; omega
  | cons c es ih =>
    rw [foldl_cons] at h1 ⊢
    by_cases hp : 0 < (procEdge st c).1 v
    · exact ih _ hp h1
    · -- the counter reached zero at this very step
      refine fold_snd_mono es _ v ?_
      rw [procEdge_fst] at hp
      have hvc : v = c := by
        by_contra hne; rw [if_neg hne] at hp; omega
      subst hvc
      rw [if_pos rfl] at hp
      rw [procEdge_snd, if_pos (by omega)]
      exact mem_append_right _ (mem_singleton_self _)

end fold

section outer
variable {α : Type} (n : Net α) (root : Nat)

/-- targets of the edges leaving the nodes of `P`, with multiplicity, in processing order -/
def edgesOf (P : List Nat) : List Nat := P.flatMap (Net.chOf n)

/-- the facts about `R = collect n root` that Kahn's algorithm relies on -/
structure ReachOK (R : List Nat) : Prop where
  root_mem : root ∈ R
  closed : ∀ p ∈ R, ∀ c ∈ Net.chOf n p, c ∈ R
  parent : ∀ v ∈ R, v = root ∨ ∃ p ∈ R, v ∈ Net.chOf n p

theorem reachOKB_iff (R : List Nat) : reachOKB n root R = true ↔ ReachOK n root R := by
  unfold reachOKB
  simp only [Bool.and_eq_true, contains_iff_mem, all_eq_true, any_eq_true, Bool.or_eq_true, beq_iff_eq]
  exact ⟨fun ⟨⟨h1, h2⟩, h3⟩ => ⟨h1, h2, h3⟩, fun ⟨h1, h2, h3⟩ => ⟨⟨h1, h2⟩, h3⟩⟩

theorem edgesOf_append (A B : List Nat) : edgesOf n (A ++ B) = edgesOf n A ++ edgesOf n B :=
  flatMap_append

theorem edgesOf_singleton (a : Nat) : edgesOf n [a] = Net.chOf n a :=
  flatMap_singleton _ a

theorem count_pos_edgesOf {R : List Nat} {p c : Nat} (hp : p ∈ R) (hc : c ∈ Net.chOf n p) :
    0 < count c (edgesOf n R) :=
  count_pos_iff.2 (mem_flatMap.2 ⟨p, hp, hc⟩)

theorem indeg_eq (v : Nat) : indeg n root v = (count v (edgesOf n (Net.collect n root)) : Int) := rfl

theorem capacity (P R : List Nat) (hd : P.Nodup) (hs : P ⊆ R) (c : Nat) :
    count c (edgesOf n P) ≤ count c (edgesOf n R) := by
  obtain ⟨l, hp, hsub⟩ := subperm_of_subset hd hs
  unfold edgesOf
  rw [← (hp.flatMap_right (Net.chOf n)).count_eq c]
  exact (hsub.flatMap _).count_le c

theorem flat_snoc (acc : List (List Nat)) (last : List Nat) : (acc ++ [last]).flatten = acc.flatten ++ last := by
  simp

/-- number of edges of `R` into `v` that do not start in `done` (the value of `num_outgoings[v]` once
exactly the nodes of `done` have been processed) -/
def remaining (R done : List Nat) (v : Nat) : Int :=
  (count v (edgesOf n R) : Int) - (count v (edgesOf n done) : Int)

theorem remaining_append (R done P : List Nat) (v : Nat) :
    remaining n R (done ++ P) v = remaining n R done v - (count v (edgesOf n P) : Nat) := by
  unfold remaining
  rw [edgesOf_append, count_append]
  omega

theorem remaining_nonneg (R done : List Nat) (hd : done.Nodup) (hs : done ⊆ R) (v : Nat) :
    0 ≤ remaining n R done v := by
  have := capacity n done R hd hs v
  unfold remaining; omega

/-- What both Kahn loops maintain. `done`: nodes whose out-edges have been consumed; `pending`: nodes
that are listed but not yet processed. A listed node has no unconsumed in-edge, and a node of `R` with an
in-edge, all of them consumed, is listed. -/
structure CountInv (R done pending : List Nat) : Prop where
  nodup : (done ++ pending).Nodup
  sub : ∀ v ∈ done ++ pending, v ∈ R
  nonpos : ∀ v ∈ done ++ pending, remaining n R done v ≤ 0
  hit : ∀ v, 0 < count v (edgesOf n R) → remaining n R done v ≤ 0 → v ∈ done ++ pending

variable {n}

theorem CountInv.init {R : List Nat} (hroot : root ∈ R) (h0 : count root (edgesOf n R) = 0) :
    CountInv n R [] [root] := by
  have hrem : ∀ v, remaining n R [] v = count v (edgesOf n R) := fun v => by simp [remaining, edgesOf]
  refine ⟨nodup_singleton root, fun v hv => ?_, fun v hv => ?_, fun v hpos hle => ?_⟩
  · rw [mem_singleton.1 hv]; exact hroot
  · rw [mem_singleton.1 hv, hrem, h0]; exact le_refl _
  · rw [hrem] at hle; omega

/-- a pending node has no edge to a listed node: the counter of each of its children is still positive -/
theorem CountInv.no_back {R done pending : List Nat} (h : CountInv n R done pending) :
    ∀ p ∈ pending, ∀ c ∈ Net.chOf n p, c ∉ done ++ pending := by
  intro p hp c hc hmem
  have hle := h.nonpos c hmem
  have hsub : done ++ [p] <+ done ++ pending := (singleton_sublist.2 hp).append_left done
  have hcap := capacity n _ R (h.nodup.sublist hsub) (fun x hx => h.sub x (hsub.subset hx)) c
  rw [edgesOf_append, count_append, edgesOf_singleton] at hcap
  have h1 : 0 < count c (Net.chOf n p) := count_pos_iff.2 hc
  unfold remaining at hle
  omega

theorem CountInv.length_le {R done pending : List Nat} (h : CountInv n R done pending) :
    done.length + pending.length ≤ R.length := by
  rw [← length_append]
  exact (subperm_of_subset h.nodup h.sub).length_le

/-- processing the pending nodes `P` (one pass of `procEdge` over their out-edges, from the counters
`remaining R done`) moves them to `done` and lists behind the other pending nodes those whose counter
reached zero -/
theorem CountInv.step {R done P rest : List Nat} (hcl : ∀ p ∈ R, ∀ c ∈ Net.chOf n p, c ∈ R)
    (h : CountInv n R done (P ++ rest)) :
    CountInv n R (done ++ P) (rest ++ ((edgesOf n P).foldl procEdge (remaining n R done, [])).2) ∧
      ((edgesOf n P).foldl procEdge (remaining n R done, [])).1 = remaining n R (done ++ P) := by
  generalize hr : (edgesOf n P).foldl procEdge (remaining n R done, []) = r
  have hcnt : ∀ v, r.1 v = remaining n R (done ++ P) v := by
    intro v; rw [← hr, fold_fst, remaining_append]
  have hgood : Good (done ++ (P ++ rest)) r := by
    rw [← hr]
    exact good_fold _ _ _ ⟨by rw [append_nil]; exact h.nodup, by rw [append_nil]; exact h.nonpos⟩
  have hre : (done ++ P) ++ (rest ++ r.2) = (done ++ (P ++ rest)) ++ r.2 := by
    simp only [append_assoc]
  refine ⟨⟨?_, ?_, ?_, ?_⟩, funext hcnt⟩
  · rw [hre]; exact hgood.1
  · rw [hre]
    intro v hv
    rcases mem_append.1 hv with hv | hv
    · exact h.sub v hv
    · rw [← hr] at hv
      rcases fold_snd_sub _ _ v hv with h0 | h0
      · cases h0
      · obtain ⟨p, hp, hc⟩ := mem_flatMap.1 h0
        exact hcl p (h.sub p (mem_append_right _ (mem_append_left _ hp))) v hc
  · rw [hre]
    intro v hv
    rw [← hcnt]; exact hgood.2 v hv
  · rw [hre]
    intro v hpos hle
    by_cases hc : remaining n R done v ≤ 0
    · exact mem_append_left _ (h.hit v hpos hc)
    · refine mem_append_right _ ?_
      rw [← hcnt] at hle
      rw [← hr] at hle ⊢
      exact fold_hit _ _ v (by simpa using hc) hle

/-- when nothing is pending, a node of `R` all of whose in-edges are consumed is listed -/
theorem CountInv.mem_of_nonpos {R done : List Nat} (h : CountInv n R done [])
    (hR : ReachOK n root R) (hroot : root ∈ done) (v : Nat) (hv : v ∈ R)
    (hle : remaining n R done v ≤ 0) : v ∈ done := by
  rcases hR.parent v hv with rfl | ⟨p, hp, hc⟩
  · exact hroot
  · simpa using h.hit v (count_pos_edgesOf n hp hc) hle

variable (n)

/-- no edge leads from a layer to the same or an earlier layer -/
def NoBack (L : List (List Nat)) : Prop :=
  L.Pairwise (fun A B => ∀ p ∈ B, ∀ c ∈ Net.chOf n p, c ∉ A) ∧ ∀ A ∈ L, ∀ p ∈ A, ∀ c ∈ Net.chOf n p, c ∉ A

theorem noBack_snoc (L : List (List Nat)) (new : List Nat) (h : NoBack n L)
    (hnew : ∀ p ∈ new, ∀ c ∈ Net.chOf n p, c ∉ L.flatten ++ new) : NoBack n (L ++ [new]) := by
  obtain ⟨hp1, hp2⟩ := h
  refine ⟨pairwise_append.2 ⟨hp1, pairwise_singleton _ _, ?_⟩, ?_⟩
  · intro A hA B hB p hp c hc hcA
    rw [mem_singleton.1 hB] at hp
    exact hnew p hp c hc (mem_append_left _ (mem_flatten.2 ⟨A, hA, hcA⟩))
  · intro A hA
    rcases mem_append.1 hA with hA | hA
    · exact hp2 A hA
    · rw [mem_singleton.1 hA]
      exact fun p hp c hc hcA => hnew p hp c hc (mem_append_right _ hcA)

theorem noBack_flatten (L : List (List Nat)) (h : NoBack n L) :
    L.flatten.Pairwise (fun a b => a ∉ Net.chOf n b) ∧ ∀ a ∈ L.flatten, a ∉ Net.chOf n a := by
  obtain ⟨hp1, hself⟩ := h
  refine ⟨?_, ?_⟩
  · rw [pairwise_flatten]
    refine ⟨fun A hA => ?_, hp1.imp (fun h x hx y hy hcon => h y hy x hcon hx)⟩
    exact pairwise_of_forall_mem_list fun x hx y hy hcon => hself A hA y hy x hcon hx
  · intro a ha hcon
    obtain ⟨A, hA, haA⟩ := mem_flatten.1 ha
    exact hself A hA a haA a hcon haA

/-- loop invariant of `layersGo` -/
structure LInv (R : List Nat) (cnt : Nat → Int) (acc : List (List Nat)) (last : List Nat) : Prop
    extends CountInv n R acc.flatten last where
  cnt_eq : cnt = remaining n R acc.flatten
  noback : NoBack n (acc ++ [last])
  root_mem : root ∈ acc.flatten ++ last

theorem linv_init (R : List Nat) (hroot : root ∈ R) (h0 : count root (edgesOf n R) = 0) :
    LInv n root R (fun v => count v (edgesOf n R)) [] [root] := by
  have hc := CountInv.init root hroot h0
  refine ⟨hc, funext fun v => by simp [remaining, edgesOf], ?_, mem_singleton_self root⟩
  exact noBack_snoc n [] [root] ⟨Pairwise.nil, nofun⟩ hc.no_back

theorem linv_step (R : List Nat) (hR : ReachOK n root R) (cnt : Nat → Int) (acc : List (List Nat))
    (last : List Nat) (h : LInv n root R cnt acc last) :
    LInv n root R (procLayer n cnt last).1 (acc ++ [last]) (procLayer n cnt last).2 := by
  obtain ⟨hs, hcnt⟩ := CountInv.step (P := last) (rest := []) hR.closed
    (by rw [append_nil]; exact h.toCountInv)
  rw [← h.cnt_eq, ← flat_snoc] at hs hcnt
  exact ⟨hs, hcnt, noBack_snoc n _ _ h.noback hs.no_back,
    by rw [flat_snoc]; exact mem_append_left _ h.root_mem⟩

theorem layersGo_inv (R : List Nat) (hR : ReachOK n root R) (fuel : Nat) (cnt : Nat → Int)
    (acc : List (List Nat)) (last : List Nat) (h : LInv n root R cnt acc last)
    (cnt' : Nat → Int) (L : List (List Nat)) (hgo : layersGo n fuel cnt acc last = some (cnt', L)) :
    LInv n root R cnt' L [] := by
  induction fuel generalizing cnt acc last with
  | zero => cases hgo
  | succ fuel ih =>
    have hstep := linv_step n root R hR cnt acc last h
    unfold layersGo at hgo
    simp only at hgo
    split at hgo
    next he =>
      obtain ⟨h1, h2⟩ := Prod.mk.inj (Option.some.inj hgo)
      rw [isEmpty_iff.1 he] at hstep
      rw [← h1, ← h2]; exact hstep
    next => exact ih _ _ _ hstep hgo

/-- the fuel `|R| + 1` is never exhausted: every completed layer is non-empty and the layers are
disjoint subsets of `R` -/
theorem layersGo_some (R : List Nat) (hR : ReachOK n root R) :
    ∀ (fuel : Nat) (cnt : Nat → Int) (acc : List (List Nat)) (last : List Nat), LInv n root R cnt acc last →
      last ≠ [] → R.length + 1 ≤ acc.flatten.length + fuel → ∃ r, layersGo n fuel cnt acc last = some r := by
  intro fuel
  induction fuel with
  | zero =>
    intro cnt acc last h hne hf
    have := h.toCountInv.length_le
    omega
  | succ f ih =>
    intro cnt acc last h hne hf
    have hstep := linv_step n root R hR cnt acc last h
    unfold layersGo
    simp only
    split
    next => exact ⟨_, rfl⟩
    next he =>
      refine ih _ _ _ hstep (fun e => he (by rw [e]; rfl)) ?_
      rw [flat_snoc, length_append]
      have : 0 < last.length := length_pos_iff.2 hne
      omega

theorem sum_zero_of_nonneg (l : List Int) (h0 : ∀ x ∈ l, 0 ≤ x) (hs : l.sum = 0) : ∀ x ∈ l, x = 0 :=
  fun _ hx => all_zero_of_le_zero_le_of_sum_eq_zero h0 hs hx

theorem layers_eq_some_iff (L : List (List Nat)) :
    layers n root = some L ↔ indeg n root root = 0 ∧
      ∃ cnt, layersGo n ((Net.collect n root).length + 1) (indeg n root) [] [root] = some (cnt, L) ∧
        ((Net.collect n root).map cnt).sum = 0 := by
  unfold layers
  simp only
  by_cases h0 : indeg n root root = 0
  · rw [if_neg (not_not.2 h0)]
    cases layersGo n ((Net.collect n root).length + 1) (indeg n root) [] [root] with
    | none => simp
    | some r =>
      obtain ⟨cnt, L'⟩ := r
      by_cases hs : (map cnt (Net.collect n root)).sum = 0
      · simp [h0, hs]
      · simp [h0, hs]
  · simp [h0]

/-- what a successful run of the modelled `topological_order_layered` guarantees -/
theorem layers_spec (L : List (List Nat)) (h : layers n root = some L)
    (hR : ReachOK n root (Net.collect n root)) :
    L.flatten.Nodup ∧ (∀ v, v ∈ L.flatten ↔ v ∈ Net.collect n root) ∧ NoBack n L := by
  obtain ⟨h0, cnt', hgo, hs⟩ := (layers_eq_some_iff n root L).1 h
  rw [indeg_eq, Int.natCast_eq_zero] at h0
  have hfin := layersGo_inv n root _ hR _ _ _ _ (linv_init n root _ hR.root_mem h0) cnt' L hgo
  have hnd : L.flatten.Nodup := by simpa using hfin.nodup
  have hsub : ∀ v ∈ L.flatten, v ∈ Net.collect n root := fun v hv => hfin.sub v (mem_append_left _ hv)
  refine ⟨hnd, fun v => ⟨hsub v, fun hv => ?_⟩, ?_⟩
  · -- the counters are non-negative and sum to zero, so each of them is zero
    have hz := sum_zero_of_nonneg _ (fun x hx => by
      obtain ⟨w, _, rfl⟩ := mem_map.1 hx
      rw [hfin.cnt_eq]; exact remaining_nonneg n _ _ hnd hsub w) hs (cnt' v) (mem_map.2 ⟨v, hv, rfl⟩)
    exact hfin.toCountInv.mem_of_nonpos root hR (by simpa using hfin.root_mem) v hv (by rw [← hfin.cnt_eq, hz])
  · -- drop the trailing empty layer of the final invariant
    obtain ⟨hp1, hp2⟩ := hfin.noback
    exact ⟨(pairwise_append.1 hp1).1, fun A hA => hp2 A (mem_append_left _ hA)⟩

end outer

end Deeprob.Sched
