import DeeprobModel.Model.GraphOrder
import DeeprobModel.Lemmas.PredTree
import DeeprobModel.Lemmas.XpcChain
import Mathlib.Data.List.Perm.Basic
import Mathlib.Data.List.Nodup
import Mathlib.Data.List.Pairwise
import Mathlib.Data.List.Range
/-
Basic facts about a well-formed predecessor vector (Model/GraphOrder.lean): the code's root index is the model's `Clt.rootOf`,
the structure `WF tree r` (rooted spanning tree with its root `r` named) with parents, depths and children of its positions,
and the child lists `build_tree_structure` computes.  The breadth-first order is in `GraphOrderBfs.lean`, the array pass in
`GraphOrderPass.lean`, `WF.isTree` in `GraphOrderTree.lean`.
-/
namespace Deeprob.GraphIo
open Deeprob Deeprob.Clt Deeprob.CltFit

/-- the code's `tree.count(-1) == 1` / `tree.index(-1)` and the model's `Clt.rootOf` agree: both read the list of
positions of `-1` -/
theorem rootIdx_eq_rootOf (tree : List Int) : rootIdx tree = Clt.rootOf tree := by
  have hcount : tree.count (-1) = ((List.range tree.length).filter (fun c => tree.getD c 0 == -1)).length := by
    conv_lhs => rw [← map_getD_range tree 0]
    rw [List.count_eq_countP, List.countP_map, List.countP_eq_length_filter]
    rfl
  unfold rootIdx Clt.rootOf
  rw [hcount]
  generalize hP : (List.range tree.length).filter (fun c => tree.getD c 0 == -1) = P
  match P, hP with
  | [], _ => rfl
  | [r], hP =>
    -- `tree.index(-1)` is a position of `-1`, and `r` is the only one
    have hmemP : ∀ c, c ∈ [r] ↔ c < tree.length ∧ tree.getD c 0 = -1 := fun c => by
      rw [← hP, List.mem_filter, List.mem_range, beq_iff_eq]
    obtain ⟨hrl, hre⟩ := (hmemP r).1 List.mem_cons_self
    have hmem : (-1 : Int) ∈ tree := by
      rw [List.getD_eq_getElem?_getD, List.getElem?_eq_getElem hrl] at hre
      exact hre ▸ List.getElem_mem hrl
    have hi := List.idxOf_lt_length_iff.2 hmem
    have : tree.idxOf (-1) = r := List.mem_singleton.1 ((hmemP _).2 ⟨hi, by
      rw [List.getD_eq_getElem?_getD, List.getElem?_eq_getElem hi]; exact List.getElem_idxOf hi⟩)
    rw [this]; rfl
  | _ :: _ :: _, _ => rfl

theorem rootIdx_eq_some_iff (tree : List Int) (r : Nat) : rootIdx tree = some r ↔
    (r < tree.length ∧ tree.getD r 0 = -1 ∧ ∀ c, c < tree.length → tree.getD c 0 = -1 → c = r) := by
  rw [rootIdx_eq_rootOf]
  rw [Clt.rootOf_eq_some_iff]
  exact and_congr_right fun hr =>
    ⟨fun h => ⟨(h r hr).2 rfl, fun c hc => (h c hc).1⟩, fun ⟨h2, h3⟩ c hc => ⟨h3 c hc, fun e => e ▸ h2⟩⟩

theorem wf_iff (tree : List Int) : WellFormedPred tree ↔
    ∃ r, rootIdx tree = some r ∧ isRootedSpanningTree tree r = true := by
  unfold WellFormedPred wellFormedPred
  cases h : rootIdx tree with
  | none => simp
  | some r => simp

theorem rootIdx_of_isRST {tree : List Int} {r : Nat} (h : isRootedSpanningTree tree r = true) :
    rootIdx tree = some r := by
  rw [rootIdx_eq_rootOf]; exact rootOf_of_isRST h

/-- a well-formed predecessor vector with its root `r` named: `WellFormedPred tree` split into its two halves
(`WF.of_wf`, `WF.wf`) -/
structure WF (tree : List Int) (r : Nat) : Prop where
  rst : isRootedSpanningTree tree r = true
  root : rootIdx tree = some r

theorem WF.of_wf {tree : List Int} (h : WellFormedPred tree) : ∃ r, WF tree r := by
  obtain ⟨r, h1, h2⟩ := (wf_iff tree).1 h
  exact ⟨r, h2, h1⟩

theorem WF.rootOf {tree : List Int} {r : Nat} (h : WF tree r) : Clt.rootOf tree = some r :=
  (rootIdx_eq_rootOf tree).symm.trans h.root

theorem WF.wf {tree : List Int} {r : Nat} (h : WF tree r) : WellFormedPred tree :=
  (wf_iff tree).2 ⟨r, h.root, h.rst⟩

section wf
variable {tree : List Int} {r : Nat} (h : WF tree r)
include h

theorem WF.r_lt : r < tree.length := ((isRST_iff tree r).1 h.rst).1

theorem WF.pos : 0 < tree.length := Nat.lt_of_le_of_lt (Nat.zero_le _) h.r_lt

theorem WF.root_entry (a : Int) : tree.getD r a = -1 := by
  rw [getD_irrel tree h.r_lt a 0]; exact ((isRST_iff tree r).1 h.rst).2.1

theorem WF.parent_root : parent tree r = none := parent_root_none h.rst

theorem WF.parent_ne {i : Nat} (hi : i < tree.length) (hir : i ≠ r) :
    ∃ p, parent tree i = some p ∧ p ≠ i ∧ p < tree.length ∧ tree.getD i (-1) = (p : Int) := by
  obtain ⟨p, h1, h2, h3, _⟩ := parent_of_isRST h.rst hi hir
  exact ⟨p, h1, h2, h3, (parent_some h1).1⟩

theorem WF.reaches {i : Nat} (hi : i < tree.length) : reaches tree r (tree.length - 1) i = true :=
  ((isRST_iff tree r).1 h.rst).2.2.2 i hi

end wf

theorem parent_of_entry {tree : List Int} {i p : Nat} (hp : p < tree.length)
    (he : tree.getD i (-1) = (p : Int)) : parent tree i = some p :=
  parent_eq_some_iff.2 ⟨he, hp⟩

/-- `isRootedSpanningTree` with "has a parent" spelled out: the entry is an index -/
theorem isRST_iff_entries (tree : List Int) (r : Nat) : isRootedSpanningTree tree r = true ↔
    r < tree.length ∧ tree.getD r 0 = -1 ∧
    (∀ i, i < tree.length → i ≠ r → ∃ p, p < tree.length ∧ tree.getD i (-1) = (p : Int)) ∧
    (∀ i, i < tree.length → reaches tree r (tree.length - 1) i = true) := by
  rw [isRST_iff]
  refine and_congr_right fun _ => and_congr_right fun _ => and_congr_left fun _ => forall₂_congr fun i _ => ?_
  rw [Option.isSome_iff_exists, ← or_iff_not_imp_left]
  exact or_congr_right (exists_congr fun p => parent_eq_some_iff.trans and_comm)

theorem depth_stable {tree : List Int} {r : Nat} (hr : parent tree r = none) (f i : Nat)
    (hre : reaches tree r f i = true) :
    depth tree f i ≤ f ∧ ∀ g, f ≤ g → depth tree g i = depth tree f i := by
  have hroot : ∀ f, depth tree f r ≤ f ∧ ∀ g, f ≤ g → depth tree g r = depth tree f r := fun f =>
    ⟨by rw [depth_of_parent_none hr]; exact Nat.zero_le _,
      fun g _ => by rw [depth_of_parent_none hr, depth_of_parent_none hr]⟩
  induction f generalizing i with
  | zero => rw [reaches_zero_iff.1 hre]; exact hroot 0
  | succ f ih =>
    rcases reaches_succ_iff.1 hre with rfl | ⟨p, hp, hpr⟩
    · exact hroot (f + 1)
    · obtain ⟨ih1, ih2⟩ := ih p hpr
      refine ⟨by rw [depth_succ hp]; omega, fun g hg => ?_⟩
      obtain ⟨g', rfl⟩ : ∃ g', g = g' + 1 := ⟨g - 1, by omega⟩
      rw [depth_succ hp, depth_succ hp, ih2 g' (by omega)]

section wf2
variable {tree : List Int} {r : Nat} (h : WF tree r)
include h

theorem WF.depth_root : depthOf tree r = 0 := depth_of_parent_none h.parent_root _

theorem WF.depth_le {i : Nat} (hi : i < tree.length) : depthOf tree i ≤ tree.length - 1 := by
  unfold depthOf
  obtain ⟨h1, h2⟩ := depth_stable h.parent_root _ i (h.reaches hi)
  rw [h2 tree.length (by omega)]; exact h1

theorem WF.depth_child {i p : Nat} (_ : i < tree.length) (hp : parent tree i = some p) :
    depthOf tree i = depthOf tree p + 1 := by
  have hm : tree.length = tree.length - 1 + 1 := by have := h.pos; omega
  obtain ⟨_, h2⟩ := depth_stable h.parent_root _ p (h.reaches (parent_some hp).2)
  unfold depthOf
  rw [h2 tree.length (by omega)]
  conv_lhs => rw [hm, depth_succ hp]

theorem WF.depth_zero {i : Nat} (hi : i < tree.length) (hd : depthOf tree i = 0) : i = r := by
  by_contra hir
  obtain ⟨p, hp, _⟩ := h.parent_ne hi hir
  have := h.depth_child hi hp
  omega

end wf2

theorem childrenOf_nodup (tree : List Int) (j : Nat) : (childrenOf tree j).Nodup :=
  List.Nodup.filter _ List.nodup_range

theorem childrenOf_sorted (tree : List Int) (j : Nat) : (childrenOf tree j).Pairwise (· < ·) :=
  List.Pairwise.filter _ List.pairwise_lt_range

theorem WF.mem_children {tree : List Int} {r : Nat} (h : WF tree r) {j c : Nat} :
    c ∈ childrenOf tree j ↔ c < tree.length ∧ parent tree c = some j := by
  rw [mem_childrenOf_iff]
  constructor
  · rintro ⟨hc, he⟩
    refine ⟨hc, ?_⟩
    by_cases hcr : c = r
    · subst hcr; rw [h.root_entry] at he; omega
    · obtain ⟨p, hp, _, hpl, hpe⟩ := h.parent_ne hc hcr
      have : p = j := by rw [hpe] at he; omega
      subst this; exact hp
  · rintro ⟨hc, hp⟩
    exact ⟨hc, (parent_some hp).1⟩

theorem WF.children_of_big {tree : List Int} {r : Nat} (h : WF tree r) {j : Nat} (hj : tree.length ≤ j) :
    childrenOf tree j = [] := by
  apply List.eq_nil_iff_forall_not_mem.2
  intro c hc
  have := (parent_some (h.mem_children.1 hc).2).2
  omega

/-- all entries are `-1` or an index -/
def EntriesOK (n : Nat) (t : List Int) : Prop := ∀ x ∈ t, x = -1 ∨ (0 ≤ x ∧ x.toNat < n)

theorem WF.entriesOK {tree : List Int} {r : Nat} (h : WF tree r) : EntriesOK tree.length tree := by
  intro x hx
  obtain ⟨i, hi, rfl⟩ := List.getElem_of_mem hx
  by_cases hir : i = r
  · left
    have := h.root_entry 0
    rw [List.getD_eq_getElem?_getD, List.getElem?_eq_getElem h.r_lt] at this
    subst hir; simpa using this
  · right
    obtain ⟨p, _, _, hpl, hpe⟩ := h.parent_ne hi hir
    rw [List.getD_eq_getElem?_getD, List.getElem?_eq_getElem hi] at hpe
    have : tree[i] = (p : Int) := by simpa using hpe
    rw [this]; exact ⟨by omega, by simpa using hpl⟩

theorem pyIndex_nat {n p : Nat} (hp : p < n) : pyIndex n (p : Int) = some p := by
  unfold pyIndex
  have : (0 : Int) ≤ (p : Int) := by omega
  simp [this, hp]

/-- appending an entry `x` to the vector adds its index to the children of `x` -/
theorem filter_snoc (t : List Int) (x : Int) (j : Nat) :
    (List.range (t ++ [x]).length).filter (fun c => (t ++ [x]).getD c (-1) == (j : Int)) =
      (List.range t.length).filter (fun c => t.getD c (-1) == (j : Int)) ++ (if x = (j : Int) then [t.length] else []) := by
  rw [List.length_append, List.length_singleton, List.range_succ, List.filter_append, List.filter_singleton,
    List.getD_append_right _ _ _ _ (Nat.le_refl _), Nat.sub_self, List.getD_cons_zero]
  congr 1
  · exact List.filter_congr (fun c hc => by rw [List.getD_append _ _ _ _ (List.mem_range.1 hc)])
  · simp only [cond_eq_ite, beq_iff_eq]

theorem modify_map_range {β : Type} (n p : Nat) (g : Nat → β) (h : β → β) :
    ((List.range n).map g).modify p h = (List.range n).map (fun j => if p = j then h (g j) else g j) := by
  apply List.ext_getElem?
  intro j
  rw [List.getElem?_modify, List.getElem?_map, List.getElem?_map]
  rcases Nat.lt_or_ge j n with hj | hj
  · rw [List.getElem?_range hj]
    by_cases hpj : p = j <;> simp [hpj]
  · rw [List.getElem?_eq_none (by simpa using hj)]
    rfl

/-- the loop of `build_tree_structure` over a prefix `t` of the vector -/
theorem childLists_prefix (n : Nat) : ∀ (t : List Int), EntriesOK n t →
    t.zipIdx.foldl addChild (some (List.replicate n [])) =
      some ((List.range n).map (fun (j : Nat) => (List.range t.length).filter (fun c => t.getD c (-1) == (j : Int)))) := by
  intro t
  induction t using List.reverseRecOn with
  | nil =>
    intro _
    rw [List.zipIdx_nil, List.foldl_nil, List.length_nil, List.range_zero]
    simp only [List.filter_nil, List.map_const', List.length_range]
  | append_singleton t x ih =>
    intro hok
    rw [List.zipIdx_append, List.foldl_append, ih (fun y hy => hok y (List.mem_append_left _ hy))]
    simp only [List.zipIdx_cons, List.zipIdx_nil, List.foldl_cons, List.foldl_nil, Nat.zero_add, addChild,
      Option.bind_some, List.length_map, List.length_range, filter_snoc]
    rcases hok x (by simp) with rfl | ⟨hx0, hxn⟩
    · rw [if_pos rfl]
      congr 1
      exact List.map_congr_left (fun j _ => by rw [if_neg (by omega), List.append_nil])
    · obtain ⟨p, rfl⟩ : ∃ p : Nat, x = (p : Int) := ⟨x.toNat, (Int.toNat_of_nonneg hx0).symm⟩
      rw [if_neg (by omega), pyIndex_nat (by simpa using hxn), Option.map_some, modify_map_range]
      congr 1
      exact List.map_congr_left (fun j _ => by by_cases hpj : p = j <;> simp [hpj])

theorem WF.childLists_eq {tree : List Int} {r : Nat} (h : WF tree r) :
    childLists tree = some ((List.range tree.length).map (childrenOf tree)) := by
  unfold childLists
  rw [childLists_prefix tree.length tree h.entriesOK]
  rfl

theorem WF.getD_children {tree : List Int} {r : Nat} (h : WF tree r) :
    (fun q => ((List.range tree.length).map (childrenOf tree)).getD q []) = childrenOf tree := by
  funext q
  by_cases hq : q < tree.length
  · simp [List.getD_eq_getElem?_getD, hq]
  · rw [h.children_of_big (Nat.le_of_not_lt hq)]
    simp [List.getD_eq_getElem?_getD, Nat.le_of_not_lt hq]

end Deeprob.GraphIo
