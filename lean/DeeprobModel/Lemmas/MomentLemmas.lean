import DeeprobModel.Spec.Moments
import DeeprobModel.Props.CircMarg
import DeeprobModel.Lemmas.ListSums
set_option linter.unusedSimpArgs false
set_option linter.unusedVariables false
set_option linter.unusedSectionVars false
/-
Raw moments of tree circuits (C19, `Spec/Moments.lean`): completion sums of a product of factors with disjoint
scopes split into the product of the single sums (`sumOver_lprod`), and with it, by induction on a valid normalised
circuit, the recursive `MCirc.moment k v` is the completion sum of `x_v^k · eval`.
-/

namespace Deeprob
variable {α : Type} [CommSemiring α]

theorem gPow_congr (k v : Nat) (a b : Ev) (h : a v = b v) : gPow (α := α) k v a = gPow k v b := by
  simp [gPow, valC, h]

/-- like `sumOver_congr`, the summand only matters on rows that are observed on `S` -/
theorem sumOver_congr_obs (dom : Nat → Nat) (S : List Nat) (e : Ev) (f g : Ev → α)
    (h : ∀ e', (∀ v, v ∉ S → e' v = e v) → (∀ v ∈ S, e' v ≠ none) → f e' = g e') :
    sumOver dom S e f = sumOver dom S e g :=
  sumOver_congr_of_completion dom S e f g fun x hx _ hfill => h x hx hfill

theorem mul_wsum (a : α) (ws xs : List α) : a * wsum ws xs = wsum ws (xs.map (fun x => a * x)) := by
  simpa only [mul_comm a, id_eq, List.map_id] using (wsum_map_mul_const ws xs id a).symm

namespace MCirc
open Circ

/-- structural induction: a claim about a node may use the claim for each of its children -/
theorem induct {P : MCirc α → Prop} (leaf : ∀ s f mom, P (.leaf s f mom))
    (sum : ∀ s ws cs, (∀ c ∈ cs, P c) → P (.sum s ws cs)) (prod : ∀ s cs, (∀ c ∈ cs, P c) → P (.prod s cs))
    (c : MCirc α) : P c :=
  MCirc.rec (motive_1 := P) (motive_2 := fun cs => ∀ c ∈ cs, P c) leaf sum prod
    (fun _ h => absurd h List.not_mem_nil)
    (fun _ _ hc hcs _ hd => (List.mem_cons.1 hd).elim (· ▸ hc) (hcs _)) c

@[simp] theorem scope_toCirc (c : MCirc α) : c.toCirc.scope = c.scope := by
  cases c <;> simp [toCirc, Circ.scope, scope]

theorem map_scope_toCirc (cs : List (MCirc α)) : (cs.map toCirc).map Circ.scope = cs.map scope := by
  rw [List.map_map]; apply List.map_congr_left; intro c _; simp

/-- what holds of both children of a binary node holds of every child -/
theorem forall_mem_two {β : Type} {P : β → Prop} {a b : β} (ha : P a) (hb : P b) : ∀ c ∈ [a, b], P c :=
  fun _ hc => (List.mem_pair.1 hc).elim (· ▸ ha) (· ▸ hb)

theorem mem_flatten_scope {cs : List (MCirc α)} {c : MCirc α} {u : Nat} (hc : c ∈ cs) (hu : u ∈ c.scope) :
    u ∈ (cs.map scope).flatten :=
  List.mem_flatten.2 ⟨_, List.mem_map_of_mem hc, hu⟩

theorem powN_one (n : Nat) : powN (1 : α) n = 1 := by
  induction n with
  | zero => rfl
  | succ n ih => simp [powN, ih]

theorem valid_sum {dom : Nat → Nat} {s : List Nat} {ws : List α} {cs : List (MCirc α)} :
    Valid dom (MCirc.sum s ws cs).toCirc ↔
      cs ≠ [] ∧ ws.length = cs.length ∧ (∀ c ∈ cs, scopeEq c.scope s) ∧ ∀ c ∈ cs, Valid dom c.toCirc := by
  simp only [toCirc, Valid, ne_eq, List.map_eq_nil_iff, List.length_map, List.forall_mem_map, scope_toCirc]

theorem valid_prod {dom : Nat → Nat} {s : List Nat} {cs : List (MCirc α)} :
    Valid dom (MCirc.prod s cs).toCirc ↔
      (cs.map scope).flatten.Nodup ∧ scopeEq (cs.map scope).flatten s ∧ ∀ c ∈ cs, Valid dom c.toCirc := by
  simp only [toCirc, Valid, map_scope_toCirc, List.forall_mem_map]

theorem normW_sum {s : List Nat} {ws : List α} {cs : List (MCirc α)} :
    NormW (MCirc.sum s ws cs).toCirc ↔ tsum ws = 1 ∧ ∀ c ∈ cs, NormW c.toCirc := by
  simp only [toCirc, NormW, List.forall_mem_map]

theorem normW_prod {s : List Nat} {cs : List (MCirc α)} :
    NormW (MCirc.prod s cs).toCirc ↔ ∀ c ∈ cs, NormW c.toCirc := by
  simp only [toCirc, NormW, List.forall_mem_map]

theorem leafNorm_sum {dom : Nat → Nat} {s : List Nat} {ws : List α} {cs : List (MCirc α)} :
    LeafNorm dom (MCirc.sum s ws cs).toCirc ↔ ∀ c ∈ cs, LeafNorm dom c.toCirc := by
  simp only [toCirc, LeafNorm, List.forall_mem_map]

theorem leafNorm_prod {dom : Nat → Nat} {s : List Nat} {cs : List (MCirc α)} :
    LeafNorm dom (MCirc.prod s cs).toCirc ↔ ∀ c ∈ cs, LeafNorm dom c.toCirc := by
  simp only [toCirc, LeafNorm, List.forall_mem_map]

/-- a table leaf used as a moment leaf is still the evaluation leaf -/
theorem cat_toCirc (w : Nat) (tbl : List α) : (MCirc.cat w tbl).toCirc = Circ.catLeaf w tbl := by
  simp [MCirc.cat, MCirc.toCirc, Circ.catLeaf]

/-- a table over the values of `v` with total mass one is a valid leaf … -/
theorem cat_valid (dom : Nat → Nat) (v : Nat) (tbl : List α) (hl : tbl.length = dom v) (hs : tsum tbl = 1) :
    Valid dom (MCirc.cat v tbl).toCirc := by
  rw [cat_toCirc, Circ.catLeaf, Valid]
  exact catLeaf_ok dom v tbl hl hs

/-- … which reports one when nothing is observed -/
theorem cat_leafNorm (dom : Nat → Nat) (v : Nat) (tbl : List α) : LeafNorm dom (MCirc.cat v tbl).toCirc := by
  rw [cat_toCirc, Circ.catLeaf, LeafNorm]
  rfl

theorem cat_normW (v : Nat) (tbl : List α) : NormW (MCirc.cat v tbl).toCirc := by
  rw [cat_toCirc, Circ.catLeaf, NormW]
  trivial

/-- a valid normalised circuit evaluates to one under any evidence that is missing on its scope -/
theorem eval_missing_one (dom : Nat → Nat) (c : Circ α) (hv : Valid dom c) (hn : NormW c) (hl : LeafNorm dom c)
    (e : Ev) (he : Missing c.scope e) : eval e c = 1 := by
  rw [eval_congr dom c hv e (fun _ => none) (fun v hvs => he v hvs)]
  exact all_missing_one dom c hv hn hl

/-- outside its scope a normalised circuit reports one (`leaf_moment` writes only `m[node.scope]`) -/
theorem moment_notin (dom : Nat → Nat) (k v : Nat) (c : MCirc α) (hv : Valid dom c.toCirc) (hn : NormW c.toCirc)
    (hnot : v ∉ c.scope) : moment k v c = 1 := by
  induction c using MCirc.induct with
  | leaf s f mom => simp only [scope] at hnot; simp [moment, hnot]
  | sum s ws cs ih =>
    obtain ⟨_, hlen, hsc, hval⟩ := valid_sum.1 hv
    obtain ⟨hw, hnc⟩ := normW_sum.1 hn
    rw [moment, wsum_ones ws _ _ (by rw [List.length_map]; exact hlen), hw]
    intro x hx
    obtain ⟨c, hc, rfl⟩ := List.mem_map.1 hx
    exact ih c hc (hval c hc) (hnc c hc) fun hin => hnot ((hsc c hc v).1 hin)
  | prod s cs ih =>
    obtain ⟨_, hsc, hval⟩ := valid_prod.1 hv
    rw [moment]
    apply lprod_ones
    intro x hx
    obtain ⟨c, hc, rfl⟩ := List.mem_map.1 hx
    exact ih c hc (hval c hc) (normW_prod.1 hn c hc) fun hin => hnot ((hsc v).1 (mem_flatten_scope hc hin))

/-- the product case of `moment_exact`: the scopes are pairwise disjoint, so the sum over all rows factorises
(`sumOver_lprod`); the factor whose scope holds `v` takes the power `x_v^k` and gives its moment, every other factor
gives its total mass one -/
theorem prod_moment_list (dom : Nat → Nat) (k v : Nat) (cs : List (MCirc α))
    (hval : ∀ c ∈ cs, Valid dom c.toCirc) (hn : ∀ c ∈ cs, NormW c.toCirc) (hl : ∀ c ∈ cs, LeafNorm dom c.toCirc)
    (hnd : (cs.map scope).flatten.Nodup)
    (IH : ∀ c ∈ cs, ∀ e, Missing c.scope e → v ∈ c.scope →
        sumOver dom c.scope e (fun x => gPow k v x * eval x c.toCirc) = moment k v c)
    (e : Ev) (hmiss : Missing (cs.map scope).flatten e) (hin : v ∈ (cs.map scope).flatten) :
    sumOver dom (cs.map scope).flatten e (fun x => gPow k v x * lprod ((cs.map toCirc).map (eval x)))
      = lprod (cs.map (moment k v)) := by
  let G : MCirc α → Ev → α := fun c x => if v ∈ c.scope then gPow k v x * eval x c.toCirc else eval x c.toCirc
  have split : ∀ x, gPow k v x * lprod ((cs.map toCirc).map (eval x)) = lprod (cs.map (G · x)) := by
    intro x
    clear hmiss IH hl hn hval
    induction cs with
    | nil => cases hin
    | cons c cs ih =>
      obtain ⟨_, hnd2, hdisj⟩ := (nodup_flatten_map_cons scope c cs).1 hnd
      simp only [List.map_cons, lprod, G]
      by_cases hvc : v ∈ c.scope
      · rw [if_pos hvc, mul_assoc, List.map_map, List.map_congr_left fun d hd =>
          (if_neg fun hvd => hdisj v hvc (mem_flatten_scope hd hvd) : G d x = _)]
        rfl
      · rw [if_neg hvc, ← ih hnd2 ((List.mem_append.1 hin).resolve_left hvc), mul_left_comm]
  have loc : ∀ c ∈ cs, ∀ a b : Ev, (∀ u ∈ c.scope, a u = b u) → G c a = G c b := by
    intro c hc a b h
    have he := eval_congr dom _ (hval c hc) a b fun u hu => h u (scope_toCirc c ▸ hu)
    by_cases hvc : v ∈ c.scope
    · simp only [G, if_pos hvc, he, gPow_congr k v a b (h v hvc)]
    · simp only [G, if_neg hvc, he]
  rw [sumOver_congr dom _ e _ _ fun x _ => split x, sumOver_lprod dom scope G cs loc hnd e]
  refine congrArg lprod (List.map_congr_left fun c hc => ?_)
  have hmc : Missing c.scope e := fun u hu => hmiss u (mem_flatten_scope hc hu)
  by_cases hvc : v ∈ c.scope
  · simp only [G, if_pos hvc]
    exact IH c hc e hmc hvc
  · simp only [G, if_neg hvc]
    rw [← scope_toCirc, ← marg dom c.toCirc (hval c hc) e, moment_notin dom k v c (hval c hc) (hn c hc) hvc]
    exact eval_missing_one dom _ (hval c hc) (hn c hc) (hl c hc) e fun u hu => hmc u (scope_toCirc c ▸ hu)

/-- core of `moment_exact`, for any evidence that is missing on the scope -/
theorem moment_exact_aux (dom : Nat → Nat) (k v : Nat) (c : MCirc α) (hv : Valid dom c.toCirc) (hn : NormW c.toCirc)
    (hl : LeafNorm dom c.toCirc) (hm : MomOK dom k v c) (e : Ev) (hmiss : Missing c.scope e) (hin : v ∈ c.scope) :
    sumOver dom c.scope e (fun x => gPow k v x * eval x c.toCirc) = moment k v c := by
  induction c using MCirc.induct generalizing e with
  | leaf s f mom =>
    rw [toCirc, Valid] at hv
    rw [MomOK] at hm
    simp only [scope] at hmiss hin ⊢
    simp only [moment, toCirc, eval, List.contains_iff_mem.2 hin, if_true]
    rw [hm hin]
    apply sumOver_ev_congr dom s e (fun _ => none) _ s
    · intro a b h; rw [gPow_congr k v a b (h v hin), hv.local_ a b h]
    · exact fun _ h => h
    · exact fun u hu => hmiss u hu
  | sum s ws cs ih =>
    obtain ⟨_, -, hsc, hval⟩ := valid_sum.1 hv
    rw [MomOK] at hm
    simp only [scope] at hmiss hin ⊢
    simp only [moment, toCirc, eval, mul_wsum, List.map_map, Function.comp_def]
    rw [wsum_sumOver dom s e ws cs (fun c x => gPow k v x * eval x c.toCirc)]
    congr 1
    apply List.map_congr_left
    intro c hc
    have hse := hsc c hc
    rw [← sumOver_set_eq dom hse e]
    exact ih c hc (hval c hc) ((normW_sum.1 hn).2 c hc) (leafNorm_sum.1 hl c hc) (hm c hc) e
      (fun u hu => hmiss u ((hse u).1 hu)) ((hse v).2 hin)
  | prod s cs ih =>
    obtain ⟨hnd, hsc, hval⟩ := valid_prod.1 hv
    rw [MomOK] at hm
    simp only [scope] at hmiss hin ⊢
    simp only [moment, toCirc, eval]
    rw [← sumOver_set_eq dom hsc]
    exact prod_moment_list dom k v cs hval (normW_prod.1 hn) (leafNorm_prod.1 hl) hnd
      (fun c hc e hm' hin' => ih c hc (hval c hc) (normW_prod.1 hn c hc) (leafNorm_prod.1 hl c hc) (hm c hc) e hm' hin')
      e (fun u hu => hmiss u ((hsc u).1 hu)) ((hsc v).2 hin)

end MCirc
end Deeprob
