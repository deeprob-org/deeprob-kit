import DeeprobModel.Lemmas.CltIoGraph
import DeeprobModel.Lemmas.F32Lemmas
set_option linter.unusedSimpArgs false
set_option linter.unusedVariables false
/-
C13 for binary Chow-Liu trees, reading back (the writing side is CltIoGraph.lean): `digraph_to_binary_clt` on the
canonical graph of a well-formed tree passes `is_arborescence`, finds the root, and its breadth-first filling loop
rebuilds `scope`, `tree` and the rounded, stored `params` (`reloadWith`).
-/
namespace Deeprob.GraphIo
open Deeprob Deeprob.Clt Deeprob.CltFit

theorem graphOK_canon (o : CltObj) : GraphOK (canon o) := by
  refine ⟨by rw [nodeIds_canon]; exact List.nodup_range, fun e he => ?_⟩
  obtain ⟨h1, h2, _⟩ := (mem_edgesOf_canon o).1 he
  rw [nodeIds_canon]
  exact ⟨List.mem_range.2 h1, List.mem_range.2 h2⟩

/-- on a graph with successor lists `ch` where the search never meets a node twice, `bfs_predecessors` yields the
successors of the nodes in `bfsLoop` order, each with its predecessor -/
theorem bfsPreds_eq (g : DiGraph) (ch : List (List Nat)) (hch : ∀ q, succOf g q = ch.getD q []) :
    ∀ (f : Nat) (q seen : List Nat), (seen ++ (bfsLoop ch f q).flatMap (fun u => ch.getD u [])).Nodup →
      bfsPreds g f q seen = (bfsLoop ch f q).flatMap (fun u => (ch.getD u []).map (fun c => (c, u)))
  | 0, _, _, _ => rfl
  | f + 1, [], _, _ => rfl
  | f + 1, q :: qs, seen, hnd => by
    rw [bfsLoop, List.flatMap_cons, ← List.append_assoc] at hnd
    -- nothing in the successor list of `q` has been seen
    have hnew : (succOf g q).filter (fun c => !seen.contains c) = ch.getD q [] := by
      rw [hch q, List.filter_eq_self]
      intro c hc
      have := (List.nodup_append.1 (List.nodup_append.1 hnd).1).2.2
      simpa using fun hs => this c hs c hc rfl
    simp only [bfsPreds, hnew, bfsLoop, List.flatMap_cons]
    rw [bfsPreds_eq g ch hch f _ _ hnd]

section wf
variable {o : CltObj} {r : Nat} (h : WF o.tree r)
include h

theorem WF.succOf_canon : succOf (canon o) = Clt.childrenOf o.tree := by
  funext u
  by_cases hu : u < o.tree.length
  · exact succOf_Gn _ _ _ hu
  · unfold succOf canon
    rw [find_Gn_none _ _ _ (Nat.le_of_not_lt hu), h.children_of_big (Nat.le_of_not_lt hu)]

theorem WF.levels_flatMap_children :
    ((List.range o.tree.length).flatMap (level o.tree r)).flatMap (Clt.childrenOf o.tree) =
      ((List.range o.tree.length).flatMap (level o.tree r)).tail := by
  obtain ⟨m, hm⟩ : ∃ m, o.tree.length = m + 1 := ⟨o.tree.length - 1, by have := h.pos; omega⟩
  rw [List.flatMap_assoc]
  have h1 : (fun k => (level o.tree r k).flatMap (Clt.childrenOf o.tree)) = fun k => level o.tree r (k + 1) := rfl
  rw [h1]
  conv_rhs => rw [hm, List.range_succ_eq_map, List.flatMap_cons, List.flatMap_map]
  have h0 : level o.tree r 0 = [r] := rfl
  rw [h0]
  simp only [List.singleton_append, List.tail_cons, Nat.succ_eq_add_one]
  rw [hm, List.range_succ, List.flatMap_append]
  simp only [List.flatMap_cons, List.flatMap_nil, List.append_nil]
  rw [h.level_big (by omega), List.append_nil]

theorem WF.edges_snd_perm : ((edgesOf (canon o)).map (·.2)).Perm ((List.range o.tree.length).erase r) := by
  have h1 : (edgesOf (canon o)).map (·.2) = (List.range o.tree.length).flatMap (Clt.childrenOf o.tree) := by
    unfold canon
    rw [edgesOf_Gn, List.map_flatMap]
    congr 1
    funext p
    rw [List.map_map]
    exact List.map_id _
  rw [h1]
  refine (List.Perm.flatMap_right _ h.levels_perm.symm).trans ?_
  rw [h.levels_flatMap_children]
  exact (List.reverse_perm _).symm.trans h.code_order_perm

theorem WF.inDegree_canon (v : Nat) :
    inDegree (canon o) v = if v < o.tree.length ∧ v ≠ r then 1 else 0 := by
  unfold inDegree
  rw [← List.countP_eq_length_filter]
  have : List.countP (fun e : Nat × Nat => e.2 == v) (edgesOf (canon o)) = ((edgesOf (canon o)).map (·.2)).count v := by
    rw [List.count_eq_countP, List.countP_map]; rfl
  rw [this, h.edges_snd_perm.count_eq]
  have hnd : ((List.range o.tree.length).erase r).Nodup := List.nodup_range.erase r
  have hmem : v ∈ (List.range o.tree.length).erase r ↔ v < o.tree.length ∧ v ≠ r := by
    rw [List.Nodup.mem_erase_iff List.nodup_range, List.mem_range, and_comm]
  split_ifs with hv
  · exact List.count_eq_one_of_mem hnd (hmem.2 hv)
  · exact List.count_eq_zero_of_not_mem (fun hm => hv (hmem.1 hm))

theorem WF.edges_count : (edgesOf (canon o)).length + 1 = o.tree.length := by
  have := h.edges_snd_perm.length_eq
  rw [List.length_map, List.length_erase_of_mem (List.mem_range.2 h.r_lt), List.length_range] at this
  have := h.pos
  omega

/-- every node is joined to the root: by its parent chain, inductively on the depth -/
theorem WF.joined_root : ∀ (k v : Nat), v < o.tree.length → depthOf o.tree v ≤ k →
    Relation.ReflTransGen (Adj (canon o)) r v
  | 0, v, hv, hd => by rw [h.depth_zero hv (by omega)]
  | k + 1, v, hv, hd => by
    by_cases hvr : v = r
    · rw [hvr]
    · obtain ⟨p, hp, _, hpl, hpe⟩ := h.parent_ne hv hvr
      have hdp := h.depth_child hv hp
      exact (WF.joined_root k p hpl (by omega)).tail (Or.inl ((mem_edgesOf_canon o).2 ⟨hpl, hv, hpe⟩))

theorem WF.isArborescence_canon : isArborescence (canon o) = true := by
  have hreach : ∀ v ∈ nodeIds (canon o), Relation.ReflTransGen (Adj (canon o)) r v := fun v hv => by
    rw [nodeIds_canon, List.mem_range] at hv
    exact h.joined_root _ v hv (h.depth_le hv)
  refine IsArborescence.isArborescence ⟨?_, h.edges_count.trans (length_canon o).symm, ?_, ?_⟩ (graphOK_canon o)
  · intro hh
    have := length_canon o
    rw [hh] at this
    exact absurd this.symm (Nat.ne_of_gt h.pos)
  · -- the first node is joined to the root, the root to every node
    intro x rest hg v hv
    exact (reach_symm (hreach x.id (by rw [hg]; exact List.mem_cons_self))).trans (hreach v hv)
  · intro v _
    rw [h.inDegree_canon v]
    split_ifs <;> omega

theorem WF.find_root : (nodeIds (canon o)).find? (fun v => inDegree (canon o) v == 0) = some r := by
  rw [nodeIds_canon, List.find?_range_eq_some]
  refine ⟨?_, List.mem_range.2 h.r_lt, fun j hj => ?_⟩
  · rw [h.inDegree_canon r, if_neg (fun hh => hh.2 rfl)]; rfl
  · rw [h.inDegree_canon j, if_pos ⟨Nat.lt_trans hj h.r_lt, Nat.ne_of_lt hj⟩]; rfl

theorem WF.bfsLoop_eq : bfsLoop ((List.range o.tree.length).map (Clt.childrenOf o.tree)) o.tree.length [r] =
    (List.range o.tree.length).flatMap (level o.tree r) := by
  have := h.bfs_eq
  unfold computeBfsOrdering buildTreeStructure at this
  rw [h.root, h.childLists_eq] at this
  simpa using this

/-- the pairs `bfs_predecessors` yields: every non-root node once, in breadth-first order, with its parent -/
theorem WF.bfsPreds_canon :
    ∃ P : List (Nat × Nat), bfsPreds (canon o) o.tree.length [r] [r] = P ∧
      r :: P.map (·.1) = (List.range o.tree.length).flatMap (level o.tree r) ∧
      ∀ cp ∈ P, cp.1 < o.tree.length ∧ o.tree.getD cp.1 (-1) = (cp.2 : Int) := by
  have hch : ∀ q, succOf (canon o) q = ((List.range o.tree.length).map (Clt.childrenOf o.tree)).getD q [] := by
    intro q; rw [h.succOf_canon]; exact (congrFun h.getD_children q).symm
  obtain ⟨rest, hrest⟩ := h.levels_head
  have htail := h.levels_flatMap_children
  rw [hrest, List.tail_cons] at htail
  have heq := bfsPreds_eq (canon o) _ hch o.tree.length [r] [r]
  simp only [h.bfsLoop_eq, congrFun h.getD_children] at heq
  refine ⟨_, heq ?_, ?_, ?_⟩
  · rw [List.singleton_append, hrest, htail, ← hrest]
    exact h.levels_nodup
  · have hfst : ∀ u, ((Clt.childrenOf o.tree u).map (fun c => (c, u))).map (·.1) = Clt.childrenOf o.tree u :=
      fun u => by rw [List.map_map]; exact List.map_id _
    simp only [List.map_flatMap, hfst]
    rw [hrest, htail]
  · intro cp hcp
    obtain ⟨u, _, hm⟩ := List.mem_flatMap.1 hcp
    obtain ⟨c, hc, rfl⟩ := List.mem_map.1 hm
    exact mem_childrenOf_iff.1 hc

end wf

/-- `a[c] = v c` for every `c` of the list -/
def setAll {β : Type} (v : Nat → β) (cs : List Nat) (A : List (Option β)) : List (Option β) :=
  cs.foldl (fun a c => a.set c (some (v c))) A

theorem setAll_length {β : Type} (v : Nat → β) : ∀ (cs : List Nat) (A : List (Option β)),
    (setAll v cs A).length = A.length
  | [], A => rfl
  | c :: cs, A => (setAll_length v cs (A.set c (some (v c)))).trans List.length_set

theorem setAll_get {β : Type} (v : Nat → β) : ∀ (cs : List Nat) (A : List (Option β)) (i : Nat), i < A.length →
    (setAll v cs A)[i]? = if i ∈ cs then some (some (v i)) else A[i]?
  | [], A, i, _ => by rw [if_neg List.not_mem_nil]; rfl
  | c :: cs, A, i, hi => by
    have := setAll_get v cs (A.set c (some (v c))) i (by rw [List.length_set]; exact hi)
    unfold setAll at this ⊢
    rw [List.foldl_cons, this, List.getElem?_set]
    by_cases hic : i ∈ cs
    · rw [if_pos hic, if_pos (List.mem_cons_of_mem _ hic)]
    · by_cases hci : c = i
      · subst hci; rw [if_neg hic, if_pos rfl, if_pos hi, if_pos List.mem_cons_self]
      · rw [if_neg hic, if_neg hci, if_neg (fun hh => (List.mem_cons.1 hh).elim (fun e => hci e.symm) hic)]

theorem setAll_all {β : Type} (v : Nat → β) (n : Nat) (cs : List Nat) (hcs : ∀ i, i < n → i ∈ cs) :
    setAll v cs (List.replicate n none) = (List.range n).map (fun i => some (v i)) := by
  apply List.ext_getElem?
  intro i
  by_cases hi : i < n
  · rw [setAll_get v cs _ i (by rw [List.length_replicate]; exact hi), if_pos (hcs i hi), List.getElem?_map,
      List.getElem?_range hi]
    rfl
  · rw [List.getElem?_eq_none (by rw [setAll_length, List.length_replicate]; omega),
      List.getElem?_eq_none (by rw [List.length_map, List.length_range]; omega)]

theorem allSomeL_map_some {β : Type} : ∀ (l : List β), allSomeL (l.map some) = some l
  | [] => rfl
  | x :: xs => by rw [List.map_cons, allSomeL, allSomeL_map_some xs]; rfl

/-- the filling loop on a graph whose nodes `0..n-1` all carry attributes -/
theorem fill_fold (n : Nat) (a : Nat → CAttr) (s : Nat → List Nat) (tv : Nat → Int) (ps : List (Nat × Int))
    (sc : List (Option Nat)) (tr : List (Option Int)) (pa : List (Option (List (List Rat))))
    (h1 : sc.length = n) (h2 : tr.length = n) (h3 : pa.length = n) (hall : ∀ cp ∈ ps, cp.1 < n ∧ cp.2 = tv cp.1) :
    ps.foldl (fillStep (Gn n (fun i => some (a i)) s)) (some (sc, tr, pa)) =
      some (setAll (fun i => (a i).scope) (ps.map (·.1)) sc, setAll tv (ps.map (·.1)) tr,
            setAll (fun i => (a i).weight) (ps.map (·.1)) pa) := by
  induction ps generalizing sc tr pa with
  | nil => rfl
  | cons cp ps ih =>
    obtain ⟨c, t⟩ := cp
    obtain ⟨hc, ht⟩ := hall (c, t) List.mem_cons_self
    simp only at hc ht
    have hstep : fillStep (Gn n (fun i => some (a i)) s) (some (sc, tr, pa)) (c, t) =
        some (sc.set c (some (a c).scope), tr.set c (some (tv c)), pa.set c (some (a c).weight)) := by
      unfold fillStep
      simp only [Option.bind_some]
      rw [attrOf_Gn _ _ _ hc]
      simp only [setAt, Option.bind_some, h1, h2, h3, hc, if_true, ht]
    rw [List.foldl_cons, hstep, ih _ _ _ (List.length_set.trans h1) (List.length_set.trans h2)
      (List.length_set.trans h3) (fun cp hcp => hall cp (List.mem_cons_of_mem _ hcp))]
    rfl

/-- when the loop visits every node, every slot of the three arrays is set -/
theorem fill_all (n : Nat) (a : Nat → CAttr) (s : Nat → List Nat) (tv : Nat → Int) (ps : List (Nat × Int))
    (hall : ∀ cp ∈ ps, cp.1 < n ∧ cp.2 = tv cp.1) (hcov : ∀ i, i < n → i ∈ ps.map (·.1)) :
    ps.foldl (fillStep (Gn n (fun i => some (a i)) s))
        (some (List.replicate n none, List.replicate n none, List.replicate n none)) =
      some ((List.range n).map (fun i => some (a i).scope), (List.range n).map (fun i => some (tv i)),
            (List.range n).map (fun i => some (a i).weight)) := by
  rw [fill_fold n a s tv ps _ _ _ List.length_replicate List.length_replicate List.length_replicate hall,
    setAll_all _ _ _ hcov, setAll_all _ _ _ hcov, setAll_all _ _ _ hcov]

/-- entry-wise map on a list of tables -/
def map3 (f : Rat → Rat) (ps : List (List (List Rat))) : List (List (List Rat)) :=
  ps.map (fun t => t.map (fun row => row.map f))

theorem map3_map3 (f g : Rat → Rat) (ps : List (List (List Rat))) : map3 f (map3 g ps) = map3 (fun x => f (g x)) ps := by
  simp only [map3, List.map_map, Function.comp_def]

theorem map3_congr {f g : Rat → Rat} {ps : List (List (List Rat))}
    (h : ∀ t ∈ ps, ∀ row ∈ t, ∀ x ∈ row, f x = g x) : map3 f ps = map3 g ps :=
  List.map_congr_left fun t ht => List.map_congr_left fun row hrow => List.map_congr_left fun x hx => h t ht row hrow x hx

theorem forall_mem_map3 {P : Rat → Prop} {f : Rat → Rat} (h : ∀ x, P (f x)) (ps : List (List (List Rat))) :
    ∀ t ∈ map3 f ps, ∀ row ∈ t, ∀ x ∈ row, P x := by
  intro t ht row hrow x hx
  obtain ⟨t0, _, rfl⟩ := List.mem_map.1 ht
  obtain ⟨row0, _, rfl⟩ := List.mem_map.1 hrow
  obtain ⟨x0, _, rfl⟩ := List.mem_map.1 hx
  exact h x0

theorem shapeOK_map3 (n : Nat) (f : Rat → Rat) (ps : List (List (List Rat))) : shapeOK n (map3 f ps) = shapeOK n ps := by
  unfold shapeOK map3
  simp [List.all_map, Function.comp_def]

theorem shapeOK_length {n : Nat} {ps : List (List (List Rat))} (h : shapeOK n ps = true) : ps.length = n := by
  unfold shapeOK at h
  rw [Bool.and_eq_true] at h
  exact beq_iff_eq.1 h.1

theorem nodeAttr_weight (o : CltObj) (i : Nat) : (nodeAttr o i).weight = (map3 round8 o.params).getD i [] := by
  show roundTable (o.params.getD i []) = (o.params.map roundTable).getD i []
  rw [List.getD_eq_getElem?_getD, List.getD_eq_getElem?_getD, List.getElem?_map]
  cases o.params[i]? <;> rfl

/-- the canonical graph depends on the parameters only through their rounding -/
theorem canon_congr {o o' : CltObj} (hs : o'.scope = o.scope) (ht : o'.tree = o.tree)
    (hp : map3 round8 o'.params = map3 round8 o.params) : canon o' = canon o := by
  unfold canon
  rw [ht]
  refine Gn_congr (fun i _ => ?_) (fun _ _ => rfl)
  have hw := nodeAttr_weight o' i
  rw [hp, ← nodeAttr_weight] at hw
  have hsc : (nodeAttr o' i).scope = (nodeAttr o i).scope := by unfold nodeAttr; rw [hs]
  cases h1 : nodeAttr o' i
  cases h2 : nodeAttr o i
  rw [h1, h2] at hw hsc
  cases hw; cases hsc; rfl

/-- the constructor on a duplicate-free scope, a predecessor vector of the same length with a root and a
breadth-first order, and tables of shape `(n, 2, 2)` -/
theorem mkClt_ok (store : Rat → Rat) {scope : List Nat} {tree : List Int} {params : List (List (List Rat))} {r : Nat}
    {bfs : List Nat} (hne : scope ≠ []) (hnd : scope.Nodup) (hlen : tree.length = scope.length)
    (hroot : rootIdx tree = some r) (hbfs : computeBfsOrdering tree = some bfs)
    (hshape : shapeOK scope.length params = true) :
    mkClt store scope tree params = some { scope := scope, tree := tree, params := map3 store params } := by
  unfold mkClt
  rw [List.isEmpty_eq_false_iff.2 hne, hlen, hroot, hbfs]
  simp only [hnd, decide_true, Bool.not_true, Bool.or_self, Bool.false_eq_true, if_false, bne_self_eq_false]
  rw [if_pos hshape]
  rfl

/-- what a reload holds: the same scope and tree, every parameter rounded and stored -/
def reloadWith (store : Rat → Rat) (o : CltObj) : CltObj :=
  { o with params := map3 (fun x => store (round8 x)) o.params }

theorem digraphToClt_canon (store : Rat → Rat) {o : CltObj} {r : Nat} (h : WF o.tree r)
    (hs : o.scope.length = o.tree.length) (hnd : o.scope.Nodup) (hp : shapeOK o.tree.length o.params = true) :
    digraphToClt store (canon o) = some (reloadWith store o) := by
  obtain ⟨P, hP, hB, hPall⟩ := h.bfsPreds_canon
  have hpl := shapeOK_length hp
  unfold digraphToClt
  rw [h.isArborescence_canon, h.find_root]
  simp only [Bool.not_true, Bool.false_eq_true, if_false, length_canon, hP]
  -- the filling loop visits the root and every other node with its parent, in breadth-first order
  have hfill := fill_all o.tree.length (nodeAttr o) (Clt.childrenOf o.tree) (fun i => o.tree.getD i (-1))
    ((r, (-1 : Int)) :: P.map (fun cp => (cp.1, (cp.2 : Int)))) (by
      intro cp hcp
      rcases List.mem_cons.1 hcp with rfl | hcp
      · exact ⟨h.r_lt, (h.root_entry (-1)).symm⟩
      · obtain ⟨x, hx, rfl⟩ := List.mem_map.1 hcp
        exact ⟨(hPall x hx).1, (hPall x hx).2.symm⟩) (by
      intro i hi
      rw [List.map_cons, List.map_map]
      exact hB ▸ (h.mem_levels i).2 hi)
  have e3 : (List.range o.tree.length).map (fun i => some (nodeAttr o i).weight) = (map3 round8 o.params).map some := by
    simp only [nodeAttr_weight]
    have := map_range_getD (map3 round8 o.params) [] some
    rwa [show (map3 round8 o.params).length = o.tree.length from (List.length_map _).trans hpl] at this
  rw [show (List.range o.tree.length).map (fun i => some (nodeAttr o i).scope) = o.scope.map some from
      hs ▸ map_range_getD o.scope 0 some, map_range_getD o.tree (-1) some, e3] at hfill
  show (match List.foldl (fillStep (canon o)) _ _ with | none => none | some (sc, tr, pa) => _) = _
  unfold canon
  rw [hfill]
  simp only [allSomeL_map_some]
  -- the constructor
  have hne : o.scope ≠ [] := fun hh => by
    rw [hh] at hs; exact absurd hs.symm (Nat.ne_of_gt h.pos)
  rw [mkClt_ok store hne hnd hs.symm h.root h.bfs_eq (by rw [hs, shapeOK_map3]; exact hp), map3_map3]
  rfl

/-- what the constructor checked when it returns an object -/
theorem mkClt_some {store : Rat → Rat} {scope : List Nat} {tree : List Int} {params : List (List (List Rat))}
    {o : CltObj} (h : mkClt store scope tree params = some o) :
    o.scope.Nodup ∧ o.tree.length = o.scope.length ∧
    ∃ r bfs, rootIdx o.tree = some r ∧ computeBfsOrdering o.tree = some bfs := by
  unfold mkClt at h
  split_ifs at h with h1 h2 h3
  · split at h
    · rename_i r bfs hr hb
      cases h
      simp only [Bool.or_eq_true, Bool.not_eq_true', decide_eq_false_iff_not, not_or, Bool.not_eq_true,
        Decidable.not_not] at h1
      exact ⟨h1.2, by simpa using h2, r, bfs, hr, hb⟩
    · cases h
  · split at h <;> cases h

theorem digraphToClt_some {store : Rat → Rat} {g : DiGraph} {o : CltObj} (h : digraphToClt store g = some o) :
    isArborescence g = true ∧ ∃ scope tree params, mkClt store scope tree params = some o := by
  unfold digraphToClt at h
  split_ifs at h with harb
  refine ⟨by simpa using harb, ?_⟩
  split at h
  · cases h
  · simp only at h
    split at h
    · cases h
    · split at h
      · exact ⟨_, _, _, h⟩
      · cases h

end Deeprob.GraphIo
