import DeeprobModel.Spec.Cnet
import DeeprobModel.Lemmas.NetLemmas
import Mathlib.Data.List.Nodup
import Mathlib.Tactic.Ring
/-
Helper lemmas for C18: what the validator checks at an OR node, the invariant of the queue loop of
`BinaryCNet.log_likelihood`, and the normalisation sum split at a cut variable.
-/
namespace Deeprob.C18
open Deeprob
variable {α : Type}

theorem cnetWellFormedB_or [Zero α] [One α] [Add α] [Mul α] [DecidableEq α] [LT α] [DecidableLT α]
    (dom : Nat → Nat) (s : List Nat) (v : Nat) (w0 w1 : α) (c0 c1 : CNet α) :
    cnetWellFormedB dom (.or s v w0 w1 c0 c1) = true ↔
      s.Nodup ∧ v ∈ s ∧ dom v = 2 ∧ c0.scope = s.erase v ∧ c1.scope = s.erase v ∧
      w0 + w1 = 1 ∧ 0 < w0 ∧ 0 < w1 ∧ cnetWellFormedB dom c0 = true ∧ cnetWellFormedB dom c1 = true := by
  simp only [cnetWellFormedB, Bool.and_eq_true, decide_eq_true_eq, beq_iff_eq, List.contains_eq_mem, Net.nodupB_iff,
    and_assoc]

/-- how the specification's `CNet.WF` (Spec/Cnet.lean) is reached from the scope equations the validator and the learners
establish -/
theorem CNet.WF.or [Zero α] [One α] [Add α] [Mul α] {dom : Nat → Nat} {s : List Nat} {v : Nat} {w0 w1 : α}
    {c0 c1 : CNet α} (hs : s.Nodup) (hv : v ∈ s) (hd : dom v = 2) (hw : w0 + w1 = 1)
    (e0 : c0.scope = s.erase v) (e1 : c1.scope = s.erase v) (h0 : CNet.WF dom c0) (h1 : CNet.WF dom c1) :
    CNet.WF dom (.or s v w0 w1 c0 c1) := by
  have mem_erase : ∀ u, u ∈ s.erase v ↔ u ∈ s ∧ u ≠ v := fun u => by rw [hs.mem_erase_iff, and_comm]
  rw [CNet.WF, e0, e1]
  exact ⟨hv, hd, hw, mem_erase, mem_erase, h0, h1⟩

theorem size_pos (c : CNet α) : 0 < c.size := by cases c <;> rw [CNet.size] <;> omega

variable [CommSemiring α]

theorem mulAt_getElem? (acc : List α) (idxs : List Nat) (g : Nat → α) (r : Nat) :
    (mulAt acc idxs g)[r]? = acc[r]?.map (fun a => a * if idxs.contains r then g r else 1) := by
  unfold mulAt
  rw [List.getElem?_map, List.getElem?_zipIdx]
  cases acc[r]? <;> simp

/-- factor a queue entry contributes to row `r` -/
def contrib (rows : Nat → Ev) (r : Nat) (p : CNet α × List Nat) : α :=
  if p.2.contains r then cnetEval (rows r) p.1 else 1

/-- an OR node contributes the weight of the side row `r` is routed to, times what the two entries queued for its
children contribute -/
theorem contrib_or (rows : Nat → Ev) (r : Nat) (s : List Nat) (v : Nat) (w0 w1 : α) (c0 c1 : CNet α)
    (idxs : List Nat) :
    contrib rows r (.or s v w0 w1 c0 c1, idxs) =
      (if (idxs.filter (fun r => rows r v == some 0)).contains r then w0 else 1) *
      (if (idxs.filter (fun r => rows r v == some 1)).contains r then w1 else 1) *
      (contrib rows r (c0, idxs.filter (fun r => rows r v == some 0)) *
       contrib rows r (c1, idxs.filter (fun r => rows r v == some 1))) := by
  simp only [contrib, cnetEval, List.contains_iff_mem, List.mem_filter, beq_iff_eq]
  by_cases hr : r ∈ idxs
  · rcases hx : rows r v with _ | _ | _ | k <;> simp [hr]
  · simp [hr]

/-- invariant of the queue loop; the fuel covers the nodes still to be visited -/
theorem cnetRun_spec (rows : Nat → Ev) : ∀ (fuel : Nat) (q : List (CNet α × List Nat)) (acc : List α),
    (q.map (fun p => p.1.size)).sum ≤ fuel →
    ∀ r, (cnetRun rows fuel q acc)[r]? = acc[r]?.map (fun a => a * lprod (q.map (contrib rows r))) := by
  intro fuel
  induction fuel with
  | zero =>
    intro q acc hq r
    cases q with
    | nil => simp [cnetRun, lprod]
    | cons p q => rw [List.map_cons, List.sum_cons] at hq; have := size_pos p.1; omega
  | succ fuel ih =>
    intro q acc hq r
    match q with
    | [] => simp [cnetRun, lprod]
    | (.leaf s f, idxs) :: q =>
      rw [List.map_cons, List.sum_cons, CNet.size] at hq
      rw [cnetRun, ih q _ (by omega) r, mulAt_getElem?, Option.map_map]
      congr 1
      funext a
      simp only [Function.comp_apply, List.map_cons, lprod, contrib, cnetEval, mul_assoc]
    | (.or s v w0 w1 c0 c1, idxs) :: q =>
      rw [List.map_cons, List.sum_cons, CNet.size] at hq
      rw [cnetRun, ih _ _ (by simp only [List.map_append, List.sum_append, List.map_cons, List.sum_cons,
        List.map_nil, List.sum_nil]; omega) r, mulAt_getElem?, mulAt_getElem?, Option.map_map, Option.map_map]
      congr 1
      funext a
      simp only [Function.comp_apply, List.map_append, List.map_cons, List.map_nil, lprod_eq_prod, List.prod_append,
        List.prod_cons, List.prod_nil, contrib_or]
      ring

/-- the part of a sum over the completions of `S` in which the cut variable `v ∉ S` has the value `b`: there the
summand `f` is `w` times the value of the child `c`, whose values sum to one -/
theorem sumOver_branch (dom : Nat → Nat) {S : List Nat} {v : Nat} (hv : v ∉ S) (e : Ev) (b : Nat) (w : α)
    (c : CNet α) (f : Ev → α) (hf : ∀ x : Ev, x v = some b → f x = w * cnetEval x c) (hS : scopeEq S c.scope)
    (hc : sumOver dom c.scope (e.set v b) (fun x => cnetEval x c) = 1) :
    sumOver dom S (e.set v b) f = w := by
  rw [sumOver_congr dom S _ f (fun x => w * cnetEval x c) (fun x hx => hf x (by rw [hx v hv, Ev.set_self])),
    sumOver_mul, sumOver_set_eq dom hS, hc, mul_one]

end Deeprob.C18
