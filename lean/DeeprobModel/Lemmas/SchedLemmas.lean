import DeeprobModel.Model.Sched
import Mathlib.Data.List.Basic
import Mathlib.Tactic.Common
/-
`Interleaving` (an order-preserving merge of the tasks' action lists), commutation of `compat` actions of the
schedule model, and: when actions of different tasks commute, every interleaving equals the sequential run.
-/
namespace Deeprob.Sched

/-- `σ` is a merge of the lists `ts` that keeps the order inside each list -/
inductive Interleaving {β : Type} : List (List β) → List β → Prop where
  | nil (ts : List (List β)) : (∀ t ∈ ts, t = []) → Interleaving ts []
  | cons (pre : List (List β)) (a : β) (rest : List β) (post : List (List β)) (σ : List β) :
      Interleaving (pre ++ rest :: post) σ → Interleaving (pre ++ (a :: rest) :: post) (a :: σ)

/-- `Interleaving.cons` with the two list shapes given by equations (convenient for concrete schedules) -/
theorem Interleaving.step {β : Type} {ts ts' : List (List β)} {σ : List β} (pre : List (List β)) (a : β)
    (rest : List β) (post : List (List β)) (h : ts = pre ++ (a :: rest) :: post)
    (h' : ts' = pre ++ rest :: post) (hi : Interleaving ts' σ) : Interleaving ts (a :: σ) := by
  subst h; subst h'; exact Interleaving.cons pre a rest post σ hi

/-- two actions commute as state transformers -/
def Comm (a b : Act) : Prop := ∀ s, apply (apply s a) b = apply (apply s b) a

theorem setF_same {β : Type} (t : Nat → β) (i : Nat) (v : β) : setF t i v i = v := by simp [setF]
theorem setF_ne {β : Type} (t : Nat → β) {i j : Nat} (v : β) (h : j ≠ i) : setF t i v j = t j := by simp [setF, h]

theorem setF_comm {β : Type} (t : Nat → β) {i j : Nat} (v w : β) (h : i ≠ j) :
    setF (setF t i v) j w = setF (setF t j w) i v := by
  funext k; unfold setF
  by_cases h1 : k = j <;> by_cases h2 : k = i
  · subst h1; subst h2; exact absurd rfl h
  · subst h1; simp [h2]
  · subst h2; simp [h]
  · simp [h1, h2]

theorem setF_setF {β : Type} (t : Nat → β) (i : Nat) (v w : β) : setF (setF t i v) i w = setF t i w := by
  funext k; unfold setF; by_cases h : k = i <;> simp [h]

theorem orMask_right_comm (m a b : Mask) : orMask (orMask m a) b = orMask (orMask m b) a := by
  induction m generalizing a b with
  | nil =>
    induction a generalizing b with
    | nil => cases b <;> simp [orMask]
    | cons x xs ih =>
      cases b with
      | nil => simp [orMask]
      | cons y ys => simp only [orMask]; rw [Bool.or_comm]; congr 1; exact ih ys
  | cons p ps ih =>
    cases a with
    | nil => cases b <;> simp [orMask]
    | cons x xs =>
      cases b with
      | nil => simp [orMask]
      | cons y ys => simp only [orMask, Bool.or_assoc]; rw [Bool.or_comm x y]; congr 1; exact ih xs ys

theorem orMask_idem (m a : Mask) : orMask (orMask m a) a = orMask m a := by
  induction m generalizing a with
  | nil =>
    induction a with
    | nil => simp [orMask]
    | cons x xs ih => simp only [orMask, Bool.or_self]; congr 1
  | cons p ps ih =>
    cases a with
    | nil => simp [orMask]
    | cons x xs => simp only [orMask, Bool.or_assoc, Bool.or_self]; congr 1; exact ih xs

/-- two OR-updates with state-independent right-hand sides commute (same row: OR is commutative and
associative; different rows: disjoint footprints) -/
theorem or_update_comm (m : Nat → Mask) (d1 d2 : Nat) (x1 x2 : Mask) :
    setF (setF m d1 (orMask (m d1) x1)) d2 (orMask ((setF m d1 (orMask (m d1) x1)) d2) x2)
      = setF (setF m d2 (orMask (m d2) x2)) d1 (orMask ((setF m d2 (orMask (m d2) x2)) d1) x1) := by
  by_cases h : d1 = d2
  · subst h
    simp only [setF_same, setF_setF]
    rw [orMask_right_comm]
  · have h' : d2 ≠ d1 := fun e => h e.symm
    rw [setF_ne _ _ h', setF_ne _ _ h, setF_comm _ _ _ h]

/-! `compat` on the pairs of actions that touch the same array -/

theorem compat_orInto_orFrom (r : Nat) (v : Mask) (d s : Nat) (sel : Option Mask) :
    compat (.orInto r v) (.orFrom d s sel) = true ↔ r ≠ s := bne_iff_ne

theorem compat_orFrom_orInto (d s : Nat) (sel : Option Mask) (r : Nat) (v : Mask) :
    compat (.orFrom d s sel) (.orInto r v) = true ↔ r ≠ s := bne_iff_ne

theorem compat_orFrom_orFrom (d s : Nat) (sel : Option Mask) (d' s' : Nat) (sel' : Option Mask) :
    compat (.orFrom d s sel) (.orFrom d' s' sel') = true ↔ d ≠ s' ∧ d' ≠ s := by
  simp only [compat, Bool.and_eq_true, bne_iff_ne]

theorem compat_setCell_setCell (r c : Nat) (v : Int) (r' c' : Nat) (v' : Int) :
    compat (.setCell r c v) (.setCell r' c' v') = true ↔ ¬ (r = r' ∧ c = c') := by
  simp only [compat, Bool.not_eq_true', Bool.and_eq_false_iff, beq_eq_false_iff_ne, not_and_or]

theorem compat_evalRow_evalRow (i : Nat) (rs : List Nat) (f : List (List Int) → List Int) (j : Nat) (rs' : List Nat)
    (f' : List (List Int) → List Int) :
    compat (.evalRow i rs f) (.evalRow j rs' f') = true ↔ i ≠ j ∧ j ∉ rs ∧ i ∉ rs' := by
  simp only [compat, Bool.and_eq_true, bne_iff_ne, Bool.not_eq_true', List.contains_eq_mem,
    decide_eq_false_iff_not, and_assoc]

theorem compat_comm (a b : Act) (h : compat a b = true) : Comm a b := by
  intro s
  cases a with
  | orInto r v =>
    cases b with
    | orInto r' v' => simp only [apply]; rw [or_update_comm]
    | orFrom d' s' sel' =>
      have hs : s' ≠ r := Ne.symm ((compat_orInto_orFrom ..).1 h)
      simp only [apply]
      rw [setF_ne _ _ hs]
      exact congrArg (fun m => ({ s with masks := m } : SState)) (or_update_comm s.masks r d' v _)
    | setCell _ _ _ | evalRow _ _ _ => rfl
  | orFrom d src sel =>
    cases b with
    | orInto r' v' =>
      have hs : src ≠ r' := Ne.symm ((compat_orFrom_orInto ..).1 h)
      simp only [apply]
      rw [setF_ne _ _ hs]
      exact congrArg (fun m => ({ s with masks := m } : SState)) (or_update_comm s.masks d r' _ v')
    | orFrom d' s' sel' =>
      obtain ⟨h1, h2⟩ := (compat_orFrom_orFrom ..).1 h
      simp only [apply]
      rw [setF_ne _ _ (Ne.symm h1), setF_ne _ _ (Ne.symm h2)]
      exact congrArg (fun m => ({ s with masks := m } : SState)) (or_update_comm s.masks d d' _ _)
    | setCell _ _ _ | evalRow _ _ _ => rfl
  | setCell r c v =>
    cases b with
    | orInto _ _ | orFrom _ _ _ | evalRow _ _ _ => rfl
    | setCell r' c' v' =>
      have hne := (compat_setCell_setCell ..).1 h
      simp only [apply]
      congr 1
      funext x y
      by_cases h1 : x = r' ∧ y = c' <;> by_cases h2 : x = r ∧ y = c
      · exact absurd ⟨h2.1 ▸ h1.1, h2.2 ▸ h1.2⟩ hne
      · rw [if_pos h1, if_neg h2, if_pos h1]
      · rw [if_neg h1, if_pos h2, if_pos h2]
      · rw [if_neg h1, if_neg h2, if_neg h2, if_neg h1]
  | evalRow i rs f =>
    cases b with
    | orInto _ _ | orFrom _ _ _ | setCell _ _ _ => rfl
    | evalRow j rs' f' =>
      obtain ⟨hij, hj, hi⟩ := (compat_evalRow_evalRow ..).1 h
      simp only [apply]
      have e1 : rs'.map (setF s.ls i (f (rs.map s.ls))) = rs'.map s.ls :=
        List.map_congr_left (fun x hx => setF_ne _ _ (fun e => hi (e ▸ hx)))
      have e2 : rs.map (setF s.ls j (f' (rs'.map s.ls))) = rs.map s.ls :=
        List.map_congr_left (fun x hx => setF_ne _ _ (fun e => hj (e ▸ hx)))
      rw [e1, e2, setF_comm _ _ _ hij]

section generic
variable {β σT : Type} (ap : σT → β → σT)

/-- an action that commutes with every action of a block can be moved in front of the block -/
theorem foldl_move_front (a : β) (pre : List β)
    (h : ∀ b ∈ pre, ∀ s, ap (ap s a) b = ap (ap s b) a) (s : σT) (post : List β) :
    (pre ++ a :: post).foldl ap s = (a :: pre ++ post).foldl ap s := by
  induction pre generalizing s with
  | nil => rfl
  | cons b pre ih =>
    have hb := h b (List.mem_cons_self ..)
    have ih' := ih (fun c hc => h c (List.mem_cons_of_mem _ hc)) (ap s b)
    simp only [List.cons_append, List.foldl_cons] at ih' ⊢
    rw [ih', hb]

/-- the tasks' action lists pairwise commute across tasks -/
def CrossComm (ts : List (List β)) : Prop :=
  ts.Pairwise (fun t u => ∀ a ∈ t, ∀ b ∈ u, ∀ s, ap (ap s a) b = ap (ap s b) a)

theorem interleaving_foldl (ts : List (List β)) (σ : List β) (hi : Interleaving ts σ)
    (hc : CrossComm ap ts) (s : σT) : σ.foldl ap s = ts.flatten.foldl ap s := by
  induction hi generalizing s with
  | nil ts hall =>
    have : ts.flatten = [] := by
      rw [List.flatten_eq_nil_iff]; exact hall
    rw [this]
  | cons pre a rest post σ _ ih =>
    have hc' : CrossComm ap (pre ++ rest :: post) := by
      unfold CrossComm at hc ⊢
      rw [List.pairwise_append] at hc ⊢
      obtain ⟨h1, h2, h3⟩ := hc
      rw [List.pairwise_cons] at h2
      refine ⟨h1, ?_, ?_⟩
      · rw [List.pairwise_cons]
        exact ⟨fun u hu x hx => h2.1 u hu x (List.mem_cons_of_mem _ hx), h2.2⟩
      · intro t ht u hu
        rcases List.mem_cons.1 hu with rfl | hu
        · intro x hx y hy
          exact h3 t ht _ (List.mem_cons_self ..) x hx y (List.mem_cons_of_mem _ hy)
        · exact h3 t ht u (List.mem_cons_of_mem _ hu)
    have hpre : ∀ b ∈ pre.flatten, ∀ s, ap (ap s a) b = ap (ap s b) a := by
      intro b hb s
      obtain ⟨t, ht, hbt⟩ := List.mem_flatten.1 hb
      unfold CrossComm at hc
      rw [List.pairwise_append] at hc
      exact (hc.2.2 t ht _ (List.mem_cons_self ..) b hbt a (List.mem_cons_self ..) s).symm
    simp only [List.foldl_cons]
    rw [ih hc' (ap s a)]
    simp only [List.flatten_append, List.flatten_cons]
    have := foldl_move_front ap a pre.flatten hpre s (rest ++ post.flatten)
    simp only [List.cons_append, List.foldl_cons] at this
    rw [List.cons_append, this]

end generic

/-- if the actions of different tasks pairwise commute, every interleaving of the tasks'
action lists produces the state of the sequential execution (task after task). -/
theorem run_interleaving (ts : List (List Act)) (σ : List Act) (hi : Interleaving ts σ)
    (hc : ts.Pairwise (fun t u => ∀ a ∈ t, ∀ b ∈ u, Comm a b)) (s : SState) :
    run s σ = run s ts.flatten :=
  interleaving_foldl apply ts σ hi (hc.imp (fun h a ha b hb s => h a ha b hb s)) s

end Deeprob.Sched
