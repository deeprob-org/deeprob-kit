import DeeprobModel.Model.PostOrder
import DeeprobModel.Lemmas.PostOrderRLemmas
import DeeprobModel.Lemmas.RTreeInduction
/-
The explicit-stack post-order walk of `to_pc` / `get_scopes` (`Model/PostOrder.lean`) computes the recursive `fold`:
`run_eq_fold`.  Needs pairwise distinct node ids (`t.vars.Nodup`): the test `last_node_visited in node.get_children()`
recognises "my children are done" by the identity of the node finished last.

It is the walk of `build_xpc` (`Model/PostOrderR.lean`, `Lemmas/PostOrderRLemmas.lean`) on the mirrored tree: that loop pushes
the children reversed, so on the tree with every list of children reversed (`toP`) it pushes them in order, which is what this
loop does.  `step` and `run` are transported along `toP` (`stepR_toSt`, `runR_toSt`), and so are `steps`, `size`, `fold` and the
ids; the two theorems are then those of the other loop.
-/
namespace Deeprob.PostOrder
open Deeprob

variable {β : Type} (comb : RTree → List β → β)

/-- the mirrored tree, as a tree of `build_xpc`: same ids, the node itself as payload, the children reversed -/
def toP : RTree → PTree RTree
  | .node i cs => .node i (.node i cs) (cs.map toP).reverse

theorem toP_id (t : RTree) : (toP t).id = t.idx := by cases t; rw [toP]; rfl
theorem toP_pay (t : RTree) : (toP t).pay = t := by cases t; rw [toP]; rfl
theorem toP_kids (t : RTree) : (toP t).kids = (t.kids.map toP).reverse := by cases t; rw [toP]; rfl

/-- the combine step seen from the mirrored tree -/
def combP : PTree RTree → List β → β := fun p xs => comb p.pay xs

/-- a state of this loop as a state of the other one -/
def toSt (s : St β) : StR RTree β := ⟨s.stack.map toP, s.last, s.buf⟩

theorem toSt_injective : Function.Injective (toSt (β := β)) := by
  intro s s' h
  have hstack : s.stack = s'.stack :=
    List.map_injective_iff.2 (Function.LeftInverse.injective toP_pay) (congrArg StR.stack h)
  cases s; cases s'
  cases hstack
  cases congrArg StR.last h
  cases congrArg StR.buf h
  rfl

theorem lastInKidsR_toP (l : Option Nat) (cs : List RTree) : lastInKidsR l (cs.map toP).reverse = lastInKids l cs := by
  cases l with
  | none => rfl
  | some x =>
    simp only [lastInKidsR, lastInKids, List.map_reverse, List.map_map, List.contains_reverse]
    rw [show PTree.id ∘ toP = RTree.idx from funext toP_id]

/-- **one iteration of this loop is one iteration of the loop of `build_xpc` on the mirrored stack** -/
theorem stepR_toSt (s : St β) : stepR (combP comb) (toSt s) = toSt (step comb s) := by
  unfold stepR step toSt
  simp only [List.getLast?_map]
  cases s.stack.getLast? with
  | none => rfl
  | some t =>
    simp only [Option.map_some, toP_kids, toP_id, combP, toP_pay, List.isEmpty_reverse, List.isEmpty_map, lastInKidsR_toP,
      List.length_reverse, List.length_map, List.reverse_reverse]
    split
    · simp only [List.map_dropLast]
    · split
      · simp only [List.map_dropLast]
      · simp only [List.map_append]

theorem runR_toSt (n : Nat) (s : St β) : runR (combP comb) n (toSt s) = toSt (run comb n s) := by
  induction n generalizing s with
  | zero => rfl
  | succ n ih => rw [runR, stepR_toSt, ih]; rfl

theorem sum_map_reverse_toP (f : PTree RTree → Nat) (g : RTree → Nat) (cs : List RTree) (h : ∀ c ∈ cs, f (toP c) = g c) :
    (((cs.map toP).reverse).map f).sum = (cs.map g).sum := by
  rw [List.map_reverse, List.sum_reverse, List.map_map]
  exact congrArg List.sum (List.map_congr_left h)

theorem stepsR_toP (t : RTree) : stepsR (toP t) = steps t := by
  induction t using RTree.ind with
  | node i cs ih =>
    rw [toP, stepsR, steps, List.isEmpty_reverse, List.isEmpty_map, sum_map_reverse_toP stepsR steps cs ih]

theorem sizeR_toP (t : RTree) : sizeR (toP t) = size t := by
  induction t using RTree.ind with
  | node i cs ih => rw [toP, sizeR, size, sum_map_reverse_toP sizeR size cs ih]

theorem foldR_toP (t : RTree) : foldR (combP comb) (toP t) = fold comb t := by
  induction t using RTree.ind with
  | node i cs ih =>
    rw [toP, foldR, fold, List.map_reverse, List.map_map]
    exact congrArg (fun xs => comb (.node i cs) xs.reverse) (List.map_congr_left ih)

theorem ids_toP_perm (t : RTree) : (toP t).ids.Perm t.vars := by
  induction t using RTree.ind with
  | node i cs ih =>
    rw [toP, PTree.ids, RTree.vars, List.map_reverse, List.map_map]
    refine List.Perm.cons i (((List.reverse_perm _).flatten).trans ?_)
    clear i
    induction cs with
    | nil => exact List.Perm.refl _
    | cons c rest ihr =>
      exact List.Perm.append (ih c List.mem_cons_self) (ihr (fun c' hc' => ih c' (List.mem_cons_of_mem _ hc')))

/-- the id of the node finished last is not an id of the sub-tree -/
def Fresh (l : Option Nat) (t : RTree) : Prop := ∀ x, l = some x → x ∉ t.vars

/-- a sub-tree on top of the stack, entered with a `last_node_visited` that is not one of its nodes, is
consumed in `steps t` iterations, leaving the stack below it untouched, `last_node_visited = t` and `fold t` appended to
the buffer. -/
theorem walk_subtree (t : RTree) (hnd : t.vars.Nodup) (S : List RTree) (l : Option Nat) (B : List β) (hf : Fresh l t) :
    run comb (steps t) ⟨S ++ [t], l, B⟩ = ⟨S, some t.idx, B ++ [fold comb t]⟩ := by
  apply toSt_injective
  rw [← runR_toSt, ← stepsR_toP, toSt, List.map_append, List.map_singleton,
    walk_subtreeR (combP comb) (toP t) ((ids_toP_perm t).nodup_iff.2 hnd) _ l B
      (fun x hx hm => hf x hx ((ids_toP_perm t).mem_iff.1 hm)),
    toP_id, foldR_toP]
  rfl

/-- on a tree with pairwise distinct node ids the loop of `to_pc` / `get_scopes`, started from
`([root], None, [])`, ends with an empty stack and exactly one buffer entry, the recursive `fold` of the root. -/
theorem run_eq_fold (t : RTree) (hnd : t.vars.Nodup) :
    walk comb t = ⟨[], some t.idx, [fold comb t]⟩ := by
  apply toSt_injective
  have h := runR_eq_foldR (combP comb) (toP t) ((ids_toP_perm t).nodup_iff.2 hnd)
  rw [walkR, sizeR_toP, toP_id, foldR_toP] at h
  rw [walk, ← runR_toSt]
  exact h

/-- distinct ids are needed: with two nodes carrying the id 1 (the root's second child and the first child's own child) the
walk mistakes "my sibling is done" for "my children are done" and combines too early. -/
def badTree : RTree := .node 0 [.node 2 [.node 1 []], .node 1 []]

/-- a `combine` that records the shape: own id and what it was handed -/
def showComb (t : RTree) (xs : List (List Nat)) : List Nat := t.idx :: xs.flatten

theorem distinct_ids_needed :
    (walk showComb badTree).buf = [[0, 2, 1]] ∧ fold showComb badTree = [0, 1, 2, 1] := by
  have hs : size badTree = 4 := by simp [size, badTree]
  refine ⟨?_, ?_⟩
  · rw [walk, hs]; decide
  · simp [badTree, fold, showComb, RTree.idx]

end Deeprob.PostOrder
