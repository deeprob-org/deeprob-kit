import DeeprobModel.Lemmas.CltLemmas
import DeeprobModel.Lemmas.MaxTimes
/-
MPE on Chow-Liu trees: max-product messages are maxima over completions (the marginalisation theorem at
the max-times carrier) and the decoding pass of `BinaryCLT.mpe` attains them.
-/
namespace Deeprob

/-- `X` completes `e` on the variables `S`: observed entries and entries outside `S` are kept, every
missing entry of `S` receives a value of its domain -/
def CompletesIn (dom : Nat → Nat) (S : List Nat) (e X : Ev) : Prop :=
  (∀ w, (w ∉ S ∨ e w ≠ none) → X w = e w) ∧ (∀ v ∈ S, e v = none → ∃ k, k < dom v ∧ X v = some k)

section maxOver
variable {α : Type} [CommSemiring α] [LinearOrder α] [IsStrictOrderedRing α]

theorem foldr_maxTimes_ge (L : List Nat) (g : Nat → MaxTimes α) (k : Nat) (hk : k ∈ L) :
    (g k).val ≤ (L.foldr (fun k acc => g k + acc) 0).val := by
  induction L with
  | nil => simp at hk
  | cons x xs ih =>
    simp only [List.foldr, MaxTimes.val_add]
    rcases List.mem_cons.1 hk with rfl | h
    · exact le_max_left _ _
    · exact le_trans (ih h) (le_max_right _ _)

theorem sumVar_maxTimes_ge (n : Nat) (g : Nat → MaxTimes α) (k : Nat) (hk : k < n) :
    (g k).val ≤ (sumVar n g).val := foldr_maxTimes_ge _ g k (List.mem_range.2 hk)

/-- at the max-times carrier the completion "sum" dominates the value at every completion -/
theorem maxOver_ge (dom : Nat → Nat) (S : List Nat) (f : Ev → MaxTimes α) :
    ∀ (e X : Ev), CompletesIn dom S e X → (f X).val ≤ (sumOver dom S e f).val := by
  induction S with
  | nil =>
    intro e X h
    have : X = e := funext (fun w => h.1 w (Or.inl (by simp)))
    rw [this]; exact le_refl _
  | cons v vs ih =>
    intro e X h
    simp only [sumOver]
    cases hv : e v with
    | some o =>
      simp only
      apply ih e X
      refine ⟨?_, ?_⟩
      · intro w hw
        apply h.1 w
        rcases hw with hw | hw
        · by_cases hwv : w = v
          · right; rw [hwv, hv]; simp
          · left; simp [hwv, hw]
        · exact Or.inr hw
      · intro u hu hue
        exact h.2 u (List.mem_cons_of_mem _ hu) hue
    | none =>
      simp only
      obtain ⟨k, hk, hXv⟩ := h.2 v List.mem_cons_self hv
      refine le_trans ?_ (sumVar_maxTimes_ge (dom v) _ k hk)
      apply ih (e.set v k) X
      refine ⟨?_, ?_⟩
      · intro w hw
        by_cases hwv : w = v
        · rw [hwv, hXv]; simp
        · rw [Ev.set_ne _ _ hwv]
          apply h.1 w
          rcases hw with hw | hw
          · left; simp [hwv, hw]
          · right; rwa [Ev.set_ne _ _ hwv] at hw
      · intro u hu hue
        have huv : u ≠ v := by
          intro huv; rw [huv] at hue; simp at hue
        rw [Ev.set_ne _ _ huv] at hue
        exact h.2 u (List.mem_cons_of_mem _ hu) hue

/-- for a function that looks only at the variables `S`, what `X` does outside `S` does not matter -/
theorem maxOver_ge_local (dom : Nat → Nat) (S : List Nat) (f : Ev → MaxTimes α)
    (hf : ∀ a b : Ev, (∀ v ∈ S, a v = b v) → f a = f b) (e X : Ev)
    (hobs : ∀ v ∈ S, e v ≠ none → X v = e v) (hmis : ∀ v ∈ S, e v = none → ∃ k, k < dom v ∧ X v = some k) :
    (f X).val ≤ (sumOver dom S e f).val := by
  classical
  let X' : Ev := fun w => if w ∈ S then X w else e w
  rw [hf X X' (fun v hv => by simp only [X', hv, if_true])]
  refine maxOver_ge dom S f e X' ⟨fun w hw => ?_, fun v hv hev => by simpa only [X', hv, if_true] using hmis v hv hev⟩
  by_cases hwl : w ∈ S
  · simp only [X', hwl, if_true]
    exact hobs w hwl (hw.resolve_left (not_not_intro hwl))
  · simp only [X', hwl, if_false]

end maxOver

namespace Clt

section rel
set_option linter.unusedSectionVars false
variable {α β : Type} [Zero α] [One α] [Add α] [Mul α] [Zero β] [One β] [Add β] [Mul β]

theorem lprod_rel (φ : β → α) (h1 : φ 1 = 1) (hmul : ∀ a b, φ (a * b) = φ a * φ b) (xs : List β) :
    φ (lprod xs) = lprod (xs.map φ) := by
  induction xs with
  | nil => simpa [lprod] using h1
  | cons x xs ih => simp only [lprod, List.map_cons, hmul, ih]

/-- a map that respects `0, 1, +, *` and the table entries commutes with message passing -/
theorem up_rel (φ : β → α) (h0 : φ 0 = 0) (h1 : φ 1 = 1) (hadd : ∀ a b, φ (a + b) = φ a + φ b)
    (hmul : ∀ a b, φ (a * b) = φ a * φ b) (scope : List Nat)
    (cptB : List (List (List β))) (cptA : List (List (List α)))
    (hc : ∀ i l k, φ (cptAt cptB i l k) = cptAt cptA i l k) (t : RTree) (l : Nat) (e : Ev) :
    φ (up scope cptB t l e) = up scope cptA t l e := by
  induction t using RTree.ind generalizing l with
  | node i cs ih =>
    have hkids : ∀ k, (cs.map (fun c => up scope cptB c k e)).map φ = cs.map (fun c => up scope cptA c k e) :=
      fun k => by rw [List.map_map]; exact List.map_congr_left (fun c hc' => ih c hc' k)
    rw [up, up]
    cases e (scope.getD i 0) with
    | some o => simp only [hmul, hc, lprod_rel φ h1 hmul, hkids]
    | none =>
      simp only [sumVar, List.range, List.range.loop, List.foldr, hadd, hmul, hc, h0, lprod_rel φ h1 hmul, hkids]

end rel

/-- on evidence that is complete on the sub-tree no addition is performed: the message does not
depend on what `+` is -/
theorem up_add_irrel {α : Type} [Zero α] [One α] [Mul α] (A1 A2 : Add α) (scope : List Nat)
    (cpt : List (List (List α))) (X : Ev) (t : RTree) (l : Nat) (h : ∀ v ∈ lab scope t, X v ≠ none) :
    @up α _ _ A1 _ scope cpt t l X = @up α _ _ A2 _ scope cpt t l X := by
  induction t using RTree.ind generalizing l with
  | node i cs ih =>
    have hkids : ∀ k, cs.map (fun c => @up α _ _ A1 _ scope cpt c k X) = cs.map (fun c => @up α _ _ A2 _ scope cpt c k X) :=
      fun k => List.map_congr_left (fun c hc => ih c hc k (fun v hv => h v (lab_child_sub scope i cs c hc v hv)))
    obtain ⟨o, ho⟩ := Option.ne_none_iff_exists'.1 (h _ (root_mem_lab scope i cs))
    rw [@up.eq_1 α _ _ A1 _, @up.eq_1 α _ _ A2 _]
    simp only [ho, hkids]

section mpe
variable {α : Type} [CommSemiring α] [LinearOrder α] [IsStrictOrderedRing α]

/-- the tables, entry-wise in the max-times carrier -/
def liftCpt (cpt : List (List (List α))) : List (List (List (MaxTimes α))) :=
  cpt.map (fun t => t.map (fun r => r.map MaxTimes.ofVal))

theorem getD_map {β γ : Type} (f : β → γ) (l : List β) (i : Nat) (d : β) (d' : γ) (hd : d' = f d) :
    (l.map f).getD i d' = f (l.getD i d) := by
  rw [List.getD_eq_getElem?_getD, List.getD_eq_getElem?_getD, List.getElem?_map, hd]
  cases l[i]? <;> rfl

theorem cptAt_lift (cpt : List (List (List α))) (i l k : Nat) :
    cptAt (liftCpt cpt) i l k = MaxTimes.ofVal (cptAt cpt i l k) := by
  unfold cptAt liftCpt
  split
  · rw [getD_map _ cpt i [] [] rfl, getD_map _ _ l [] [] rfl, getD_map _ _ k 0 0 MaxTimes.ofVal_zero.symm]
  · exact MaxTimes.ofVal_zero.symm

theorem val_cptAt_lift (cpt : List (List (List α))) (hc : ∀ i l k, 0 ≤ cptAt cpt i l k) (i l k : Nat) :
    (cptAt (liftCpt cpt) i l k).val = cptAt cpt i l k := by
  rw [cptAt_lift, MaxTimes.val_ofVal (hc i l k)]

/-- **max-product message passing is message passing at the max-times carrier** -/
theorem upMax_eq_val (scope : List Nat) (cpt : List (List (List α))) (hc : ∀ i l k, 0 ≤ cptAt cpt i l k)
    (t : RTree) (l : Nat) (e : Ev) :
    upMax scope cpt t l e = (up scope (liftCpt cpt) t l e).val := by
  unfold upMax
  exact (@up_rel α (MaxTimes α) _ _ ⟨max⟩ _ _ _ _ _ MaxTimes.val rfl rfl (fun a b => rfl) (fun a b => rfl) scope
    (liftCpt cpt) cpt (val_cptAt_lift cpt hc) t l e).symm

end mpe
section over

theorem over_cases (as : List (Nat × Nat)) (e : Ev) (w : Nat) :
    (∃ k, (w, k) ∈ as ∧ Ev.over as e w = some k) ∨ (w ∉ as.map Prod.fst ∧ Ev.over as e w = e w) := by
  unfold Ev.over
  cases hf : as.find? (fun p => p.1 == w) with
  | none =>
    right
    refine ⟨?_, rfl⟩
    intro hmem
    obtain ⟨q, hq, hqw⟩ := List.mem_map.1 hmem
    have := List.find?_eq_none.1 hf q hq
    simp [hqw] at this
  | some q =>
    left
    have hq : q ∈ as := List.mem_of_find?_eq_some hf
    have hp : q.1 = w := by simpa using List.find?_some hf
    refine ⟨q.2, ?_, rfl⟩
    rw [← hp]; exact hq

theorem over_not_key (as : List (Nat × Nat)) (e : Ev) (w : Nat) (h : w ∉ as.map Prod.fst) :
    Ev.over as e w = e w := by
  rcases over_cases as e w with ⟨k, hk, _⟩ | ⟨_, h2⟩
  · exact absurd (List.mem_map.2 ⟨(w, k), hk, rfl⟩) h
  · exact h2

/-- under pairwise distinct keys every assignment of the list is what `over` returns for its variable -/
theorem over_of_mem {as : List (Nat × Nat)} (hnd : (as.map Prod.fst).Nodup) {w k : Nat} (h : (w, k) ∈ as) (e : Ev) :
    Ev.over as e w = some k := by
  rcases over_cases as e w with ⟨k', hk', hov⟩ | ⟨hnk, _⟩
  · rw [hov, show k' = k from congrArg Prod.snd (List.inj_on_of_nodup_map hnd hk' h rfl)]
  · exact absurd (List.mem_map.2 ⟨(w, k), h, rfl⟩) hnk

end over

section decode
set_option linter.unusedSectionVars false
variable {α : Type} [CommSemiring α] [LinearOrder α] [IsStrictOrderedRing α] (scope : List Nat) (cpt : List (List (List α)))

theorem argmax2_lt (a b : α) : argmax2 a b < 2 := by unfold argmax2; split <;> omega

/-- the value the decoding pass gives to the root variable of the sub-tree -/
def chosen (i : Nat) (cs : List RTree) (l : Nat) (e : Ev) : Nat :=
  match e (scope.getD i 0) with
  | some o => o
  | none => argmax2 (cptAt cpt i l 0 * msgMax scope cpt cs 0 e) (cptAt cpt i l 1 * msgMax scope cpt cs 1 e)

theorem decodeList_node (i : Nat) (cs : List RTree) (l : Nat) (e : Ev) :
    decodeList scope cpt (.node i cs) l e =
      (scope.getD i 0, chosen scope cpt i cs l e) ::
        (cs.map (fun c => decodeList scope cpt c (chosen scope cpt i cs l e) e)).flatten := by
  rw [decodeList]; rfl

theorem decodeList_keys (e : Ev) (t : RTree) (l : Nat) :
    (decodeList scope cpt t l e).map Prod.fst = lab scope t := by
  induction t using RTree.ind generalizing l with
  | node i cs ih =>
    rw [decodeList_node, lab_node, List.map_cons, List.map_flatten, List.map_map]
    exact congrArg (fun L => _ :: List.flatten L) (List.map_congr_left (fun c hc => ih c hc _))

theorem decodeList_obs (e : Ev) (t : RTree) (l : Nat) :
    ∀ p ∈ decodeList scope cpt t l e, ∀ o, e p.1 = some o → p.2 = o := by
  induction t using RTree.ind generalizing l with
  | node i cs ih =>
    intro p hp o ho
    rw [decodeList_node] at hp
    rcases List.mem_cons.1 hp with rfl | hp
    · simp only [chosen, ho]
    · obtain ⟨_, hm, hpc⟩ := List.mem_flatten.1 hp
      obtain ⟨c, hc, rfl⟩ := List.mem_map.1 hm
      exact ih c hc _ p hpc o ho

theorem decodeList_lt2 (e : Ev) (t : RTree) (l : Nat)
    (h : ∀ v ∈ lab scope t, ∀ o, e v = some o → o < 2) : ∀ p ∈ decodeList scope cpt t l e, p.2 < 2 := by
  induction t using RTree.ind generalizing l with
  | node i cs ih =>
    intro p hp
    rw [decodeList_node] at hp
    rcases List.mem_cons.1 hp with rfl | hp
    · show chosen scope cpt i cs l e < 2
      unfold chosen
      cases hv : e (scope.getD i 0) with
      | some o => exact h _ (root_mem_lab scope i cs) o hv
      | none => exact argmax2_lt _ _
    · obtain ⟨_, hm, hpc⟩ := List.mem_flatten.1 hp
      obtain ⟨c, hc, rfl⟩ := List.mem_map.1 hm
      exact ih c hc _ (fun v hv => h v (lab_child_sub scope i cs c hc v hv)) p hpc

theorem upMax_nonneg (hc : ∀ i l k, 0 ≤ cptAt cpt i l k)
    (t : RTree) (l : Nat) (e : Ev) : 0 ≤ upMax scope cpt t l e := by
  rw [upMax_eq_val scope cpt hc]; exact MaxTimes.nonneg _

theorem msgMax_nonneg (hc : ∀ i l k, 0 ≤ cptAt cpt i l k)
    (cs : List RTree) (k : Nat) (e : Ev) : 0 ≤ msgMax scope cpt cs k e := by
  unfold msgMax
  induction cs with
  | nil => simp [lprod]
  | cons c cs ih => simp only [List.map_cons, lprod]; exact mul_nonneg (upMax_nonneg scope cpt hc c k e) ih

theorem upMax_node (hc : ∀ i l k, 0 ≤ cptAt cpt i l k)
    (i : Nat) (cs : List RTree) (l : Nat) (e : Ev) :
    upMax scope cpt (.node i cs) l e =
      match e (scope.getD i 0) with
      | some o => cptAt cpt i l o * msgMax scope cpt cs o e
      | none => max (cptAt cpt i l 0 * msgMax scope cpt cs 0 e) (cptAt cpt i l 1 * msgMax scope cpt cs 1 e) := by
  have h1 : 0 ≤ cptAt cpt i l 1 * msgMax scope cpt cs 1 e := mul_nonneg (hc i l 1) (msgMax_nonneg scope cpt hc cs 1 e)
  unfold upMax
  rw [@up.eq_1 α _ _ ⟨max⟩ _]
  cases hv : e (scope.getD i 0) with
  | some o => rfl
  | none =>
    simp only [sumVar, List.range, List.range.loop, List.foldr]
    show max _ (max (cptAt cpt i l 1 * msgMax scope cpt cs 1 e) 0) = _
    rw [max_eq_left h1]
    rfl

/-- **the decoded completion attains the max-product value** -/
theorem decode_attains (hc : ∀ i l k, 0 ≤ cptAt cpt i l k) (e : Ev)
    (t : RTree) (l : Nat) (hnd : (lab scope t).Nodup) :
    up scope cpt t l (decode scope cpt t l e) = upMax scope cpt t l e := by
  induction t using RTree.ind generalizing l with
  | node i cs ih =>
    have hkeys : ((decodeList scope cpt (.node i cs) l e).map Prod.fst).Nodup := by rwa [decodeList_keys]
    have hD := decodeList_node scope cpt i cs l e
    have hv : decode scope cpt (.node i cs) l e (scope.getD i 0) = some (chosen scope cpt i cs l e) :=
      over_of_mem hkeys (by rw [hD]; exact List.mem_cons_self) e
    -- on the variables of a child the decoded row is the row decoded for the child alone
    have hchild : ∀ c ∈ cs, up scope cpt c (chosen scope cpt i cs l e) (decode scope cpt (.node i cs) l e)
        = upMax scope cpt c (chosen scope cpt i cs l e) e := by
      intro c hcm
      rw [← ih c hcm _ (lab_child_nodup scope i cs c hcm hnd)]
      apply up_congr; intro w hw
      rcases over_cases (decodeList scope cpt c (chosen scope cpt i cs l e) e) e w with ⟨k, hk, hov⟩ | ⟨hnk, _⟩
      · refine (over_of_mem hkeys ?_ e).trans hov.symm
        rw [hD]
        exact List.mem_cons_of_mem _ (List.mem_flatten_of_mem (List.mem_map_of_mem hcm) hk)
      · rw [decodeList_keys] at hnk; exact absurd hw hnk
    rw [up_obs scope cpt i cs l hv, List.map_congr_left hchild, upMax_node scope cpt hc]
    have h0 : 0 ≤ cptAt cpt i l 0 * msgMax scope cpt cs 0 e := mul_nonneg (hc i l 0) (msgMax_nonneg scope cpt hc cs 0 e)
    unfold chosen
    cases hev : e (scope.getD i 0) with
    | some o => simp only [msgMax]
    | none =>
      simp only [argmax2]
      split
      · rename_i hlt; rw [max_eq_right (le_of_lt hlt)]; simp only [msgMax]
      · rename_i hlt; rw [max_eq_left (not_lt.1 hlt)]; simp only [msgMax]

end decode

section optimal
variable {α : Type} [CommSemiring α] [LinearOrder α] [IsStrictOrderedRing α] (scope : List Nat) (cpt : List (List (List α)))

/-- `up_marg_lem` at the max-times carrier: the max-product message is the maximum over all completions -/
theorem up_maxTimes_marg (scope : List Nat) (cpt : List (List (List (MaxTimes α)))) (t : RTree) (l : Nat)
    (hnd : (lab scope t).Nodup) (e : Ev) :
    up scope cpt t l e = sumOver (fun _ => 2) (lab scope t) e (fun e' => up scope cpt t l e') :=
  up_marg_lem (fun _ => 2) scope cpt t l hnd (fun _ _ => rfl) e

/-- complete evidence: the value in `α` is the value at the max-times carrier -/
theorem up_complete_val (hc : ∀ i l k, 0 ≤ cptAt cpt i l k)
    (t : RTree) (l : Nat) (X : Ev) (hX : ∀ v ∈ lab scope t, X v ≠ none) :
    up scope cpt t l X = (up scope (liftCpt cpt) t l X).val := by
  rw [← upMax_eq_val scope cpt hc]
  unfold upMax
  exact up_add_irrel _ ⟨max⟩ scope cpt X t l hX

/-- every completion of the evidence is at most the max-product value -/
theorem up_le_upMax (hc : ∀ i l k, 0 ≤ cptAt cpt i l k)
    (t : RTree) (l : Nat) (hnd : (lab scope t).Nodup) (e X : Ev)
    (hobs : ∀ v ∈ lab scope t, e v ≠ none → X v = e v)
    (hmis : ∀ v ∈ lab scope t, e v = none → ∃ k, k < 2 ∧ X v = some k) :
    up scope cpt t l X ≤ upMax scope cpt t l e := by
  have hfull : ∀ v ∈ lab scope t, X v ≠ none := by
    intro v hv
    cases hev : e v with
    | none => obtain ⟨k, _, hk⟩ := hmis v hv hev; simp [hk]
    | some o => rw [hobs v hv (by simp [hev]), hev]; simp
  rw [up_complete_val scope cpt hc t l X hfull, upMax_eq_val scope cpt hc,
    up_maxTimes_marg scope (liftCpt cpt) t l hnd e]
  exact maxOver_ge_local (fun _ => 2) _ _ (fun a b h => up_congr scope _ t l a b h) e X hobs hmis

end optimal

end Clt
end Deeprob
