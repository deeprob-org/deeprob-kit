import DeeprobModel.Lemmas.GraphOrderLemmas
/-
The FIFO loop of `compute_bfs_ordering` returns the levels of the tree, one after the other.  Hence the order is a
permutation of the positions with every parent before its children, and `reversed(bfs[1:])` visits children first.
-/
namespace Deeprob.GraphIo
open Deeprob Deeprob.Clt Deeprob.CltFit

/-- a block `a` at the front of the queue is popped as it is; its children are appended, in order, behind
whatever was already waiting -/
theorem bfsLoop_split (ch : List (List Nat)) (a b : List Nat) (f : Nat) (hf : a.length ≤ f) :
    bfsLoop ch f (a ++ b) = a ++ bfsLoop ch (f - a.length) (b ++ a.flatMap (fun q => ch.getD q [])) := by
  induction a generalizing b f with
  | nil => rw [List.nil_append, List.nil_append, List.flatMap_nil, List.append_nil, List.length_nil, Nat.sub_zero]
  | cons x a ih =>
    cases f with
    | zero => cases hf
    | succ f' =>
      rw [List.cons_append, bfsLoop, List.append_assoc, ih (b ++ ch.getD x []) f' (Nat.le_of_succ_le_succ hf),
        List.flatMap_cons, List.length_cons, Nat.add_sub_add_right, List.append_assoc, List.cons_append]

theorem bfsLoop_nil (ch : List (List Nat)) (f : Nat) : bfsLoop ch f [] = [] := by
  cases f <;> rfl

section levels
variable {tree : List Int} {r : Nat}

theorem level_succ (k : Nat) : level tree r (k + 1) = (level tree r k).flatMap (childrenOf tree) := rfl

/-- with enough fuel the loop started on level `k` returns the levels `k, k+1, …` -/
theorem bfsLoop_levels (ch : List (List Nat)) (hch : (fun q => ch.getD q []) = childrenOf tree) (K k f : Nat)
    (hlen : ((List.range K).flatMap (fun j => level tree r (k + j))).length ≤ f)
    (hnil : level tree r (k + K) = []) :
    bfsLoop ch f (level tree r k) = (List.range K).flatMap (fun j => level tree r (k + j)) := by
  induction K generalizing k f with
  | zero =>
    rw [Nat.add_zero] at hnil
    rw [hnil, bfsLoop_nil]; rfl
  | succ K ih =>
    have hr : (List.range (K + 1)).flatMap (fun j => level tree r (k + j)) =
        level tree r k ++ (List.range K).flatMap (fun j => level tree r (k + 1 + j)) := by
      rw [List.range_succ_eq_map, List.flatMap_cons, List.flatMap_map]
      simp only [Nat.add_zero, Nat.succ_eq_add_one]
      congr 1
      exact List.flatMap_congr (fun j _ => by rw [show k + (j + 1) = k + 1 + j from by omega])
    rw [hr] at hlen ⊢
    rw [List.length_append] at hlen
    have h1 := bfsLoop_split ch (level tree r k) [] f (by omega)
    rw [List.append_nil, List.nil_append, hch] at h1
    rw [h1, ← level_succ]
    congr 1
    exact ih (k + 1) _ (by omega) (by rw [show k + 1 + K = k + (K + 1) from by omega]; exact hnil)

/-- the model function `Clt.bfsOrder` (Model/Clt.lean, driver op `clt_tree`) computes the same list -/
theorem bfsLoop_eq_cltBfsOrder (ch : List (List Nat)) (hch : (fun q => ch.getD q []) = childrenOf tree) :
    ∀ (f : Nat) (q : List Nat), bfsLoop ch f q = Clt.bfsOrder tree f q
  | 0, q => by simp [bfsLoop, Clt.bfsOrder]
  | f + 1, [] => by simp [bfsLoop, Clt.bfsOrder]
  | f + 1, x :: qs => by
    have hx : ch.getD x [] = childrenOf tree x := congrFun hch x
    simp only [bfsLoop, Clt.bfsOrder, hx]
    rw [bfsLoop_eq_cltBfsOrder ch hch f]

variable (h : WF tree r)
include h

theorem WF.mem_level (k x : Nat) : x ∈ level tree r k ↔ x < tree.length ∧ depthOf tree x = k := by
  induction k generalizing x with
  | zero =>
    simp only [level, List.mem_singleton]
    constructor
    · rintro rfl; exact ⟨h.r_lt, h.depth_root⟩
    · rintro ⟨hx, hd⟩; exact h.depth_zero hx hd
  | succ k ih =>
    rw [level_succ, List.mem_flatMap]
    constructor
    · rintro ⟨p, hp, hx⟩
      obtain ⟨hxl, hxp⟩ := h.mem_children.1 hx
      refine ⟨hxl, ?_⟩
      rw [h.depth_child hxl hxp, ((ih p).1 hp).2]
    · rintro ⟨hx, hd⟩
      have hxr : x ≠ r := by
        rintro rfl; rw [h.depth_root] at hd; omega
      obtain ⟨p, hp, _, hpl, _⟩ := h.parent_ne hx hxr
      refine ⟨p, (ih p).2 ⟨hpl, ?_⟩, h.mem_children.2 ⟨hx, hp⟩⟩
      have := h.depth_child hx hp
      omega

theorem WF.level_nodup (k : Nat) : (level tree r k).Nodup := by
  induction k with
  | zero => simp [level]
  | succ k ih =>
    rw [level_succ, List.nodup_flatMap]
    refine ⟨fun p _ => childrenOf_nodup tree p, ?_⟩
    apply ih.imp
    intro p p' hne
    simp only [Function.onFun]
    intro x hx hx'
    have h1 := (h.mem_children.1 hx).2
    have h2 := (h.mem_children.1 hx').2
    rw [h1] at h2
    exact hne (by simpa using h2)

theorem WF.level_big {k : Nat} (hk : tree.length ≤ k) : level tree r k = [] := by
  apply List.eq_nil_iff_forall_not_mem.2
  intro x hx
  obtain ⟨hxl, hd⟩ := (h.mem_level k x).1 hx
  have := h.depth_le hxl
  omega

/-- the levels, one after the other -/
theorem WF.levels_nodup : ((List.range tree.length).flatMap (level tree r)).Nodup := by
  rw [List.nodup_flatMap]
  refine ⟨fun k _ => h.level_nodup k, ?_⟩
  apply List.nodup_range.imp
  intro k k' hne
  simp only [Function.onFun]
  intro x hx hx'
  have h1 := ((h.mem_level k x).1 hx).2
  have h2 := ((h.mem_level k' x).1 hx').2
  omega

theorem WF.mem_levels (x : Nat) : x ∈ (List.range tree.length).flatMap (level tree r) ↔ x < tree.length := by
  rw [List.mem_flatMap]
  constructor
  · rintro ⟨k, _, hx⟩; exact ((h.mem_level k x).1 hx).1
  · intro hx
    refine ⟨depthOf tree x, List.mem_range.2 ?_, (h.mem_level _ x).2 ⟨hx, rfl⟩⟩
    have := h.depth_le hx; have := h.pos; omega

theorem WF.levels_perm : ((List.range tree.length).flatMap (level tree r)).Perm (List.range tree.length) :=
  (List.perm_ext_iff_of_nodup h.levels_nodup List.nodup_range).2 (fun x => by
    rw [h.mem_levels, List.mem_range])

/-- `compute_bfs_ordering` returns the levels of the tree -/
theorem WF.bfs_eq : computeBfsOrdering tree = some ((List.range tree.length).flatMap (level tree r)) := by
  unfold computeBfsOrdering buildTreeStructure
  rw [h.root, h.childLists_eq]
  simp only [Option.map_some]
  congr 1
  have hl : ((List.range tree.length).flatMap (level tree r)).length = tree.length := by
    rw [h.levels_perm.length_eq]; simp
  have hl' : ((List.range tree.length).flatMap (fun j => level tree r j)).length = tree.length := hl
  have := bfsLoop_levels (tree := tree) (r := r) _ h.getD_children tree.length 0 tree.length
    (by simp only [Nat.zero_add]; omega) (by simp only [Nat.zero_add]; exact h.level_big (Nat.le_refl _))
  simp only [Nat.zero_add] at this
  exact this

theorem WF.levels_head : ∃ rest, (List.range tree.length).flatMap (level tree r) = r :: rest := by
  obtain ⟨m, hm⟩ : ∃ m, tree.length = m + 1 := ⟨tree.length - 1, by have := h.pos; omega⟩
  rw [hm, List.range_succ_eq_map, List.flatMap_cons]
  exact ⟨_, rfl⟩

theorem WF.levels_depth_sorted :
    ((List.range tree.length).flatMap (level tree r)).Pairwise (fun a b => depthOf tree a ≤ depthOf tree b) := by
  rw [List.pairwise_flatMap]
  refine ⟨fun k _ => ?_, ?_⟩
  · apply List.pairwise_of_forall_mem_list
    intro a ha b hb
    rw [((h.mem_level k a).1 ha).2, ((h.mem_level k b).1 hb).2]
  · apply List.pairwise_lt_range.imp
    intro k k' hlt x hx y hy
    rw [((h.mem_level k x).1 hx).2, ((h.mem_level k' y).1 hy).2]; omega

/-- in the breadth-first order no node comes before its parent … -/
theorem WF.levels_parent_first :
    ((List.range tree.length).flatMap (level tree r)).Pairwise (fun a b => parent tree a ≠ some b) := by
  have hs := h.levels_depth_sorted
  have hm := h.mem_levels
  revert hs hm
  generalize (List.range tree.length).flatMap (level tree r) = B
  intro hs hm
  have : B.Pairwise (fun a b => a ∈ B ∧ depthOf tree a ≤ depthOf tree b) := by
    apply List.Pairwise.imp_of_mem (R := fun a b => depthOf tree a ≤ depthOf tree b) _ hs
    intro a b ha _ hab; exact ⟨ha, hab⟩
  apply this.imp
  rintro a b ⟨ha, hab⟩ hp
  have := h.depth_child ((hm a).1 ha) hp
  omega

end levels

theorem idxOf_lt_of_pairwise {R : Nat → Nat → Prop} {l : List Nat} (hp : l.Pairwise R) {a b : Nat}
    (ha : a ∈ l) (hb : b ∈ l) (hab : l.idxOf a < l.idxOf b) : R a b := by
  rw [List.pairwise_iff_getElem] at hp
  have hia := List.idxOf_lt_length_iff.2 ha
  have hib := List.idxOf_lt_length_iff.2 hb
  have := hp _ _ hia hib hab
  rwa [List.getElem_idxOf, List.getElem_idxOf] at this

theorem childFirst_iff (tree : List Int) (l : List Nat) :
    childFirst tree l = true ↔ l.Pairwise (fun a b => parent tree b ≠ some a) := by
  induction l with
  | nil => simp [childFirst]
  | cons a rest ih =>
    rw [childFirst, Bool.and_eq_true, List.all_eq_true, List.pairwise_cons, ih]
    exact and_congr_left' (forall₂_congr fun b _ => bne_iff_ne)

/-- … so `reversed(bfs[1:])` visits every child before its parent -/
theorem WF.code_order_childFirst {tree : List Int} {r : Nat} (h : WF tree r) :
    childFirst tree ((List.range tree.length).flatMap (level tree r)).tail.reverse = true := by
  rw [childFirst_iff, List.pairwise_reverse]
  exact h.levels_parent_first.tail

theorem WF.code_order_perm {tree : List Int} {r : Nat} (h : WF tree r) :
    ((List.range tree.length).flatMap (level tree r)).tail.reverse.Perm ((List.range tree.length).erase r) := by
  obtain ⟨rest, hrest⟩ := h.levels_head
  have hp := h.levels_perm
  rw [hrest] at hp ⊢
  rw [List.tail_cons]
  refine (List.reverse_perm rest).trans ?_
  have := hp.erase r
  rwa [List.erase_cons_head] at this

end Deeprob.GraphIo
