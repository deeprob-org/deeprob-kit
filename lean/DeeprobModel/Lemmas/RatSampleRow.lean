import DeeprobModel.Lemmas.RatSampleBase
set_option linter.unusedSimpArgs false
set_option linter.unusedVariables false
set_option linter.unusedSectionVars false
/-
C16 (MPE clause): architecture facts (the leaves selected by the pass are block `t` of the mask buffers, so
their columns carry row `t` of the reshaped `mask` / `pad_mask`) and the final row identity.
-/
namespace Deeprob
namespace RatSample
open RatSpn TCirc Tensor

section cols
variable {α : Type}

theorem block_index_lt (reps t m j : Nat) (ht : t < reps) (hj : j < m) : t * m + j < reps * m :=
  Nat.lt_of_lt_of_le (Nat.add_lt_add_left hj _) (Nat.succ_mul t m ▸ Nat.mul_le_mul_right m ht)

theorem leafGroups_head (t d : Nat) : (leafGroups t d).headD 0 / 2 ^ d = t := by
  rw [List.headD_eq_head?_getD, leafGroups_head?, Option.getD_some, Nat.mul_div_cancel _ (Nat.two_pow_pos d)]

/-- every mask row of a leaf region has `dimension` columns -/
theorem mrow_len (S : Spec α) (R : LeafRows S.n S.depth S.reps S.regs) (g : Nat) (hg : g < S.reps * 2 ^ S.depth) :
    (S.mrow g).length = dimOf S.n S.depth ∧ (S.prow g).length = dimOf S.n S.depth := by
  obtain ⟨hl1, h1⟩ := R.maskBuf_rows
  obtain ⟨hl2, h2⟩ := R.padMaskBuf_rows
  exact ⟨h1 _ (getD_mem (hl1 ▸ hg) []), h2 _ (getD_mem (hl2 ▸ hg) [])⟩

/-- a column list whose variables / dummy flags are row `t` of the reshaped `mask` / `pad_mask` buffers
(the columns, with any payload, of the leaves reached from partition `t`) -/
structure Cols {γ : Type} (S : Spec α) (t : Nat) (Z : List (Nat × Bool × γ)) : Prop where
  var : Z.map (fun z => z.1) = maskFlat S.n S.depth S.regs t
  pad : Z.map (fun z => z.2.1) = padFlat S.n S.depth S.regs t

/-- the columns of the leaves `leafGroups t depth` (any offsets, any payload) -/
theorem ZofG_cols {γ : Type} (S : Spec α) (f : Nat → Nat → Nat → γ) (R : LeafRows S.n S.depth S.reps S.regs)
    (t : Nat) (ht : t < S.reps) (os : List Nat) (hos : os.length = (leafGroups t S.depth).length) :
    Cols S t (ZofG S f (leafGroups t S.depth, os)) := by
  have hfst : ((leafGroups t S.depth).zip os).map Prod.fst = leafGroups t S.depth := List.map_fst_zip (by omega)
  -- the columns of one leaf list its mask row, resp. its pad-mask row (both have `dimension` entries)
  have hm : ∀ go ∈ (leafGroups t S.depth).zip os,
      (List.range (S.mrow go.1).length).map (fun k => (S.mrow go.1).getD k 0) = S.mrow go.1 :=
    fun go _ => map_getD_range _ 0
  have hp : ∀ go ∈ (leafGroups t S.depth).zip os,
      (List.range (S.mrow go.1).length).map (fun k => (S.prow go.1).getD k false) = S.prow go.1 := by
    intro go hgo
    have hg := (List.of_mem_zip (a := go.1) (b := go.2) hgo).1
    rw [leafGroups_eq, List.mem_map] at hg
    obtain ⟨j, hj, hg⟩ := hg
    obtain ⟨h1, h2⟩ := mrow_len S R go.1 (hg ▸ block_index_lt _ _ _ _ ht (List.mem_range.1 hj))
    rw [h1, ← h2]
    exact map_getD_range _ false
  constructor
  · refine (ZofG_map S f (fun z => z.1) _).trans ((List.flatMap_congr hm).trans ?_)
    rw [← List.flatMap_map Prod.fst S.mrow, hfst, List.flatMap_def]
    exact (reshapeRow_blocks S.n S.depth S.reps t ht _ R.maskBuf_rows).symm
  · refine (ZofG_map S f (fun z => z.2.1) _).trans ((List.flatMap_congr hp).trans ?_)
    rw [← List.flatMap_map Prod.fst S.prow, hfst, List.flatMap_def]
    exact (reshapeRow_blocks S.n S.depth S.reps t ht _ R.padMaskBuf_rows).symm

namespace Cols
variable {γ : Type} {S : Spec α} {t : Nat} {Z : List (Nat × Bool × γ)} (h : Cols S t Z)
  (R : LeafRows S.n S.depth S.reps S.regs) (ht : t < S.reps)
include h R ht

theorem length : Z.length = S.n + padOf S.n S.depth := by
  rw [← List.length_map (f := fun z => z.1), h.var]
  exact R.maskFlat_len ht

/-- the non-dummy columns carry the variables `0..n-1`, each once -/
theorem keysNodup : KeysNodup Z := by
  have hperm := R.nonpad_perm ht
  rw [← h.var, ← h.pad, List.zip_map', List.filter_map, List.map_map] at hperm
  exact hperm.nodup_iff.2 List.nodup_range

theorem var_lt (h2 : 2 ^ S.depth ≤ S.n) : ∀ z ∈ Z, z.1 < S.n := by
  intro z hz
  apply R.mem_maskFlat_lt ht h2
  rw [← h.var]
  exact List.mem_map.2 ⟨z, hz, rfl⟩

/-- **what the gather reads**: `unpad_samples` of the corrected library, applied to the payloads, returns a row of the
input width whose entry `i` is the payload of a non-dummy column carrying variable `i` -/
theorem reads :
    (unpad S.n S.depth S.regs t (Z.map (fun z => z.2.2))).length = S.n ∧
    ∀ i, i < S.n → ∃ k, (i, false, k) ∈ Z ∧ (unpad S.n S.depth S.regs t (Z.map (fun z => z.2.2)))[i]? = some k := by
  have hs : (Z.map (fun z => z.2.2)).length = S.n + padOf S.n S.depth := by
    rw [List.length_map, h.length R ht]
  refine ⟨R.unpad_length ht hs, fun i hi => ?_⟩
  obtain ⟨p, hp, hnp, hkey, hread⟩ := R.unpad_reads ht hs hi
  have hpZ : p < Z.length := by rw [h.length R ht]; exact hp
  rw [← h.var, getD_map_of_lt _ _ p hpZ 0 Z[p], List.getD_eq_getElem _ _ hpZ] at hkey
  rw [← h.pad, getD_map_of_lt _ _ p hpZ false Z[p], List.getD_eq_getElem _ _ hpZ] at hnp
  refine ⟨Z[p].2.2, ?_, ?_⟩
  · have : Z[p] = (i, false, Z[p].2.2) := by rw [← hkey, ← hnp]
    rw [← this]
    exact List.getElem_mem hpZ
  · exact hread.trans (by rw [List.getElem?_map, List.getElem?_eq_getElem hpZ]; rfl)

end Cols
end cols

section arch
variable {α : Type} [Field α] [LinearOrder α] [IsStrictOrderedRing α]

/-- the root layer sees one group per repetition -/
theorem topVal_groups (S : Spec α) (hd : 0 < S.depth) (e : Ev) : (topVal S e).groups = S.reps := by
  unfold topVal
  rw [innerVal_groups]
  exact (congrArg (· / 2 ^ S.depth) (leafRegions_length S.ρ S.n S.depth S.reps hd)).trans
    (Nat.mul_div_cancel _ (Nat.two_pow_pos _))

/-- **where the MPE pass arrives**: the root arg-max selects a repetition `t`, and the index pair reaching
the base layer lists the leaf regions of that repetition, in buffer order, with one offset each — so the
columns of the selected leaves are row `t` of the mask buffers -/
theorem mpeIdx_shape (S : Spec α) (y : Nat) (e : Ev) (R : LeafRows S.n S.depth S.reps S.regs) (hd : 0 < S.depth)
    (hreps : 0 < S.reps) (hb : 0 < S.batch) (hs : 0 < S.rgSum) :
    ∃ t, t < S.reps ∧ (mpeIdx S y e).1 = leafGroups t S.depth ∧ Cols S t (Zof S (mpeIdx S y e)) := by
  have hN : 0 < (topVal S e).nodes := innerVal_nodes_pos S.w S.rgSum hs S.depth 0 (baseVal S e) hb
  have hidx : argmax (List.zipWith (· * ·) (S.wroot y) (flat (topVal S e))) < S.reps * (topVal S e).nodes :=
    argmax_lt_of_pos _ _ (Nat.mul_pos hreps hN) (by
      rw [List.length_zipWith, flat_length, topVal_groups S hd]; exact Nat.min_le_right _ _)
  have ht := Nat.div_lt_of_lt_mul (by rw [Nat.mul_comm]; exact hidx)
  have hio1 : (mpeIdx S y e).1 = leafGroups _ S.depth := mpeDown_groups _ _ _ _ _ _ _
  have hio2 := (mpeDown_len S.w S.rgSum S.depth 0 _ _ rfl).trans (congrArg List.length hio1)
  refine ⟨_, ht, hio1, ?_⟩
  rw [show mpeIdx S y e = (leafGroups _ S.depth, (mpeIdx S y e).2) from Prod.ext hio1 rfl]
  exact ZofG_cols S _ R _ ht _ hio2

/-- the padded row of modes of the leaves selected by `RatSpn.mpe` has `in_features + pad` entries, and
every entry of `inv_mask[repetition]` is a position of that row -/
theorem modes_cover (S : Spec α) (y : Nat) (e : Ev)
    (hρ : ∀ t r, (S.ρ t r).Perm r) (hacc : accepted S.n S.depth = true) (hreps : 0 < S.reps)
    (hb : 0 < S.batch) (hs : 0 < S.rgSum) :
    ∀ p ∈ invMask S.n S.depth S.regs ((mpeIdx S y e).1.headD 0 / 2 ^ S.depth),
      p < (modes S (mpeIdx S y e)).length := by
  obtain ⟨_, hd, _⟩ := (accepted_iff S.n S.depth).1 hacc
  have R : LeafRows S.n S.depth S.reps S.regs := leafRows S.ρ hρ S.n S.depth S.reps hd
  obtain ⟨t, ht, hio1, hc⟩ := mpeIdx_shape S y e R hd hreps hb hs
  rw [hio1, leafGroups_head, ← Zof_modes, List.length_map, hc.length R ht]
  exact R.mem_invMask_lt ht

/-- **the row of the layer-wise MPE pass is the row written by the MPE descent of the unrolled
circuit** -/
theorem mpeRow_eq_descent (S : Spec α) (y : Nat) (row : List (Option Nat))
    (hρ : ∀ t r, (S.ρ t r).Perm r) (hacc : accepted S.n S.depth = true) (hreps : 0 < S.reps)
    (hb : 0 < S.batch) (hs : 0 < S.rgSum) (hrow : row.length = S.n) :
    (mpeRow S y row).map some = (List.range S.n).map (mpeDescent (Ev.ofList row) (unrollT S y)) := by
  obtain ⟨_, hd, _⟩ := (accepted_iff S.n S.depth).1 hacc
  have R : LeafRows S.n S.depth S.reps S.regs := leafRows S.ρ hρ S.n S.depth S.reps hd
  obtain ⟨t, ht, hio1, hc⟩ := mpeIdx_shape S y (Ev.ofList row) R hd hreps hb hs
  rw [mpeDescent_eq_fold S y (Ev.ofList row) hb hs (by rw [topVal_groups S hd]; exact hreps)]
  unfold mpeRow
  simp only
  rw [hio1, leafGroups_head, ← Zof_modes]
  obtain ⟨hlen, hreads⟩ := hc.reads R ht
  have hnd := hc.keysNodup R ht
  generalize Zof S (mpeIdx S y (Ev.ofList row)) = Z at hlen hreads hnd
  -- entry by entry: the fold writes into a missing entry `i` the payload that the gather reads for `i`
  apply List.ext_getElem?
  intro i
  by_cases hi : i < S.n
  · obtain ⟨k, hk, hread⟩ := hreads i hi
    have hirow : i < row.length := hrow ▸ hi
    have hz : (row.zip (unpad S.n S.depth S.regs t (Z.map (fun z => z.2.2))))[i]? = some (row[i], k) :=
      List.getElem?_zip_eq_some.2 ⟨List.getElem?_eq_getElem hirow, hread⟩
    rw [List.getElem?_map, List.getElem?_map, List.getElem?_range hi, Option.map_some, foldl_step_at i k Z _ hnd hk]
    unfold completeRow
    rw [List.getElem?_map, hz]
    simp only [Ev.ofList, List.getD_eq_getElem _ _ hirow, Option.map_some]
    cases row[i] <;> rfl
  · have hcl := (completeRow_spec row _ (hlen.trans hrow.symm)).1
    rw [List.getElem?_eq_none (by rw [List.length_map, hcl, hrow]; omega),
      List.getElem?_eq_none (by rw [List.length_map, List.length_range]; omega)]

end arch

end RatSample
end Deeprob
