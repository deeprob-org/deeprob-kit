import DeeprobModel.Model.RatSample
import DeeprobModel.Lemmas.TensorCirc
import DeeprobModel.Lemmas.LeafTopDown
set_option linter.unusedSimpArgs false
set_option linter.unusedVariables false
set_option linter.unusedSectionVars false
/-
C16 (sampling / MPE clause): the `TCirc` unrolling of `Model/RatSample.lean` is the circuit
`RatSpn.unroll` with top-down data; the layer-wise forward tables are the values of its nodes.
-/
namespace Deeprob
namespace RatSample
open RatSpn TCirc Tensor

section rel
variable {α : Type} [Zero α] [One α] [Add α] [Mul α] [LT α] [DecidableLT α]

/-- a function of nodes applied to the children of a base node is decided column by column by the dummy flag -/
theorem baseNodeT_children_map {γ : Type} (F : TCirc α → γ) (tbl : Nat → List α) (mrow : List Nat) (prow : List Bool) :
    ((List.range mrow.length).map (fun k => if prow.getD k false then dummyT else bernT (mrow.getD k 0) (tbl k))).map F
      = (List.range mrow.length).map
          (fun k => if prow.getD k false then F dummyT else F (bernT (mrow.getD k 0) (tbl k))) := by
  rw [List.map_map]
  exact List.map_congr_left (fun k _ => apply_ite F _ _ _)

/-- a table of `TCirc`s forgets to a table of `Circ`s -/
def Rel (TT : Tab (TCirc α)) (T : Table α) : Prop :=
  TT.groups = T.groups ∧ TT.nodes = T.nodes ∧ ∀ i t, (TT.at_ i t).toCirc = T.at_ i t

theorem rel_base (S : Spec α) :
    Rel (baseT S) (baseTable (lfOf S) S.n S.depth S.regs S.batch) := by
  refine ⟨rfl, rfl, fun i c => ?_⟩
  simp only [baseT, baseNodeT, baseTable, baseNode, toCirc]
  rw [baseNodeT_children_map]
  simp only [dummyT, bernT, toCirc]
  rfl

theorem rel_prod {TT : Tab (TCirc α)} {T : Table α} (h : Rel TT T) : Rel (prodT TT) (prodTable T) := by
  obtain ⟨hg, hn, hat⟩ := h
  refine ⟨by simp only [prodT, prodTable, hg], by simp only [prodT, prodTable, hn], fun j t => ?_⟩
  simp only [prodT, prodTable, toCirc, List.map_cons, List.map_nil, hn, hat]
  rw [← hat, ← hat, scope_toCirc, scope_toCirc]

theorem rel_sum {TT : Tab (TCirc α)} {T : Table α} (w : Nat → Nat → List α) (out : Nat) (h : Rel TT T) :
    Rel (sumT w out TT) (sumTable w out T) := by
  obtain ⟨hg, hn, hat⟩ := h
  refine ⟨hg, rfl, fun j o => ?_⟩
  simp only [sumT, sumTable, toCirc, List.map_map, hn]
  rw [← hat j 0, scope_toCirc]
  exact congrArg _ (List.map_congr_left (fun t _ => hat j t))

theorem rel_inner (w : Nat → Nat → Nat → List α) (rgSum : Nat) :
    ∀ (k l : Nat) (TT : Tab (TCirc α)) (T : Table α), Rel TT T →
      Rel (innerT w rgSum k l TT) (innerTables w rgSum k l T)
  | 0, _, _, _, h => h
  | 1, _, _, _, h => rel_prod h
  | k + 2, l, _, _, h => rel_inner w rgSum (k + 1) (l + 1) _ _ (rel_sum (w l) rgSum (rel_prod h))

/-- **the `TCirc` unrolling forgets to `RatSpn.unroll`** -/
theorem unrollT_toCirc (S : Spec α) (y : Nat) : (unrollT S y).toCirc = circ S y := by
  obtain ⟨hg, hn, hat⟩ := rel_inner S.w S.rgSum S.depth 0 _ _ (rel_base S)
  unfold unrollT circ unroll rootT rootNode flat
  simp only [toCirc, List.map_flatMap, List.map_map, hg, hn]
  exact congrArg _ (List.flatMap_congr (fun g _ => List.map_congr_left (fun t _ => hat g t)))

theorem unrollT_scope (S : Spec α) (y : Nat) : (unrollT S y).scope = List.range S.n := rfl

end rel

section aligned
variable {α : Type} [CommSemiring α] [LT α] [DecidableLT α]

/-- the value table `V` holds the values of the nodes of `TT` under evidence `e` -/
def Aligned (e : Ev) (TT : Tab (TCirc α)) (V : Tab α) : Prop :=
  TT.groups = V.groups ∧ TT.nodes = V.nodes ∧ ∀ g t, TCirc.eval e (TT.at_ g t) = V.at_ g t

theorem eval_dummyT (e : Ev) : TCirc.eval e (dummyT : TCirc α) = 1 := by
  unfold dummyT; rw [TCirc.eval_leaf]

theorem eval_bernT (e : Ev) (v : Nat) (tbl : List α) : TCirc.eval e (bernT v tbl) = Circ.catLeafFn v tbl e := by
  unfold bernT; rw [TCirc.eval_leaf]

/-- the values of row `g` of an aligned table -/
theorem Aligned.map_row {e : Ev} {TT : Tab (TCirc α)} {V : Tab α} (h : Aligned e TT V) (g : Nat) :
    ((List.range TT.nodes).map (fun t => TT.at_ g t)).map (TCirc.eval e) = (List.range V.nodes).map (fun t => V.at_ g t) := by
  rw [List.map_map, h.2.1]
  exact List.map_congr_left (fun t _ => h.2.2 g t)

theorem aligned_base (S : Spec α) (e : Ev) : Aligned e (baseT S) (baseVal S e) := by
  refine ⟨rfl, rfl, fun i c => ?_⟩
  simp only [baseT, baseVal, baseNodeT]
  rw [TCirc.eval_prod, baseNodeT_children_map]
  simp only [eval_dummyT, eval_bernT]

theorem aligned_prod {e : Ev} {TT : Tab (TCirc α)} {V : Tab α} (h : Aligned e TT V) :
    Aligned e (prodT TT) (prodVal V) := by
  obtain ⟨hg, hn, hat⟩ := h
  refine ⟨by simp only [prodT, prodVal, hg], by simp only [prodT, prodVal, hn], fun j t => ?_⟩
  simp only [prodT, prodVal]
  rw [TCirc.eval_prod, List.map_cons, List.map_cons, List.map_nil, lprod, lprod, lprod, mul_one, hat, hat, hn]

theorem aligned_sum {e : Ev} {TT : Tab (TCirc α)} {V : Tab α} (w : Nat → Nat → List α) (out : Nat)
    (h : Aligned e TT V) : Aligned e (sumT w out TT) (sumVal w out V) := by
  refine ⟨h.1, rfl, fun j o => ?_⟩
  simp only [sumT, sumVal]
  rw [TCirc.eval_sum, h.map_row]

theorem aligned_inner (e : Ev) (w : Nat → Nat → Nat → List α) (rgSum : Nat) :
    ∀ (k l : Nat) (TT : Tab (TCirc α)) (V : Tab α), Aligned e TT V →
      Aligned e (innerT w rgSum k l TT) (innerVal w rgSum k l V)
  | 0, _, _, _, h => h
  | 1, _, _, _, h => aligned_prod h
  | k + 2, l, _, _, h => aligned_inner e w rgSum (k + 1) (l + 1) _ _ (aligned_sum (w l) rgSum (aligned_prod h))

theorem flat_map_eval {e : Ev} {TT : Tab (TCirc α)} {V : Tab α} (h : Aligned e TT V) :
    (flat TT).map (TCirc.eval e) = flat V := by
  unfold flat
  rw [List.map_flatMap, h.1]
  exact List.flatMap_congr (fun g _ => h.map_row g)

theorem aligned_top (S : Spec α) (e : Ev) :
    Aligned e (innerT S.w S.rgSum S.depth 0 (baseT S)) (topVal S e) :=
  aligned_inner e S.w S.rgSum S.depth 0 _ _ (aligned_base S e)

/-- the layer-wise forward pass computes the value of the unrolled circuit -/
theorem forward_eq_eval (S : Spec α) (y : Nat) (e : Ev) : forward S y e = TCirc.eval e (unrollT S y) := by
  unfold forward rootVal unrollT rootT
  rw [TCirc.eval_sum, flat_map_eval (aligned_top S e)]

end aligned

end RatSample
end Deeprob
