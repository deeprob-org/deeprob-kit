import DeeprobModel.Lemmas.SpanningTree
import DeeprobModel.Lemmas.CltFitLemmas
import DeeprobModel.Lemmas.SumLemmas
import Mathlib.Algebra.BigOperators.Fin
/-
C11, bridge: predecessor vectors (what the code returns, what the driver checks) ↔ edge finsets
(what `SpanTree.cycleProp_max` talks about).
-/
open Relation

namespace Deeprob
namespace CltFit
open SpanTree

/-- parent of `i` as an element of `Fin n` (`i` itself when there is none) -/
def parFin (n : Nat) (pred : List Int) (i : Fin n) : Fin n :=
  match parent pred i with
  | some p => if h : p < n then ⟨p, h⟩ else i
  | none => i

/-- the undirected edge set `{ {i, pred[i]} : i ≠ root }` of a predecessor vector -/
def predEdges (n : Nat) (pred : List Int) (root : Nat) : Finset (Sym2 (Fin n)) :=
  (Finset.univ.filter (fun i : Fin n => i.val ≠ root)).image (fun i => s(i, parFin n pred i))

/-- a symmetric weight function as a function on undirected edges -/
def symW {α : Type} (w : Nat → Nat → α) (hs : ∀ a b, w a b = w b a) (n : Nat) : Sym2 (Fin n) → α :=
  Sym2.lift ⟨fun a b => w a b, fun a b => hs a b⟩

theorem parent_lt {pred : List Int} {i p : Nat} (h : parent pred i = some p) : i < pred.length := by
  by_contra hi
  have h1 := (parent_some h).1
  rw [List.getD_eq_getElem?_getD, List.getElem?_eq_none (Nat.le_of_not_lt hi)] at h1
  exact absurd h1 (by simp only [Option.getD_none]; omega)

theorem parent_root_none {pred : List Int} {root : Nat} (h : isRootedSpanningTree pred root = true) :
    parent pred root = none := by
  obtain ⟨hr, hm, _, _⟩ := (isRST_iff pred root).mp h
  cases hp : parent pred root with
  | none => rfl
  | some p =>
    have h1 := (parent_some hp).1
    rw [getD_irrel pred hr (-1) 0, hm] at h1
    omega

theorem parFin_eq {n : Nat} {pred : List Int} (hn : pred.length = n) {i : Fin n} {p : Nat}
    (h : parent pred i = some p) : ∃ hp : p < n, parFin n pred i = ⟨p, hp⟩ := by
  have hp : p < n := hn ▸ (parent_some h).2
  refine ⟨hp, ?_⟩
  unfold parFin
  rw [h]; simp [hp]

theorem mem_predEdges_of_parent {n : Nat} {pred : List Int} {root : Nat}
    (hT : isRootedSpanningTree pred root = true) (hn : pred.length = n)
    {a b : Nat} (ha : a < n) (hb : b < n) (h : parent pred a = some b) :
    s((⟨a, ha⟩ : Fin n), ⟨b, hb⟩) ∈ predEdges n pred root := by
  unfold predEdges
  refine Finset.mem_image.mpr ⟨⟨a, ha⟩, ?_, ?_⟩
  · simp only [Finset.mem_filter, Finset.mem_univ, true_and]
    rintro rfl
    rw [parent_root_none hT] at h; cases h
  · obtain ⟨_, hp⟩ := parFin_eq hn (i := ⟨a, ha⟩) h
    rw [hp]

/-- lifting a walk on `Nat` vertices to `Fin n` -/
theorem lift_rtg {n : Nat} {R : Nat → Nat → Prop} {Q : Fin n → Fin n → Prop}
    (hstep : ∀ a b (ha : a < n), R a b → ∃ hb : b < n, Q ⟨a, ha⟩ ⟨b, hb⟩) {a b : Nat}
    (h : ReflTransGen R a b) : ∀ ha : a < n, ∃ hb : b < n, ReflTransGen Q ⟨a, ha⟩ ⟨b, hb⟩ := by
  induction h with
  | refl => exact fun ha => ⟨ha, .refl⟩
  | @tail b c _ hbc ih =>
    intro ha
    obtain ⟨hb, hab⟩ := ih ha
    obtain ⟨hc, hq⟩ := hstep b c hb hbc
    exact ⟨hc, hab.tail hq⟩

theorem reaches_sound (pred : List Int) (root f i : Nat) (h : reaches pred root f i = true) :
    ReflTransGen (fun a b : Nat => parent pred a = some b) i root := by
  induction f generalizing i with
  | zero => rw [reaches_zero_iff.1 h]
  | succ f ih =>
    rcases reaches_succ_iff.1 h with rfl | ⟨p, hp, hpr⟩
    · exact .refl
    · exact .head hp (ih p hpr)

/-- there are at most `n - 1` vertices other than the root -/
theorem card_nonroot_le {n root : Nat} (hr : root < n) :
    (Finset.univ.filter (fun i : Fin n => i.val ≠ root)).card + 1 ≤ n := by
  have hsub : Finset.univ.filter (fun i : Fin n => i.val ≠ root) ⊆ (Finset.univ : Finset (Fin n)).erase ⟨root, hr⟩ := by
    intro i hi
    simp only [Finset.mem_filter, Finset.mem_univ, true_and] at hi
    exact Finset.mem_erase.mpr ⟨fun h => hi (by rw [h]), Finset.mem_univ _⟩
  have h2 := Finset.card_le_card hsub
  rw [Finset.card_erase_of_mem (Finset.mem_univ _), Finset.card_univ, Fintype.card_fin] at h2
  omega

/-- **Prop meaning of `isRootedSpanningTree`** (soundness): the edge set of the predecessor vector is a spanning tree -/
theorem predEdges_isSpanTree {n : Nat} {pred : List Int} {root : Nat}
    (hT : isRootedSpanningTree pred root = true) (hn : pred.length = n) :
    IsSpanTree (predEdges n pred root) := by
  obtain ⟨hr, hm, hp, hreach⟩ := (isRST_iff pred root).mp hT
  have hr' : root < n := hn ▸ hr
  have hto : ∀ a : Fin n, Reach (predEdges n pred root) a ⟨root, hr'⟩ := by
    intro a
    have h1 := reaches_sound pred root _ a.val (hreach a.val (hn ▸ a.isLt))
    obtain ⟨_, h2⟩ := lift_rtg (n := n) (Q := fun x y => s(x, y) ∈ predEdges n pred root)
      (fun x y hx hxy => ⟨hn ▸ (parent_some hxy).2,
        mem_predEdges_of_parent hT hn hx (hn ▸ (parent_some hxy).2) hxy⟩) h1 a.isLt
    exact h2
  refine ⟨fun a b => ReflTransGen.trans (hto a) (hto b).symm, ?_⟩
  unfold predEdges
  have h1 := card_nonroot_le hr'
  have := Finset.card_image_le (s := Finset.univ.filter (fun i : Fin n => i.val ≠ root))
    (f := fun i => s(i, parFin n pred i))
  rw [Fintype.card_fin]
  omega

theorem treePath_sound (pred : List Int) : ∀ (f u v : Nat) (cs : List Nat),
    treePath pred f u v = some cs →
    ReflTransGen (fun a b : Nat => ∃ c ∈ cs, (a = c ∧ parent pred c = some b) ∨
      (b = c ∧ parent pred c = some a)) u v
  | 0, u, v, cs, h => by
      simp only [treePath] at h
      split at h
      · rename_i huv; subst huv; exact .refl
      · cases h
  | f+1, u, v, cs, h => by
      simp only [treePath] at h
      split at h
      · rename_i huv; subst huv; exact .refl
      · split at h
        · cases hp : parent pred u with
          | none => rw [hp] at h; cases h
          | some p =>
            rw [hp] at h
            simp only [Option.map_eq_some_iff] at h
            obtain ⟨cs', hcs', rfl⟩ := h
            have ih := treePath_sound pred f p v cs' hcs'
            refine ReflTransGen.head ⟨u, List.mem_cons_self, Or.inl ⟨rfl, hp⟩⟩ ?_
            exact ReflTransGen.mono (fun a b ⟨c, hc, hh⟩ => ⟨c, List.mem_cons_of_mem _ hc, hh⟩) _ _ ih
        · cases hp : parent pred v with
          | none => rw [hp] at h; cases h
          | some p =>
            rw [hp] at h
            simp only [Option.map_eq_some_iff] at h
            obtain ⟨cs', hcs', rfl⟩ := h
            have ih := treePath_sound pred f u p cs' hcs'
            refine ReflTransGen.tail ?_ ⟨v, List.mem_cons_self, Or.inr ⟨rfl, hp⟩⟩
            exact ReflTransGen.mono (fun a b ⟨c, hc, hh⟩ => ⟨c, List.mem_cons_of_mem _ hc, hh⟩) _ _ ih

theorem paIdx_of_parent {pred : List Int} {i p : Nat} (h : parent pred i = some p) : paIdx pred i = p := by
  unfold paIdx
  simp only [(parent_some h).1]
  rw [if_neg (by omega), Int.toNat_natCast]

theorem reaches_self_loop {pred : List Int} {root i : Nat} (h : parent pred i = some i) (hi : i ≠ root) (f : Nat) :
    reaches pred root f i = false := by
  induction f with
  | zero => simp [reaches, hi]
  | succ f ih => simp [reaches, hi, h, ih]

/-- in a rooted spanning tree every non-root vertex has a parent different from itself -/
theorem parent_of_isRST {pred : List Int} {root : Nat} (hT : isRootedSpanningTree pred root = true)
    {i : Nat} (hi : i < pred.length) (hir : i ≠ root) :
    ∃ p, parent pred i = some p ∧ p ≠ i ∧ p < pred.length ∧ paIdx pred i = p := by
  obtain ⟨hr, hm, hp, hreach⟩ := (isRST_iff pred root).mp hT
  rcases hp i hi with h | h
  · exact absurd h hir
  · obtain ⟨p, hp'⟩ := Option.isSome_iff_exists.mp h
    refine ⟨p, hp', ?_, (parent_some hp').2, paIdx_of_parent hp'⟩
    rintro rfl
    have := hreach p hi
    rw [reaches_self_loop hp' hir] at this
    cases this

theorem mem_cyclePairs {pred : List Int} {u v : Nat} (hv : v < pred.length) (huv : u < v)
    (hnt : ¬ (parent pred u = some v ∨ parent pred v = some u)) :
    (u, v, treePath pred (2 * pred.length) u v) ∈ cyclePairs pred := by
  unfold cyclePairs
  refine List.mem_flatMap.mpr ⟨v, List.mem_range.mpr hv, ?_⟩
  refine List.mem_filterMap.mpr ⟨u, List.mem_range.mpr huv, ?_⟩
  rw [if_neg hnt]

theorem symW_mk {α : Type} (w : Nat → Nat → α) (hs : ∀ a b, w a b = w b a) (n : Nat) (a b : Fin n) :
    symW w hs n s(a, b) = w a b := by
  simp [symW]

section order
variable {α : Type} [AddCommMonoid α] [LinearOrder α] [IsOrderedAddMonoid α]

omit [IsOrderedAddMonoid α] in
theorem cycleOK_heavy {w : Nat → Nat → α} {pred : List Int} (hc : cycleOK w pred = true) {u v : Nat}
    (hv : v < pred.length) (huv : u < v)
    (hnt : ¬ (parent pred u = some v ∨ parent pred v = some u)) :
    ∃ cs, treePath pred (2 * pred.length) u v = some cs ∧ ∀ c ∈ cs, w u v ≤ edgeW w pred c := by
  unfold cycleOK at hc
  have h := List.all_eq_true.mp hc _ (mem_cyclePairs hv huv hnt)
  simp only at h
  cases hp : treePath pred (2 * pred.length) u v with
  | none => rw [hp] at h; cases h
  | some cs =>
    rw [hp] at h
    refine ⟨cs, rfl, fun c hcm => ?_⟩
    have := List.all_eq_true.mp h c hcm
    simpa using this

omit [IsOrderedAddMonoid α] in
/-- **Prop meaning of `cycleOK`** (soundness): the Boolean certificate implies the cycle property of the
edge set of the predecessor vector -/
theorem cycleOK_sound (w : Nat → Nat → α) (hs : ∀ a b, w a b = w b a) {n : Nat} {pred : List Int}
    {root : Nat} (hT : isRootedSpanningTree pred root = true) (hn : pred.length = n)
    (hc : cycleOK w pred = true) : CycleProp (symW w hs n) (predEdges n pred root) := by
  have key : ∀ u v : Fin n, u.val < v.val → s(u, v) ∉ predEdges n pred root →
      ReflTransGen (fun a b => s(a, b) ∈ predEdges n pred root ∧
        symW w hs n s(u, v) ≤ symW w hs n s(a, b)) u v := by
    intro u v huv hnot
    have hnt : ¬ (parent pred u = some v ∨ parent pred v = some u) := by
      rintro (h | h)
      · exact hnot (mem_predEdges_of_parent hT hn u.isLt v.isLt h)
      · apply hnot; rw [Sym2.eq_swap]; exact mem_predEdges_of_parent hT hn v.isLt u.isLt h
    obtain ⟨cs, hcs, hheavy⟩ := cycleOK_heavy hc (hn ▸ v.isLt) huv hnt
    have h1 := treePath_sound pred _ u v cs hcs
    obtain ⟨_, h2⟩ := lift_rtg (n := n)
      (Q := fun a b => s(a, b) ∈ predEdges n pred root ∧
        symW w hs n s(u, v) ≤ symW w hs n s(a, b)) (by
      rintro a b ha ⟨c, hcm, ⟨rfl, hp⟩ | ⟨rfl, hp⟩⟩
      · have hb : b < n := hn ▸ (parent_some hp).2
        refine ⟨hb, mem_predEdges_of_parent hT hn ha hb hp, ?_⟩
        rw [symW_mk, symW_mk]
        have := hheavy a hcm
        simpa [edgeW, hp] using this
      · have hb : b < n := hn ▸ parent_lt hp
        refine ⟨hb, ?_, ?_⟩
        · rw [Sym2.eq_swap]; exact mem_predEdges_of_parent hT hn hb ha hp
        · rw [symW_mk, symW_mk]
          have := hheavy b hcm
          rw [show w a b = w b a from hs a b]
          simpa [edgeW, hp] using this) h1 u.isLt
    exact h2
  intro a b hab hnot
  rcases lt_trichotomy a.val b.val with h | h | h
  · exact key a b h hnot
  · exact absurd (Fin.ext h) hab
  · have hnot' : s(b, a) ∉ predEdges n pred root := by rwa [Sym2.eq_swap]
    have h1 := key b a h hnot'
    rw [Sym2.eq_swap (a := b) (b := a)] at h1
    exact rtg_symm (fun x y ⟨h2, h3⟩ => ⟨by rwa [Sym2.eq_swap], by rwa [Sym2.eq_swap (a := y)]⟩) h1

omit [AddCommMonoid α] [IsOrderedAddMonoid α] in
theorem symMax_symm (w : Nat → Nat → α) (a b : Nat) : symMax w a b = symMax w b a := by
  unfold symMax
  rcases lt_trichotomy (w a b) (w b a) with h | h | h
  · simp [h, not_lt_of_gt h]
  · simp [h]
  · simp [h, not_lt_of_gt h]

omit [LinearOrder α] [IsOrderedAddMonoid α] in
theorem tsum_map_range (g : Nat → α) (n : Nat) :
    tsum ((List.range n).map g) = ∑ i ∈ Finset.range n, g i := by
  induction n with
  | zero => rfl
  | succ n ih =>
    rw [tsum_eq_sum] at ih
    rw [tsum_eq_sum, List.range_succ, List.map_append, List.sum_append, ih, Finset.sum_range_succ]
    simp

omit [LinearOrder α] [IsOrderedAddMonoid α] in
/-- the computed `treeWeight` is the total weight of the edge set -/
theorem treeWeight_eq (w : Nat → Nat → α) (hs : ∀ a b, w a b = w b a) {n : Nat} {pred : List Int}
    {root : Nat} (hT : isRootedSpanningTree pred root = true) (hn : pred.length = n) :
    treeWeight w pred = ∑ e ∈ predEdges n pred root, symW w hs n e := by
  obtain ⟨hr, hm, hp, hreach⟩ := (isRST_iff pred root).mp hT
  have hST := predEdges_isSpanTree hT hn
  -- `i ↦ {i, pred[i]}` is injective on the non-root vertices (cardinalities)
  have hinj : Set.InjOn (fun i : Fin n => s(i, parFin n pred i))
      (Finset.univ.filter (fun i : Fin n => i.val ≠ root) : Finset (Fin n)) := by
    apply Finset.card_image_iff.mp
    apply le_antisymm Finset.card_image_le
    have h1 := connected_card _ hST.1
    have h2 := card_nonroot_le (hn ▸ hr : root < n)
    rw [Fintype.card_fin] at h1
    unfold predEdges at h1
    omega
  unfold predEdges
  rw [Finset.sum_image hinj, Finset.sum_filter]
  unfold treeWeight
  rw [hn, tsum_map_range, ← Fin.sum_univ_eq_sum_range]
  apply Finset.sum_congr rfl
  intro i _
  by_cases hi : i.val = root
  · simp only [hi, ne_eq, not_true_eq_false, if_false]
    simp [edgeW, parent_root_none hT]
  · simp only [ne_eq, hi, not_false_eq_true, if_true]
    rcases hp i.val (hn ▸ i.isLt) with h | h
    · exact absurd h hi
    · obtain ⟨p, hp'⟩ := Option.isSome_iff_exists.mp h
      obtain ⟨hpn, hpf⟩ := parFin_eq hn hp'
      rw [hpf, symW_mk]
      simp [edgeW, hp']

end order
end CltFit
end Deeprob
