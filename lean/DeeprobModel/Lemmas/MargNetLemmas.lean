import DeeprobModel.Lemmas.RewriteNetLemmas
import DeeprobModel.Lemmas.MargLemmas
set_option linter.unusedSectionVars false
set_option linter.unusedSimpArgs false
set_option linter.unusedVariables false
/-
The net-level first pass of `marginalize` (C10 with sharing) as the solution of local equations, and its value.
-/
namespace Deeprob
variable {α : Type} [CommSemiring α]
open Net Circ
/-- what `marginalizeNet` needs of every stored node: sums are non-empty and smooth, product scopes are the
union of their children's scopes, leaves are single-variable table / density leaves over their scope -/
def MargNodeOK (net : Net α) (x : NNode α) : Prop :=
  match x.kind with
  | .sum => x.ch ≠ [] ∧ ∀ c ∈ x.ch, scopeEq (scopeOf net c) x.scope
  | .prod => scopeEq (x.ch.map (scopeOf net)).flatten x.scope
  | .leaf => ∃ v, x.scope = [v] ∧ ((∃ tbl, x.leaf = .cat v tbl) ∨ x.leaf = .ext v)

/-- the surviving children of node `x` (`nodes_map` entries that are not `None`) -/
def keptCh (rep : List (Option Nat)) (x : NNode α) : List Nat := x.ch.filterMap (fun c => rep.getD c none)

theorem mem_keptCh (rep : List (Option Nat)) (x : NNode α) (r : Nat) :
    r ∈ keptCh rep x ↔ ∃ c ∈ x.ch, rep.getD c none = some r := List.mem_filterMap

theorem margStepNet_leaf (keep : List Nat) (t : Net α) (rep : List (Option Nat)) (i : Nat) (x : NNode α)
    (h : x.kind = .leaf) :
    margStepNet keep t rep i x = (x, if keep.contains (x.scope.headD 0) then some i else none) := by
  unfold margStepNet; rw [if_pos h]

theorem margStepNet_inner (keep : List Nat) (t : Net α) (rep : List (Option Nat)) (i : Nat) (x : NNode α)
    (h : x.kind ≠ .leaf) : margStepNet keep t rep i x = margNode t i x (keptCh rep x) := by
  unfold margStepNet; rw [if_neg h]; rfl

/-- **locality**: one iteration reads `nodes_map` at the children of the node and the scopes of the surviving ones -/
theorem margStepNet_congr (keep : List Nat) (t t' : Net α) (rep rep' : List (Option Nat)) (i : Nat) (x : NNode α)
    (h1 : ∀ c ∈ x.ch, rep.getD c none = rep'.getD c none)
    (h2 : ∀ r ∈ keptCh rep x, scopeAt t r = scopeAt t' r) :
    margStepNet keep t rep i x = margStepNet keep t' rep' i x := by
  have hcn : keptCh rep x = keptCh rep' x := by
    unfold keptCh
    exact List.filterMap_congr h1
  unfold margStepNet
  split
  · rfl
  · show margNode t i x (keptCh rep x) = margNode t' i x (keptCh rep' x)
    rw [← hcn]
    unfold margNode
    match hm : keptCh rep x, h2 with
    | [], _ => rfl
    | [c], _ => rfl
    | c0 :: c1 :: rest, h2 =>
      simp only [List.map_congr_left h2, h2 c0 List.mem_cons_self]

/-- `(t, rep)` solves the local equations of the first pass of `marginalize` on the table `net`; a surviving
replacement is never a later node -/
structure MSol (keep : List Nat) (net t : Net α) (rep : List (Option Nat)) : Prop where
  lt : t.length = net.length
  lr : rep.length = net.length
  eq : ∀ (k : Nat) (x : NNode α), net[k]? = some x →
    t[k]? = some (margStepNet keep t rep k x).1 ∧ rep.getD k none = (margStepNet keep t rep k x).2
  some_le : ∀ k r, k < net.length → rep.getD k none = some r → r ≤ k

theorem margNode_snd_le (t : Net α) (k : Nat) (x : NNode α) (cn : List Nat) (h : ∀ c ∈ cn, c ≤ k) :
    ∀ r, (margNode t k x cn).2 = some r → r ≤ k := by
  intro r hr
  unfold margNode at hr
  match cn, h, hr with
  | [c], h, hr => exact Option.some.inj hr ▸ h c (List.mem_singleton_self c)
  | _ :: _ :: _, _, hr => exact Nat.le_of_eq (Option.some.inj hr).symm

/-- **the pass in storage order solves the local equations** -/
theorem margPass_sol (keep : List Nat) (net : Net α) (hw : WellOrdered net) :
    MSol keep net (margPass keep net).1 (margPass keep net).2 := by
  let Q : Net α → List (Option Nat) → Nat → Prop := fun _ rep k => ∀ r, rep.getD k none = some r → r ≤ k
  have hkept : ∀ (t : Net α) rep k x, net[k]? = some x → (∀ j, j < k → Q t rep j) → ∀ r ∈ keptCh rep x, r < k := by
    intro _ rep k x hx IH r hr
    obtain ⟨c, hc, hcr⟩ := (mem_keptCh rep x r).1 hr
    exact Nat.lt_of_le_of_lt (IH c (hw k x hx c hc) r hcr) (hw k x hx c hc)
  -- the step on the first `k` entries reads what it reads in the final state
  have hloc : ∀ (t : Net α) rep k x, net[k]? = some x → (∀ j, j < k → Q t rep j) →
      margStepNet keep (t.take k) (rep.take k) k x = margStepNet keep t rep k x := by
    intro t rep k x hx IH
    have g1 : ∀ c ∈ x.ch, (rep.take k).getD c none = rep.getD c none := fun c hc => by
      rw [List.getD_eq_getElem?_getD, List.getD_eq_getElem?_getD, List.getElem?_take_of_lt (hw k x hx c hc)]
    apply margStepNet_congr keep _ _ _ _ k _ g1
    intro r hr
    rw [show keptCh (rep.take k) x = keptCh rep x from List.filterMap_congr g1] at hr
    unfold scopeAt
    rw [List.getElem?_take_of_lt (hkept t rep k x hx IH r hr)]
  have hQ : ∀ (t : Net α) rep k x, net[k]? = some x → (∀ j, j < k → Q t rep j) →
      t[k]? = some (margStepNet keep t rep k x).1 → rep[k]? = some (margStepNet keep t rep k x).2 → Q t rep k := by
    intro t rep k x hx IH _ e2 r hr
    rw [List.getD_eq_getElem?_getD, e2] at hr
    have hr : (margStepNet keep t rep k x).2 = some r := hr
    by_cases hl : x.kind = .leaf
    · rw [margStepNet_leaf keep t rep k _ hl] at hr
      split at hr
      · exact Nat.le_of_eq (Option.some.inj hr).symm
      · cases hr
    · rw [margStepNet_inner keep t rep k _ hl] at hr
      exact margNode_snd_le t k _ _ (fun c hc => Nat.le_of_lt (hkept t rep k x hx IH c hc)) r hr
  obtain ⟨hl1, hl2, key⟩ := snocPass_sol (margStepNet keep) net Q hloc hQ
    (t := (margPass keep net).1) (r := (margPass keep net).2) rfl
  exact { lt := hl1, lr := hl2, some_le := fun k r hk => (key k _ (List.getElem?_eq_getElem hk)).2.2 r
          eq := fun k x hx => ⟨(key k x hx).1, by rw [List.getD_eq_getElem?_getD, (key k x hx).2.1]; rfl⟩ }

theorem MSol.keptCh_lt {keep : List Nat} {net t : Net α} {rep : List (Option Nat)} (S : MSol keep net t rep)
    (hw : WellOrdered net) {k : Nat} {x : NNode α} (hx : net[k]? = some x) {r : Nat} (hr : r ∈ keptCh rep x) :
    ∃ c ∈ x.ch, c < k ∧ rep.getD c none = some r ∧ r ≤ c := by
  obtain ⟨c, hc, hcr⟩ := (mem_keptCh rep x r).1 hr
  have hck := hw k x hx c hc
  exact ⟨c, hc, hck, hcr, S.some_le c r (Nat.lt_trans hck (List.getElem?_eq_some_iff.1 hx).1) hcr⟩

/-- **outcome of node `k`** in a solved state: a leaf is kept or dropped; an inner node is dropped when no child
survives, replaced by its only surviving child, or rebuilt over the surviving children -/
theorem msol_outcome (keep : List Nat) (net t : Net α) (rep : List (Option Nat)) (S : MSol keep net t rep)
    (k : Nat) (x : NNode α) (hx : net[k]? = some x) :
    (x.kind = .leaf ∧ t[k]? = some x ∧
      rep.getD k none = if keep.contains (x.scope.headD 0) then some k else none) ∨
    (x.kind ≠ .leaf ∧ keptCh rep x = [] ∧ t[k]? = some x ∧ rep.getD k none = none) ∨
    (x.kind ≠ .leaf ∧ ∃ c, keptCh rep x = [c] ∧ t[k]? = some x ∧ rep.getD k none = some c) ∨
    (x.kind ≠ .leaf ∧ ∃ c0 c1 rest, keptCh rep x = c0 :: c1 :: rest ∧ rep.getD k none = some k ∧
      t[k]? = some (if x.kind = .prod then { x with scope := ((keptCh rep x).map (scopeAt t)).flatten, ch := keptCh rep x }
                    else { x with scope := scopeAt t c0, ch := keptCh rep x })) := by
  obtain ⟨e1, e2⟩ := S.eq k x hx
  by_cases hl : x.kind = .leaf
  · rw [margStepNet_leaf keep t rep k x hl] at e1 e2
    exact Or.inl ⟨hl, e1, e2⟩
  · rw [margStepNet_inner keep t rep k x hl] at e1 e2
    right
    unfold margNode at e1 e2
    match hcn : keptCh rep x with
    | [] => rw [hcn] at e1 e2; exact Or.inl ⟨hl, rfl, e1, e2⟩
    | [c] => rw [hcn] at e1 e2; exact Or.inr (Or.inl ⟨hl, c, rfl, e1, e2⟩)
    | c0 :: c1 :: rest => rw [hcn] at e1 e2; exact Or.inr (Or.inr ⟨hl, c0, c1, rest, rfl, e2, e1⟩)

theorem MSol.wellOrdered {keep : List Nat} {net t : Net α} {rep : List (Option Nat)} (S : MSol keep net t rep)
    (hw : WellOrdered net) : WellOrdered t := by
  intro k y hy c hc
  have hk : k < net.length := S.lt ▸ (List.getElem?_eq_some_iff.1 hy).1
  have hx : net[k]? = some net[k] := List.getElem?_eq_getElem hk
  have hkept : ∀ r ∈ keptCh rep net[k], r < k := fun r hr => by
    obtain ⟨c, _, hck, _, hle⟩ := S.keptCh_lt hw hx hr; omega
  rcases msol_outcome keep net t rep S k _ hx with ⟨_, e, _⟩ | ⟨_, _, e, _⟩ | ⟨_, _, _, e, _⟩ | ⟨_, c0, c1, rest, _, _, e⟩ <;>
    rw [e] at hy <;> cases hy
  · exact hw k _ hx c hc
  · exact hw k _ hx c hc
  · exact hw k _ hx c hc
  · split at hc <;> exact hkept c hc

/-- what the first pass does to the value of node `k` under an evidence that marks everything outside `keep` missing -/
structure MValAt (keep : List Nat) (e : Ev) (dens : List α) (net t : Net α) (rep : List (Option Nat)) (k : Nat) :
    Prop where
  val_some : ∀ r, rep.getD k none = some r → nval e dens t r = nval e dens net k
  val_none : rep.getD k none = none → nval e dens net k = 1
  none_iff : rep.getD k none = none ↔ ∀ v ∈ scopeOf net k, v ∉ keep
  sum_ok : ∀ y, t[k]? = some y → y.kind = .sum → y.ws.length = y.ch.length ∧ tsum y.ws = 1

/-- **value**: a node the first pass drops has value one, and a surviving replacement has the value of the node;
the stored sums stay normalised -/
theorem msol_val (keep : List Nat) (net t : Net α) (rep : List (Option Nat)) (S : MSol keep net t rep)
    (hw : WellOrdered net) (hs : NetSumOK net)
    (hn : ∀ (i : Nat) (x : NNode α), net[i]? = some x → MargNodeOK net x)
    (e : Ev) (he : ∀ v, v ∉ keep → e v = none) (dens : List α) :
    ∀ k, k < net.length → MValAt keep e dens net t rep k := by
  have ht := S.wellOrdered hw
  intro k
  induction k using Nat.strong_induction_on with
  | _ k ih =>
    intro hk
    have hx : net[k]? = some net[k] := List.getElem?_eq_getElem hk
    generalize net[k] = x at hx
    have hchk := hw k x hx
    have IH : ∀ c ∈ x.ch, MValAt keep e dens net t rep c := fun c hc => ih c (hchk c hc) (Nat.lt_trans (hchk c hc) hk)
    have hok := hn k x hx
    unfold MargNodeOK at hok
    have hkept : ∀ r ∈ keptCh rep x, r < k := fun r hr => by
      obtain ⟨c, _, hck, _, hle⟩ := S.keptCh_lt hw hx hr; omega
    have hkeep : ∀ y, some x = some y → y.kind = .sum → y.ws.length = y.ch.length ∧ tsum y.ws = 1 :=
      fun y hy hks => by cases hy; exact hs k x hx hks
    have hnew : ∀ y : NNode α, t[k]? = some y → y.ch = keptCh rep x → ∀ c ∈ y.ch, c < k :=
      fun y _ hy c hc => hkept c (hy ▸ hc)
    have hval := nval_unfold e dens net k x hx hchk
    suffices H : (∀ r, rep.getD k none = some r → nval e dens t r = nval e dens net k) ∧
        (rep.getD k none = none → nval e dens net k = 1) ∧
        (rep.getD k none = none ↔ ∀ v ∈ x.scope, v ∉ keep) ∧
        (∀ y, t[k]? = some y → y.kind = .sum → y.ws.length = y.ch.length ∧ tsum y.ws = 1) from
      ⟨H.1, H.2.1, by rw [scopeOf_some net k x hx]; exact H.2.2.1, H.2.2.2⟩
    cases hkind : x.kind with
    | leaf =>
      rw [hkind] at hok hval
      obtain ⟨v, hsc, hleaf⟩ := hok
      rcases msol_outcome keep net t rep S k x hx with ⟨_, e1, r⟩ | ⟨h, _⟩ | ⟨h, _⟩ | ⟨h, _⟩
      · rw [hsc] at r
        simp only [List.headD_cons, List.contains_iff_mem] at r
        refine ⟨?_, ?_, ?_, fun y hy hks => by rw [e1] at hy; cases hy; rw [hkind] at hks; cases hks⟩
        · intro r' hr'
          rw [r] at hr'
          split at hr'
          · cases hr'
            rw [nval_unfold e dens t k x e1 hchk, hkind]; exact hval.symm
          · cases hr'
        · intro hr'
          rw [r] at hr'
          split at hr'
          · cases hr'
          · rename_i hv
            have hnone := he v hv
            rw [hval]
            rcases hleaf with ⟨tbl, hl⟩ | hl <;> rw [hl]
            · simp only [LeafP.fn, catLeafFn, hnone]
            · simp only [LeafP.fn, hnone]
        · rw [r, hsc]
          split
          · exact ⟨fun h => (nomatch h), fun h => absurd ‹v ∈ keep› (h v (List.mem_singleton_self v))⟩
          · exact ⟨fun _ w hw' => List.mem_singleton.1 hw' ▸ ‹v ∉ keep›, fun _ => rfl⟩
      all_goals exact absurd hkind h
    | prod =>
      rw [hkind] at hok hval
      have htarget : nval e dens net k = lprod ((keptCh rep x).map (nval e dens t)) := by
        rw [hval]
        exact (lprod_filterMap _ _ _ x.ch (fun c hc => ⟨(IH c hc).val_none, (IH c hc).val_some⟩)).symm
      have hnil : keptCh rep x = [] ↔ ∀ v ∈ x.scope, v ∉ keep := by
        unfold keptCh
        rw [List.filterMap_eq_nil_iff]
        constructor
        · intro h v hv
          obtain ⟨c, hc, hvc⟩ := (mem_flatten_map_sc _ _ v).1 ((hok v).2 hv)
          exact ((IH c hc).none_iff.1 (h c hc)) v hvc
        · intro h c hc
          exact (IH c hc).none_iff.2 fun v hv => h v ((hok v).1 ((mem_flatten_map_sc _ _ v).2 ⟨c, hc, hv⟩))
      rcases msol_outcome keep net t rep S k x hx with ⟨h, _⟩ | ⟨_, hcn, e1, r⟩ | ⟨_, c, hcn, e1, r⟩ |
          ⟨_, c0, c1, rest, hcn, r, e1⟩
      · rw [hkind] at h; cases h
      · rw [r, e1]
        exact ⟨fun _ h => (nomatch h), fun _ => by rw [htarget, hcn]; rfl, ⟨fun _ => hnil.1 hcn, fun _ => rfl⟩, hkeep⟩
      · rw [r, e1]
        refine ⟨fun r' hr' => ?_, fun h => (nomatch h), ⟨fun h => (nomatch h), fun h => ?_⟩, hkeep⟩
        · cases hr'
          rw [htarget, hcn]
          exact (mul_one _).symm
        · rw [hnil.2 h] at hcn; cases hcn
      · rw [r, e1, if_pos hkind]
        refine ⟨fun r' hr' => ?_, fun h => (nomatch h), ⟨fun h => (nomatch h), fun h => ?_⟩,
          fun y hy hks => by cases hy; rw [hkind] at hks; cases hks⟩
        · cases hr'
          rw [if_pos hkind] at e1
          rw [nval_unfold e dens t k _ e1 (hnew _ e1 rfl), htarget, hkind]
        · rw [hnil.2 h] at hcn; cases hcn
    | sum =>
      rw [hkind] at hok hval
      obtain ⟨hne, hsm⟩ := hok
      obtain ⟨hxlen, hxsum⟩ := hs k x hx hkind
      have hdis : ∀ c ∈ x.ch, (rep.getD c none = none ↔ ∀ v ∈ x.scope, v ∉ keep) := by
        intro c hc
        rw [(IH c hc).none_iff]
        exact ⟨fun h v hv => h v ((hsm c hc v).2 hv), fun h v hv => h v ((hsm c hc v).1 hv)⟩
      have hns : ¬ x.kind = .prod := by rw [hkind]; exact Kind.noConfusion
      by_cases hD : ∀ v ∈ x.scope, v ∉ keep
      · -- nothing kept: every child is dropped
        have hall : ∀ c ∈ x.ch, rep.getD c none = none := fun c hc => (hdis c hc).2 hD
        have hcn : keptCh rep x = [] := List.filterMap_eq_nil_iff.2 hall
        have h1 : nval e dens net k = 1 := by
          rw [hval, wsum_ones x.ws _ (fun v hv => by
            obtain ⟨c, hc, rfl⟩ := List.mem_map.1 hv
            exact (IH c hc).val_none (hall c hc)) (by rw [List.length_map, hxlen]), hxsum]
        rcases msol_outcome keep net t rep S k x hx with ⟨h, _⟩ | ⟨_, _, e1, r⟩ | ⟨_, c, hc, _⟩ | ⟨_, c0, c1, rest, hc, _⟩
        · rw [hkind] at h; cases h
        · rw [r, e1]
          exact ⟨fun _ h => (nomatch h), fun _ => h1, ⟨fun _ => hD, fun _ => rfl⟩, hkeep⟩
        · rw [hcn] at hc; cases hc
        · rw [hcn] at hc; cases hc
      · -- something kept: every child survives
        have hall : ∀ c ∈ x.ch, ∃ r, rep.getD c none = some r := fun c hc =>
          Option.ne_none_iff_exists'.1 fun h => hD ((hdis c hc).1 h)
        have hlen : (keptCh rep x).length = x.ch.length := length_filterMap_some _ x.ch hall
        have htarget : nval e dens net k = wsum x.ws ((keptCh rep x).map (nval e dens t)) := by
          rw [hval]
          refine (wsum_filterMap _ _ _ x.ws x.ch fun c hc => ?_).symm
          obtain ⟨r, hr⟩ := hall c hc
          exact ⟨r, hr, (IH c hc).val_some r hr⟩
        have hiff : ∀ r : Nat, ((some r : Option Nat) = none ↔ ∀ v ∈ x.scope, v ∉ keep) :=
          fun r => ⟨fun h => (nomatch h), fun h => absurd h hD⟩
        rcases msol_outcome keep net t rep S k x hx with ⟨h, _⟩ | ⟨_, hcn, _⟩ | ⟨_, c, hcn, e1, r⟩ |
            ⟨_, c0, c1, rest, hcn, r, e1⟩
        · rw [hkind] at h; cases h
        · rw [hcn] at hlen
          exact absurd (List.eq_nil_of_length_eq_zero hlen.symm) hne
        · rw [r, e1]
          refine ⟨fun r' hr' => ?_, fun h => (nomatch h), hiff c, hkeep⟩
          cases hr'
          -- a single child of a normalised sum carries the weight 1
          have h1 : x.ws.length = 1 := by rw [hxlen, ← hlen, hcn]; rfl
          rw [htarget, hcn, ws_eq_one h1 hxsum]
          simp only [List.map_cons, List.map_nil, wsum, one_mul, add_zero]
        · rw [r, e1, if_neg hns]
          refine ⟨fun r' hr' => ?_, fun h => (nomatch h), hiff k, fun y hy _ => ?_⟩
          · cases hr'
            rw [if_neg hns] at e1
            rw [nval_unfold e dens t k _ e1 (hnew _ e1 rfl), htarget, hkind]
          · cases hy
            exact ⟨hxlen.trans hlen.symm, hxsum⟩

theorem marginalizeNetWith_eq_ok_iff (b : Bool) (keep : List Nat) (net : Net α) (root : Nat) (res : Net α × List Nat) :
    marginalizeNetWith b keep net root = .ok res ↔
      margGuard keep (scopeAt net root) = none ∧ margUnsupported net (collect net root) = none ∧
      ∃ r1, (margPass keep net).2.getD root none = some r1 ∧ pruneNetWith b (margPass keep net).1 r1 = some res := by
  unfold marginalizeNetWith
  constructor
  · intro h
    split at h
    · cases h
    · rename_i hg
      split at h
      · cases h
      · rename_i hun
        simp only at h
        split at h
        · cases h
        · rename_i r1 hr1
          split at h
          · cases h
          · rename_i res' hres
            cases h
            exact ⟨hg, hun, r1, hr1, hres⟩
  · rintro ⟨hg, hun, r1, hr1, hres⟩
    simp only [hg, hun, hr1, hres]

end Deeprob
