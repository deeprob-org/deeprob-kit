import DeeprobModel.Lemmas.TensorLemmas
import DeeprobModel.Props.CircMarg
/-
Unrolling lemmas for C16 / C17: the layered RAT-SPN / DGC-SPN networks, written as tables of
tree circuits, are valid (smooth, decomposable) circuits. The invariant carried through the layers
(`TInv` for region tables, `GInv` for pixel grids) says that every entry is a valid circuit over exactly
its region; product layers keep it because the parts are disjoint, sum layers because the parts coincide.
-/
set_option linter.unusedSimpArgs false
set_option linter.unusedVariables false
set_option linter.unusedSectionVars false

namespace Deeprob
namespace Tensor

section scopes
variable {α : Type}
@[simp] theorem scope_leaf (s : List Nat) (f : Ev → α) : (Circ.leaf s f).scope = s := rfl
@[simp] theorem scope_sum (s : List Nat) (ws : List α) (cs : List (Circ α)) : (Circ.sum s ws cs).scope = s := rfl
@[simp] theorem scope_prod (s : List Nat) (cs : List (Circ α)) : (Circ.prod s cs).scope = s := rfl

end scopes

section generic
variable {α : Type} [CommSemiring α]

/-- the constant-one leaf with empty scope is a distribution over no variable -/
theorem constOne_ok (dom : Nat → Nat) : LeafOK (α := α) dom [] (fun _ => 1) where
  local_ := by intro a b _; rfl
  marg := by intro e; rfl

/-- a valid circuit over exactly the variables of `R`, its scope listing each of them once -/
def NodeOK (dom : Nat → Nat) (R : List Nat) (c : Circ α) : Prop :=
  (∀ v, v ∈ c.scope ↔ v ∈ R) ∧ c.scope.Nodup ∧ Circ.Valid dom c

theorem NodeOK.congr {dom : Nat → Nat} {R R' : List Nat} {c : Circ α} (h : NodeOK dom R c)
    (hR : ∀ v, v ∈ R ↔ v ∈ R') : NodeOK dom R' c :=
  ⟨fun v => (h.1 v).trans (hR v), h.2.1, h.2.2⟩

/-- smoothness: a mixture of at least one node, all over the variables of `s` -/
theorem valid_sum_of (dom : Nat → Nat) (s : List Nat) (ws : List α) (cs : List (Circ α)) (hpos : 0 < cs.length)
    (hlen : ws.length = cs.length) (h : ∀ c ∈ cs, scopeEq c.scope s ∧ Circ.Valid dom c) :
    Circ.Valid dom (.sum s ws cs) :=
  Circ.valid_sum_iff.2
    ⟨List.ne_nil_of_length_pos hpos, hlen, fun c hc => (h c hc).1, fun c hc => (h c hc).2⟩

/-- a mixture of nodes over `R`, labelled with the scope of one of them, is a node over `R` -/
theorem nodeOK_sum {dom : Nat → Nat} {R : List Nat} {c0 : Circ α} (h0 : NodeOK dom R c0) (ws : List α)
    (cs : List (Circ α)) (hpos : 0 < cs.length) (hlen : ws.length = cs.length) (h : ∀ c ∈ cs, NodeOK dom R c) :
    NodeOK dom R (.sum c0.scope ws cs) :=
  ⟨h0.1, h0.2.1, valid_sum_of dom _ ws cs hpos hlen
    (fun c hc => ⟨fun v => ((h c hc).1 v).trans (h0.1 v).symm, (h c hc).2.2⟩)⟩

/-- decomposability: the product of two nodes over disjoint sets of variables -/
theorem nodeOK_prod2 {dom : Nat → Nat} {A B : List Nat} {a b : Circ α} (ha : NodeOK dom A a) (hb : NodeOK dom B b)
    (hdis : ∀ v, v ∈ A → v ∉ B) : NodeOK dom (A ++ B) (.prod (a.scope ++ b.scope) [a, b]) := by
  have hnd : (a.scope ++ b.scope).Nodup := by
    rw [List.nodup_append]
    exact ⟨ha.2.1, hb.2.1, fun x hx y hy hxy => hdis x ((ha.1 x).1 hx) ((hb.1 x).1 (hxy ▸ hy))⟩
  refine ⟨fun v => by rw [scope_prod, List.mem_append, List.mem_append, ha.1, hb.1], hnd, ?_⟩
  rw [Circ.valid_prod_iff]
  simp only [List.map_cons, List.map_nil, List.flatten_cons, List.flatten_nil, List.append_nil]
  exact ⟨hnd, fun v => Iff.rfl, forall_mem_pair.2 ⟨ha.2.2, hb.2.2⟩⟩

theorem nodeOK_prod4 {dom : Nat → Nat} {A B C' D' : List Nat} {a b c d : Circ α}
    (ha : NodeOK dom A a) (hb : NodeOK dom B b) (hc : NodeOK dom C' c) (hd : NodeOK dom D' d)
    (hAB : ∀ v, v ∈ A → v ∉ B) (hAC : ∀ v, v ∈ A → v ∉ C') (hAD : ∀ v, v ∈ A → v ∉ D')
    (hBC : ∀ v, v ∈ B → v ∉ C') (hBD : ∀ v, v ∈ B → v ∉ D') (hCD : ∀ v, v ∈ C' → v ∉ D') :
    NodeOK dom (A ++ (B ++ (C' ++ D'))) (.prod (a.scope ++ (b.scope ++ (c.scope ++ d.scope))) [a, b, c, d]) := by
  have hmem : ∀ v, v ∈ a.scope ++ (b.scope ++ (c.scope ++ d.scope)) ↔ v ∈ A ++ (B ++ (C' ++ D')) := by
    intro v
    simp only [List.mem_append, ha.1, hb.1, hc.1, hd.1]
  have hnd : (a.scope ++ (b.scope ++ (c.scope ++ d.scope))).Nodup := by
    rw [List.nodup_append, List.nodup_append, List.nodup_append]
    refine ⟨ha.2.1, ⟨hb.2.1, ⟨hc.2.1, hd.2.1, ?_⟩, ?_⟩, ?_⟩
    · intro x hx y hy hxy; subst hxy
      exact hCD x ((hc.1 x).1 hx) ((hd.1 x).1 hy)
    · intro x hx y hy hxy; subst hxy
      rw [List.mem_append, hc.1, hd.1] at hy
      exact hy.elim (hBC x ((hb.1 x).1 hx)) (hBD x ((hb.1 x).1 hx))
    · intro x hx y hy hxy; subst hxy
      simp only [List.mem_append, hb.1, hc.1, hd.1] at hy
      have hA := (ha.1 x).1 hx
      exact hy.elim (hAB x hA) (fun h => h.elim (hAC x hA) (hAD x hA))
  refine ⟨hmem, hnd, ?_⟩
  rw [Circ.valid_prod_iff]
  simp only [List.map_cons, List.map_nil, List.flatten_cons, List.flatten_nil, List.append_nil]
  exact ⟨hnd, fun v => Iff.rfl, List.forall_mem_cons.2 ⟨ha.2.2, List.forall_mem_cons.2 ⟨hb.2.2, forall_mem_pair.2 ⟨hc.2.2, hd.2.2⟩⟩⟩⟩

end generic
end Tensor
open Tensor


namespace RatSpn

theorem taggedLevel_eq (ρ : Nat → List Nat → List Nat) (n reps : Nat) : ∀ k,
    taggedLevel ρ n reps k = (List.range reps).flatMap (fun t => (regionLevel (ρ t) n k).map (fun r => (t, r)))
  | 0 => by
      simp only [taggedLevel, regionLevel, List.map_cons, List.map_nil]
      conv => lhs; rw [← List.flatMap_singleton' (List.map _ _), List.flatMap_map]
  | k + 1 => by
      rw [taggedLevel, taggedLevel_eq ρ n reps k, taggedNext, List.flatMap_assoc]
      apply List.flatMap_congr
      intro t _
      simp only [regionLevel, nextRegions, List.flatMap_map, List.map_flatMap, List.map_cons, List.map_nil]

theorem taggedLevel_untag (ρ : Nat → List Nat → List Nat) (n reps k : Nat) :
    (taggedLevel ρ n reps k).map Prod.snd = (List.range reps).flatMap (fun t => regionLevel (ρ t) n k) := by
  rw [taggedLevel_eq, List.map_flatMap]
  apply List.flatMap_congr
  intro t _
  rw [List.map_map]
  exact List.map_id _

theorem mem_taggedLevel (ρ : Nat → List Nat → List Nat) (n reps k : Nat) (q : Nat × List Nat)
    (h : q ∈ taggedLevel ρ n reps k) : q.1 < reps ∧ q.2 ∈ regionLevel (ρ q.1) n k := by
  rw [taggedLevel_eq, List.mem_flatMap] at h
  obtain ⟨t, ht, hq⟩ := h
  obtain ⟨r, hr, rfl⟩ := List.mem_map.1 hq
  exact ⟨List.mem_range.1 ht, hr⟩

theorem tagged_nodup (ρ : Nat → List Nat → List Nat) (hρ : ∀ t r, (ρ t r).Perm r) (n reps k : Nat) :
    ∀ q ∈ taggedLevel ρ n reps k, q.2.Nodup :=
  fun q hq => level_region_nodup (ρ q.1) (hρ q.1) n k q.2 (mem_taggedLevel ρ n reps k q hq).2

theorem taggedNext_snd (ρ : Nat → List Nat → List Nat) (parents : List (Nat × List Nat)) :
    (taggedNext ρ parents).map Prod.snd =
      parents.flatMap (fun q => [(splitRegion (ρ q.1) q.2).1, (splitRegion (ρ q.1) q.2).2]) := by
  rw [taggedNext, List.map_flatMap]
  rfl

theorem flatMap_pair_length {γ β : Type} (f g : γ → β) (l : List γ) :
    (l.flatMap (fun q => [f q, g q])).length = 2 * l.length := by
  rw [List.length_flatMap]
  simp only [List.length_cons, List.length_nil, List.map_const', List.sum_replicate_nat, Nat.mul_comm]

theorem flatMap_pair_getD {γ β : Type} (f g : γ → β) (d : β) : ∀ (l : List γ) (j : Nat) (hj : j < l.length),
    (l.flatMap (fun q => [f q, g q])).getD (2 * j) d = f l[j] ∧
    (l.flatMap (fun q => [f q, g q])).getD (2 * j + 1) d = g l[j]
  | q :: l, 0, _ => ⟨rfl, rfl⟩
  | q :: l, j + 1, h => flatMap_pair_getD f g d l j (Nat.lt_of_succ_lt_succ h)

section tables
variable {α : Type} [CommSemiring α]

/-- a table is aligned with a list of regions: every node of group `i` is a valid circuit whose scope
is (as a duplicate-free list) the `i`-th region -/
def TInv (dom : Nat → Nat) (regs : List (List Nat)) (m : Nat) (T : Table α) : Prop :=
  T.groups = regs.length ∧ T.nodes = m ∧
  ∀ i, i < regs.length → ∀ t, NodeOK dom (regs.getD i []) (T.at_ i t)

/-- **product layer**: pairs the two halves of one parent region — decomposable because the halves are
disjoint, and the product covers the parent -/
theorem prod_step (dom : Nat → Nat) (ρ : Nat → List Nat → List Nat) (hρ : ∀ t r, (ρ t r).Perm r)
    (parents : List (Nat × List Nat)) (hnd : ∀ q ∈ parents, q.2.Nodup) (m : Nat) (T : Table α)
    (h : TInv dom ((taggedNext ρ parents).map Prod.snd) m T) :
    TInv dom (parents.map Prod.snd) (m * m) (prodTable T) := by
  obtain ⟨hg, hnodes, hall⟩ := h
  rw [taggedNext_snd, flatMap_pair_length] at hg hall
  refine ⟨?_, ?_, ?_⟩
  · simp only [prodTable, hg, List.length_map]; omega
  · simp only [prodTable, hnodes]
  · intro j hj t
    rw [List.length_map] at hj
    obtain ⟨e1, e2⟩ := flatMap_pair_getD (fun q : Nat × List Nat => (splitRegion (ρ q.1) q.2).1)
      (fun q => (splitRegion (ρ q.1) q.2).2) [] parents j hj
    have ha := hall (2 * j) (by omega) (t / T.nodes)
    have hb := hall (2 * j + 1) (by omega) (t % T.nodes)
    rw [e1] at ha
    rw [e2] at hb
    have hperm := split_perm (ρ parents[j].1) parents[j].2 (hρ _ _)
    have hdis := (List.nodup_append.1 (hperm.nodup_iff.2 (hnd _ (List.getElem_mem hj)))).2.2
    rw [getD_map_of_lt _ _ j hj [] (0, []), List.getD_eq_getElem _ _ hj]
    exact (nodeOK_prod2 ha hb (fun v h1 h2 => hdis v h1 v h2 rfl)).congr (fun v => hperm.mem_iff)

/-- **sum layer**: mixes nodes over the same region — smooth -/
theorem sum_step (dom : Nat → Nat) (regs : List (List Nat)) (m outNodes : Nat) (hm : 0 < m) (T : Table α)
    (w : Nat → Nat → List α) (hw : ∀ j o, (w j o).length = m) (h : TInv dom regs m T) :
    TInv dom regs outNodes (sumTable w outNodes T) := by
  obtain ⟨hg, hnodes, hall⟩ := h
  refine ⟨hg, rfl, fun j hj o => ?_⟩
  refine nodeOK_sum (hall j hj 0) _ _ ?_ ?_ (List.forall_mem_map.2 (fun t _ => hall j hj t))
  · rw [List.length_map, List.length_range, hnodes]; exact hm
  · rw [List.length_map, List.length_range, hnodes, hw]

theorem padMaskRow_getD (dim : Nat) (r : List Nat) (h : r.length ≤ dim) (k : Nat) (hk : k < dim) :
    (padMaskRow dim r).getD k false = decide (r.length ≤ k) := by
  rw [padMaskRow_eq dim r h, List.getD_eq_getElem?_getD]
  by_cases hkr : k < r.length
  · rw [List.getElem?_append_left (by simpa using hkr), List.getElem?_replicate, if_pos hkr,
      decide_eq_false (Nat.not_le.2 hkr)]
    rfl
  · rw [List.getElem?_append_right (by simpa using hkr), List.length_replicate, List.getElem?_replicate,
      if_pos (by omega), decide_eq_true (Nat.le_of_not_lt hkr)]
    rfl

theorem maskRow_getD_lt (dim : Nat) (r : List Nat) (k : Nat) (hk : k < r.length) :
    (maskRow dim r).getD k 0 = r.getD k 0 := by
  simp only [maskRow, List.getD_eq_getElem?_getD]
  rw [List.getElem?_append_left hk]

/-- **the columns of a padded mask row**: the positions of the region (each carrying its variable),
followed by the dummy positions -/
theorem maskRow_cols {β : Type} (dim : Nat) (r : List Nat) (h : r.length ≤ dim) (X : Nat → β) (Y : Nat → Nat → β) :
    (List.range (maskRow dim r).length).map
        (fun k => if (padMaskRow dim r).getD k false then X k else Y k ((maskRow dim r).getD k 0))
      = (List.range r.length).map (fun k => Y k (r.getD k 0)) ++ (List.range' r.length (dim - r.length)).map X := by
  have hsplit : List.range dim = List.range r.length ++ List.range' r.length (dim - r.length) := by
    conv => lhs; rw [(by omega : dim = r.length + (dim - r.length)), List.range_add]
    rw [List.range_eq_range' (n := dim - r.length), List.map_add_range', Nat.add_zero]
  rw [maskRow_length dim r h, hsplit, List.map_append]
  congr 1
  · apply List.map_congr_left
    intro k hk
    rw [List.mem_range] at hk
    rw [padMaskRow_getD dim r h k (by omega), decide_eq_false (Nat.not_le.2 hk), maskRow_getD_lt dim r k hk]
    rfl
  · apply List.map_congr_left
    intro k hk
    rw [List.mem_range'_1] at hk
    rw [padMaskRow_getD dim r h k (by omega), decide_eq_true hk.1]
    rfl

theorem baseNode_valid (dom : Nat → Nat) (lf : Nat → Nat → Nat → Ev → α) (dim : Nat) (r : List Nat)
    (h : r.length ≤ dim) (hnd : r.Nodup) (i c : Nat)
    (hleaf : ∀ k, k < r.length → LeafOK dom [r.getD k 0] (lf i c k)) :
    Circ.Valid dom (baseNode lf (maskRow dim r) (padMaskRow dim r) r i c) := by
  unfold baseNode
  rw [maskRow_cols dim r h (fun _ => (dummy : Circ α)) (fun k v => Circ.leaf [v] (lf i c k)), Circ.valid_prod_iff]
  have h1 : ((List.range r.length).map (Circ.scope ∘ fun k => Circ.leaf [r.getD k 0] (lf i c k))).flatten = r := by
    show ((List.range r.length).map (fun k => [r.getD k 0])).flatten = r
    rw [map_range_getD r 0 (fun v => [v]), ← List.flatMap_def, List.flatMap_singleton']
  have h2 : ((List.range' r.length (dim - r.length)).map (Circ.scope ∘ fun _ => (dummy : Circ α))).flatten = [] :=
    List.flatten_eq_nil_iff.2 (by intro l hl; obtain ⟨_, _, rfl⟩ := List.mem_map.1 hl; rfl)
  rw [List.map_append, List.flatten_append, List.map_map, List.map_map, h1, h2, List.append_nil]
  refine ⟨hnd, fun v => Iff.rfl, ?_⟩
  intro ch hch
  rcases List.mem_append.1 hch with hch | hch
  · obtain ⟨k, hk, rfl⟩ := List.mem_map.1 hch
    exact Circ.valid_leaf_iff.2 (hleaf k (List.mem_range.1 hk))
  · obtain ⟨k, _, rfl⟩ := List.mem_map.1 hch
    exact Circ.valid_leaf_iff.2 (constOne_ok dom)

theorem base_inv (dom : Nat → Nat) {n d reps : Nat} {regs : List (List Nat)} (R : LeafRows n d reps regs)
    (batch : Nat) (lf : Nat → Nat → Nat → Ev → α)
    (hleaf : ∀ i c k, k < (regs.getD i []).length → LeafOK dom [(regs.getD i []).getD k 0] (lf i c k)) :
    TInv dom regs batch (baseTable lf n d regs batch) := by
  refine ⟨rfl, rfl, fun i hi c => ?_⟩
  have hr := getD_mem hi []
  simp only [baseTable]
  rw [R.maskBuf_getD hi, R.padMaskBuf_getD hi]
  exact ⟨fun v => Iff.rfl, R.nodup _ hr, baseNode_valid dom lf _ _ (R.le_dim _ hr) (R.nodup _ hr) i c (hleaf i c)⟩

theorem inner_inv (dom : Nat → Nat) (ρ : Nat → List Nat → List Nat) (hρ : ∀ t r, (ρ t r).Perm r)
    (n reps rgSum : Nat) (hs : 0 < rgSum) (w : Nat → Nat → Nat → List α) :
    ∀ (k l m : Nat) (T : Table α), 0 < m →
      TInv dom ((taggedLevel ρ n reps (k + 1)).map Prod.snd) m T →
      (∀ j o, (w l j o).length = m * m) → (∀ l', l < l' → ∀ j o, (w l' j o).length = rgSum * rgSum) →
      TInv dom ((taggedLevel ρ n reps 0).map Prod.snd) (if k = 0 then m * m else rgSum * rgSum)
        (innerTables w rgSum (k + 1) l T) := by
  intro k
  induction k with
  | zero => exact fun l m T hm hT hw hw' => prod_step dom ρ hρ _ (tagged_nodup ρ hρ n reps 0) m T hT
  | succ k ih =>
    intro l m T hm hT hw hw'
    have h1 := prod_step dom ρ hρ _ (tagged_nodup ρ hρ n reps (k + 1)) m T hT
    have h2 := sum_step dom _ (m * m) rgSum (Nat.mul_pos hm hm) _ (w l) hw h1
    have h3 := ih (l + 1) rgSum _ hs h2 (hw' (l + 1) (by omega)) (fun l' hl' => hw' l' (by omega))
    rw [if_neg (Nat.succ_ne_zero k)]
    rwa [ite_self] at h3

theorem children_length (T : Table α) :
    ((List.range T.groups).flatMap (fun g => (List.range T.nodes).map (fun t => T.at_ g t))).length
      = T.groups * T.nodes :=
  flatMap_range_length _ _ (fun g => by rw [List.length_map, List.length_range]) _

theorem root_valid (dom : Nat → Nat) (n reps m : Nat) (hreps : 0 < reps) (hm : 0 < m) (T : Table α)
    (regs : List (List Nat)) (hregs : regs.length = reps) (hroot : ∀ i, i < reps → regs.getD i [] = List.range n)
    (hT : TInv dom regs m T) (wroot : List α) (hw : wroot.length = reps * m) :
    Circ.Valid dom (rootNode wroot n T) := by
  obtain ⟨hg, hnodes, hall⟩ := hT
  rw [hregs] at hg hall
  refine valid_sum_of dom _ _ _ ?_ ?_ ?_
  · rw [children_length, hg, hnodes]; exact Nat.mul_pos hreps hm
  · rw [children_length, hw, hg, hnodes]
  · intro c hc
    obtain ⟨g, hg', hc⟩ := List.mem_flatMap.1 hc
    obtain ⟨t, _, rfl⟩ := List.mem_map.1 hc
    rw [List.mem_range, hg] at hg'
    have h := hall g hg' t
    rw [hroot g hg'] at h
    exact ⟨h.1, h.2.2⟩

theorem level0_regs (ρ : Nat → List Nat → List Nat) (n reps : Nat) :
    ((taggedLevel ρ n reps 0).map Prod.snd).length = reps ∧
    ∀ i, i < reps → ((taggedLevel ρ n reps 0).map Prod.snd).getD i [] = List.range n := by
  simp only [taggedLevel, List.map_map, List.length_map, List.length_range, true_and]
  intro i hi
  rw [List.getD_eq_getElem _ _ (by simpa using hi), List.getElem_map]
  rfl

/-! ### node-wise predicates

A predicate on nodes that holds at the leaves and at the dummies and is preserved by products, by the
sums of every layer and by the root holds for the whole network (normalised weights, normalised leaves). -/

section all
variable (Q : Circ α → Prop) (hprod : ∀ s cs, (∀ c ∈ cs, Q c) → Q (.prod s cs))
include hprod

theorem prodTable_all (T : Table α) (h : ∀ i t, Q (T.at_ i t)) : ∀ i t, Q ((prodTable T).at_ i t) :=
  fun _ _ => hprod _ _ (forall_mem_pair.2 ⟨h _ _, h _ _⟩)

theorem innerTables_all (w : Nat → Nat → Nat → List α) (rgSum : Nat)
    (hsum : ∀ l j o s cs, (∀ c ∈ cs, Q c) → Q (.sum s (w l j o) cs)) :
    ∀ (k l : Nat) (T : Table α), (∀ i t, Q (T.at_ i t)) → ∀ i t, Q ((innerTables w rgSum k l T).at_ i t)
  | 0, _, _, h => h
  | 1, _, T, h => prodTable_all Q hprod T h
  | k + 2, l, T, h =>
      innerTables_all w rgSum hsum (k + 1) (l + 1) _ (fun _ _ =>
        hsum l _ _ _ _ (List.forall_mem_map.2 (fun _ _ => prodTable_all Q hprod T h _ _)))

theorem unroll_all {ρ : Nat → List Nat → List Nat} {n depth reps batch rgSum : Nat}
    {lf : Nat → Nat → Nat → Ev → α} {w : Nat → Nat → Nat → List α} {wroot : List α}
    (hsum : ∀ l j o s cs, (∀ c ∈ cs, Q c) → Q (.sum s (w l j o) cs))
    (hroot : ∀ s cs, (∀ c ∈ cs, Q c) → Q (.sum s wroot cs))
    (hdummy : Q dummy) (hleaf : ∀ i c k s, Q (.leaf s (lf i c k))) :
    Q (unroll ρ n depth reps batch rgSum lf w wroot) := by
  refine hroot _ _ (fun c hc => ?_)
  obtain ⟨g, _, hc⟩ := List.mem_flatMap.1 hc
  obtain ⟨t, _, rfl⟩ := List.mem_map.1 hc
  refine innerTables_all Q hprod w rgSum hsum depth 0 _ (fun i c => hprod _ _ (fun ch hch => ?_)) g t
  obtain ⟨k, _, rfl⟩ := List.mem_map.1 hch
  split
  · exact hdummy
  · exact hleaf i c k _

end all

/-- the value of a base node does not depend on the dummies: it is the product of the leaf values over
the real positions of the region only -/
theorem baseNode_eval (lf : Nat → Nat → Nat → Ev → α) (dim : Nat) (r : List Nat) (h : r.length ≤ dim)
    (i c : Nat) (e : Ev) :
    Circ.eval e (baseNode lf (maskRow dim r) (padMaskRow dim r) r i c)
      = lprod ((List.range r.length).map (fun k => lf i c k e)) := by
  unfold baseNode
  rw [maskRow_cols dim r h (fun _ => (dummy : Circ α)) (fun k v => Circ.leaf [v] (lf i c k))]
  simp only [Circ.eval, dummy, List.map_append, List.map_map, Function.comp_def]
  rw [lprod_append, Circ.lprod_ones ((List.range' r.length (dim - r.length)).map (fun _ => (1 : α)))
    (by intro x hx; obtain ⟨_, _, rfl⟩ := List.mem_map.1 hx; rfl), mul_one]

end tables
end RatSpn


namespace DgcSpn

theorem pix_eq (D ch x y : Nat) : pix D ch x y = D * (D * ch + x) + y := by
  unfold pix
  rw [Nat.mul_add, Nat.mul_comm D (D * ch), Nat.mul_comm D ch, Nat.mul_comm D x]

theorem pix_inj (D : Nat) {ch x y ch' x' y' : Nat} (hx : x < D) (hy : y < D) (hx' : x' < D) (hy' : y' < D)
    (h : pix D ch x y = pix D ch' x' y') : ch = ch' ∧ x = x' ∧ y = y' := by
  rw [pix_eq, pix_eq] at h
  have hD : 0 < D := by omega
  have h1 := congrArg (· % D) h
  have h2 := congrArg (· / D) h
  simp only [Nat.mul_add_mod, Nat.mod_eq_of_lt hy, Nat.mod_eq_of_lt hy'] at h1
  simp only [Nat.mul_add_div hD, Nat.div_eq_of_lt hy, Nat.div_eq_of_lt hy', Nat.add_zero] at h2
  have h3 := congrArg (· % D) h2
  have h4 := congrArg (· / D) h2
  simp only [Nat.mul_add_mod, Nat.mod_eq_of_lt hx, Nat.mod_eq_of_lt hx'] at h3
  simp only [Nat.mul_add_div hD, Nat.div_eq_of_lt hx, Nat.div_eq_of_lt hx', Nat.add_zero] at h4
  exact ⟨h4, h3, h1⟩

theorem mem_pixels {C D : Nat} {R S : List Nat} {v : Nat} :
    v ∈ pixels C D R S ↔ ∃ ch, ch < C ∧ ∃ x, x ∈ R ∧ ∃ y, y ∈ S ∧ v = pix D ch x y := by
  simp only [pixels, List.mem_flatMap, List.mem_map, List.mem_range, eq_comm]

theorem not_mem_pixels_nil_left {C D : Nat} {S : List Nat} {v : Nat} : v ∉ pixels C D [] S := by
  rw [mem_pixels]; rintro ⟨_, _, x, hx, _⟩; exact List.not_mem_nil hx

theorem not_mem_pixels_nil_right {C D : Nat} {R : List Nat} {v : Nat} : v ∉ pixels C D R [] := by
  rw [mem_pixels]; rintro ⟨_, _, x, _, y, hy, _⟩; exact List.not_mem_nil hy

theorem mem_pixels_congr {C D : Nat} {R R' S S' : List Nat} (hR : ∀ x, x ∈ R ↔ x ∈ R') (hS : ∀ y, y ∈ S ↔ y ∈ S')
    (v : Nat) : v ∈ pixels C D R S ↔ v ∈ pixels C D R' S' := by
  simp only [mem_pixels, hR, hS]

theorem mem_pixels_append {C D : Nat} {R1 R2 S1 S2 : List Nat} {v : Nat} :
    v ∈ pixels C D (R1 ++ R2) (S1 ++ S2) ↔
      v ∈ pixels C D R1 S1 ∨ v ∈ pixels C D R1 S2 ∨ v ∈ pixels C D R2 S1 ∨ v ∈ pixels C D R2 S2 := by
  -- both sides distribute the two disjunctions `x ∈ R1 ∨ x ∈ R2`, `y ∈ S1 ∨ y ∈ S2` over the quantifiers
  simp only [mem_pixels, List.mem_append, or_and_right, and_or_left, exists_or, or_assoc]
  exact or_congr_right or_left_comm

/-- 2-D decomposability: two rectangles `R1 × S1`, `R2 × S2` of in-range coordinates are disjoint as
pixel sets as soon as their row sets or their column sets are disjoint -/
theorem pixels_disjoint {C D : Nat} {R1 R2 S1 S2 : List Nat}
    (hR1 : ∀ x ∈ R1, x < D) (hR2 : ∀ x ∈ R2, x < D) (hS1 : ∀ y ∈ S1, y < D) (hS2 : ∀ y ∈ S2, y < D)
    (hdis : (∀ x, x ∈ R1 → x ∉ R2) ∨ (∀ y, y ∈ S1 → y ∉ S2)) {v : Nat}
    (h1 : v ∈ pixels C D R1 S1) : v ∉ pixels C D R2 S2 := by
  intro h2
  obtain ⟨ch, _, x, hx, y, hy, rfl⟩ := mem_pixels.1 h1
  obtain ⟨ch', _, x', hx', y', hy', he⟩ := mem_pixels.1 h2
  obtain ⟨_, rfl, rfl⟩ := pix_inj D (hR1 x hx) (hS1 y hy) (hR2 x' hx') (hS2 y' hy') he
  rcases hdis with hd | hd
  · exact hd x hx hx'
  · exact hd y hy hy'

/-- the four rectangles `Rᵢ × Sⱼ` made of two disjoint row sets and two disjoint column sets (in-range
coordinates) are pairwise disjoint -/
theorem pixels_quad (C : Nat) {D : Nat} {R0 R1 S0 S1 : List Nat}
    (hR0 : ∀ x ∈ R0, x < D) (hR1 : ∀ x ∈ R1, x < D) (hS0 : ∀ y ∈ S0, y < D) (hS1 : ∀ y ∈ S1, y < D)
    (hR : ∀ x, x ∈ R0 → x ∉ R1) (hS : ∀ y, y ∈ S0 → y ∉ S1) :
    (∀ v, v ∈ pixels C D R0 S0 → v ∉ pixels C D R0 S1) ∧
    (∀ v, v ∈ pixels C D R0 S0 → v ∉ pixels C D R1 S0) ∧
    (∀ v, v ∈ pixels C D R0 S0 → v ∉ pixels C D R1 S1) ∧
    (∀ v, v ∈ pixels C D R0 S1 → v ∉ pixels C D R1 S0) ∧
    (∀ v, v ∈ pixels C D R0 S1 → v ∉ pixels C D R1 S1) ∧
    (∀ v, v ∈ pixels C D R1 S0 → v ∉ pixels C D R1 S1) :=
  ⟨fun _ => pixels_disjoint hR0 hR0 hS0 hS1 (Or.inr hS), fun _ => pixels_disjoint hR0 hR1 hS0 hS0 (Or.inl hR),
   fun _ => pixels_disjoint hR0 hR1 hS0 hS1 (Or.inl hR), fun _ => pixels_disjoint hR0 hR1 hS1 hS0 (Or.inl hR),
   fun _ => pixels_disjoint hR0 hR1 hS1 hS1 (Or.inl hR), fun _ => pixels_disjoint hR1 hR1 hS0 hS1 (Or.inr hS)⟩

section grids
variable {α : Type} [CommSemiring α]

/-- a grid is aligned with a list of 1-D scopes: cell `(ch, r, c)` is a valid circuit whose scope is
(as a duplicate-free list) the pixel rectangle `S[r] × S[c]` over all input channels -/
def GInv (dom : Nat → Nat) (C D : Nat) (S : List (List Nat)) (G : Grid α) : Prop :=
  G.size = S.length ∧ 0 < G.ch ∧
  ∀ ch r c, r < G.size → c < G.size →
    (∀ v, v ∈ (G.at_ ch r c).scope ↔ v ∈ pixels C D (S.getD r []) (S.getD c [])) ∧
    (G.at_ ch r c).scope.Nodup ∧ Circ.Valid dom (G.at_ ch r c)

theorem grid_children_length (G : Grid α) :
    ((List.range G.ch).flatMap (fun ch => (List.range G.size).flatMap (fun r =>
      (List.range G.size).map (fun c => G.at_ ch r c)))).length = G.ch * (G.size * G.size) := by
  apply RatSpn.flatMap_range_length
  intro ch
  apply RatSpn.flatMap_range_length
  intro r
  rw [List.length_map, List.length_range]

variable (dom : Nat → Nat) (C D : Nat)

section aligned
variable (S : List (List Nat)) (G : Grid α) (hG : GInv dom C D S G)
include hG

/-- reads of the padded input: real cells keep their rectangle, padding cells are constant one -/
theorem padAt_inv
    (pl : Nat) (pr : Int) (hpr : 0 ≤ pr) (ch i j : Nat) :
    NodeOK dom (pixels C D ((padded pl pr S).getD i []) ((padded pl pr S).getD j [])) (padAt G pl ch i j) := by
  obtain ⟨hsz, _, hall⟩ := hG
  rw [padded_getD pl pr hpr, padded_getD pl pr hpr, padAt]
  by_cases hc : pl ≤ i ∧ i - pl < G.size ∧ pl ≤ j ∧ j - pl < G.size
  · rw [if_pos hc, if_pos hc.1, if_pos hc.2.2.1]
    exact hall ch (i - pl) (j - pl) hc.2.1 hc.2.2.2
  · rw [if_neg hc]
    refine ⟨fun v => ?_, List.nodup_nil, Circ.valid_leaf_iff.2 (constOne_ok dom)⟩
    simp only [one, scope_leaf, List.not_mem_nil, false_iff]
    -- one of the two 1-D cells is a padding cell or out of range, hence empty
    have hnil : ∀ k, ¬ (pl ≤ k ∧ k - pl < G.size) → (if pl ≤ k then S.getD (k - pl) [] else []) = [] := by
      intro k hk
      split
      · exact RatSpn.getD_of_le (by omega) []
      · rfl
    by_cases h1 : pl ≤ i ∧ i - pl < G.size
    · rw [hnil j (fun h2 => hc ⟨h1.1, h1.2, h2.1, h2.2⟩)]; exact not_mem_pixels_nil_right
    · rw [hnil i h1]; exact not_mem_pixels_nil_left

/-- **product layer** on grids: the four kernel taps of an output cell have pairwise disjoint pixel
rectangles (because the two 1-D taps are disjoint), so the product is decomposable and covers the
rectangle of the union -/
theorem prodGrid_inv (cfg : ProdCfg) (h : TapsOK cfg S) (hlt : ∀ j x, (x ∈ tap0 cfg S j ∨ x ∈ tap1 cfg S j) → x < D) :
    GInv dom C D (prodScopes cfg S) (prodGrid cfg G) := by
  have hsz := hG.1
  refine ⟨?_, ?_, ?_⟩
  · simp only [prodGrid, prodScopes_length, hsz]
  · simp only [prodGrid, outChannels]
    split
    · exact hG.2.1
    · exact Nat.pow_pos hG.2.1
  · intro o r c hr hc
    simp only [prodGrid] at hr hc
    rw [hsz] at hr hc
    have l0 : ∀ j x, x ∈ tap0 cfg S j → x < D := fun j x h => hlt j x (Or.inl h)
    have l1 : ∀ j x, x ∈ tap1 cfg S j → x < D := fun j x h => hlt j x (Or.inr h)
    obtain ⟨d01, d02, d03, d12, d13, d23⟩ := pixels_quad C (l0 r) (l1 r) (l0 c) (l1 c) (h.disj r) (h.disj c)
    have k := fun t i j => padAt_inv dom C D S G hG (pads cfg S.length).1 (pads cfg S.length).2 h.pad
      (tapChannel cfg G.ch o t) i j
    rw [prodScopes_getD, if_pos hr, prodScopes_getD, if_pos hc]
    simp only [prodGrid]
    rw [hsz]
    refine (nodeOK_prod4 (k 0 _ _) (k 1 _ _) (k 2 _ _) (k 3 _ _) d01 d02 d03 d12 d13 d23).congr (fun v => ?_)
    rw [mem_pixels_append]
    simp only [List.mem_append]
    rfl

/-- **sum layer** on grids: per-cell mixture over the channels — all children have the cell's rectangle -/
theorem sumGrid_inv (w : Nat → Nat → Nat → List α) (hw : ∀ o r c, (w o r c).length = G.ch) (outCh : Nat) (ho : 0 < outCh) :
    GInv dom C D S (sumGrid w outCh G) := by
  obtain ⟨hsz, hch, hall⟩ := hG
  refine ⟨hsz, ho, fun o r c hr hc => ?_⟩
  refine nodeOK_sum (hall 0 r c hr hc) _ _ ?_ ?_ (List.forall_mem_map.2 (fun ch _ => hall ch r c hr hc))
  · rw [List.length_map, List.length_range]; exact hch
  · rw [List.length_map, List.length_range, hw]

theorem dgc_root_valid (hsize : 0 < S.length) (hfull : ∀ j, j < S.length → ∀ x, x ∈ S.getD j [] ↔ x < D)
    (wroot : List α) (hw : wroot.length = G.ch * (G.size * G.size)) :
    Circ.Valid dom (rootNode wroot C D G) := by
  obtain ⟨hsz, hch, hall⟩ := hG
  refine valid_sum_of dom _ _ _ ?_ ?_ ?_
  · rw [grid_children_length, hsz]; exact Nat.mul_pos hch (Nat.mul_pos hsize hsize)
  · rw [grid_children_length, hw]
  · intro k hk
    obtain ⟨ch, _, hk⟩ := List.mem_flatMap.1 hk
    obtain ⟨r, hr, hk⟩ := List.mem_flatMap.1 hk
    obtain ⟨c, hc, rfl⟩ := List.mem_map.1 hk
    rw [List.mem_range] at hr hc
    obtain ⟨h1, _, h3⟩ := hall ch r c hr hc
    refine ⟨fun v => (h1 v).trans (mem_pixels_congr ?_ ?_ v), h3⟩
    · intro x; rw [hfull r (by omega), List.mem_range]
    · intro y; rw [hfull c (by omega), List.mem_range]

end aligned

/-- base layer: cell `(b, r, c)` is the product over the input channels of the leaves of pixel `(r, c)` -/
theorem baseGrid_inv (batch : Nat) (hb : 0 < batch)
    (lf : Nat → Nat → Nat → Nat → Ev → α)
    (hleaf : ∀ b ch r c, r < D → c < D → LeafOK dom [pix D ch r c] (lf b ch r c)) :
    GInv dom C D (baseScopes D) (baseGrid lf C D batch) := by
  have hflat : ∀ r c, ((List.range C).map (fun ch => [pix D ch r c])).flatten = pixels C D [r] [c] := by
    intro r c
    simp [pixels, List.flatMap_def]
  have hnd : ∀ r c, r < D → c < D → (pixels C D [r] [c]).Nodup := by
    intro r c hr hc
    have : pixels C D [r] [c] = (List.range C).map (fun ch => pix D ch r c) := by
      rw [← hflat, ← List.flatMap_def, ← List.flatMap_singleton' ((List.range C).map _), List.flatMap_map]
    rw [this]
    exact List.Nodup.map_on (fun a _ b _ hab => (pix_inj D hr hc hr hc hab).1) List.nodup_range
  refine ⟨by simp [baseGrid, baseScopes], hb, ?_⟩
  intro b r c hr hc
  simp only [baseGrid] at hr hc
  simp only [baseGrid, scope_prod]
  rw [baseScopes_getD, if_pos hr, baseScopes_getD, if_pos hc]
  refine ⟨fun v => Iff.rfl, hnd r c hr hc, ?_⟩
  rw [Circ.valid_prod_iff, List.map_map]
  refine ⟨(hflat r c).symm ▸ hnd r c hr hc, fun v => by rw [← hflat]; rfl, ?_⟩
  intro k hk
  obtain ⟨ch, _, rfl⟩ := List.mem_map.1 hk
  exact Circ.valid_leaf_iff.2 (hleaf b ch r c hr hc)

theorem inner_ginv (p : Nat) (dw : Nat → Bool) (batch sumCh : Nat) (hs : 0 < sumCh)
    (hp : p ≤ clog2 D) (w : Nat → Nat → Nat → Nat → List α)
    (hw : ∀ i o r c, (w i o r c).length = outChannels (cfgAt D p dw i) (if i = 0 then batch else sumCh)) :
    ∀ (len i : Nat) (G : Grid α), i + len ≤ clog2 D + 1 → GInv dom C D (stage D p dw i) G →
      G.ch = (if i = 0 then batch else sumCh) →
      GInv dom C D (stage D p dw (i + len))
        (innerGrids w sumCh ((List.range' i len).map (cfgAt D p dw)) i G) ∧
      (0 < len → (innerGrids w sumCh ((List.range' i len).map (cfgAt D p dw)) i G).ch =
        outChannels (cfgAt D p dw (i + len - 1)) (if i + len - 1 = 0 then batch else sumCh)) := by
  intro len
  induction len with
  | zero => exact fun i G _ hG _ => ⟨hG, fun h => absurd h (Nat.lt_irrefl 0)⟩
  | succ len ih =>
    intro i G hi hG hch
    have h1 := layer_ok D p dw hp i (by omega)
    have hP := prodGrid_inv dom C D _ G hG _ h1 (h1.lt (stage_lt D p dw i (by omega)))
    cases len with
    | zero =>
      refine ⟨hP, fun _ => ?_⟩
      simp only [List.range'_succ, List.range'_zero, List.map_cons, List.map_nil, innerGrids, prodGrid,
        Nat.add_sub_cancel, hch]
    | succ len =>
      have hS := sumGrid_inv dom C D _ _ hP (w i) (by
        intro o r c; rw [hw]; simp only [prodGrid, hch]) sumCh hs
      have ih := ih (i + 1) (sumGrid (w i) sumCh (prodGrid (cfgAt D p dw i) G)) (by omega) hS
        (if_neg (Nat.succ_ne_zero i)).symm
      rw [(by omega : i + 1 + (len + 1) = i + (len + 2))] at ih
      rw [List.range'_succ, List.map_cons]
      rw [List.range'_succ, List.map_cons] at ih ⊢
      exact ⟨ih.1, fun _ => ih.2 (by omega)⟩

section all
variable (Q : Circ α → Prop) (hprod : ∀ s cs, (∀ c ∈ cs, Q c) → Q (.prod s cs)) (hone : Q one)
include hprod hone

theorem prodGrid_all (cfg : ProdCfg) (G : Grid α) (h : ∀ ch r c, Q (G.at_ ch r c)) :
    ∀ ch r c, Q ((prodGrid cfg G).at_ ch r c) := by
  have hp : ∀ pl ch r c, Q (padAt G pl ch r c) := by
    intro pl ch r c
    unfold padAt
    split
    · exact h _ _ _
    · exact hone
  exact fun _ _ _ => hprod _ _ (List.forall_mem_cons.2 ⟨hp _ _ _ _, List.forall_mem_cons.2 ⟨hp _ _ _ _,
    forall_mem_pair.2 ⟨hp _ _ _ _, hp _ _ _ _⟩⟩⟩)

theorem innerGrids_all (w : Nat → Nat → Nat → Nat → List α) (sumCh : Nat)
    (hsum : ∀ i o r c s cs, (∀ k ∈ cs, Q k) → Q (.sum s (w i o r c) cs)) :
    ∀ (cfgs : List ProdCfg) (l : Nat) (G : Grid α), (∀ ch r c, Q (G.at_ ch r c)) →
      ∀ ch r c, Q ((innerGrids w sumCh cfgs l G).at_ ch r c)
  | [], _, _, h => h
  | [cfg], _, G, h => prodGrid_all Q hprod hone cfg G h
  | cfg :: cfg' :: rest, l, G, h =>
      innerGrids_all w sumCh hsum (cfg' :: rest) (l + 1) _ (fun _ _ _ =>
        hsum l _ _ _ _ _ (List.forall_mem_map.2 (fun _ _ => prodGrid_all Q hprod hone cfg G h _ _ _)))

theorem unroll_all {C D p batch sumCh : Nat} {dw : Nat → Bool} {lf : Nat → Nat → Nat → Nat → Ev → α}
    {w : Nat → Nat → Nat → Nat → List α} {wroot : List α}
    (hsum : ∀ i o r c s cs, (∀ k ∈ cs, Q k) → Q (.sum s (w i o r c) cs))
    (hroot : ∀ s cs, (∀ k ∈ cs, Q k) → Q (.sum s wroot cs))
    (hleaf : ∀ b ch r c s, Q (.leaf s (lf b ch r c))) :
    Q (unroll C D p batch sumCh dw lf w wroot) := by
  refine hroot _ _ (fun k hk => ?_)
  obtain ⟨ch, _, hk⟩ := List.mem_flatMap.1 hk
  obtain ⟨r, _, hk⟩ := List.mem_flatMap.1 hk
  obtain ⟨c, _, rfl⟩ := List.mem_map.1 hk
  refine innerGrids_all Q hprod hone w sumCh hsum _ 0 _ (fun b r c => hprod _ _ (fun k hk => ?_)) ch r c
  obtain ⟨ch, _, rfl⟩ := List.mem_map.1 hk
  exact hleaf b ch r c _

end all

end grids
end DgcSpn

end Deeprob
