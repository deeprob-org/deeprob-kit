import DeeprobModel.Model.Sum
import Mathlib.Algebra.Order.Ring.Defs
import Mathlib.Algebra.Order.Ring.Unbundled.Basic
import Mathlib.Algebra.Order.Field.Basic
import Mathlib.Order.Lattice
/-
The max-times (Viterbi) carrier: non-negative elements of a linearly ordered commutative semiring with
`+ := max`, `* := *`.  It is a commutative semiring, so every theorem proved for an arbitrary
`CommSemiring` (marginalisation of circuits, message passing on Chow-Liu trees) holds at it:
"sum over completions" becomes "max over completions".
-/
namespace Deeprob

structure MaxTimes (α : Type) [CommSemiring α] [LinearOrder α] [IsStrictOrderedRing α] where
  val : α
  nonneg : 0 ≤ val

namespace MaxTimes
variable {α : Type} [CommSemiring α] [LinearOrder α] [IsStrictOrderedRing α]

@[ext] theorem ext {a b : MaxTimes α} (h : a.val = b.val) : a = b := by
  cases a; cases b; simp only at h; subst h; rfl

instance : Zero (MaxTimes α) := ⟨⟨0, le_refl 0⟩⟩
instance : One (MaxTimes α) := ⟨⟨1, zero_le_one⟩⟩
instance : Add (MaxTimes α) := ⟨fun a b => ⟨max a.val b.val, le_max_of_le_left a.nonneg⟩⟩
instance : Mul (MaxTimes α) := ⟨fun a b => ⟨a.val * b.val, mul_nonneg a.nonneg b.nonneg⟩⟩

@[simp] theorem val_zero : (0 : MaxTimes α).val = 0 := rfl
@[simp] theorem val_one : (1 : MaxTimes α).val = 1 := rfl
@[simp] theorem val_add (a b : MaxTimes α) : (a + b).val = max a.val b.val := rfl
@[simp] theorem val_mul (a b : MaxTimes α) : (a * b).val = a.val * b.val := rfl

instance : CommSemiring (MaxTimes α) where
  add_assoc a b c := ext (max_assoc _ _ _)
  zero_add a := ext (max_eq_right a.nonneg)
  add_zero a := ext (max_eq_left a.nonneg)
  add_comm a b := ext (max_comm _ _)
  mul_assoc a b c := ext (mul_assoc _ _ _)
  one_mul a := ext (one_mul _)
  mul_one a := ext (mul_one _)
  zero_mul a := ext (zero_mul _)
  mul_zero a := ext (mul_zero _)
  mul_comm a b := ext (mul_comm _ _)
  left_distrib a b c := ext (mul_max_of_nonneg _ _ a.nonneg)
  right_distrib a b c := ext (max_mul_of_nonneg _ _ c.nonneg)
  nsmul := nsmulRec

/-- total embedding (negative values are clipped; the identity on non-negative values) -/
def ofVal (a : α) : MaxTimes α := ⟨max a 0, le_max_right a 0⟩

theorem val_ofVal {a : α} (h : 0 ≤ a) : (ofVal a).val = a := max_eq_left h

@[simp] theorem ofVal_zero : ofVal (0 : α) = 0 := ext (by simp [ofVal])

end MaxTimes
end Deeprob
