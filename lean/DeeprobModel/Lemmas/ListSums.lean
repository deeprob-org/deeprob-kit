import DeeprobModel.Model.Moments
import DeeprobModel.Lemmas.SumLemmas
import Mathlib.Algebra.Field.Defs
/-
More algebra of `tsum`, `wsum`, `lprod` over mapped lists: constants pulled out of sums, `wsum` against a mapped list
is linear in the mapped function, one factor taken out of a product.
-/
namespace Deeprob
variable {α : Type}

section semiring
variable [Semiring α]

theorem tsum_map_mul_const {β : Type} (l : List β) (f : β → α) (r : α) :
    tsum (l.map fun b => f b * r) = tsum (l.map f) * r := by
  rw [tsum_eq_sum, tsum_eq_sum, List.sum_map_mul_right]

theorem tsum_map_div_const {K β : Type} [DivisionRing K] (l : List β) (f : β → K) (d : K) :
    tsum (l.map fun b => f b / d) = tsum (l.map f) / d := by
  simp only [div_eq_mul_inv, tsum_map_mul_const]

theorem tsum_zipWith_mul (ws xs : List α) : tsum (List.zipWith (fun a b => a * b) ws xs) = wsum ws xs := by
  rw [tsum_eq_sum, wsum_eq_sum]

theorem wsum_map_add_mul {β : Type} (ws : List α) (l : List β) (f g : β → α) (k : α) :
    wsum ws (l.map fun b => f b + g b * k) = wsum ws (l.map f) + wsum ws (l.map g) * k := by
  induction ws generalizing l with
  | nil => simp only [wsum, zero_mul, add_zero]
  | cons w ws ih =>
    cases l with
    | nil => simp only [List.map_nil, wsum, zero_mul, add_zero]
    | cons b l =>
      simp only [List.map_cons, wsum, ih, mul_add, add_mul, mul_assoc]
      exact add_add_add_comm _ _ _ _

theorem wsum_map_add {β : Type} (ws : List α) (l : List β) (f g : β → α) :
    wsum ws (l.map fun b => f b + g b) = wsum ws (l.map f) + wsum ws (l.map g) := by
  simpa only [mul_one] using wsum_map_add_mul ws l f g 1

theorem wsum_map_zero {β : Type} (ws : List α) (l : List β) : wsum ws (l.map fun _ => (0 : α)) = 0 := by
  induction ws generalizing l with
  | nil => rfl
  | cons w ws ih =>
    cases l with
    | nil => rfl
    | cons b l => simp only [List.map_cons, wsum, ih, mul_zero, add_zero]

theorem wsum_map_mul_const {β : Type} (ws : List α) (l : List β) (g : β → α) (k : α) :
    wsum ws (l.map fun b => g b * k) = wsum ws (l.map g) * k := by
  simpa only [wsum_map_zero, zero_add] using wsum_map_add_mul ws l (fun _ => 0) g k

theorem natC_eq_cast (n : Nat) : (natC n : α) = (n : α) := by
  induction n with
  | zero => simp [natC]
  | succ n ih => simp [natC, ih]

end semiring

theorem lprod_map_eraseIdx [CommSemiring α] {β : Type} (v : β → α) {l : List β} {j : Nat} {c : β}
    (h : l[j]? = some c) : lprod (l.map v) = v c * lprod ((l.eraseIdx j).map v) := by
  obtain ⟨hj, rfl⟩ := List.getElem?_eq_some_iff.1 h
  rw [lprod_eq_prod, lprod_eq_prod, ← List.eraseIdx_map,
    ← List.CommMonoid.mul_prod_eraseIdx (l := l.map v) (i := j) (by simpa using hj), List.getElem_map]

theorem forall_zipWith {β γ δ : Type} {f : β → γ → δ} {P : δ → Prop} {as : List β} {bs : List γ}
    (h : ∀ a ∈ as, ∀ b ∈ bs, P (f a b)) : ∀ x ∈ List.zipWith f as bs, P x := by
  intro x hx
  obtain ⟨i, hi, rfl⟩ := List.mem_iff_getElem.1 hx
  rw [List.getElem_zipWith]
  exact h _ (List.getElem_mem _) _ (List.getElem_mem _)

end Deeprob
