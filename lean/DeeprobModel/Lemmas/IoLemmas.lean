import DeeprobModel.Model.Io
import Mathlib.Data.List.Basic
import Mathlib.Data.List.Perm.Basic
import Mathlib.Data.List.Nodup
import Mathlib.Data.List.Range
set_option linter.unusedSimpArgs false
set_option linter.unusedVariables false
/-
`decode ∘ encode` on node-link documents: placement of children by `idx` is order-independent, a simple
digraph keeps every edge when no (child, parent) pair repeats.
-/
namespace Deeprob

theorem place_length (l : List (Option Nat)) (i c : Nat) : (place l i c).length = max l.length (i+1) := by
  unfold place; simp only [List.length_set, List.length_append, List.length_replicate]; omega

theorem place_getD (l : List (Option Nat)) (i c j : Nat) :
    (place l i c).getD j none = if j = i then some c else l.getD j none := by
  unfold place
  rw [List.getD_eq_getElem?_getD, List.getElem?_set]
  by_cases h : i = j
  · subst h
    have : i < (l ++ List.replicate (i + 1 - l.length) none).length := by
      simp only [List.length_append, List.length_replicate]; omega
    rw [if_pos rfl, if_pos this, if_pos rfl]; rfl
  · rw [if_neg h, if_neg (fun hc => h hc.symm), List.getElem?_append, List.getD_eq_getElem?_getD]
    by_cases hj : j < l.length
    · rw [if_pos hj]
    · rw [if_neg hj, List.getElem?_replicate]
      have : l[j]? = none := List.getElem?_eq_none (by omega)
      rw [this]; split <;> rfl

theorem ext_getD_none {l₁ l₂ : List (Option Nat)} (hl : l₁.length = l₂.length)
    (h : ∀ k, l₁.getD k none = l₂.getD k none) : l₁ = l₂ := by
  apply List.ext_getElem hl
  intro k h1 h2
  rw [List.getElem_eq_getD none, List.getElem_eq_getD none]
  exact h k

theorem place_comm (l : List (Option Nat)) {i j : Nat} (h : i ≠ j) (c d : Nat) :
    place (place l i c) j d = place (place l j d) i c := by
  apply ext_getD_none
  · simp only [place_length]; omega
  · intro k
    rw [place_getD, place_getD, place_getD, place_getD]
    by_cases hj : k = j
    · subst hj; rw [if_pos rfl, if_neg (Ne.symm h), if_pos rfl]
    · rw [if_neg hj, if_neg hj]

theorem place_length_self (l : List (Option Nat)) (c : Nat) : place l l.length c = l ++ [some c] := by
  unfold place
  rw [Nat.add_sub_cancel_left, List.replicate_one, List.set_append_right _ _ le_rfl, Nat.sub_self, List.set_cons_zero]

/-- fill one children list from the links into one parent -/
def placeAll (l : List (Option Nat)) (es : List Edge) : List (Option Nat) :=
  es.foldl (fun l e => place l e.idx e.child) l

theorem mem_nodeEdges (n : MNode) (e : Edge) :
    e ∈ nodeEdges n ↔ e.parent = n.id ∧ n.ch[e.idx]? = some e.child := by
  unfold nodeEdges
  simp only [List.mem_map, List.mem_zipIdx_iff_getElem?]
  constructor
  · rintro ⟨⟨c, i⟩, h, rfl⟩; exact ⟨rfl, h⟩
  · rintro ⟨h1, h2⟩; exact ⟨(e.child, e.idx), h2, by cases e; simp_all⟩

/-- in the writer's order every placement appends: the links of a node rebuild its children list -/
theorem placeAll_zipIdx (p : Nat) (ch : List Nat) :
    placeAll [] (ch.zipIdx.map (fun ci => ({ child := ci.1, parent := p, idx := ci.2 } : Edge))) = ch.map some := by
  induction ch using List.reverseRecOn with
  | nil => rfl
  | append_singleton ch c ih =>
    unfold placeAll at ih ⊢
    rw [List.zipIdx_append, List.map_append, List.foldl_append, ih, List.zipIdx_singleton, List.map_singleton,
      List.foldl_cons, List.foldl_nil, List.map_append, List.map_singleton, Nat.zero_add]
    have := place_length_self (ch.map some) c
    rwa [List.length_map] at this

/-- **placement is order-independent**: the links into one node, in any order, rebuild its children list -/
theorem placeAll_perm (n : MNode) (es : List Edge) (hp : es.Perm (nodeEdges n)) :
    placeAll [] es = n.ch.map some := by
  rw [← placeAll_zipIdx n.id n.ch]
  apply hp.foldl_eq'
  -- two links into `n` either are the same link or fill different slots
  intro x hx y hy z
  by_cases hxy : x.idx = y.idx
  · obtain ⟨px, cx⟩ := (mem_nodeEdges n x).1 (hp.mem_iff.1 hx)
    obtain ⟨py, cy⟩ := (mem_nodeEdges n y).1 (hp.mem_iff.1 hy)
    rw [hxy, cy] at cx
    rw [hxy, Option.some.inj cx]
  · exact place_comm z hxy _ _

theorem allSome_map_some (l : List Nat) : allSome (l.map some) = some l := by
  induction l with
  | nil => rfl
  | cons x xs ih => simp [allSome, ih]

/-- two links between different (child, parent) pairs -/
def DiffPair (a b : Edge) : Prop := ¬ (a.child = b.child ∧ a.parent = b.parent)

theorem foldl_addEdge (es acc : List Edge) (h : (acc ++ es).Pairwise DiffPair) :
    es.foldl addEdge acc = acc ++ es := by
  induction es generalizing acc with
  | nil => simp
  | cons e es ih =>
    simp only [List.foldl_cons]
    have hnot : acc.any (fun x => x.child == e.child && x.parent == e.parent) = false := by
      rw [List.any_eq_false]; intro x hx hc
      rw [List.pairwise_append] at h
      have := h.2.2 x hx e List.mem_cons_self
      apply this
      simpa using hc
    have : addEdge acc e = acc ++ [e] := by unfold addEdge; rw [hnot]; simp
    rw [this, ih (acc ++ [e]) (by simpa using h)]
    simp

/-- ids are distinct and no node lists a child twice -/
structure NoRepeat (m : Model) : Prop where
  ids : (m.map (·.id)).Nodup
  children : ∀ n ∈ m, n.ch.Nodup

theorem insertedEdges_pairwise (m : Model) (h : NoRepeat m) : (insertedEdges m).Pairwise DiffPair := by
  unfold insertedEdges
  rw [List.pairwise_flatMap]
  constructor
  · intro n hn
    unfold nodeEdges
    rw [List.pairwise_map]
    have hnd := h.children n hn
    have : n.ch.zipIdx.Pairwise (fun a b => a.1 ≠ b.1) := by
      have h1 : (n.ch.zipIdx.map Prod.fst).Nodup := by rw [List.zipIdx_map_fst]; exact hnd
      rw [List.Nodup, List.pairwise_map] at h1; exact h1
    exact this.imp (fun hab hc => hab hc.1)
  · have hids := h.ids
    rw [List.Nodup, List.pairwise_map] at hids
    refine hids.imp ?_
    intro a b hab x hx y hy hc
    rw [mem_nodeEdges] at hx hy
    exact hab (by rw [← hx.1, ← hy.1]; exact hc.2)

theorem encode_edges (m : Model) (h : NoRepeat m) : (encode m).edges = insertedEdges m := by
  unfold encode
  simp only
  rw [foldl_addEdge _ [] (by simpa using insertedEdges_pairwise m h)]; simp

/-- the links of one node all point to it -/
theorem nodeEdges_filter (x : MNode) (p : Nat) :
    (nodeEdges x).filter (fun e => e.parent == p) = if x.id = p then nodeEdges x else [] := by
  split_ifs with h
  · rw [List.filter_eq_self]; intro e he; rw [((mem_nodeEdges x e).1 he).1, h]; exact beq_self_eq_true p
  · rw [List.filter_eq_nil_iff]; intro e he hc
    exact h (by rw [← ((mem_nodeEdges x e).1 he).1]; exact beq_iff_eq.1 hc)

theorem filter_insertedEdges (m : Model) (hids : (m.map (·.id)).Nodup) (n : MNode) (hn : n ∈ m) :
    (insertedEdges m).filter (fun e => e.parent == n.id) = nodeEdges n := by
  unfold insertedEdges
  induction m with
  | nil => cases hn
  | cons a m ih =>
    rw [List.map_cons, List.nodup_cons] at hids
    rw [List.flatMap_cons, List.filter_append, nodeEdges_filter]
    rcases List.mem_cons.1 hn with rfl | hn'
    · -- no later node has the same id
      rw [if_pos rfl, List.filter_flatMap, List.flatMap_eq_nil_iff.2, List.append_nil]
      intro x hx
      rw [nodeEdges_filter, if_neg]
      exact fun hc => hids.1 (List.mem_map.2 ⟨x, hx, hc⟩)
    · rw [if_neg (fun hc => hids.1 (List.mem_map.2 ⟨n, hn', hc.symm⟩)), List.nil_append]
      exact ih hids.2 hn'

theorem mapM_map_some {α β γ : Type} (l : List α) (e : α → β) (F : β → Option γ) (g : α → γ)
    (h : ∀ x ∈ l, F (e x) = some (g x)) : (l.map e).mapM F = some (l.map g) := by
  induction l with
  | nil => rfl
  | cons x xs ih =>
    rw [List.map_cons, List.mapM_cons, h x List.mem_cons_self, ih (fun y hy => h y (List.mem_cons_of_mem _ hy))]
    rfl

theorem NoRepeat.map {m : Model} (h : NoRepeat m) (f : MNode → MNode) (hid : ∀ n, (f n).id = n.id)
    (hch : ∀ n, (f n).ch = n.ch) : NoRepeat (m.map f) := by
  refine ⟨?_, ?_⟩
  · have : (m.map f).map (·.id) = m.map (·.id) := by
      rw [List.map_map]; exact List.map_congr_left fun n _ => hid n
    rw [this]; exact h.ids
  · intro n hn
    obtain ⟨n0, hn0, rfl⟩ := List.mem_map.1 hn
    rw [hch]; exact h.children n0 hn0

/-- the round trip on any re-ordering of the links -/
theorem decode_perm_encode (m : Model) (h : NoRepeat m) (es : List Edge) (hp : es.Perm (encode m).edges) :
    decode { nodes := (encode m).nodes, edges := es } = some (m.map roundNode) := by
  rw [encode_edges m h] at hp
  apply mapM_map_some
  intro n hn
  -- the links into `n` are a re-ordering of the ones the writer made for it
  have hch : childrenOf es n.id = n.ch.map some := by
    have hp' := hp.filter (fun e => e.parent == n.id)
    rw [filter_insertedEdges m h.ids n hn] at hp'
    exact placeAll_perm n _ hp'
  show (allSome (childrenOf es n.id)).map _ = some (roundNode n)
  rw [hch, allSome_map_some]
  rfl

end Deeprob
