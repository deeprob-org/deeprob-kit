import DeeprobModel.Model.CltIo
import Mathlib.Logic.Relation
import Mathlib.Data.List.Nodup
import Mathlib.Data.List.Perm.Subperm
set_option linter.unusedSimpArgs false
set_option linter.unusedVariables false
/-
What the Boolean `isArborescence` of `Model/CltIo.lean` means.  The decision procedure searches the weakly connected
component of the first node with `2·len(G)` rounds of neighbourhood expansion.  Soundness: what it finds is joined to
the first node by edges.  Completeness: on a graph whose node ids are distinct and whose edges end in nodes
(`GraphOK`) the bound is enough, because a round that adds nothing is a fixed point and every other round adds a node.
-/
namespace Deeprob.GraphIo
open Deeprob

/-- what every NetworkX graph satisfies: distinct node ids, every edge ends in a node -/
structure GraphOK (g : DiGraph) : Prop where
  nodup : (nodeIds g).Nodup
  closed : ∀ e ∈ edgesOf g, e.1 ∈ nodeIds g ∧ e.2 ∈ nodeIds g

/-- undirected adjacency in the edge list -/
def Adj (g : DiGraph) (u v : Nat) : Prop := (u, v) ∈ edgesOf g ∨ (v, u) ∈ edgesOf g

/-- **the property `networkx.is_arborescence` decides**: the graph is not empty, has `n - 1` edges, its underlying
undirected graph is connected (every node is joined to the first one by a path of edges, direction ignored), and
no node has two incoming edges -/
structure IsArborescence (g : DiGraph) : Prop where
  nonempty : g ≠ []
  edges : (edgesOf g).length + 1 = g.length
  connected : ∀ x rest, g = x :: rest → ∀ v ∈ nodeIds g, Relation.ReflTransGen (Adj g) x.id v
  indeg : ∀ v ∈ nodeIds g, inDegree g v ≤ 1

theorem reach_symm {g : DiGraph} {a b : Nat} (h : Relation.ReflTransGen (Adj g) a b) :
    Relation.ReflTransGen (Adj g) b a := by
  induction h with
  | refl => exact .refl
  | tail _ hbc ih => exact .head hbc.symm ih

theorem find_of_nodup : ∀ (g : DiGraph), (nodeIds g).Nodup → ∀ x ∈ g, g.find? (fun y => y.id == x.id) = some x
  | [], _, x, hx => absurd hx List.not_mem_nil
  | y :: g, hnd, x, hx => by
    obtain ⟨hy, hnd'⟩ := List.nodup_cons.1 hnd
    rcases List.mem_cons.1 hx with rfl | hx'
    · exact List.find?_cons_of_pos (beq_self_eq_true _)
    · have hne : y.id ≠ x.id := fun h => hy (List.mem_map.2 ⟨x, hx', h.symm⟩)
      rw [List.find?_cons_of_neg (by simpa using hne)]
      exact find_of_nodup g hnd' x hx'

theorem mem_succOf_edge {g : DiGraph} {u v : Nat} (h : v ∈ succOf g u) : (u, v) ∈ edgesOf g := by
  unfold succOf at h
  cases hf : g.find? (fun x => x.id == u) with
  | none => rw [hf] at h; exact absurd h List.not_mem_nil
  | some x =>
    rw [hf] at h
    have hid : x.id = u := by simpa using List.find?_some hf
    exact List.mem_flatMap.2 ⟨x, List.mem_of_find?_eq_some hf, List.mem_map.2 ⟨v, h, by rw [hid]⟩⟩

theorem succOf_of_edge {g : DiGraph} (hok : GraphOK g) {u v : Nat} (h : (u, v) ∈ edgesOf g) : v ∈ succOf g u := by
  obtain ⟨x, hx, hm⟩ := List.mem_flatMap.1 h
  obtain ⟨w, hw, he⟩ := List.mem_map.1 hm
  cases he
  unfold succOf
  rw [find_of_nodup g hok.nodup x hx]
  exact hw

theorem subset_expand (g : DiGraph) (S : List Nat) : ∀ x ∈ S, x ∈ expand g S :=
  fun x hx => List.mem_append_left _ hx

theorem mem_expand {g : DiGraph} {S : List Nat} {u v : Nat} (hu : u ∈ S) (hv : v ∈ nodeIds g)
    (hadj : v ∈ succOf g u ∨ u ∈ succOf g v) : v ∈ expand g S := by
  by_cases hvS : v ∈ S
  · exact subset_expand g S v hvS
  · apply List.mem_append_right
    rw [List.mem_filter, Bool.and_eq_true, List.any_eq_true]
    exact ⟨hv, by simpa using hvS, u, hu, by simpa using hadj⟩

theorem expand_eq_or_lt (g : DiGraph) (S : List Nat) : expand g S = S ∨ S.length < (expand g S).length := by
  unfold expand
  cases (nodeIds g).filter (fun v => !S.contains v &&
      S.any (fun u => (succOf g u).contains v || (succOf g v).contains u)) with
  | nil => left; exact List.append_nil S
  | cons a l => right; simp

theorem expand_nodup (g : DiGraph) (S : List Nat) (hn : (nodeIds g).Nodup) (hS : S.Nodup) : (expand g S).Nodup := by
  unfold expand
  rw [List.nodup_append]
  refine ⟨hS, hn.filter _, ?_⟩
  rintro a ha b hb rfl
  have := (List.mem_filter.1 hb).2
  simp only [Bool.and_eq_true, Bool.not_eq_true', List.contains_eq_mem, decide_eq_false_iff_not] at this
  exact this.1 ha

theorem expand_subset (g : DiGraph) (S : List Nat) (hS : ∀ v ∈ S, v ∈ nodeIds g) : ∀ v ∈ expand g S, v ∈ nodeIds g := by
  intro v hv
  rcases List.mem_append.1 hv with h | h
  · exact hS v h
  · exact (List.mem_filter.1 h).1

theorem rounds_mono (g : DiGraph) (k : Nat) (S : List Nat) : ∀ x ∈ S, x ∈ rounds g k S := by
  induction k generalizing S with
  | zero => exact fun x hx => hx
  | succ k ih => exact fun x hx => ih _ x (subset_expand g S x hx)

theorem rounds_add (g : DiGraph) (a b : Nat) (S : List Nat) : rounds g (a + b) S = rounds g b (rounds g a S) := by
  induction a generalizing S with
  | zero => rw [Nat.zero_add]; rfl
  | succ a ih =>
    rw [show a + 1 + b = (a + b) + 1 from by omega]
    exact ih _

theorem rounds_succ' (g : DiGraph) (k : Nat) (S : List Nat) : rounds g (k + 1) S = expand g (rounds g k S) :=
  rounds_add g k 1 S

theorem rounds_inv (g : DiGraph) (hn : (nodeIds g).Nodup) (k : Nat) (S : List Nat) (h1 : S.Nodup)
    (h2 : ∀ v ∈ S, v ∈ nodeIds g) : (rounds g k S).Nodup ∧ ∀ v ∈ rounds g k S, v ∈ nodeIds g := by
  induction k generalizing S with
  | zero => exact ⟨h1, h2⟩
  | succ k ih => exact ih _ (expand_nodup g S hn h1) (expand_subset g S h2)

theorem rounds_fixed (g : DiGraph) (S : List Nat) (h : expand g S = S) (k : Nat) : rounds g k S = S := by
  induction k with
  | zero => rfl
  | succ k ih => rw [rounds, h]; exact ih

theorem rounds_progress (g : DiGraph) (S : List Nat) (k : Nat) :
    (∃ j ≤ k, expand g (rounds g j S) = rounds g j S) ∨ S.length + k ≤ (rounds g k S).length := by
  induction k with
  | zero => exact Or.inr (Nat.le_refl _)
  | succ k ih =>
    rcases ih with ⟨j, hj, hfix⟩ | hlen
    · exact Or.inl ⟨j, by omega, hfix⟩
    · rcases expand_eq_or_lt g (rounds g k S) with heq | hlt
      · exact Or.inl ⟨k, by omega, heq⟩
      · right
        rw [rounds_succ']
        omega

/-- the search from a node has stabilised after `2·len(G)` rounds -/
theorem rounds_stable {g : DiGraph} (hok : GraphOK g) {a : Nat} (ha : a ∈ nodeIds g) :
    expand g (rounds g (2 * g.length) [a]) = rounds g (2 * g.length) [a] := by
  rcases rounds_progress g [a] g.length with ⟨j, hj, hfix⟩ | hlen
  · rw [show 2 * g.length = j + (2 * g.length - j) by omega, rounds_add, rounds_fixed g _ hfix]
    exact hfix
  · -- impossible: the search would hold more distinct node ids than there are nodes
    exfalso
    obtain ⟨h1, h2⟩ := rounds_inv g hok.nodup g.length [a] (List.nodup_singleton _)
      (fun v hv => by rw [List.mem_singleton.1 hv]; exact ha)
    have := h1.length_le_of_subset h2
    rw [nodeIds, List.length_map] at this
    rw [List.length_singleton] at hlen
    omega

theorem closed_reach {g : DiGraph} (hok : GraphOK g) (S : List Nat) (hfix : expand g S = S) (a : Nat) (ha : a ∈ S) :
    ∀ v, Relation.ReflTransGen (Adj g) a v → v ∈ S := by
  intro v hv
  induction hv with
  | refl => exact ha
  | tail _ hadj ih =>
    rw [← hfix]
    rcases hadj with h | h
    · exact mem_expand ih (hok.closed _ h).2 (Or.inl (succOf_of_edge hok h))
    · exact mem_expand ih (hok.closed _ h).1 (Or.inr (succOf_of_edge hok h))

theorem reach_rounds (g : DiGraph) (a : Nat) (k : Nat) (S : List Nat)
    (hS : ∀ s ∈ S, Relation.ReflTransGen (Adj g) a s) : ∀ v ∈ rounds g k S, Relation.ReflTransGen (Adj g) a v := by
  induction k generalizing S with
  | zero => exact hS
  | succ k ih =>
    apply ih (expand g S)
    intro s hs
    rcases List.mem_append.1 hs with hs | hs
    · exact hS s hs
    · rw [List.mem_filter, Bool.and_eq_true, List.any_eq_true] at hs
      obtain ⟨_, _, u, hu, hadj⟩ := hs
      refine (hS u hu).tail ?_
      simp only [Bool.or_eq_true, List.contains_iff_mem, decide_eq_true_eq] at hadj
      exact hadj.imp mem_succOf_edge mem_succOf_edge

theorem isArborescence_sound {g : DiGraph} (h : isArborescence g = true) : IsArborescence g := by
  unfold isArborescence at h
  simp only [Bool.and_eq_true, Bool.not_eq_true', beq_iff_eq, List.all_eq_true, decide_eq_true_eq] at h
  obtain ⟨⟨⟨h1, h2⟩, h3⟩, h4⟩ := h
  refine ⟨fun hh => (by rw [hh] at h1; cases h1), h2, ?_, h4⟩
  intro x rest hg v hv
  have := List.all_eq_true.1 h3 v hv
  simp only [List.contains_iff_mem, decide_eq_true_eq] at this
  subst hg
  exact reach_rounds _ x.id _ [x.id] (fun s hs => by rw [List.mem_singleton.1 hs]) v this

theorem IsArborescence.isArborescence {g : DiGraph} (h : IsArborescence g) (hok : GraphOK g) :
    isArborescence g = true := by
  unfold GraphIo.isArborescence
  simp only [Bool.and_eq_true, Bool.not_eq_true', beq_iff_eq, List.all_eq_true, decide_eq_true_eq]
  obtain ⟨x, rest, rfl⟩ := List.exists_cons_of_ne_nil h.nonempty
  refine ⟨⟨⟨rfl, h.edges⟩, ?_⟩, h.indeg⟩
  unfold weaklyConnected
  rw [List.all_eq_true]
  intro v hv
  simp only [List.contains_iff_mem, decide_eq_true_eq]
  -- the component of the first node is `2·len(G)` rounds from `[x.id]`
  exact closed_reach hok _ (rounds_stable hok List.mem_cons_self) x.id
    (rounds_mono _ _ _ _ List.mem_cons_self) v (h.connected x rest rfl v hv)

end Deeprob.GraphIo
