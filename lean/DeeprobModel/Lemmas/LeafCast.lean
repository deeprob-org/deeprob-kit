import DeeprobModel.Lemmas.LeafCdf
import Mathlib.Data.Rat.Cast.Order
import Mathlib.Data.Real.Basic
import Mathlib.Tactic.NormNum
set_option linter.unusedVariables false
/-
The rational model (what the driver computes at `ℚ`) and the real functions (what the integrals are about) agree
under the cast `ℚ → ℝ`: every function of `Model/LeafQ.lean` used by the property theorems commutes with it.
-/
namespace Deeprob.LeafTheory

def castL : List ℚ → List ℝ
  | [] => []
  | q :: l => (q : ℝ) :: castL l

@[simp] theorem castL_nil : castL [] = [] := rfl
@[simp] theorem castL_cons (q : ℚ) (l : List ℚ) : castL (q :: l) = (q : ℝ) :: castL l := rfl

theorem castL_eq_map : ∀ l : List ℚ, castL l = l.map (↑)
  | [] => rfl
  | q :: l => congrArg (_ :: ·) (castL_eq_map l)

theorem castL_length : ∀ l : List ℚ, (castL l).length = l.length
  | [] => rfl
  | _ :: l => congrArg (· + 1) (castL_length l)

theorem incr_cast : ∀ b : List ℚ, Incr b → Incr (castL b)
  | [], _ => trivial
  | [_], _ => trivial
  | _ :: hi :: bs, h => ⟨Rat.cast_lt.2 h.1, incr_cast (hi :: bs) h.2⟩

theorem nonNeg_cast (hs : List ℚ) (h : NonNeg hs) : NonNeg (castL hs) := by
  intro x hx
  obtain ⟨q, hq, rfl⟩ := List.mem_map.1 (castL_eq_map hs ▸ hx)
  exact Rat.cast_nonneg.2 (h q hq)

theorem allPos_cast (hs : List ℚ) (h : AllPos hs) : AllPos (castL hs) := by
  intro x hx
  obtain ⟨q, hq, rfl⟩ := List.mem_map.1 (castL_eq_map hs ▸ hx)
  exact Rat.cast_pos.2 (h q hq)

theorem cast_ite_lt (x y a b : ℚ) : ((if x < y then a else b : ℚ) : ℝ) = if (x : ℝ) < y then (a : ℝ) else b := by
  simp only [apply_ite ((↑) : ℚ → ℝ), Rat.cast_lt]

theorem histZ_cast : ∀ (hs b : List ℚ), ((histZ hs b : ℚ) : ℝ) = histZ (castL hs) (castL b)
  | [], _ | _ :: _, [] | _ :: _, [_] => Rat.cast_zero
  | h :: hs, lo :: hi :: bs => by
      simp only [histZ, castL_cons]
      rw [← castL_cons, ← histZ_cast hs (hi :: bs)]
      push_cast; rfl

theorem histZ_cast_ne {hs b : List ℚ} (hz : histZ hs b ≠ 0) : histZ (castL hs) (castL b) ≠ 0 :=
  histZ_cast hs b ▸ Rat.cast_ne_zero.2 hz

theorem histRaw_cast (x : ℚ) : ∀ (hs b : List ℚ), ((histRaw x hs b : ℚ) : ℝ) = histRaw (x : ℝ) (castL hs) (castL b)
  | [], _ | _ :: _, [] | _ :: _, [_] => Rat.cast_zero
  | h :: hs, lo :: hi :: bs => by
      simp only [histRaw, castL_cons]
      rw [← castL_cons, ← histRaw_cast x hs (hi :: bs), cast_ite_lt]

theorem histPdf_cast (hs b : List ℚ) (x : ℚ) :
    ((histPdf hs b x : ℚ) : ℝ) = histPdf (castL hs) (castL b) (x : ℝ) := by
  cases b with
  | nil => exact Rat.cast_zero
  | cons b0 bs =>
    simp only [histPdf, castL_cons]
    rw [← castL_cons, cast_ite_lt, Rat.cast_zero, Rat.cast_div, histRaw_cast, histZ_cast]

theorem lastB_cast : ∀ (bs : List ℚ) (lo : ℚ), ((lastB lo bs : ℚ) : ℝ) = lastB (lo : ℝ) (castL bs)
  | [], _ => rfl
  | hi :: bs, _ => lastB_cast bs hi

theorem histCdfRaw_cast (x : ℚ) : ∀ (hs b : List ℚ),
    ((histCdfRaw x hs b : ℚ) : ℝ) = histCdfRaw (x : ℝ) (castL hs) (castL b)
  | [], _ | _ :: _, [] | _ :: _, [_] => Rat.cast_zero
  | h :: hs, lo :: hi :: bs => by
      simp only [histCdfRaw, castL_cons]
      rw [← castL_cons, ← histCdfRaw_cast x hs (hi :: bs), cast_ite_lt]
      push_cast; rfl

theorem histMomentZ_cast (z : ℚ) (k : ℕ) : ∀ (hs b : List ℚ),
    ((histMomentZ z k hs b : ℚ) : ℝ) = histMomentZ (z : ℝ) k (castL hs) (castL b)
  | [], _ | _ :: _, [] | _ :: _, [_] => Rat.cast_zero
  | h :: hs, lo :: hi :: bs => by
      simp only [histMomentZ, castL_cons]
      rw [← castL_cons, ← histMomentZ_cast z k hs (hi :: bs)]
      push_cast; rfl

theorem histMoment_cast (k : ℕ) (hs b : List ℚ) :
    ((histMoment k hs b : ℚ) : ℝ) = histMoment k (castL hs) (castL b) := by
  rw [histMoment, histMomentZ_cast, histZ_cast]; rfl

theorem isoCdf_cast (hs : List ℚ) (b0 : ℚ) (bs : List ℚ) (x : ℚ) (hb : Incr (b0 :: bs))
    (hz : histZ hs (b0 :: bs) ≠ 0) :
    ((isoCdf hs (b0 :: bs) x : ℚ) : ℝ) = isoCdf (castL hs) (castL (b0 :: bs)) (x : ℝ) := by
  rw [isoCdf_closed hs x hb hz, castL_cons, isoCdf_closed _ _ (incr_cast _ hb) (histZ_cast_ne hz), ← castL_cons,
    cast_ite_lt, Rat.cast_zero, Rat.cast_div, histCdfRaw_cast, histZ_cast]

end Deeprob.LeafTheory
