import DeeprobModel.Lemmas.FlowsLemmas
import DeeprobModel.Spec.FlowRealInst
/-
Concrete objects used by the non-vacuity examples of `Props/C15.lean` and `Props/C15Calculus.lean`.
-/
namespace Deeprob.Flows

/-- A non-trivial conditioner for the examples: 2 features, ordering `[1, 0]` (feature 0 has degree 1),
so head 0 may read `x 1`. -/
noncomputable def exT : (Nat → ℝ) → Nat → ℝ := fun x i => if i = 0 then 3 * x 1 + 1 else 2
noncomputable def exS : (Nat → ℝ) → Nat → ℝ := fun x i => if i = 0 then x 1 * x 1 else -1

theorem exT_ar : Autoregressive 2 (fun j => [1, 0].getD j 0) exT := by
  intro i hi x x' h
  rcases (by omega : i = 0 ∨ i = 1) with rfl | rfl
  · have := h 1 (by omega) (by decide); simp [exT, this]
  · simp [exT]

theorem exS_ar : Autoregressive 2 (fun j => [1, 0].getD j 0) exS := by
  intro i hi x x' h
  rcases (by omega : i = 0 ∨ i = 1) with rfl | rfl
  · have := h 1 (by omega) (by decide); simp [exS, this]
  · simp [exS]

/-- A RealNVP1d-like stack (coupling, batch-norm, reversed coupling) over ℝ. -/
noncomputable def exStack : List (Bij (Nat → ℝ) ℝ) :=
  [couplingBij realExpLog true 4 (alternatingMask false) exT exS,
   bn1dBij realExpLog (1 / 2) (1 / 100000) 4 (fun k => k) (fun _ => 1) (fun k => 2 * k) (fun k => k)
     (fun k => by positivity),
   couplingBij realExpLog false 4 (alternatingMask true) exT exS]

/-- A MAF-like stack on `Fin 2 → ℝ` (autoregressive layer with ordering `[1, 0]`, twice). -/
noncomputable def exMafStack : List (Bij (Fin 2 → ℝ) ℝ) :=
  let L := mafBij realExpLog (fun j => [1, 0].getD j 0) 2 exT exS exT_ar exS_ar (invOrdering [1, 0])
    (invOrdering_props [1, 0] 2 (by decide)).1 (invOrdering_props [1, 0] 2 (by decide)).2.2
    (invOrdering_props [1, 0] 2 (by decide)).2.1
  [L, L]

/-- A `CouplingBlock2d`-like block: checkerboard coupling, squeeze, channel-wise coupling, un-squeeze. -/
noncomputable def exBlock : Bij (Nat → ℝ) ℝ :=
  Bij.chain [couplingBij realExpLog true 16 (checkerboardMask 4 4 false) exT exS,
    squeezeBij 4 4 (by decide) (by decide),
    chanBij realExpLog true false 8 exT exS,
    unsqueezeBij 4 4 (by decide) (by decide)]

/-- A non-trivial scale: down/up-scaling by the squeeze index permutation, split/join by
de-interleaving even and odd positions (all four bookkeeping laws hold as total identities). -/
def exScale : ScaleOps (Nat → ℝ) (Nat → ℝ) where
  down := squeeze 4 4
  up := unsqueeze 2 2
  split := fun x => (fun k => x (2 * k), fun k => x (2 * k + 1))
  join := fun p k => if k % 2 = 0 then p.1 (k / 2) else p.2 (k / 2)
  up_down := unsqueeze_squeeze' 4 4 (by decide) (by decide)
  down_up := squeeze_unsqueeze' 4 4 (by decide) (by decide)
  join_split := fun x => by
    funext k
    by_cases h : k % 2 = 0
    · simp only [h, if_true]; congr 1; omega
    · simp only [h, if_false]; congr 1; omega
  split_join := fun p => by
    apply Prod.ext
    · funext k
      have h1 : 2 * k % 2 = 0 := by omega
      have h2 : 2 * k / 2 = k := by omega
      simp only [h1, if_true, h2]
    · funext k
      have h1 : ¬ ((2 * k + 1) % 2 = 0) := by omega
      have h2 : (2 * k + 1) / 2 = k := by omega
      simp only [h1, if_false, h2]

end Deeprob.Flows
