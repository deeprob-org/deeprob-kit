import DeeprobModel.Lemmas.LeafTopDown
import DeeprobModel.Lemmas.ReachedLemmas
import Mathlib.Algebra.Order.Ring.Rat
import Mathlib.Algebra.Field.Rat
import Mathlib.Tactic.NormNum
/-
Bundle of all hypotheses of the top-down theorems + the shared non-vacuity witness:
a 3-variable circuit over domains (2,3,2) whose root is a 3-child sum.
-/
namespace Deeprob
open TD
namespace TCirc

section bundle
variable {α : Type} [CommSemiring α] [LinearOrder α] [IsStrictOrderedRing α]

/-- valid, leaves complete correctly, non-negative, leaf modes positive, leaf samplers exact -/
def TDOK (dom : Nat → Nat) (c : TCirc α) : Prop :=
  Circ.Valid dom c.toCirc ∧ ModeOK dom c ∧ NonNeg c ∧ LeafPos c ∧ LeafExact c

omit [IsStrictOrderedRing α] in
theorem TDOK.sum (dom : Nat → Nat) (s : List Nat) (ws : List α) (cs : List (TCirc α))
    (hne : cs ≠ []) (hlen : ws.length = cs.length) (hw : ∀ w ∈ ws, 0 ≤ w)
    (hsc : ∀ c ∈ cs, scopeEq c.scope s) (h : ∀ c ∈ cs, TDOK dom c) : TDOK dom (.sum s ws cs) := by
  refine ⟨valid_sum.2 ⟨hne, hlen, hsc, fun c hc => (h c hc).1⟩, ?_, ?_, ?_, ?_⟩
  · unfold ModeOK FillOK; exact fun c hc => (h c hc).2.1
  · unfold NonNeg; exact ⟨hw, fun c hc => (h c hc).2.2.1⟩
  · unfold LeafPos; exact fun c hc => (h c hc).2.2.2.1
  · unfold LeafExact; exact fun c hc => (h c hc).2.2.2.2

omit [IsStrictOrderedRing α] in
theorem TDOK.prod (dom : Nat → Nat) (s : List Nat) (cs : List (TCirc α))
    (hnd : (cs.map scope).flatten.Nodup) (hsc : scopeEq (cs.map scope).flatten s)
    (h : ∀ c ∈ cs, TDOK dom c) : TDOK dom (.prod s cs) := by
  refine ⟨valid_prod.2 ⟨hnd, hsc, fun c hc => (h c hc).1⟩, ?_, ?_, ?_, ?_⟩
  · unfold ModeOK FillOK; exact fun c hc => (h c hc).2.1
  · unfold NonNeg; exact fun c hc => (h c hc).2.2.1
  · unfold LeafPos; exact fun c hc => (h c hc).2.2.2.1
  · unfold LeafExact; exact fun c hc => (h c hc).2.2.2.2

end bundle

def exDom : Nat → Nat := fun v => [2, 3, 2].getD v 0

/-- root = 3-child sum over variables 0,1,2; third child contains a nested 2-child sum; the leaf of
variable 0 in the first child is a tied Bernoulli (`p = 1/2`, mode 1), the Categorical leaf of the
second child is a three-way tie (mode 0). -/
def exT : TCirc Rat :=
  .sum [0, 1, 2] [1/5, 1/2, 3/10]
    [ .prod [0, 1, 2] [bernT 0 [1/2, 1/2], catT 1 [1/10, 6/10, 3/10], bernT 2 [9/10, 1/10]],
      .prod [0, 1, 2] [bernT 0 [1/5, 4/5], .prod [1, 2] [catT 1 [1/3, 1/3, 1/3], bernT 2 [1/4, 3/4]]],
      .prod [2, 1, 0] [.sum [2, 0] [1/2, 1/2]
                          [.prod [2, 0] [bernT 2 [1/2, 1/2], bernT 0 [3/10, 7/10]],
                           .prod [0, 2] [bernT 0 [1/10, 9/10], bernT 2 [1/5, 4/5]]],
                       catT 1 [0, 1/4, 3/4]] ]

theorem exT_ok : TDOK exDom exT := by
  -- the tables are fixed: that each is a probability vector is checked by evaluation
  have hb : ∀ (v : Nat) (tbl : List Rat), exDom v = 2 → tbl.length = 2 → (tsum tbl = 1 ∧ ∀ x ∈ tbl, 0 ≤ x) →
      TDOK exDom (bernT v tbl) := fun v tbl hd hl h => bernT_ok exDom v tbl hl hd h.1 h.2
  have hc : ∀ (v : Nat) (tbl : List Rat), tbl.length = exDom v → (tsum tbl = 1 ∧ ∀ x ∈ tbl, 0 ≤ x) →
      TDOK exDom (catT v tbl) := fun v tbl hl h => catT_ok exDom v tbl hl h.1 h.2
  have two : ∀ {a b : TCirc Rat}, TDOK exDom a → TDOK exDom b → ∀ c ∈ [a, b], TDOK exDom c :=
    fun ha hb => List.forall_mem_cons.2 ⟨ha, List.forall_mem_singleton.2 hb⟩
  have three : ∀ {a b c : TCirc Rat}, TDOK exDom a → TDOK exDom b → TDOK exDom c → ∀ d ∈ [a, b, c], TDOK exDom d :=
    fun ha hb hc => List.forall_mem_cons.2 ⟨ha, two hb hc⟩
  exact TDOK.sum _ _ _ _ (List.cons_ne_nil _ _) rfl (by decide +kernel) (by decide) (three
    (TDOK.prod _ _ _ (by decide) (by decide) (three
      (hb 0 _ rfl rfl (by decide +kernel)) (hc 1 _ rfl (by decide +kernel)) (hb 2 _ rfl rfl (by decide +kernel))))
    (TDOK.prod _ _ _ (by decide) (by decide) (two
      (hb 0 _ rfl rfl (by decide +kernel))
      (TDOK.prod _ _ _ (by decide) (by decide) (two (hc 1 _ rfl (by decide +kernel)) (hb 2 _ rfl rfl (by decide +kernel))))))
    (TDOK.prod _ _ _ (by decide) (by decide) (two
      (TDOK.sum _ _ _ _ (List.cons_ne_nil _ _) rfl (by decide +kernel) (by decide) (two
        (TDOK.prod _ _ _ (by decide) (by decide) (two (hb 2 _ rfl rfl (by decide +kernel)) (hb 0 _ rfl rfl (by decide +kernel))))
        (TDOK.prod _ _ _ (by decide) (by decide) (two (hb 0 _ rfl rfl (by decide +kernel)) (hb 2 _ rfl rfl (by decide +kernel))))))
      (hc 1 _ rfl (by decide +kernel)))))

/-- evidence of the witness: variable 1 observed (= 0), variables 0 and 2 missing -/
def exE : Ev := Ev.ofList [none, some 0, none]
/-- the completion the descent reaches -/
def exX : Ev := Ev.ofList [some 1, some 0, some 1]

theorem exT_eval_e : eval exE exT = 14/75 := by
  simp only [exT, bernT, catT, eval_sum, eval_prod, eval_leaf, List.map_cons, List.map_nil, wsum, lprod,
    Circ.catLeafFn, exE, Ev.ofList, List.getD_cons_zero, List.getD_cons_succ]
  decide +kernel

theorem exT_eval_x : eval exX exT = 101/1000 := by
  simp only [exT, bernT, catT, eval_sum, eval_prod, eval_leaf, List.map_cons, List.map_nil, wsum, lprod,
    Circ.catLeafFn, exX, Ev.ofList, List.getD_cons_zero, List.getD_cons_succ]
  decide +kernel

/-- the descent follows the second child (`1/2 · 1/3` beats `1/5 · 1/10` and `3/10 · 0`) and fills
variable 0 with the Bernoulli mode 1 and variable 2 with 1 -/
theorem exT_mpe : (List.range 4).map (mpeDescent exE exT) = [some 1, some 0, some 1, none] := by
  -- the weighted child values at the root, then the branch …
  simp only [mpeDescent, exT, pass, mpeBr, bernT, catT, eval_sum, eval_prod, eval_leaf, List.map_cons, List.map_nil,
    wsum, lprod, Circ.catLeafFn, exE, Ev.ofList, List.getD_cons_zero, List.getD_cons_succ, List.zipWith_cons_cons,
    List.zipWith_nil_right, argmax, argmaxAux]
  norm_num only [↓reduceIte]
  -- … then the leaf writes of the chosen product: plain functions, evaluated
  simp only [passAt_eq, List.getElem?_cons, one_ne_zero, ↓reduceIte, Nat.sub_self, pass, passAll, mpeFill,
    List.range, List.range.loop, List.map_cons, List.map_nil]
  decide +kernel

theorem exX_completes : Completes exT.scope exE exX := by
  refine ⟨fun v hv => ?_, by decide⟩
  match v with
  | 1 => rfl
  | 0 | 2 | _+3 => exact absurd rfl hv

end TCirc
end Deeprob
