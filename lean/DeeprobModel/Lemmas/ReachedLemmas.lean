import DeeprobModel.Lemmas.TopDownLemmas
set_option linter.unusedSectionVars false
/-
The leaves reached by one top-down pass partition the root scope.
-/
namespace Deeprob
namespace TCirc
variable {α : Type} [Zero α] [One α] [Add α] [Mul α]
variable (br : List Nat → List α → List (TCirc α) → Nat)

theorem reachedAll_partition (p : List Nat) (cs : List (TCirc α)) (hnd : (cs.map scope).flatten.Nodup)
    (IH : ∀ c ∈ cs, ∀ q : List Nat, (reached br q c).Pairwise List.Disjoint ∧ scopeEq (reached br q c).flatten c.scope) :
    ∀ j : Nat, (reachedAll br p j cs).Pairwise List.Disjoint ∧
      scopeEq (reachedAll br p j cs).flatten (cs.map scope).flatten := by
  induction cs with
  | nil => intro j; simp [reachedAll, scopeEq]
  | cons c cs ih =>
    intro j
    obtain ⟨_, hnd2, hdisj⟩ := (nodup_flatten_map_cons scope c cs).1 hnd
    simp only [List.map_cons, List.flatten_cons]
    obtain ⟨hp1, he1⟩ := IH c List.mem_cons_self (j :: p)
    obtain ⟨hp2, he2⟩ := ih hnd2 (fun d hd => IH d (List.mem_cons_of_mem _ hd)) (j+1)
    simp only [reachedAll]
    constructor
    · rw [List.pairwise_append]
      refine ⟨hp1, hp2, ?_⟩
      intro a ha b hb x hxa hxb
      have h1 : x ∈ c.scope := (he1 x).1 (List.mem_flatten.2 ⟨a, ha, hxa⟩)
      have h2 : x ∈ (cs.map scope).flatten := (he2 x).1 (List.mem_flatten.2 ⟨b, hb, hxb⟩)
      exact hdisj x h1 h2
    · intro x
      rw [List.flatten_append, List.mem_append, List.mem_append, he1 x, he2 x]

/-- one leaf per variable (list form): under any branch function the scopes of the reached leaves
are pairwise disjoint and their union is the scope of the root. -/
theorem reached_partition (dom : Nat → Nat) : ∀ (c : TCirc α), Circ.Valid dom c.toCirc → BrOK br c →
    ∀ p : List Nat, (reached br p c).Pairwise List.Disjoint ∧ scopeEq (reached br p c).flatten c.scope := by
  intro c
  induction c using TCirc.ind with
  | hl s f m cd =>
    intro _ _ p
    simp [reached, scope, scopeEq]
  | hs s ws cs ih =>
    intro hval hb p
    obtain ⟨_, _, hsc, hvc⟩ := valid_sum.1 hval
    unfold BrOK at hb
    simp only [reached, reachedAt_eq, scope]
    have hlt := hb.1 p
    have hk : cs[br p ws cs]? = some cs[br p ws cs] := by simp [hlt]
    rw [hk]
    have hc : cs[br p ws cs] ∈ cs := List.getElem_mem hlt
    obtain ⟨h1, h2⟩ := ih _ hc (hvc _ hc) (hb.2 _ hc) (br p ws cs :: p)
    exact ⟨h1, fun x => (h2 x).trans (hsc _ hc x)⟩
  | hp s cs ih =>
    intro hval hb p
    obtain ⟨hnd, hsc, hvc⟩ := valid_prod.1 hval
    unfold BrOK at hb
    simp only [reached, scope]
    obtain ⟨h1, h2⟩ := reachedAll_partition br p cs hnd (fun c hc q => ih c hc (hvc c hc) (hb c hc) q) 0
    exact ⟨h1, fun x => (h2 x).trans (hsc x)⟩

end TCirc
end Deeprob
