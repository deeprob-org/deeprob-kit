import DeeprobModel.Model.Em
import DeeprobModel.Lemmas.NetValid
import DeeprobModel.Lemmas.ListSums
import Mathlib.Algebra.BigOperators.Group.Finset.Basic
import Mathlib.Algebra.BigOperators.Ring.Finset
import Mathlib.Data.List.Flatten
import Mathlib.Data.List.Nodup
import Mathlib.Tactic.Ring
set_option linter.unusedSimpArgs false
set_option linter.unusedVariables false
set_option linter.unusedSectionVars false
/-
C14 on node tables (DAGs with sharing): the backward pass `backward` of Model/Em.lean (`eval_backward`,
deeprob/spn/algorithms/gradient.py) leaves at every node `i` the derivative of the root value with respect to the
value of node `i`. For a fixed `i`, the value table with node `i` forced to `x` (`evalNetWith`) is affine in `x` at
every node below the root, with slope the forward-mode derivative table `fwdDeriv` (`override_affine`, needs
`DecompAt`), and the reverse sweep leaves at `i` the forward derivative at the root (`backward_eq_fwd`, any table).
At a node with a single path from the root, `fwdDeriv` and `evalNetWith` are `Circ.gradAlong` and `Circ.plug` of the
unfolded tree; `DecompAt` follows from such uniqueness, or from the validity conditions of `check_spn`.
-/
namespace Deeprob.Bwd

section defs
variable {α : Type} [Zero α] [One α] [Add α] [Mul α]

/-- the value table of `evalNet` with node `i` forced to the value `x`; every later node (parents of `i`
included) is recomputed from the forced value. `i ≥ net.length` forces nothing. -/
def evalNetWith (e : Ev) (dens : List α) (net : Net α) (i : Nat) (x : α) : List α :=
  net.foldl (fun vals nd => vals ++ [if vals.length = i then x else evalNode e dens vals nd]) []

/-- `Σ_k (Π_{l≠k} v c_l) · d c_k` over a child list: the linearisation of a product -/
def prodLin (v d : Nat → α) : List Nat → α
  | [] => 0
  | c :: cs => lprod (cs.map v) * d c + v c * prodLin v d cs

/-- a node as a function of a lookup of its children's values (`evalNode` with the table abstracted) -/
def nodeFn (e : Ev) (dens : List α) (k : Nat) (look : Nat → α) (x : NNode α) : α :=
  match x.kind with
  | .leaf => x.leaf.fn x.scope (dens.getD k 0) e
  | .sum => wsum x.ws (x.ch.map look)
  | .prod => lprod (x.ch.map look)

/-- the linearised node: what a perturbation `d` of the children's values does to the node, at the point `v` -/
def linFn (v d : Nat → α) (x : NNode α) : α :=
  match x.kind with
  | .leaf => 0
  | .sum => wsum x.ws (x.ch.map d)
  | .prod => prodLin v d x.ch

/-- forward-mode derivative table: entry `j` is `∂ node_j / ∂ node_i` at the point `vals` -/
def fwdDeriv (net : Net α) (vals : List α) (i : Nat) : List α :=
  net.foldl (fun ds nd => ds ++ [if ds.length = i then 1
    else linFn (fun c => vals.getD c 0) (fun c => ds.getD c 0) nd]) []

/-- one step of the reverse sweep of `backward` -/
def bstep (net : Net α) (vals : List α) (grads : List α) (i : Nat) : List α :=
  match net[i]? with
  | some x => sendDown vals x (grads.getD i 0) grads
  | none => grads

end defs

section graph
variable {α : Type}

/-- `Reach net j i`: node `i` is `j` or a descendant of `j` (children lists of leaf entries are ignored, as
`evalNet` and `backward` ignore them) -/
inductive Reach (net : Net α) : Nat → Nat → Prop
  | refl (j : Nat) : Reach net j j
  | step {j c i : Nat} (x : NNode α) : net[j]? = some x → x.kind ≠ .leaf → c ∈ x.ch → Reach net c i → Reach net j i

/-- the node reached from `r` by a path of child positions -/
def nodeAt (net : Net α) : Nat → List Nat → Option Nat
  | r, [] => some r
  | r, j :: p => match net[r]? with
    | some x => if x.kind = .leaf then none else match x.ch[j]? with
      | some c => nodeAt net c p
      | none => none
    | none => none

/-- decomposability as the derivative needs it: below the root, no product reaches node `i` through two different
child positions (a child listed twice counts as two positions). Sharing under sum nodes is unconstrained. -/
def DecompAt (net : Net α) (root i : Nat) : Prop :=
  ∀ (p : Nat) (x : NNode α), Reach net root p → net[p]? = some x → x.kind = .prod →
    x.ch.Pairwise (fun c c' => ¬ (Reach net c i ∧ Reach net c' i))

theorem Reach.trans {net : Net α} {a b c : Nat} (h1 : Reach net a b) (h2 : Reach net b c) : Reach net a c := by
  induction h1 with
  | refl j => exact h2
  | step x hx hk hc _ ih => exact Reach.step x hx hk hc (ih h2)

theorem Reach.child {net : Net α} {a j c : Nat} (x : NNode α) (h : Reach net a j) (hx : net[j]? = some x)
    (hk : x.kind ≠ .leaf) (hc : c ∈ x.ch) : Reach net a c :=
  h.trans (Reach.step x hx hk hc (Reach.refl c))

theorem reach_of_leaf {net : Net α} {j i : Nat} (x : NNode α) (hx : net[j]? = some x) (hk : x.kind = .leaf)
    (h : Reach net j i) : i = j := by
  cases h with
  | refl => rfl
  | step x' hx' hk' _ _ => rw [hx] at hx'; cases hx'; exact absurd hk hk'

theorem nodeAt_step {net : Net α} {r j c : Nat} {x : NNode α} (p : List Nat) (hx : net[r]? = some x)
    (hk : x.kind ≠ .leaf) (hc : x.ch[j]? = some c) : nodeAt net r (j :: p) = nodeAt net c p := by
  simp only [nodeAt, hx, if_neg hk, hc]

theorem nodeAt_cons {net : Net α} {r j i : Nat} {p : List Nat} :
    nodeAt net r (j :: p) = some i ↔
      ∃ x c, net[r]? = some x ∧ x.kind ≠ .leaf ∧ x.ch[j]? = some c ∧ nodeAt net c p = some i := by
  constructor
  · intro h
    cases hx : net[r]? with
    | none => simp [nodeAt, hx] at h
    | some x =>
      by_cases hk : x.kind = .leaf
      · simp [nodeAt, hx, hk] at h
      · cases hc : x.ch[j]? with
        | none => simp [nodeAt, hx, hk, hc] at h
        | some c => exact ⟨x, c, rfl, hk, hc, by rwa [nodeAt_step p hx hk hc] at h⟩
  · rintro ⟨x, c, hx, hk, hc, h⟩
    rwa [nodeAt_step p hx hk hc]

theorem nodeAt_reach (net : Net α) : ∀ (p : List Nat) (r i : Nat), nodeAt net r p = some i → Reach net r i := by
  intro p
  induction p with
  | nil => intro r i h; cases h; exact Reach.refl r
  | cons j p ih =>
    intro r i h
    obtain ⟨x, c, hx, hk, hc, h'⟩ := nodeAt_cons.1 h
    exact Reach.step x hx hk (List.mem_of_getElem? hc) (ih c i h')

theorem reach_nodeAt (net : Net α) {r i : Nat} (h : Reach net r i) : ∃ p, nodeAt net r p = some i := by
  induction h with
  | refl j => exact ⟨[], rfl⟩
  | @step j c i x hx hkind hc _ ih =>
    obtain ⟨p, hp⟩ := ih
    obtain ⟨k, hk, hkc⟩ := List.mem_iff_getElem.mp hc
    exact ⟨k :: p, nodeAt_cons.2 ⟨x, c, hx, hkind, by rw [List.getElem?_eq_getElem hk, hkc], hp⟩⟩

theorem nodeAt_append (net : Net α) : ∀ (p q : List Nat) (r m : Nat), nodeAt net r p = some m →
    nodeAt net r (p ++ q) = nodeAt net m q := by
  intro p
  induction p with
  | nil => intro q r m h; cases h; rfl
  | cons j p ih =>
    intro q r m h
    obtain ⟨x, c, hx, hk, hc, h'⟩ := nodeAt_cons.1 h
    rw [List.cons_append, nodeAt_step _ hx hk hc, ih q c m h']

theorem reach_le (net : Net α) (hw : WellOrdered net) {j i : Nat} (h : Reach net j i) : i ≤ j := by
  induction h with
  | refl j => exact Nat.le_refl j
  | step x hx _ hc _ ih => have := hw _ x hx _ hc; omega

/-- a step along the only path from `r` to `i`: the child at position `j` is below `r`, has the rest of the path as
its only path to `i`, and no child at another position reaches `i` -/
theorem unique_path_step {net : Net α} (hw : WellOrdered net) {r j i : Nat} {p : List Nat}
    (h : nodeAt net r (j :: p) = some i) (huniq : ∀ q, nodeAt net r q = some i → q = j :: p) :
    ∃ x c, net[r]? = some x ∧ x.kind ≠ .leaf ∧ x.ch[j]? = some c ∧ nodeAt net c p = some i ∧ c < r ∧ r ≠ i ∧
      (∀ q, nodeAt net c q = some i → q = p) ∧
      ∀ c' ∈ x.ch.eraseIdx j, ¬ Reach net c' i := by
  obtain ⟨x, c, hx, hk, hc, h'⟩ := nodeAt_cons.1 h
  have hcr : c < r := hw r x hx c (List.mem_of_getElem? hc)
  have hic : i ≤ c := reach_le net hw (nodeAt_reach net p c i h')
  refine ⟨x, c, hx, hk, hc, h', hcr, by omega, ?_, ?_⟩
  · intro q hq
    exact (List.cons.inj (huniq _ ((nodeAt_step q hx hk hc).trans hq))).2
  · intro c' hc' hreach
    obtain ⟨k, hkj, hk'⟩ := List.mem_eraseIdx_iff_getElem?.1 hc'
    obtain ⟨q, hq⟩ := reach_nodeAt net hreach
    exact hkj (List.cons.inj (huniq _ ((nodeAt_step q hx hk hk').trans hq))).1

/-- every node below the root has one path to it: the table is a tree -/
def TreeShaped (net : Net α) (root : Nat) : Prop :=
  ∀ (i : Nat) (q q' : List Nat), nodeAt net root q = some i → nodeAt net root q' = some i → q = q'

/-- all paths of child positions from `r` to `i` (computable; `fuel ≥ r` is enough on children-first tables) -/
def pathsTo (net : Net α) : Nat → Nat → Nat → List (List Nat)
  | 0, r, i => if r = i then [[]] else []
  | fuel+1, r, i => (if r = i then [[]] else []) ++ (match net[r]? with
      | some x => if x.kind = .leaf then [] else
          x.ch.zipIdx.flatMap (fun cj => (pathsTo net fuel cj.1 i).map (fun p => cj.2 :: p))
      | none => [])

theorem pathsTo_complete (net : Net α) (hw : WellOrdered net) (i : Nat) :
    ∀ (q : List Nat) (fuel r : Nat), r ≤ fuel → nodeAt net r q = some i → q ∈ pathsTo net fuel r i := by
  intro q
  induction q with
  | nil =>
    intro fuel r _ h
    cases h
    cases fuel <;> simp [pathsTo]
  | cons j p ih =>
    intro fuel r hrf h
    obtain ⟨x, c, hx, hk, hc, h'⟩ := nodeAt_cons.1 h
    have hcr : c < r := hw r x hx c (List.mem_of_getElem? hc)
    cases fuel with
    | zero => omega
    | succ f =>
      simp only [pathsTo, hx, if_neg hk]
      apply List.mem_append_right
      rw [List.mem_flatMap]
      exact ⟨(c, j), List.mem_zipIdx_iff_getElem?.2 hc, List.mem_map.2 ⟨p, ih f c (by omega) h', rfl⟩⟩

/-- a decidable certificate for "node `i` has the single path `p` from the root" -/
theorem unique_path_of_pathsTo (net : Net α) (hw : WellOrdered net)
    (root i : Nat) (p : List Nat) (h : pathsTo net root root i = [p]) :
    ∀ q, nodeAt net root q = some i → q = p := by
  intro q hq
  have := pathsTo_complete net hw i q root root (Nat.le_refl _) hq
  rw [h] at this
  simpa using this

/-- a decidable certificate for tree shape: at most one path to every entry -/
theorem treeShaped_of_pathsTo (net : Net α) (hw : WellOrdered net)
    (root : Nat) (h : ∀ i, i ≤ root → (pathsTo net root root i).length ≤ 1) : TreeShaped net root := by
  intro i q q' hq hq'
  have hle : i ≤ root := reach_le net hw (nodeAt_reach net q root i hq)
  have m1 := pathsTo_complete net hw i q root root (Nat.le_refl _) hq
  have m2 := pathsTo_complete net hw i q' root root (Nat.le_refl _) hq'
  have hl := h i hle
  match hp : pathsTo net root root i, hl with
  | [], _ => rw [hp] at m1; cases m1
  | [a], _ =>
    rw [hp] at m1 m2
    simp only [List.mem_singleton] at m1 m2
    rw [m1, m2]

end graph

theorem snocFold_spec {β γ : Type} (g : List γ → β → γ) (l : List β) :
    (l.foldl (fun acc b => acc ++ [g acc b]) []).length = l.length ∧
    ∀ k (h : k < l.length), (l.foldl (fun acc b => acc ++ [g acc b]) [])[k]?
      = some (g ((l.foldl (fun acc b => acc ++ [g acc b]) []).take k) l[k]) := by
  induction l using List.reverseRecOn with
  | nil => simp
  | append_singleton l a ih =>
    obtain ⟨hlen, hget⟩ := ih
    rw [List.foldl_append]
    simp only [List.foldl_cons, List.foldl_nil]
    refine ⟨by simp [hlen], ?_⟩
    intro k hk
    simp only [List.length_append, List.length_singleton] at hk
    rcases Nat.lt_or_ge k l.length with h1 | h1
    · rw [List.getElem?_append_left (by omega), hget k h1, List.take_append_of_le_length (by omega)]
      simp [List.getElem_append_left h1]
    · have hk' : k = l.length := by omega
      subst hk'
      rw [List.getElem?_append_right (by omega)]
      simp [hlen]

/-- a table filled children-first: when the entry appended for a node is a function `G` of the number of entries
so far and of a lookup in them, and `G` at position `k` reads the lookup only below `k`, then entry `k` of the
finished table is `G k` of the finished table -/
theorem snocFold_getD {β γ : Type} (G : Nat → (Nat → γ) → β → γ) (d : γ) (l : List β) (k : Nat) (hk : k < l.length)
    (hG : ∀ look look' : Nat → γ, (∀ c, c < k → look c = look' c) → G k look l[k] = G k look' l[k]) :
    (l.foldl (fun acc b => acc ++ [G acc.length (fun c => acc.getD c d) b]) []).getD k d
      = G k (fun c => (l.foldl (fun acc b => acc ++ [G acc.length (fun c => acc.getD c d) b]) []).getD c d) l[k] := by
  obtain ⟨hlen, hget⟩ := snocFold_spec (fun acc b => G acc.length (fun c => acc.getD c d) b) l
  rw [List.getD_eq_getElem?_getD, hget k hk, Option.getD_some, List.length_take, hlen, Nat.min_eq_left hk.le]
  exact hG _ _ fun c hc => getD_take_lt _ _ _ d hc

section semiring
variable {α : Type} [CommSemiring α]

theorem wsum_affine (a b d : Nat → α) (x : α) (ws : List α) (ch : List Nat)
    (h : ∀ c ∈ ch, a c = b c + d c * x) : wsum ws (ch.map a) = wsum ws (ch.map b) + wsum ws (ch.map d) * x := by
  rw [List.map_congr_left h, wsum_map_add_mul]

theorem wsum_zero_right (d : Nat → α) (ws : List α) (ch : List Nat) (h : ∀ c ∈ ch, d c = 0) :
    wsum ws (ch.map d) = 0 := by
  rw [List.map_congr_left h, wsum_map_zero]

theorem prodLin_congr (v d d' : Nat → α) : ∀ ch : List Nat, (∀ c ∈ ch, d c = d' c) →
    prodLin v d ch = prodLin v d' ch := by
  intro ch
  induction ch with
  | nil => intro _; rfl
  | cons c cs ih =>
    intro h
    simp only [prodLin]
    rw [ih (fun c' hc' => h c' (List.mem_cons_of_mem _ hc')), h c List.mem_cons_self]

theorem prodLin_zero (v d : Nat → α) (ch : List Nat) (h : ∀ c ∈ ch, d c = 0) : prodLin v d ch = 0 := by
  induction ch with
  | nil => rfl
  | cons c cs ih =>
    rw [prodLin, h c List.mem_cons_self, ih fun c' hc' => h c' (List.mem_cons_of_mem _ hc'), mul_zero, mul_zero,
      add_zero]

/-- a product is affine in `x` when at most one factor moves, with slope `prodLin` -/
theorem lprod_affine (a b v d : Nat → α) (x : α) : ∀ ch : List Nat,
    (∀ c ∈ ch, a c = b c + d c * x) →
    ch.Pairwise (fun c c' => (d c = 0 ∧ b c = v c) ∨ (d c' = 0 ∧ b c' = v c')) →
    lprod (ch.map a) = lprod (ch.map b) + prodLin v d ch * x := by
  intro ch
  induction ch with
  | nil => intro _ _; simp [lprod, prodLin]
  | cons c cs ih =>
    intro h hp
    rw [List.pairwise_cons] at hp
    obtain ⟨hc, hcs⟩ := hp
    have ihc := ih (fun c' hc' => h c' (List.mem_cons_of_mem _ hc')) hcs
    simp only [List.map_cons, lprod, prodLin]
    rw [ihc, h c List.mem_cons_self]
    by_cases hq : d c = 0 ∧ b c = v c
    · rw [hq.1, hq.2]; ring
    · -- the head moves, so nothing in the tail does
      have hall : ∀ c' ∈ cs, d c' = 0 ∧ b c' = v c' := fun c' hc' => (hc c' hc').resolve_left hq
      rw [prodLin_zero v d cs (fun c' hc' => (hall c' hc').1),
        List.map_congr_left (fun c' hc' => (hall c' hc').2)]
      ring

theorem wsum_single (d : Nat → α) : ∀ (ch : List Nat) (ws : List α) (j c : Nat), ch[j]? = some c →
    (∀ c' ∈ ch.eraseIdx j, d c' = 0) → wsum ws (ch.map d) = ws.getD j 0 * d c := by
  intro ch
  induction ch with
  | nil => intro ws j c h; simp at h
  | cons a cs ih =>
    intro ws j c hj hz
    cases ws with
    | nil => simp [wsum]
    | cons w ws =>
      simp only [List.map_cons, wsum]
      cases j with
      | zero =>
        cases hj
        rw [wsum_zero_right d ws cs hz, add_zero, List.getD_cons_zero]
      | succ j =>
        rw [List.eraseIdx_cons_succ, List.forall_mem_cons] at hz
        rw [hz.1, mul_zero, zero_add, ih ws j c (by simpa using hj) hz.2, List.getD_cons_succ]

theorem prodLin_single (v d : Nat → α) : ∀ (ch : List Nat) (j c : Nat), ch[j]? = some c →
    (∀ c' ∈ ch.eraseIdx j, d c' = 0) → prodLin v d ch = lprod ((ch.eraseIdx j).map v) * d c := by
  intro ch
  induction ch with
  | nil => intro j c h; simp at h
  | cons a cs ih =>
    intro j c hj hz
    simp only [prodLin]
    cases j with
    | zero =>
      cases hj
      rw [prodLin_zero v d cs hz, mul_zero, add_zero, List.eraseIdx_cons_zero]
    | succ j =>
      rw [List.eraseIdx_cons_succ, List.forall_mem_cons] at hz
      rw [hz.1, mul_zero, zero_add, ih j c (by simpa using hj) hz.2, List.eraseIdx_cons_succ, List.map_cons, lprod,
        mul_assoc]

theorem zip_sum_eq_wsum (d : Nat → α) : ∀ (ch : List Nat) (ws : List α),
    ((ch.zip ws).map (fun p => p.2 * d p.1)).sum = wsum ws (ch.map d) := by
  intro ch
  induction ch with
  | nil => intro ws; cases ws <;> rfl
  | cons c cs ih =>
    intro ws
    cases ws with
    | nil => rfl
    | cons w ws => simp only [List.zip_cons_cons, List.map_cons, List.sum_cons, wsum, ih ws]

/-- the sum a product node scatters, position by position, is `prodLin` -/
theorem zipIdx_sum_eq_prodLin (v d : Nat → α) : ∀ (cs pre : List Nat),
    ((cs.zipIdx pre.length).map (fun cj => lprod (((pre ++ cs).eraseIdx cj.2).map v) * d cj.1)).sum
      = lprod (pre.map v) * prodLin v d cs := by
  intro cs
  induction cs with
  | nil => intro pre; simp [prodLin]
  | cons c cs ih =>
    intro pre
    have h := ih (pre ++ [c])
    simp only [List.length_append, List.length_singleton, List.append_assoc, List.singleton_append] at h
    simp only [List.zipIdx_cons, List.map_cons, List.sum_cons, prodLin]
    rw [h, List.eraseIdx_append_of_length_le (Nat.le_refl _)]
    simp only [Nat.sub_self, List.eraseIdx_cons_zero, List.map_append, List.map_cons, List.map_nil, lprod_eq_prod,
      List.prod_append, List.prod_cons, List.prod_nil]
    ring

theorem linFn_congr (v d d' : Nat → α) (nd : NNode α) (h : ∀ c ∈ nd.ch, d c = d' c) :
    linFn v d nd = linFn v d' nd := by
  unfold linFn
  cases nd.kind
  · simp only [List.map_congr_left h]
  · simp only [prodLin_congr v d d' nd.ch h]
  · rfl

theorem linFn_zero (v d : Nat → α) (nd : NNode α) (h : nd.kind ≠ .leaf → ∀ c ∈ nd.ch, d c = 0) :
    linFn v d nd = 0 := by
  unfold linFn
  cases hk : nd.kind
  · exact wsum_zero_right d nd.ws nd.ch (h (by simp [hk]))
  · exact prodLin_zero v d nd.ch (h (by simp [hk]))
  · rfl

theorem nodeFn_congr (e : Ev) (dens : List α) (k : Nat) (a b : Nat → α) (nd : NNode α)
    (h : nd.kind ≠ .leaf → ∀ c ∈ nd.ch, a c = b c) : nodeFn e dens k a nd = nodeFn e dens k b nd := by
  unfold nodeFn
  cases hk : nd.kind
  · simp only [List.map_congr_left (h (by simp [hk]))]
  · simp only [List.map_congr_left (h (by simp [hk]))]
  · rfl

theorem evalNetWith_length (e : Ev) (dens : List α) (net : Net α) (i : Nat) (x : α) :
    (evalNetWith e dens net i x).length = net.length :=
  (snocFold_spec (fun vals nd => if vals.length = i then x else evalNode e dens vals nd) net).1

theorem fwdDeriv_length (net : Net α) (vals : List α) (i : Nat) : (fwdDeriv net vals i).length = net.length :=
  (snocFold_spec (fun ds nd => if ds.length = i then 1
    else linFn (fun c => vals.getD c 0) (fun c => ds.getD c 0) nd) net).1

theorem evalNet_rec (e : Ev) (dens : List α) (net : Net α) (hw : WellOrdered net) {k : Nat} {x : NNode α}
    (hn : net[k]? = some x) :
    (evalNet e dens net).getD k 0 = nodeFn e dens k (fun c => (evalNet e dens net).getD c 0) x := by
  obtain ⟨hk, rfl⟩ := List.getElem?_eq_some_iff.1 hn
  exact snocFold_getD (nodeFn e dens) 0 net k hk fun a b h =>
    nodeFn_congr e dens k a b net[k] fun _ c hc => h c (hw k net[k] hn c hc)

theorem evalNetWith_rec (e : Ev) (dens : List α) (net : Net α) (hw : WellOrdered net) (i : Nat) (y : α) {k : Nat}
    {x : NNode α} (hn : net[k]? = some x) :
    (evalNetWith e dens net i y).getD k 0
      = if k = i then y else nodeFn e dens k (fun c => (evalNetWith e dens net i y).getD c 0) x := by
  obtain ⟨hk, rfl⟩ := List.getElem?_eq_some_iff.1 hn
  exact snocFold_getD (fun k look nd => if k = i then y else nodeFn e dens k look nd) 0 net k hk fun a b h => by
    rw [nodeFn_congr e dens k a b net[k] fun _ c hc => h c (hw k net[k] hn c hc)]

theorem fwdDeriv_rec (net : Net α) (vals : List α) (hw : WellOrdered net) (i : Nat) {k : Nat} {x : NNode α}
    (hn : net[k]? = some x) :
    (fwdDeriv net vals i).getD k 0
      = if k = i then 1 else linFn (fun c => vals.getD c 0) (fun c => (fwdDeriv net vals i).getD c 0) x := by
  obtain ⟨hk, rfl⟩ := List.getElem?_eq_some_iff.1 hn
  exact snocFold_getD (fun k look nd => if k = i then 1 else linFn (fun c => vals.getD c 0) look nd) 0 net k hk
    fun a b h => by rw [linFn_congr _ a b net[k] fun c hc => h c (hw k net[k] hn c hc)]

theorem evalNet_at_sum (e : Ev) (dens : List α) (net : Net α) (hw : WellOrdered net) (i : Nat) (x : NNode α)
    (hn : net[i]? = some x) (hk : x.kind = .sum) :
    (evalNet e dens net).getD i 0 = wsum x.ws (x.ch.map (fun c => (evalNet e dens net).getD c 0)) := by
  rw [evalNet_rec e dens net hw hn]
  unfold nodeFn
  rw [hk]

theorem evalNet_at_prod (e : Ev) (dens : List α) (net : Net α) (hw : WellOrdered net) (i : Nat) (x : NNode α)
    (hn : net[i]? = some x) (hk : x.kind = .prod) :
    (evalNet e dens net).getD i 0 = lprod (x.ch.map (fun c => (evalNet e dens net).getD c 0)) := by
  rw [evalNet_rec e dens net hw hn]
  unfold nodeFn
  rw [hk]

/-- nodes that do not reach `i` neither move nor have a derivative -/
theorem not_reach_indep (e : Ev) (dens : List α) (net : Net α) (hw : WellOrdered net) (i : Nat) :
    ∀ j, j < net.length → ¬ Reach net j i →
      (∀ x, (evalNetWith e dens net i x).getD j 0 = (evalNet e dens net).getD j 0) ∧
      (fwdDeriv net (evalNet e dens net) i).getD j 0 = 0 := by
  refine hw.induction fun j nd hn ih hnr => ?_
  have hji : j ≠ i := fun h => hnr (h ▸ Reach.refl j)
  have hsub := fun (hk : nd.kind ≠ .leaf) c (hc : c ∈ nd.ch) => ih c hc fun hr => hnr (Reach.step nd hn hk hc hr)
  refine ⟨fun x => ?_, ?_⟩
  · rw [evalNetWith_rec e dens net hw i x hn, if_neg hji, evalNet_rec e dens net hw hn]
    exact nodeFn_congr e dens j _ _ nd fun hk c hc => (hsub hk c hc).1 x
  · rw [fwdDeriv_rec net _ hw i hn, if_neg hji]
    exact linFn_zero _ _ nd fun hk c hc => (hsub hk c hc).2

theorem evalNetWith_self (e : Ev) (dens : List α) (net : Net α) (hw : WellOrdered net) (i : Nat) :
    ∀ k, k < net.length →
      (evalNetWith e dens net i ((evalNet e dens net).getD i 0)).getD k 0 = (evalNet e dens net).getD k 0 := by
  refine hw.induction fun k nd hn ih => ?_
  rw [evalNetWith_rec e dens net hw i _ hn]
  split
  · next h => rw [h]
  · rw [evalNet_rec e dens net hw hn]
    exact nodeFn_congr e dens k _ _ nd fun _ c hc => ih c hc

/-- bottom-up: every node below the root is affine in the forced value -/
theorem override_affine (e : Ev) (dens : List α) (net : Net α) (hw : WellOrdered net) (root i : Nat)
    (hd : DecompAt net root i) (x : α) :
    ∀ j, j < net.length → Reach net root j →
      (evalNetWith e dens net i x).getD j 0
        = (evalNetWith e dens net i 0).getD j 0 + (fwdDeriv net (evalNet e dens net) i).getD j 0 * x := by
  refine hw.induction fun j nd hn ih hr => ?_
  rw [evalNetWith_rec e dens net hw i x hn, evalNetWith_rec e dens net hw i 0 hn, fwdDeriv_rec net _ hw i hn]
  by_cases hji : j = i
  · simp [hji]
  · simp only [if_neg hji]
    have hsub := fun (hk : nd.kind ≠ .leaf) c (hc : c ∈ nd.ch) => ih c hc (hr.child nd hn hk hc)
    unfold nodeFn linFn
    cases hk : nd.kind
    · exact wsum_affine _ _ _ x nd.ws nd.ch (hsub (by simp [hk]))
    · simp only
      apply lprod_affine _ _ (fun c => (evalNet e dens net).getD c 0) _ x nd.ch (hsub (by simp [hk]))
      -- of two children of a product at most one reaches `i`; the other neither moves nor has a derivative
      refine List.Pairwise.imp_of_mem ?_ (hd j nd hr hn hk)
      intro c c' hc hc' hnot
      have hj := (List.getElem?_eq_some_iff.1 hn).1
      have hlt : ∀ c ∈ nd.ch, c < net.length := fun c hc => Nat.lt_trans (hw j nd hn c hc) hj
      by_cases h1 : Reach net c i
      · have := not_reach_indep e dens net hw i c' (hlt c' hc') (fun h2 => hnot ⟨h1, h2⟩)
        exact Or.inr ⟨this.2, this.1 0⟩
      · have := not_reach_indep e dens net hw i c (hlt c hc) h1
        exact Or.inl ⟨this.2, this.1 0⟩
    · simp

open Finset in
theorem sum_range_bump (f d : Nat → α) (m c : Nat) (hc : c < m) (b : α) :
    ∑ j ∈ range m, (if j = c then f c + b else f j) * d j = ∑ j ∈ range m, f j * d j + b * d c := by
  have h : ∀ j, (if j = c then f c + b else f j) * d j = f j * d j + (if j = c then b * d j else 0) := by
    intro j
    split
    · next h => subst h; ring
    · simp
  simp only [h, sum_add_distrib]
  rw [sum_ite_eq' (range m) c (fun j => b * d j)]
  simp [hc]

omit [CommSemiring α] in
theorem getD_replicate_self (n j : Nat) (a : α) : (List.replicate n a).getD j a = a := by
  simp only [List.getD_eq_getElem?_getD, List.getElem?_replicate]
  split <;> rfl

theorem getD_set_bump (G : List α) (c : Nat) (hc : c < G.length) (v : α) (j : Nat) :
    (G.set c v).getD j 0 = if j = c then v else G.getD j 0 := by
  simp only [getD_set, hc, and_true]

open Finset in
/-- scattering `g·wt p` onto the entries `key p` (all below `m`) for the `p` listed in `L` -/
theorem scatter_spec {X : Type} (key : X → Nat) (wt : X → α) (d : Nat → α) (m : Nat) (g : α) :
    ∀ (L : List X) (G : List α), m ≤ G.length → (∀ p ∈ L, key p < m) →
    (L.foldl (fun gr p => gr.set (key p) (gr.getD (key p) 0 + g * wt p)) G).length = G.length ∧
    (∀ j, m ≤ j → (L.foldl (fun gr p => gr.set (key p) (gr.getD (key p) 0 + g * wt p)) G).getD j 0 = G.getD j 0) ∧
    ∑ j ∈ range m, (L.foldl (fun gr p => gr.set (key p) (gr.getD (key p) 0 + g * wt p)) G).getD j 0 * d j
      = ∑ j ∈ range m, G.getD j 0 * d j + g * (L.map (fun p => wt p * d (key p))).sum := by
  intro L
  induction L with
  | nil => intro G _ _; simp
  | cons p L ih =>
    intro G hm hL
    have hp : key p < m := hL p List.mem_cons_self
    have hL' : ∀ q ∈ L, key q < m := fun q hq => hL q (List.mem_cons_of_mem _ hq)
    simp only [List.foldl_cons]
    obtain ⟨h1, h2, h3⟩ := ih (G.set (key p) (G.getD (key p) 0 + g * wt p)) (by simpa using hm) hL'
    refine ⟨by rw [h1]; simp, ?_, ?_⟩
    · intro j hj
      rw [h2 j hj, getD_set_bump G (key p) (by omega), if_neg (by omega)]
    · rw [h3]
      simp only [getD_set_bump G (key p) (by omega : key p < G.length)]
      rw [sum_range_bump (fun j => G.getD j 0) d m (key p) hp]
      simp only [List.map_cons, List.sum_cons]
      ring

open Finset in
/-- one step of the sweep at node `m`: entries `≥ m` are untouched, and the functional `Σ_{j<m} G[j]·d_j` grows by
`G[m]` times the linearised node `m` applied to `d` -/
theorem bstep_spec (net : Net α) (vals : List α) (hw : WellOrdered net) (d : Nat → α) {m : Nat} {x : NNode α}
    (hn : net[m]? = some x) (G : List α) (hG : G.length = net.length) :
    (bstep net vals G m).length = net.length ∧
    (∀ j, m ≤ j → (bstep net vals G m).getD j 0 = G.getD j 0) ∧
    ∑ j ∈ range m, (bstep net vals G m).getD j 0 * d j
      = ∑ j ∈ range m, G.getD j 0 * d j + G.getD m 0 * linFn (fun c => vals.getD c 0) d x := by
  have hm : m < net.length := (List.getElem?_eq_some_iff.1 hn).1
  have hch : ∀ c ∈ x.ch, c < m := hw m x hn
  unfold bstep
  simp only [hn]
  unfold sendDown linFn
  cases hk : x.kind
  · -- sum: scatter `G[m]·w` onto the children
    obtain ⟨h1, h2, h3⟩ := scatter_spec (fun p : Nat × α => p.1) (fun p => p.2) d m (G.getD m 0)
      (x.ch.zip x.ws) G (by omega) (fun p hp => hch p.1 (List.of_mem_zip hp).1)
    exact ⟨by rw [h1, hG], h2, by rw [h3, zip_sum_eq_wsum]⟩
  · -- product: scatter `G[m]·Π siblings` onto the children
    obtain ⟨h1, h2, h3⟩ := scatter_spec (fun cj : Nat × Nat => cj.1)
      (fun cj => lprod ((x.ch.eraseIdx cj.2).map (fun c => vals.getD c 0))) d m (G.getD m 0)
      x.ch.zipIdx G (by omega) (fun cj hcj => hch cj.1 ((List.mem_zipIdx hcj).2.2 ▸ List.getElem_mem _))
    refine ⟨by rw [h1, hG], h2, ?_⟩
    have := zipIdx_sum_eq_prodLin (fun c => vals.getD c 0) d x.ch []
    simp only [List.length_nil, List.nil_append, List.map_nil, lprod, one_mul] at this
    rw [h3, this]
  · -- leaf
    simp [hG]

open Finset in
/-- the sweep from node `k-1` down to node `0` -/
theorem sweep_spec (net : Net α) (vals : List α) (hw : WellOrdered net) (i : Nat)
    (d : Nat → α) (hd0 : ∀ j, j < i → d j = 0) (hd1 : d i = 1)
    (hdr : ∀ m x, net[m]? = some x → i < m → d m = linFn (fun c => vals.getD c 0) d x) :
    ∀ (k : Nat) (G : List α), k ≤ net.length → G.length = net.length →
      ((List.range k).reverse.foldl (bstep net vals) G).length = net.length ∧
      (∀ j, k ≤ j → ((List.range k).reverse.foldl (bstep net vals) G).getD j 0 = G.getD j 0) ∧
      (i < k → ((List.range k).reverse.foldl (bstep net vals) G).getD i 0 = ∑ j ∈ range k, G.getD j 0 * d j) := by
  intro k
  induction k with
  | zero => intro G _ hG; simp [hG]
  | succ k ih =>
    intro G hk hG
    have hn : net[k]? = some net[k] := List.getElem?_eq_getElem (by omega)
    rw [List.range_succ, List.reverse_append, List.reverse_singleton, List.singleton_append, List.foldl_cons]
    obtain ⟨s1, s2, s3⟩ := bstep_spec net vals hw d hn G hG
    obtain ⟨r1, r2, r3⟩ := ih (bstep net vals G k) (by omega) s1
    refine ⟨r1, fun j hj => by rw [r2 j (by omega), s2 j (by omega)], fun hik => ?_⟩
    rw [sum_range_succ]
    rcases Nat.lt_or_ge i k with h | h
    · rw [r3 h, s3, hdr k _ hn h]
    · -- `k = i`: below `i` the functional vanishes, and the remaining steps do not touch entry `i`
      obtain rfl : i = k := by omega
      rw [r2 i (Nat.le_refl _), s2 i (Nat.le_refl _), hd1, mul_one,
        sum_eq_zero fun j hj => by rw [hd0 j (by simpa using hj), mul_zero], zero_add]

open Finset in
/-- **reverse = forward**: the number the backward pass leaves at node `i` is the forward-mode derivative of the
root with respect to node `i`. Any value table, no decomposability: both sides are the same sum over paths. -/
theorem backward_eq_fwd (net : Net α) (vals : List α) (hw : WellOrdered net) (root i : Nat)
    (hr : root < net.length) (hi : i < net.length) :
    (backward net vals root).getD i 0 = (fwdDeriv net vals i).getD root 0 := by
  have hd0 : ∀ j, j < net.length → j < i → (fwdDeriv net vals i).getD j 0 = 0 :=
    hw.induction fun j x hn ih hji => by
      rw [fwdDeriv_rec net vals hw i hn, if_neg (by omega)]
      exact linFn_zero _ _ x fun _ c hc => ih c hc (Nat.lt_trans (hw j x hn c hc) hji)
  have hG : ((List.replicate net.length (0:α)).set root 1).length = net.length := by simp
  have := (sweep_spec net vals hw i (fun c => (fwdDeriv net vals i).getD c 0)
    (fun j hj => hd0 j (by omega) hj)
    (by rw [fwdDeriv_rec net vals hw i (List.getElem?_eq_getElem hi), if_pos rfl])
    (fun m x hn him => by rw [fwdDeriv_rec net vals hw i hn, if_neg (by omega)])
    net.length _ (Nat.le_refl _) hG).2.2 hi
  -- `backward` is the sweep over all nodes, started from the indicator of the root
  change ((List.range net.length).reverse.foldl (bstep net vals) ((List.replicate net.length 0).set root 1)).getD i 0 = _
  rw [this]
  have hg : ∀ j, ((List.replicate net.length (0:α)).set root 1).getD j 0 = if j = root then 1 else 0 := fun j => by
    rw [getD_set_bump _ root (by simpa using hr), getD_replicate_self]
  simp only [hg, ite_mul, one_mul, zero_mul]
  rw [sum_ite_eq' (range net.length) root]
  simp [hr]

theorem map_eval_toTree (e : Ev) (dens : List α) (net : Net α) (hw : WellOrdered net) {r : Nat} (hr : r < net.length)
    (ch : List Nat) (hch : ∀ c ∈ ch, c < r) :
    (ch.map fun c => toTree net dens (c+1) c).map (Circ.eval e) = ch.map (fun c => (evalNet e dens net).getD c 0) := by
  rw [List.map_map]
  exact List.map_congr_left fun c hc => (evalNet_refines e dens net hw c (Nat.lt_trans (hch c hc) hr)).symm

/-- one path from the root: the derivative is `gradAlong` in the unfolding -/
theorem fwd_eq_gradAlong (e : Ev) (dens : List α) (net : Net α) (hw : WellOrdered net) (i : Nat) (hi : i < net.length) :
    ∀ (p : List Nat) (r : Nat), r < net.length → nodeAt net r p = some i →
      (∀ q, nodeAt net r q = some i → q = p) →
      (fwdDeriv net (evalNet e dens net) i).getD r 0 = Circ.gradAlong e p (toTree net dens (r+1) r) := by
  intro p
  induction p with
  | nil =>
    intro r hr h _
    cases h
    rw [fwdDeriv_rec net _ hw i (List.getElem?_eq_getElem hi), if_pos rfl]
    simp [Circ.gradAlong]
  | cons j p ih =>
    intro r hr h huniq
    obtain ⟨x, c, hx, hkl, hc, h', hcr, hri, huniq', hsib⟩ := unique_path_step hw h huniq
    have hch : ∀ c ∈ x.ch, c < r := hw r x hx
    -- the derivative vanishes at the siblings of `c`
    have hz : ∀ c' ∈ x.ch.eraseIdx j, (fwdDeriv net (evalNet e dens net) i).getD c' 0 = 0 :=
      fun c' hc' => (not_reach_indep e dens net hw i c'
        (Nat.lt_trans (hch c' (List.mem_of_mem_eraseIdx hc')) hr) (hsib c' hc')).2
    have hget : (x.ch.map fun c => toTree net dens (c+1) c)[j]? = some (toTree net dens (c+1) c) := by
      rw [List.getElem?_map, hc, Option.map_some]
    rw [fwdDeriv_rec net _ hw i hx, if_neg hri, toTree_node dens hw hx]
    unfold linFn
    cases hk : x.kind
    · simp only [Circ.gradAlong, hget]
      rw [wsum_single _ x.ch x.ws j c hc hz, ih c (by omega) h' huniq']
    · simp only [Circ.gradAlong, hget]
      rw [prodLin_single _ _ x.ch j c hc hz, ih c (by omega) h' huniq', List.eraseIdx_map,
        ← map_eval_toTree e dens net hw hr _ (fun c' hc' => hch c' (List.mem_of_mem_eraseIdx hc'))]
    · exact absurd hk hkl

/-- on a node with one path from the root, forcing its value in the table is plugging a constant into the unfolding:
`evalNetWith` is the table form of `Circ.plug` -/
theorem plug_toTree_eq_override (e : Ev) (dens : List α) (net : Net α) (hw : WellOrdered net) (i : Nat)
    (hi : i < net.length) (x : α) :
    ∀ (p : List Nat) (r : Nat), r < net.length → nodeAt net r p = some i →
      (∀ q, nodeAt net r q = some i → q = p) →
      Circ.eval e (Circ.plug x p (toTree net dens (r+1) r)) = (evalNetWith e dens net i x).getD r 0 := by
  intro p
  induction p with
  | nil =>
    intro r hr h _
    cases h
    rw [evalNetWith_rec e dens net hw i x (List.getElem?_eq_getElem hi), if_pos rfl]
    simp [Circ.plug, Circ.eval]
  | cons j p ih =>
    intro r hr h huniq
    obtain ⟨y, c, hx, hkl, hc, h', hcr, hri, huniq', hsib⟩ := unique_path_step hw h huniq
    have hch : ∀ c ∈ y.ch, c < r := hw r y hx
    -- child `j` is plugged (induction), the siblings do not reach `i` and keep their values
    have hmaps : ((y.ch.map fun c => toTree net dens (c+1) c).modify j (Circ.plug x p)).map (Circ.eval e)
        = y.ch.map (fun c => (evalNetWith e dens net i x).getD c 0) := by
      apply List.ext_getElem?
      intro k
      rw [List.getElem?_map, List.getElem?_modify, List.getElem?_map, List.getElem?_map]
      cases hk : y.ch[k]? with
      | none => rfl
      | some c' =>
        have hc'r : c' < r := hch c' (List.mem_of_getElem? hk)
        by_cases hjk : j = k
        · subst hjk
          cases hc.symm.trans hk
          simp only [if_true, Option.map_some, Option.map_eq_map, Option.some.injEq]
          exact ih c (by omega) h' huniq'
        · simp only [if_neg hjk, Option.map_some, Option.map_eq_map, Option.some.injEq]
          rw [(not_reach_indep e dens net hw i c' (by omega)
              (hsib c' (List.mem_eraseIdx_iff_getElem?.2 ⟨k, Ne.symm hjk, hk⟩))).1 x,
            evalNet_refines e dens net hw c' (by omega)]
    rw [evalNetWith_rec e dens net hw i x hx, if_neg hri, toTree_node dens hw hx]
    unfold nodeFn
    cases hk : y.kind
    · simp only [Circ.plug, Circ.eval, hmaps]
    · simp only [Circ.plug, Circ.eval, hmaps]
    · exact absurd hk hkl

omit [CommSemiring α] in
theorem decompAt_of_unique_path (net : Net α) (root i : Nat)
    (huniq : ∀ q q', nodeAt net root q = some i → nodeAt net root q' = some i → q = q') : DecompAt net root i := by
  intro m x hreach hx hk
  rw [List.pairwise_iff_getElem]
  intro a b ha hb hab hboth
  obtain ⟨q0, hq0⟩ := reach_nodeAt net hreach
  obtain ⟨q1, hq1⟩ := reach_nodeAt net hboth.1
  obtain ⟨q2, hq2⟩ := reach_nodeAt net hboth.2
  have hkl : x.kind ≠ .leaf := by simp [hk]
  have h1 : nodeAt net root (q0 ++ a :: q1) = some i := by
    rw [nodeAt_append net q0 _ root m hq0, nodeAt_step q1 hx hkl (List.getElem?_eq_getElem ha), hq1]
  have h2 : nodeAt net root (q0 ++ b :: q2) = some i := by
    rw [nodeAt_append net q0 _ root m hq0, nodeAt_step q2 hx hkl (List.getElem?_eq_getElem hb), hq2]
  have := List.append_cancel_left (huniq _ _ h1 h2)
  have := (List.cons.inj this).1
  omega

/-- in a valid table the scope of a reachable node is contained in the scope of the node it is reached from -/
theorem scope_mono (dom : Nat → Nat) (net : Net α) (dens : List α)
    (hok : ∀ i (x : NNode α), net[i]? = some x → NodeOK dom net dens i x) {j i : Nat} (h : Reach net j i) :
    ∀ v ∈ scopeOf net i, v ∈ scopeOf net j := by
  induction h with
  | refl j => exact fun v hv => hv
  | @step j c i x hx hk hc _ ih =>
    intro v hv
    have hvc := ih v hv
    have hx' := hok j x hx
    have hsj : scopeOf net j = x.scope := by simp [scopeOf, hx]
    rw [hsj]
    cases hkd : x.kind
    · exact (((nodeOK_sum_iff hkd).1 hx').2.2 c hc v).1 hvc
    · exact (((nodeOK_prod_iff hkd).1 hx').2 v).1 (List.mem_flatten.2 ⟨_, List.mem_map.2 ⟨c, hc, rfl⟩, hvc⟩)
    · exact absurd hkd hk

/-- **decomposable tables**: the validity conditions `check_spn` enforces (`NodeOK`) give `DecompAt` for every node
with a non-empty scope -/
theorem decompAt_of_nodeOK (dom : Nat → Nat) (net : Net α) (dens : List α)
    (hok : ∀ i (x : NNode α), net[i]? = some x → NodeOK dom net dens i x) (root i : Nat)
    (hne : scopeOf net i ≠ []) : DecompAt net root i := by
  intro m x _ hx hk
  have hpw := (List.nodup_flatten.1 ((nodeOK_prod_iff hk).1 (hok m x hx)).1).2
  rw [List.pairwise_map] at hpw
  refine hpw.imp ?_
  intro c c' hdis hboth
  obtain ⟨v, hv⟩ := List.exists_mem_of_ne_nil _ hne
  exact hdis (scope_mono dom net dens hok hboth.1 v hv) (scope_mono dom net dens hok hboth.2 v hv)

/-- a table leaf whose table is normalised and as long as the variable's domain meets `NodeOK` (for the example
tables of C14) -/
theorem nodeOK_cat (dom : Nat → Nat) (net : Net α) (dens : List α) (i id v : Nat) (tbl : List α)
    (hl : tbl.length = dom v) (hs : tsum tbl = 1) :
    NodeOK dom net dens i ⟨id, .leaf, [v], [], [], .cat v tbl⟩ :=
  Circ.catLeaf_ok dom v tbl hl hs

end semiring
end Deeprob.Bwd
