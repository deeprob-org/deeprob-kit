import DeeprobModel.Lemmas.RatSampleRow
import DeeprobModel.Props.C16
set_option linter.unusedSimpArgs false
set_option linter.unusedVariables false
set_option linter.unusedSectionVars false
/-
C16 (sampling / MPE clause): the hypotheses of the C07 / C06 theorems hold for the unrolled
RAT-SPN (`unrollT`): valid, non-negative, exact leaf samplers; shapes of the top-down index pairs.
-/
namespace Deeprob
namespace RatSample
open RatSpn TCirc Tensor

section wf
variable {α : Type} [Field α] [LinearOrder α] [IsStrictOrderedRing α]

/-- an accepted Bernoulli RAT-SPN with the parameter shapes the constructor allocates: the guards of
`RegionGraph.__init__` / `RatSpn.__init__`, permutation draws, weight rows of the allocated lengths
(`in_nodes` of the sum / root layers), non-negative weights (soft-max), Bernoulli tables `[1-p, p]`
(two non-negative entries summing to one). -/
structure Spec.WF (S : Spec α) : Prop where
  perm : ∀ t r, (S.ρ t r).Perm r
  acc : accepted S.n S.depth = true
  reps_pos : 0 < S.reps
  batch_pos : 0 < S.batch
  sum_pos : 0 < S.rgSum
  w_len : ∀ l j o, (S.w l j o).length = if l = 0 then S.batch * S.batch else S.rgSum * S.rgSum
  root_len : ∀ y, (S.wroot y).length = S.reps * (if S.depth = 1 then S.batch * S.batch else S.rgSum * S.rgSum)
  w_nonneg : ∀ l j o, ∀ a ∈ S.w l j o, 0 ≤ a
  root_nonneg : ∀ y, ∀ a ∈ S.wroot y, 0 ≤ a
  tbl_len : ∀ i c k, (S.tbl i c k).length = 2
  tbl_sum : ∀ i c k, tsum (S.tbl i c k) = 1
  tbl_nonneg : ∀ i c k, ∀ a ∈ S.tbl i c k, 0 ≤ a

/-- soft-max rows sum to one (needed only for statements about the *normalised* distribution) -/
structure Spec.Normalised (S : Spec α) : Prop where
  w_sum : ∀ l j o, tsum (S.w l j o) = 1
  root_sum : ∀ y, tsum (S.wroot y) = 1

theorem lfOf_leafOK (S : Spec α) (h : S.WF) : ∀ i c k, k < (S.regs.getD i []).length →
    LeafOK (fun _ => 2) [(S.regs.getD i []).getD k 0] (lfOf S i c k) := by
  intro i c k hk
  obtain ⟨_, hd, _⟩ := (accepted_iff S.n S.depth).1 h.acc
  have hi : i < S.regs.length := by
    by_contra hc
    rw [getD_of_le (Nat.le_of_not_lt hc)] at hk
    exact Nat.not_lt_zero _ hk
  have hm : (S.mrow i).getD k 0 = (S.regs.getD i []).getD k 0 :=
    (congrArg (fun l => l.getD k 0) ((leafRows S.ρ h.perm S.n S.depth S.reps hd).maskBuf_getD hi)).trans
      (maskRow_getD_lt _ _ k hk)
  unfold lfOf
  rw [hm]
  exact Circ.catLeaf_ok _ _ _ (h.tbl_len i c k) (h.tbl_sum i c k)

/-- the unrolled circuit is valid (instance of `unroll_valid`) -/
theorem unrollT_valid (S : Spec α) (h : S.WF) (y : Nat) : Circ.Valid (fun _ => 2) (unrollT S y).toCirc := by
  rw [unrollT_toCirc]
  exact (unroll_valid (fun _ => 2) S.ρ h.perm S.n S.depth S.reps S.batch S.rgSum h.acc h.reps_pos h.batch_pos
    h.sum_pos (lfOf S) (lfOf_leafOK S h) S.w h.w_len (S.wroot y) (h.root_len y)).1

/-- `TCirc.eval` on `unrollT` is `Circ.eval` on `RatSpn.unroll` -/
theorem eval_unrollT (S : Spec α) (y : Nat) (e : Ev) : TCirc.eval e (unrollT S y) = Circ.eval e (circ S y) := by
  unfold TCirc.eval
  rw [unrollT_toCirc]

omit [Field α] [LinearOrder α] [IsStrictOrderedRing α] in
/-- a predicate on nodes that holds at the base and is preserved by products and by the sums of every
layer holds at every inner node -/
theorem innerT_all (Q : TCirc α → Prop) (w : Nat → Nat → Nat → List α) (rgSum : Nat)
    (hprod : ∀ s cs, (∀ c ∈ cs, Q c) → Q (.prod s cs))
    (hsum : ∀ l j o s cs, (∀ c ∈ cs, Q c) → Q (.sum s (w l j o) cs)) :
    ∀ (k l : Nat) (T : Tab (TCirc α)), (∀ g t, Q (T.at_ g t)) → ∀ g t, Q ((innerT w rgSum k l T).at_ g t)
  | 0, _, _, h => h
  | 1, _, _, h => fun _ _ => hprod _ _ (forall_mem_pair.2 ⟨h _ _, h _ _⟩)
  | k + 2, l, _, h =>
      innerT_all Q w rgSum hprod hsum (k + 1) (l + 1) _ (fun _ _ => hsum l _ _ _ _
        (List.forall_mem_map.2 (fun _ _ => hprod _ _ (forall_mem_pair.2 ⟨h _ _, h _ _⟩))))

/-- … and, if it also holds at the dummies and at the Bernoulli leaves and is preserved by the root, for the
unrolled circuit -/
theorem unrollT_all (Q : TCirc α → Prop) (S : Spec α) (y : Nat)
    (hprod : ∀ s cs, (∀ c ∈ cs, Q c) → Q (.prod s cs))
    (hsum : ∀ l j o s cs, (∀ c ∈ cs, Q c) → Q (.sum s (S.w l j o) cs))
    (hroot : ∀ s cs, (∀ c ∈ cs, Q c) → Q (.sum s (S.wroot y) cs))
    (hdummy : Q dummyT) (hbern : ∀ i c k v, Q (bernT v (S.tbl i c k))) : Q (unrollT S y) := by
  refine hroot _ _ (fun c hc => ?_)
  obtain ⟨g, _, hc⟩ := List.mem_flatMap.1 hc
  obtain ⟨t, _, rfl⟩ := List.mem_map.1 hc
  refine innerT_all Q S.w S.rgSum hprod hsum S.depth 0 _ (fun i c => hprod _ _ (fun ch hch => ?_)) g t
  obtain ⟨k, _, rfl⟩ := List.mem_map.1 hch
  split
  · exact hdummy
  · exact hbern i c k _

theorem unrollT_nonneg (S : Spec α) (h : S.WF) (y : Nat) : NonNeg (unrollT S y) :=
  unrollT_all NonNeg S y (fun s cs hcs => by unfold NonNeg; exact hcs)
    (fun l j o s cs hcs => by unfold NonNeg; exact ⟨h.w_nonneg l j o, hcs⟩)
    (fun s cs hcs => by unfold NonNeg; exact ⟨h.root_nonneg y, hcs⟩)
    (by unfold dummyT NonNeg; exact fun _ => zero_le_one)
    (fun i c k v => by unfold bernT NonNeg; exact catLeafFn_nonneg _ _ (h.tbl_nonneg i c k))

theorem unrollT_leafExact (S : Spec α) (y : Nat) : LeafExact (unrollT S y) :=
  unrollT_all LeafExact S y (fun s cs hcs => by unfold LeafExact; exact hcs)
    (fun l j o s cs hcs => by unfold LeafExact; exact hcs) (fun s cs hcs => by unfold LeafExact; exact hcs)
    (by unfold dummyT LeafExact; exact fun _ _ _ => one_mul _)
    (fun i c k v => by unfold bernT LeafExact; exact catCond_exact v _)

/-- every leaf of the unrolled circuit completes correctly with its mode -/
theorem unrollT_modeOK (S : Spec α) (y : Nat) : ModeOK (fun _ => 2) (unrollT S y) :=
  unrollT_all (FillOK (fun _ => 2) mpeFill) S y (fun s cs hcs => by unfold FillOK; exact hcs)
    (fun l j o s cs hcs => by unfold FillOK; exact hcs) (fun s cs hcs => by unfold FillOK; exact hcs)
    (by
      unfold dummyT FillOK
      exact fun p => ⟨fun x v hv => absurd hv List.not_mem_nil, fun x v hv => absurd hv List.not_mem_nil⟩)
    (fun i c k v => by unfold bernT FillOK; exact fun p => bernMode_leafFill (fun _ => 2) _ _ rfl)

theorem sampleDown_groups (ch : Nat → Nat → Nat) (rgSum g : Nat) :
    ∀ (k l m : Nat) (os : List Nat), (sampleDown ch rgSum k l m ([g], os)).1 = leafGroups g k
  | 0, _, _, os => rfl
  | 1, _, _, os => rfl
  | k + 2, l, m, os => by
      rw [leafGroups, ← sampleDown_groups ch rgSum g (k + 1) (l + 1) rgSum os]
      rfl

end wf

end RatSample
end Deeprob
