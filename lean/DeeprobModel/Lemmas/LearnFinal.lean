import DeeprobModel.Spec.LearnSpec
import DeeprobModel.Lemmas.LearnInv
import Mathlib.Data.List.Nodup
import Mathlib.Data.List.Perm.Lattice
/-
From the invariant to the finished structure: when the deque is empty the unfolding of the node table is
`Tree.Good`; and `Good` implies validity, proportional weights and routed rows.
-/
namespace Deeprob.Learn
open List

theorem Tree.Good.rows_ne : (t : Tree) → t.Good → t.rows ≠ []
  | .leaf r sc, h => ((Tree.good_leaf r sc).1 h).1
  | .prod r sc ch, h => ((Tree.good_prod r sc ch).1 h).1
  | .sum r sc ws ch, h => ((Tree.good_sum r sc ws ch).1 h).1

theorem Tree.Good.scope_ne : (t : Tree) → t.Good → t.scope ≠ []
  | .leaf r sc, h => ((Tree.good_leaf r sc).1 h).2
  | .prod r sc ch, h => ((Tree.good_prod r sc ch).1 h).2.1
  | .sum r sc ws ch, h => ((Tree.good_sum r sc ws ch).1 h).2.1

theorem Tree.induct {P : Tree → Prop} (leaf : ∀ r sc, P (.leaf r sc))
    (prod : ∀ r sc ch, (∀ c ∈ ch, P c) → P (.prod r sc ch))
    (sum : ∀ r sc ws ch, (∀ c ∈ ch, P c) → P (.sum r sc ws ch)) (t : Tree) : P t :=
  Tree.rec (motive_1 := P) (motive_2 := fun l => ∀ c ∈ l, P c) leaf prod sum
    (fun _ hc => nomatch hc)
    (fun _ _ hd htl c hc => (mem_cons.1 hc).elim (fun e => e ▸ hd) (htl c)) t

theorem Tree.Good.proportions : (t : Tree) → t.Good → t.Proportions
  | t, h => by
    induction t using Tree.induct with
    | leaf r sc => exact (Tree.proportions_leaf r sc).2 trivial
    | prod r sc ch ih =>
      exact (Tree.proportions_prod r sc ch).2
        (fun c hc => ih c hc (((Tree.good_prod r sc ch).1 h).2.2.2.2 c hc).2.2)
    | sum r sc ws ch ih =>
      obtain ⟨hr, _, ⟨labels, hlen, hsl⟩, hw, hch⟩ := (Tree.good_sum r sc ws ch).1 h
      rw [Tree.proportions_sum]
      refine ⟨?_, ?_, ?_, length_pos_iff.2 hr, fun c hc => ih c hc (hch c hc).2⟩
      · rw [hw]; unfold weightsOf; rw [map_map]; rfl
      · intro c hc
        have : c.rows ∈ slicesOf labels r := hsl ▸ mem_map_of_mem hc
        exact length_pos_iff.2 (slicesOf_ne_nil hlen _ this)
      · have := sum_length_slicesOf hlen
        rw [← hsl, map_map] at this
        exact this

theorem Tree.Good.routed : (t : Tree) → t.Good → t.Routed
  | t, h => by
    induction t using Tree.induct with
    | leaf r sc => exact (Tree.routed_leaf r sc).2 trivial
    | prod r sc ch ih =>
      have hch := ((Tree.good_prod r sc ch).1 h).2.2.2.2
      exact (Tree.routed_prod r sc ch).2 (fun c hc => ⟨(hch c hc).1, ih c hc (hch c hc).2.2⟩)
    | sum r sc ws ch ih =>
      obtain ⟨_, _, ⟨labels, hlen, hsl⟩, _, hch⟩ := (Tree.good_sum r sc ws ch).1 h
      rw [Tree.routed_sum]
      exact ⟨⟨labels, hlen, hsl⟩, hsl ▸ slicesOf_perm hlen, fun c hc => ih c hc (hch c hc).2⟩

theorem Tree.Good.valid (t : Tree) (h : t.Good) (hnd : t.scope.Nodup) : t.Valid := by
  induction t using Tree.induct with
  | leaf r sc => exact (Tree.valid_leaf r sc).2 ((Tree.good_leaf r sc).1 h).2
  | prod r sc ch ih =>
    obtain ⟨_, _, hne, hperm, hch⟩ := (Tree.good_prod r sc ch).1 h
    have hnd' : (ch.map Tree.scope).flatten.Nodup := hperm.nodup_iff.2 hnd
    rw [nodup_flatten] at hnd'
    rw [Tree.valid_prod]
    refine ⟨hne, hnd'.2, ?_, fun c hc => ih c hc (hch c hc).2.2 (hnd'.1 _ (mem_map_of_mem hc))⟩
    intro v
    rw [← hperm.mem_iff]
    simp only [mem_flatten, mem_map, exists_exists_and_eq_and]
  | sum r sc ws ch ih =>
    obtain ⟨hr, _, ⟨labels, hlen, hsl⟩, hw, hch⟩ := (Tree.good_sum r sc ws ch).1 h
    rw [Tree.valid_sum]
    refine ⟨?_, ?_, fun c hc => ⟨(hch c hc).1, ih c hc (hch c hc).2 ((hch c hc).1 ▸ hnd)⟩⟩
    · intro he
      have := slicesOf_length_pos hlen hr
      rw [← hsl, he] at this
      exact this rfl
    · rw [hw]; simp [weightsOf]

theorem toTree_leaf (tbl : List Node) (f i : Nat) (h : (getN tbl i).kind = .leaf) :
    toTree tbl (f + 1) i = .leaf (getN tbl i).rows (getN tbl i).scope := by simp [toTree, h]
theorem toTree_naive (tbl : List Node) (f i : Nat) (h : (getN tbl i).kind = .naive) :
    toTree tbl (f + 1) i = .prod (getN tbl i).rows (getN tbl i).scope
      ((getN tbl i).scope.map (fun v => .leaf (getN tbl i).rows [v])) := by simp [toTree, h]
theorem toTree_prod (tbl : List Node) (f i : Nat) (h : (getN tbl i).kind = .prod) :
    toTree tbl (f + 1) i = .prod (getN tbl i).rows (getN tbl i).scope
      ((getN tbl i).children.map (toTree tbl f)) := by simp [toTree, h]
theorem toTree_sum (tbl : List Node) (f i : Nat) (h : (getN tbl i).kind = .sum) :
    toTree tbl (f + 1) i = .sum (getN tbl i).rows (getN tbl i).scope (getN tbl i).weights
      ((getN tbl i).children.map (toTree tbl f)) := by simp [toTree, h]

theorem items_done (fN : Node → List Nat) (fT : Task → List Nat) (s : St) (hq : s.queue = []) (i : Nat) :
    itemsG fN fT s i = (s.node i).children.map (fun c => fN (s.node c)) := by
  unfold itemsG; rw [hq]; simp [pend]

theorem toTree_good (s : St) (hI : Inv s) (hq : s.queue = []) :
    ∀ fuel i, i < s.size → s.size - i ≤ fuel →
      (toTree s.nodes fuel i).rows = (s.node i).rows ∧ (toTree s.nodes fuel i).scope = (s.node i).scope ∧
        (toTree s.nodes fuel i).Good := by
  intro fuel
  induction fuel with
  | zero => intro i hi hf; omega
  | succ f ih =>
    intro i hi hf
    have hN := hI.nodes i hi
    have hch : ∀ c ∈ (s.node i).children, (toTree s.nodes f c).rows = (s.node c).rows ∧
        (toTree s.nodes f c).scope = (s.node c).scope ∧ (toTree s.nodes f c).Good := by
      intro c hc
      have := hN.ch_lt c hc
      exact ih c this.2 (by omega)
    have hmapr : ((s.node i).children.map (toTree s.nodes f)).map Tree.rows
        = (s.node i).children.map (fun c => (s.node c).rows) := by
      rw [map_map]; exact map_congr_left (fun c hc => (hch c hc).1)
    have hmaps : ((s.node i).children.map (toTree s.nodes f)).map Tree.scope
        = (s.node i).children.map (fun c => (s.node c).scope) := by
      rw [map_map]; exact map_congr_left (fun c hc => (hch c hc).2.1)
    cases hk : (s.node i).kind with
    | leaf =>
      rw [toTree_leaf _ _ _ hk]
      exact ⟨rfl, rfl, (Tree.good_leaf _ _).2 ⟨hN.rows_ne, hN.scope_ne⟩⟩
    | naive =>
      rw [toTree_naive _ _ _ hk]
      refine ⟨rfl, rfl, (Tree.good_prod _ _ _).2 ⟨hN.rows_ne, hN.scope_ne, ?_, ?_, ?_⟩⟩
      · intro he; exact hN.scope_ne (map_eq_nil_iff.1 he)
      · rw [map_map]
        show ((getN s.nodes i).scope.map (fun v => [v])).flatten.Perm _
        rw [← flatMap_def, flatMap_singleton']
      · exact forall_mem_map.2 fun v _ =>
          ⟨rfl, cons_ne_nil v [], (Tree.good_leaf _ _).2 ⟨hN.rows_ne, cons_ne_nil v []⟩⟩
    | prod =>
      rw [toTree_prod _ _ _ hk]
      obtain ⟨hparts, hrows, hstat, hne⟩ := hN.prod hk
      rw [scopeItems, items_done _ _ s hq] at hparts
      rw [rowItems, items_done _ _ s hq] at hrows
      refine ⟨rfl, rfl, (Tree.good_prod _ _ _).2 ⟨hN.rows_ne, hN.scope_ne, ?_, ?_, ?_⟩⟩
      · -- without children there are no slices, so the scope would be empty
        intro he
        rw [← hparts, show (s.node i).children = [] from map_eq_nil_iff.1 he] at hstat
        exact hN.scope_ne hstat.symm.eq_nil
      · show (((s.node i).children.map (toTree s.nodes f)).map Tree.scope).flatten.Perm _
        rw [hmaps, hparts]; exact hstat
      · exact forall_mem_map.2 fun d hd => ⟨(hch d hd).1.trans (hrows _ (mem_map_of_mem hd)),
          (hch d hd).2.1 ▸ hne _ (hparts ▸ mem_map_of_mem hd), (hch d hd).2.2⟩
    | sum =>
      rw [toTree_sum _ _ _ hk]
      obtain ⟨hparts, hscopes, labels, hlen, hsl, hw⟩ := hN.sum hk
      rw [rowItems, items_done _ _ s hq] at hparts
      rw [scopeItems, items_done _ _ s hq] at hscopes
      refine ⟨rfl, rfl, (Tree.good_sum _ _ _ _).2 ⟨hN.rows_ne, hN.scope_ne, ⟨labels, hlen, ?_⟩, ?_, ?_⟩⟩
      · show ((s.node i).children.map (toTree s.nodes f)).map Tree.rows = _
        rw [hmapr, hparts]; exact hsl
      · show _ = weightsOf (((s.node i).children.map (toTree s.nodes f)).map Tree.rows) _
        rw [hmapr, hparts]; exact hw
      · exact forall_mem_map.2 fun d hd =>
          ⟨(hch d hd).2.1.trans (hscopes _ (mem_map_of_mem hd)), (hch d hd).2.2⟩

theorem run_final (cfg : Cfg) (hf : cfg.front = true) (rows scope : List Nat) (script : List Ans) (fuel : Nat)
    (s : St) (hr : rows ≠ []) (hs : scope ≠ [])
    (h : run cfg fuel (initOn rows scope script) = .ok s) (hq : s.queue = []) :
    ∃ t, result s = some t ∧ t.Good ∧ t.rows = rows ∧ t.scope = scope := by
  obtain ⟨k, hS, _⟩ := run_ok_iff.1 h
  have hI0 := inv_initOn rows scope script hr hs
  have hI : Inv s := hS.inv hf hI0
  -- `tmp_node` still has the whole scope as its only slice
  have hroot := hS.root hf hI0
  have h2 : (s.node 0).rows = rows := hroot.rows
  have h3 : (s.node 0).parts = [scope] := hroot.parts
  have hN := hI.nodes 0 hI.size_pos
  obtain ⟨hparts, hrows, _⟩ := hN.prod hI.root_prod
  unfold scopeItems at hparts; rw [items_done _ _ s hq, h3] at hparts
  unfold rowItems at hrows; rw [items_done _ _ s hq] at hrows
  -- hence exactly one child
  cases hc : (s.node 0).children with
  | nil => rw [hc] at hparts; cases hparts
  | cons c rest =>
    rw [hc] at hparts hrows
    simp only [map_cons, cons.injEq] at hparts
    have hcl := hN.ch_lt c (hc ▸ mem_cons_self ..)
    obtain ⟨g1, g2, g3⟩ := toTree_good s hI hq s.size c hcl.2 (by omega)
    refine ⟨toTree s.nodes s.size c, ?_, g3, ?_, ?_⟩
    · unfold result rootId; rw [hc]; rfl
    · rw [g1, ← h2]; exact hrows _ (by simp)
    · rw [g2, hparts.1]

/-- turning an evaluated check into an existence statement (for concrete witnesses) -/
theorem exists_ok_of_check {α : Type} (e : Except String α) (P : α → Prop) [DecidablePred P]
    (h : (match e with | .ok s => decide (P s) | .error _ => false) = true) : ∃ s, e = .ok s ∧ P s := by
  cases e with
  | error m => simp at h
  | ok s => exact ⟨s, rfl, of_decide_eq_true h⟩

end Deeprob.Learn
