import DeeprobModel.Lemmas.RatSampleCirc
import DeeprobModel.Lemmas.PmfLemmas
set_option linter.unusedSimpArgs false
set_option linter.unusedVariables false
set_option linter.unusedSectionVars false
/-
C16 (sampling clause): the layer-wise pmf transformer `pmfDown` (joint independent draws of a whole row of
`idx_offset` per sum layer) factorises over the selected nodes, hence equals the node-wise recursion on the
unrolled circuit (`topDownPmf` for the conditional law, `eval` for the weights-only law of `RatSpn.sample`).
-/
namespace Deeprob
namespace RatSample
open RatSpn TCirc Tensor

section sums
variable {α : Type} [CommSemiring α]

theorem sumVar_succ_front (n : Nat) (g : Nat → α) : sumVar (n + 1) g = g 0 + sumVar n (fun i => g (i + 1)) := by
  unfold sumVar
  rw [List.range_succ_eq_map, List.foldr_cons, List.foldr_map]

theorem sumVar_mul_right (n : Nat) (a : α) (f : Nat → α) : sumVar n (fun k => f k * a) = sumVar n f * a := by
  rw [mul_comm, ← sumVar_mul]
  exact sumVar_congr _ _ _ (fun k => mul_comm _ _)

/-- `Σᵢ pᵢ·xᵢ` over a list is the indexed sum (stops at the shorter list: `getD` pads with 0) -/
theorem wsum_getD : ∀ (xs p : List α), wsum p xs = sumVar xs.length (fun i => p.getD i 0 * xs.getD i 0)
  | [], p => by cases p <;> rfl
  | x :: xs, [] => by
      simp only [wsum, List.getD_nil, zero_mul]
      exact (sumVar_zero _).symm
  | x :: xs, a :: p => by
      rw [List.length_cons, sumVar_succ_front]
      simp only [wsum, List.getD_cons_zero, List.getD_cons_succ]
      rw [wsum_getD xs p]

/-- … for a list given by its entries -/
theorem wsum_eq_sumVar (p xs : List α) (n : Nat) (F : Nat → α) (hlen : xs.length = n)
    (h : ∀ i, i < n → xs[i]? = some (F i)) : wsum p xs = sumVar n (fun i => p.getD i 0 * F i) := by
  rw [wsum_getD, hlen]
  apply sumVar_congr_lt
  intro i hi
  rw [List.getD_eq_getElem?_getD (l := xs), h i hi, Option.getD_some]

theorem wsum_range (p : List α) (m : Nat) (f : Nat → α) :
    wsum p ((List.range m).map f) = sumVar m (fun i => p.getD i 0 * f i) :=
  wsum_eq_sumVar p _ m f (by rw [List.length_map, List.length_range])
    (fun i hi => by rw [List.getElem?_map, List.getElem?_range hi]; rfl)

end sums

section flat

theorem flat_length {β : Type} (V : Tab β) : (flat V).length = V.groups * V.nodes :=
  flatMap_range_length _ _ (fun g => by rw [List.length_map, List.length_range]) _

/-- entry `idx` of the flattened table sits in row `idx / nodes`, column `idx % nodes` -/
theorem flat_getElem? {β : Type} (V : Tab β) (idx : Nat) (h : idx < V.groups * V.nodes) :
    (flat V)[idx]? = some (V.at_ (idx / V.nodes) (idx % V.nodes)) := by
  have hN : 0 < V.nodes := Nat.pos_of_ne_zero (fun h0 => by rw [h0, Nat.mul_zero] at h; exact Nat.not_lt_zero _ h)
  have hq : idx / V.nodes < V.groups := Nat.div_lt_of_lt_mul (by rwa [Nat.mul_comm])
  have hb := flatMap_block (fun g => (List.range V.nodes).map (fun t => V.at_ g t)) V.nodes
    (fun g => by rw [List.length_map, List.length_range]) V.groups _ hq
  have hr := Nat.mod_lt idx hN
  have := congrArg (fun l => l[idx % V.nodes]?) hb
  simp only [List.getElem?_take_of_lt hr, List.getElem?_drop, Nat.mul_comm (idx / V.nodes), Nat.div_add_mod,
    List.getElem?_map, List.getElem?_range hr, Option.map_some] at this
  exact this

theorem wsum_flat {α : Type} [CommSemiring α] (p : List α) (T : Tab (TCirc α)) (P : TCirc α → α) :
    wsum p ((flat T).map P) =
      sumVar (T.groups * T.nodes) (fun idx => p.getD idx 0 * P (T.at_ (idx / T.nodes) (idx % T.nodes))) :=
  wsum_eq_sumVar p _ _ _ (by rw [List.length_map, flat_length])
    (fun i hi => by rw [List.getElem?_map, flat_getElem? T i hi]; rfl)

end flat

section expect
variable {α : Type} [Field α]

theorem expect_mul (m : Nat) (a : α) : ∀ (ps : List (List α)) (f : List Nat → α),
    expect m ps (fun is => a * f is) = a * expect m ps f
  | [], f => rfl
  | p :: ps, f => by
      simp only [expect]
      rw [← sumVar_mul]
      apply sumVar_congr
      intro i
      rw [expect_mul m a ps]
      ring

theorem expect_congr_len (m : Nat) : ∀ (ps : List (List α)) (f f' : List Nat → α),
    (∀ is, is.length = ps.length → f is = f' is) → expect m ps f = expect m ps f'
  | [], f, f', h => h [] rfl
  | p :: ps, f, f', h => by
      simp only [expect]
      apply sumVar_congr
      intro i
      congr 1
      exact expect_congr_len m ps _ _ (fun is his => h _ (by rw [List.length_cons, his, List.length_cons]))

/-- the expectation of a product of per-position factors under independent draws is the product of the
per-position expectations -/
theorem expect_factor {γ δ : Type} (m : Nat) (law : γ → δ → List α) (q : γ → Nat → α) : ∀ (gs : List γ) (os : List δ),
    expect m (List.zipWith law gs os) (fun is => lprod ((gs.zip is).map (fun p => q p.1 p.2)))
      = lprod ((gs.zip os).map (fun p => sumVar m (fun i => (law p.1 p.2).getD i 0 * q p.1 i)))
  | [], os => rfl
  | g :: gs, [] => rfl
  | g :: gs, o :: os => by
      simp only [List.zipWith_cons_cons, expect, List.zip_cons_cons, List.map_cons, lprod]
      rw [← sumVar_mul_right]
      apply sumVar_congr
      intro i
      rw [expect_mul, expect_factor m law q gs os]
      ring

/-- … for draws from the tables of one list of columns -/
theorem expect_factorG {γ : Type} (m : Nat) (tb : γ → List α) (q : γ → Nat → α) (zs : List γ) :
    expect m (zs.map tb) (fun is => lprod ((zs.zip is).map (fun p => q p.1 p.2)))
      = lprod (zs.map (fun z => sumVar m (fun i => (tb z).getD i 0 * q z i))) := by
  have h := expect_factor m (fun z (_ : γ) => tb z) q zs zs
  rwa [List.zipWith_self, List.zip_eq_zipWith, List.map_zipWith, List.zipWith_self] at h

theorem lprod_flatMap {β : Type} (f : β → List α) : ∀ (l : List β),
    lprod (l.flatMap f) = lprod (l.map (fun b => lprod (f b)))
  | [] => rfl
  | b :: l => by rw [List.flatMap_cons, lprod_append, List.map_cons, lprod, lprod_flatMap f l]

end expect

/-- the index pair after a product layer, entry by entry: `(g, o) ↦ (2g, o / m), (2g + 1, o % m)` -/
theorem zip_prodDownI (m : Nat) : ∀ (gs os : List Nat),
    (prodDownI m (gs, os)).1.zip (prodDownI m (gs, os)).2 =
      (gs.zip os).flatMap (fun go => [(2 * go.1, go.2 / m), (2 * go.1 + 1, go.2 % m)])
  | [], os => rfl
  | g :: gs, [] => by simp only [prodDownI, prodDown, List.flatMap_nil, List.zip_nil_right]
  | g :: gs, o :: os => by
      have ih := zip_prodDownI m gs os
      simp only [prodDownI, prodDown, List.flatMap_cons, List.cons_append, List.nil_append,
        List.zip_cons_cons] at ih ⊢
      rw [ih]

section down
variable {α : Type} [Field α] [LT α] [DecidableLT α]

/-- product of a node functional over the nodes selected by an index pair -/
def prodOver (P : TCirc α → α) (T : Tab (TCirc α)) (io : Idx) : α :=
  lprod ((io.1.zip io.2).map (fun go => P (T.at_ go.1 go.2)))

theorem prodOver_single (P : TCirc α → α) (T : Tab (TCirc α)) (g o : Nat) :
    prodOver P T ([g], [o]) = P (T.at_ g o) := by
  simp only [prodOver, List.zip_cons_cons, List.zip_nil_right, List.map_cons, List.map_nil, lprod, mul_one]

variable (P : TCirc α → α) (hprod : ∀ s cs, P (.prod s cs) = lprod (cs.map P))
include hprod

theorem prodOver_prodT (T : Tab (TCirc α)) (gs os : List Nat) :
    prodOver P (prodT T) (gs, os) = prodOver P T (prodDownI T.nodes (gs, os)) := by
  unfold prodOver
  rw [zip_prodDownI, List.map_flatMap, lprod_flatMap]
  refine congrArg lprod (List.map_congr_left (fun go _ => ?_))
  simp only [prodT]
  rw [hprod]
  rfl

/-- **simulation of the top-down loop**: if the node functional `P` satisfies the product rule and, at
every sum layer, the mixture rule for the branch law `law`, the pmf transformer started with index pair
`io` at the top of the inner layers yields the product of `P` over the selected top nodes. -/
theorem pmfDown_factor (e : Ev) (law : Nat → Tab α → Nat → Nat → List α)
    (w : Nat → Nat → Nat → List α) (rgSum : Nat)
    (hsum : ∀ (l : Nat) (T : Tab (TCirc α)) (V : Tab α), Aligned e T V → ∀ g o,
      P ((sumT (w l) rgSum T).at_ g o) = sumVar V.nodes (fun i => (law l V g o).getD i 0 * P (T.at_ g i))) :
    ∀ (k l : Nat) (T : Tab (TCirc α)) (V : Tab α), Aligned e T V →
      ∀ (κ : Idx → α), (∀ io, κ io = prodOver P T io) →
      ∀ io, pmfDown law w rgSum k l V κ io = prodOver P (innerT w rgSum k l T) io := by
  intro k
  induction k with
  | zero => exact fun _ T V _ κ hκ io => hκ io
  | succ k ih =>
    intro l T V hA κ hκ io
    cases k with
    | zero =>
      simp only [pmfDown, innerT]
      rw [hκ, ← hA.2.1]
      exact (prodOver_prodT P hprod T io.1 io.2).symm
    | succ k =>
      simp only [pmfDown, innerT]
      have hA1 := aligned_prod hA
      apply ih (l + 1) _ _ (aligned_sum (w l) rgSum hA1)
      -- a sum layer: the draws of the new offsets are independent, position by position
      intro io'
      unfold sumStep
      have h1 : (fun os' => κ (prodDownI V.nodes (io'.1, os'))) =
          fun is => lprod ((io'.1.zip is).map (fun p => P ((prodT T).at_ p.1 p.2))) := by
        funext os'
        rw [hκ, ← hA.2.1]
        exact (prodOver_prodT P hprod T io'.1 os').symm
      rw [h1, expect_factor _ _ (fun g i => P ((prodT T).at_ g i)) io'.1 io'.2]
      exact congrArg _ (List.map_congr_left (fun p _ => (hsum l _ _ hA1 p.1 p.2).symm))

variable (S : Spec α)

/-- the base layer: a per-column product with factor `d` at the dummies and `b v tbl` at a Bernoulli leaf -/
theorem basePmf_eq_prodOver (e x : Ev) (hd : P dummyT = 1) (hb : ∀ v tbl, P (bernT v tbl) = catCond v tbl e x)
    (io : Idx) : basePmf S e x io = prodOver P (baseT S) io := by
  unfold basePmf prodOver
  congr 1
  apply List.map_congr_left
  intro go _
  simp only [baseT, baseNodeT]
  rw [hprod, baseNodeT_children_map]
  simp only [hd, hb]

/-- **root step and top-down loop**: the mixture, with the root's branch law `pm`, of the node functional
over the children of the root of the unrolled circuit -/
theorem rootStep_pmfDown (e : Ev) (law : Nat → Tab α → Nat → Nat → List α) (pm : List α)
    (hsum : ∀ (l : Nat) (T : Tab (TCirc α)) (V : Tab α), Aligned e T V → ∀ g o,
      P ((sumT (S.w l) S.rgSum T).at_ g o) = sumVar V.nodes (fun i => (law l V g o).getD i 0 * P (T.at_ g i)))
    (κ : Idx → α) (hκ : ∀ io, κ io = prodOver P (baseT S) io) :
    rootStep pm (innerVal S.w S.rgSum S.depth 0 (baseVal S e)) (pmfDown law S.w S.rgSum S.depth 0 (baseVal S e) κ)
      = wsum pm ((flat (innerT S.w S.rgSum S.depth 0 (baseT S))).map P) := by
  have hA := aligned_top S e
  unfold topVal at hA
  rw [wsum_flat, hA.1, hA.2.1]
  unfold rootStep
  apply sumVar_congr
  intro idx
  rw [pmfDown_factor P hprod e law S.w S.rgSum hsum S.depth 0 (baseT S) (baseVal S e) (aligned_base S e) κ hκ,
    prodOver_single]

end down

section laws
variable {α : Type} [Field α] [LinearOrder α] [IsStrictOrderedRing α]

theorem topDownPmf_dummyT (e x : Ev) : topDownPmf e x (dummyT : TCirc α) = 1 := by
  simp only [dummyT, topDownPmf]

theorem topDownPmf_bernT (e x : Ev) (v : Nat) (tbl : List α) : topDownPmf e x (bernT v tbl) = catCond v tbl e x := by
  simp only [bernT, topDownPmf]

theorem catCond_allMissing (v : Nat) (tbl : List α) (x : Ev) :
    catCond v tbl (fun _ => none) x = Circ.catLeafFn v tbl x := by
  unfold catCond Circ.catLeafFn
  cases x v <;> rfl

/-- **the evidence-conditioned layer-wise pass is the node-wise top-down sampler of the unrolled
circuit** (no hypothesis: a structural identity) -/
theorem condPmf_eq_topDownPmf (S : Spec α) (y : Nat) (e x : Ev) :
    condPmf S y e x = topDownPmf e x (unrollT S y) := by
  unfold condPmf unrollT rootT
  rw [topDownPmf_sum, flat_map_eval (aligned_top S e)]
  refine rootStep_pmfDown (topDownPmf e x) (topDownPmf_prod e x) S e _ _ ?_ _
    (basePmf_eq_prodOver _ (topDownPmf_prod e x) S e x (topDownPmf_dummyT e x) (topDownPmf_bernT e x))
  intro l T V hAl g o
  simp only [sumT]
  rw [topDownPmf_sum, hAl.map_row, List.map_map, ← wsum_range, hAl.2.1]
  rfl

/-- **the law of `RatSpn.sample` is the polynomial of the unrolled circuit** (no hypothesis) -/
theorem samplePmf_eq_eval (S : Spec α) (y : Nat) (x : Ev) :
    samplePmf S y x = TCirc.eval x (unrollT S y) := by
  unfold samplePmf unrollT rootT
  rw [TCirc.eval_sum]
  refine rootStep_pmfDown (TCirc.eval x) (TCirc.eval_prod x) S (fun _ => none) _ _ ?_ _
    (basePmf_eq_prodOver _ (TCirc.eval_prod x) S _ x (eval_dummyT x)
      (fun v tbl => by rw [eval_bernT, catCond_allMissing]))
  intro l T V hAl g o
  simp only [sumT]
  rw [TCirc.eval_sum, List.map_map, ← wsum_range, hAl.2.1]
  rfl

end laws

end RatSample
end Deeprob
