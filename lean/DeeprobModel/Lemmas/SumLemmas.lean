import DeeprobModel.Model.Sum
import DeeprobModel.Spec.Validity
import Mathlib.Tactic.Ring
import Mathlib.Data.List.Dedup
import Mathlib.Data.List.Perm.Basic
import Mathlib.Algebra.BigOperators.Ring.List
import Mathlib.Algebra.Order.BigOperators.Group.List
import Mathlib.Algebra.Order.BigOperators.GroupWithZero.List
/-
The list algebra of the model (`tsum`, `lprod`, `wsum`, `sumVar`) read as `List.sum` / `List.prod`, and the
completion sums `sumOver`: linear, and depending only on the set of variables summed over.
The file opens with the pointwise facts about `Ev.set` / `List.set`; namespace `TD` holds the order facts
(nonnegativity, positivity, one term below the sum) of `tsum` / `wsum` / `lprod` over an ordered semiring.
-/
namespace Deeprob

@[simp] theorem Ev.set_self (e : Ev) (v k : Nat) : (e.set v k) v = some k := if_pos rfl
theorem forall_mem_pair {β : Type} {P : β → Prop} {a b : β} : (∀ c ∈ [a, b], P c) ↔ P a ∧ P b := by simp

theorem Ev.set_ne (e : Ev) {v w : Nat} (k : Nat) (h : w ≠ v) : (e.set v k) w = e w := if_neg h
theorem Ev.set_comm (e : Ev) {a b : Nat} (h : a ≠ b) (i j : Nat) :
    (e.set a i).set b j = (e.set b j).set a i := by
  funext w
  by_cases h1 : w = a
  · have h2 : w ≠ b := fun h2 => h (h1.symm.trans h2)
    simp only [Ev.set, if_pos h1, if_neg h2]
  · simp only [Ev.set, if_neg h1]

theorem getD_set {β : Type} (l : List β) (c v : Nat) (k d : β) :
    (l.set c k).getD v d = if v = c ∧ c < l.length then k else l.getD v d := by
  rw [List.getD_eq_getElem?_getD, List.getD_eq_getElem?_getD, List.getElem?_set]
  by_cases hvc : c = v
  · subst hvc
    by_cases hl : c < l.length
    · simp [hl]
    · simp [hl]
  · simp [hvc, Ne.symm hvc]

theorem getD_mem {β : Type} {l : List β} {i : Nat} (h : i < l.length) (d : β) : l.getD i d ∈ l := by
  rw [List.getD_eq_getElem?_getD, List.getElem?_eq_getElem h]
  exact List.getElem_mem h

theorem getD_idxOf {β : Type} [DecidableEq β] {l : List β} {a : β} (h : a ∈ l) (d : β) : l.getD (l.idxOf a) d = a := by
  rw [List.getD_eq_getElem?_getD, List.getElem?_idxOf h, Option.getD_some]

theorem idxOf_getD {β : Type} [DecidableEq β] {l : List β} (hnd : l.Nodup) {i : Nat} (hi : i < l.length) (d : β) :
    l.idxOf (l.getD i d) = i := by
  rw [List.getD_eq_getElem?_getD, List.getElem?_eq_getElem hi, Option.getD_some]
  exact hnd.idxOf_getElem i hi

theorem map_getD_range {β : Type} (l : List β) (d : β) : (List.range l.length).map (fun i => l.getD i d) = l := by
  apply List.ext_getElem
  · simp
  · intro i h1 h2
    simp only [List.getElem_map, List.getElem_range, List.getD_eq_getElem?_getD, List.getElem?_eq_getElem h2,
      Option.getD_some]

theorem map_range_getD {β γ : Type} (l : List β) (d : β) (f : β → γ) :
    (List.range l.length).map (fun i => f (l.getD i d)) = l.map f := by
  conv_rhs => rw [← map_getD_range l d, List.map_map]
  rfl

section bridge
variable {α : Type}

theorem tsum_eq_sum [Zero α] [Add α] : ∀ l : List α, tsum l = l.sum
  | [] => rfl
  | x :: xs => by rw [tsum, tsum_eq_sum xs, List.sum_cons]

theorem lprod_eq_prod [One α] [Mul α] : ∀ l : List α, lprod l = l.prod
  | [] => rfl
  | x :: xs => by rw [lprod, lprod_eq_prod xs, List.prod_cons]

theorem wsum_eq_sum [Zero α] [Add α] [Mul α] (ws xs : List α) :
    wsum ws xs = (List.zipWith (· * ·) ws xs).sum := by
  induction ws generalizing xs with
  | nil => rfl
  | cons w ws ih =>
    cases xs with
    | nil => rfl
    | cons x xs => rw [wsum, ih, List.zipWith_cons_cons, List.sum_cons]

theorem sumVar_eq_sum_map [Zero α] [Add α] (n : Nat) (f : Nat → α) :
    sumVar n f = ((List.range n).map f).sum := by
  rw [sumVar, List.sum_eq_foldr, List.foldr_map]

theorem sumVar_congr_lt [Zero α] [Add α] (n : Nat) (f g : Nat → α) (h : ∀ k, k < n → f k = g k) :
    sumVar n f = sumVar n g := by
  rw [sumVar_eq_sum_map, sumVar_eq_sum_map, List.map_congr_left fun k hk => h k (List.mem_range.1 hk)]

theorem sumVar_congr [Zero α] [Add α] (n : Nat) (f g : Nat → α) (h : ∀ k, f k = g k) :
    sumVar n f = sumVar n g :=
  sumVar_congr_lt n f g fun k _ => h k

theorem sumVar_succ [AddMonoid α] (n : Nat) (f : Nat → α) : sumVar (n + 1) f = sumVar n f + f n := by
  rw [sumVar_eq_sum_map, sumVar_eq_sum_map, List.range_succ, List.map_append, List.sum_append,
    List.map_singleton, List.sum_singleton]

theorem sumVar_two [AddMonoid α] (f : Nat → α) : sumVar 2 f = f 0 + f 1 := by
  rw [sumVar_succ, sumVar_succ, sumVar_eq_sum_map, List.range_zero, List.map_nil, List.sum_nil, zero_add]

theorem sumVar_eq_zero [AddMonoid α] (n : Nat) (f : Nat → α) (h : ∀ k, k < n → f k = 0) : sumVar n f = 0 := by
  rw [sumVar_congr_lt n f (fun _ => 0) h, sumVar_eq_sum_map, List.sum_map_zero]

theorem sumVar_single [AddMonoid α] (n i : Nat) (f : Nat → α) (hi : i < n) (hz : ∀ k, k < n → k ≠ i → f k = 0) :
    sumVar n f = f i := by
  induction n with
  | zero => exact absurd hi (Nat.not_lt_zero i)
  | succ n ih =>
    rw [sumVar_succ]
    rcases Nat.lt_succ_iff_lt_or_eq.1 hi with h | rfl
    · rw [ih h fun k hk hne => hz k (Nat.lt_succ_of_lt hk) hne, hz n n.lt_succ_self (Nat.ne_of_gt h), add_zero]
    · rw [sumVar_eq_zero i f fun k hk => hz k (Nat.lt_succ_of_lt hk) (Nat.ne_of_lt hk), zero_add]

end bridge

variable {α : Type} [CommSemiring α]

theorem tsum_append (a b : List α) : tsum (a ++ b) = tsum a + tsum b := by
  rw [tsum_eq_sum, tsum_eq_sum, tsum_eq_sum, List.sum_append]

theorem lprod_append (a b : List α) : lprod (a ++ b) = lprod a * lprod b := by
  rw [lprod_eq_prod, lprod_eq_prod, lprod_eq_prod, List.prod_append]

theorem sumVar_mul (n : Nat) (a : α) (f : Nat → α) : sumVar n (fun k => a * f k) = a * sumVar n f := by
  rw [sumVar_eq_sum_map, sumVar_eq_sum_map, List.sum_map_mul_left]

theorem sumVar_add (n : Nat) (f g : Nat → α) : sumVar n (fun k => f k + g k) = sumVar n f + sumVar n g := by
  rw [sumVar_eq_sum_map, sumVar_eq_sum_map, sumVar_eq_sum_map, List.sum_map_add]

theorem sumVar_zero (n : Nat) : sumVar n (fun _ => (0:α)) = 0 :=
  sumVar_eq_zero n _ fun _ _ => rfl

theorem sumVar_comm (n m : Nat) (f : Nat → Nat → α) :
    sumVar n (fun i => sumVar m (fun j => f i j)) = sumVar m (fun j => sumVar n (fun i => f i j)) := by
  induction n with
  | zero => exact (sumVar_zero m).symm
  | succ n ih =>
    rw [sumVar_succ, ih, ← sumVar_add]
    exact sumVar_congr m _ _ fun j => (sumVar_succ n _).symm

namespace TD
section order
variable {α : Type} [CommSemiring α] [LinearOrder α] [IsStrictOrderedRing α]

theorem tsum_pos_exists (l : List α) (h : 0 < tsum l) : ∃ x ∈ l, 0 < x := by
  rw [tsum_eq_sum] at h
  exact List.exists_lt_of_sum_lt (fun _ => (0:α)) id (by rwa [List.sum_map_zero, List.map_id])

theorem zipWith_mul_nonneg {ws xs : List α} (hw : ∀ w ∈ ws, 0 ≤ w) (hx : ∀ x ∈ xs, 0 ≤ x) :
    ∀ y ∈ List.zipWith (· * ·) ws xs, 0 ≤ y := by
  intro y hy
  obtain ⟨i, hi, rfl⟩ := List.mem_iff_getElem.1 hy
  rw [List.getElem_zipWith]
  exact mul_nonneg (hw _ (List.getElem_mem _)) (hx _ (List.getElem_mem _))

theorem wsum_nonneg (ws xs : List α) (hw : ∀ w ∈ ws, 0 ≤ w) (hx : ∀ x ∈ xs, 0 ≤ x) : 0 ≤ wsum ws xs :=
  wsum_eq_sum ws xs ▸ List.sum_nonneg (zipWith_mul_nonneg hw hx)

theorem le_wsum (ws xs : List α) (hw : ∀ w ∈ ws, 0 ≤ w) (hx : ∀ x ∈ xs, 0 ≤ x) {k : Nat} {w x : α}
    (hwk : ws[k]? = some w) (hxk : xs[k]? = some x) : w * x ≤ wsum ws xs := by
  rw [wsum_eq_sum]
  exact List.single_le_sum (zipWith_mul_nonneg hw hx) _
    (List.mem_of_getElem? (by rw [List.getElem?_zipWith, hwk, hxk]))

theorem lprod_nonneg (xs : List α) (hx : ∀ x ∈ xs, 0 ≤ x) : 0 ≤ lprod xs :=
  lprod_eq_prod xs ▸ List.prod_nonneg hx

theorem lprod_pos (xs : List α) (hx : ∀ x ∈ xs, 0 < x) : 0 < lprod xs :=
  lprod_eq_prod xs ▸ List.prod_pos hx

end order
end TD

/-- `sumOver dom S e` enumerates exactly the rows that agree with `e` outside `S`, keep its observed
entries and have every variable of `S` filled: two summands that agree on those give equal sums -/
theorem sumOver_congr_of_completion (dom : Nat → Nat) (S : List Nat) (e : Ev) (f g : Ev → α)
    (h : ∀ x : Ev, (∀ v, v ∉ S → x v = e v) → (∀ v, e v ≠ none → x v = e v) → (∀ v ∈ S, x v ≠ none) → f x = g x) :
    sumOver dom S e f = sumOver dom S e g := by
  induction S generalizing e with
  | nil => exact h e (fun _ _ => rfl) (fun _ _ => rfl) (by simp)
  | cons v vs ih =>
    -- a row reached from `e'` on `vs`, where `e'` agrees with `e` off `v` and has `v` observed,
    -- is a row reached from `e` on `v :: vs`
    have step : ∀ e' : Ev, e' v ≠ none → (∀ w, w ≠ v → e' w = e w) → (e v ≠ none → e' v = e v) →
        sumOver dom vs e' f = sumOver dom vs e' g := by
      intro e' hv hoff hon
      apply ih; intro x hx hkeep hfill; apply h
      · intro w hw
        rw [List.mem_cons, not_or] at hw
        rw [hx w hw.2, hoff w hw.1]
      · intro w hw
        by_cases hwv : w = v
        · subst hwv; rw [← hon hw]; exact hkeep w hv
        · rw [← hoff w hwv] at hw ⊢; exact hkeep w hw
      · intro w hw
        rcases List.mem_cons.1 hw with rfl | hw
        · rw [hkeep w hv]; exact hv
        · exact hfill w hw
    simp only [sumOver]
    split
    · rename_i k hk
      exact step e (by simp [hk]) (fun _ _ => rfl) (fun _ => rfl)
    · rename_i hnone
      apply sumVar_congr; intro k
      exact step _ (by simp) (fun w hw => Ev.set_ne _ _ hw) (fun hv => absurd hnone hv)

theorem sumOver_congr (dom : Nat → Nat) (S : List Nat) (e : Ev) (f g : Ev → α)
    (h : ∀ e', (∀ v, v ∉ S → e' v = e v) → f e' = g e') : sumOver dom S e f = sumOver dom S e g :=
  sumOver_congr_of_completion dom S e f g fun x hx _ _ => h x hx

theorem sumOver_mul (dom : Nat → Nat) (S : List Nat) (e : Ev) (a : α) (f : Ev → α) :
    sumOver dom S e (fun e' => a * f e') = a * sumOver dom S e f := by
  induction S generalizing e with
  | nil => rfl
  | cons v vs ih =>
    simp only [sumOver]
    split
    · exact ih e
    · rw [← sumVar_mul]; exact sumVar_congr _ _ _ fun k => ih _

theorem sumOver_add (dom : Nat → Nat) (S : List Nat) (e : Ev) (f g : Ev → α) :
    sumOver dom S e (fun e' => f e' + g e') = sumOver dom S e f + sumOver dom S e g := by
  induction S generalizing e with
  | nil => rfl
  | cons v vs ih =>
    simp only [sumOver]
    split
    · exact ih e
    · rw [← sumVar_add]; exact sumVar_congr _ _ _ fun k => ih _

theorem sumOver_zero (dom : Nat → Nat) (S : List Nat) (e : Ev) : sumOver dom S e (fun _ => (0:α)) = 0 := by
  simpa using sumOver_mul dom S e (0:α) (fun _ => 0)

theorem sumOver_append (dom : Nat → Nat) (S T : List Nat) (e : Ev) (f : Ev → α) :
    sumOver dom (S ++ T) e f = sumOver dom S e (fun e1 => sumOver dom T e1 f) := by
  induction S generalizing e with
  | nil => rfl
  | cons v vs ih =>
    simp only [List.cons_append, sumOver]
    split
    · exact ih e
    · exact sumVar_congr _ _ _ fun k => ih _

/-- changing `e` outside of what `f` looks at and outside `S` does not matter -/
theorem sumOver_ev_congr (dom : Nat → Nat) (S : List Nat) (e e2 : Ev) (f : Ev → α) (D : List Nat)
    (hf : ∀ a b : Ev, (∀ v ∈ D, a v = b v) → f a = f b)
    (hS : ∀ v ∈ S, v ∈ D) (he : ∀ v ∈ D, e v = e2 v) :
    sumOver dom S e f = sumOver dom S e2 f := by
  induction S generalizing e e2 with
  | nil => exact hf e e2 he
  | cons v vs ih =>
    have hvs : ∀ w ∈ vs, w ∈ D := fun w hw => hS w (List.mem_cons_of_mem _ hw)
    simp only [sumOver]
    rw [← he v (hS v List.mem_cons_self)]
    split
    · exact ih e e2 hvs he
    · apply sumVar_congr; intro k; apply ih _ _ hvs
      intro w hw
      by_cases h : w = v
      · subst h; rw [Ev.set_self, Ev.set_self]
      · rw [Ev.set_ne _ _ h, Ev.set_ne _ _ h]; exact he w hw

theorem sumOver_observed (dom : Nat → Nat) (S : List Nat) (e : Ev) (f : Ev → α)
    (h : ∀ v ∈ S, e v ≠ none) : sumOver dom S e f = f e := by
  induction S with
  | nil => rfl
  | cons v vs ih =>
    simp only [sumOver]
    split
    · exact ih (fun w hw => h w (List.mem_cons_of_mem _ hw))
    · rename_i hn; exact absurd hn (h v List.mem_cons_self)

theorem sumOver_swap (dom : Nat → Nat) (a b : Nat) (S : List Nat) (e : Ev) (f : Ev → α) :
    sumOver dom (a :: b :: S) e f = sumOver dom (b :: a :: S) e f := by
  by_cases hab : a = b
  · subst hab; rfl
  have hba : b ≠ a := fun h => hab h.symm
  simp only [sumOver]
  cases ha : e a <;> cases hb : e b <;> simp only [Ev.set_ne _ _ hba, Ev.set_ne _ _ hab, ha, hb]
  rw [sumVar_comm]
  apply sumVar_congr; intro j; apply sumVar_congr; intro i
  rw [Ev.set_comm _ hab]

theorem sumOver_cons_congr (dom : Nat → Nat) (a : Nat) (S T : List Nat)
    (h : ∀ (e : Ev) (f : Ev → α), sumOver dom S e f = sumOver dom T e f) (e : Ev) (f : Ev → α) :
    sumOver dom (a :: S) e f = sumOver dom (a :: T) e f := by
  simp only [sumOver]; split
  · exact h e f
  · exact sumVar_congr _ _ _ fun k => h _ f

theorem sumOver_perm (dom : Nat → Nat) {S T : List Nat} (hp : S.Perm T) :
    ∀ (e : Ev) (f : Ev → α), sumOver dom S e f = sumOver dom T e f := by
  induction hp with
  | nil => intro e f; rfl
  | cons a _ ih => intro e f; exact sumOver_cons_congr dom a _ _ ih e f
  | swap a b l => intro e f; exact sumOver_swap dom b a l e f
  | trans _ _ ih1 ih2 => intro e f; rw [ih1, ih2]

/-- a variable listed twice is summed once: after the first listing it is observed -/
theorem sumOver_dup_head (dom : Nat → Nat) (v : Nat) (S : List Nat) (hv : v ∈ S) (e : Ev) (f : Ev → α) :
    sumOver dom (v :: S) e f = sumOver dom S e f := by
  have hp : S.Perm (v :: S.erase v) := List.perm_cons_erase hv
  rw [sumOver_cons_congr dom v _ _ (sumOver_perm dom hp) e f, sumOver_perm dom hp e f]
  simp only [sumOver]
  split
  · rfl
  · exact sumVar_congr _ _ _ fun k => by rw [Ev.set_self]

theorem sumOver_dedup (dom : Nat → Nat) (S : List Nat) : ∀ (e : Ev) (f : Ev → α),
    sumOver dom S.dedup e f = sumOver dom S e f := by
  induction S with
  | nil => intro e f; rfl
  | cons a l ih =>
    intro e f
    by_cases h : a ∈ l
    · rw [List.dedup_cons_of_mem h, ih, sumOver_dup_head dom a l h]
    · rw [List.dedup_cons_of_notMem h]; exact sumOver_cons_congr dom a _ _ ih e f

theorem sumOver_set_eq (dom : Nat → Nat) {S T : List Nat} (h : scopeEq S T) (e : Ev) (f : Ev → α) :
    sumOver dom S e f = sumOver dom T e f := by
  rw [← sumOver_dedup dom S, ← sumOver_dedup dom T]
  apply sumOver_perm
  rw [List.perm_ext_iff_of_nodup (List.nodup_dedup S) (List.nodup_dedup T)]
  intro a; simp only [List.mem_dedup]; exact h a

end Deeprob
