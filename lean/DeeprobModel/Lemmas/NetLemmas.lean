import DeeprobModel.Model.Net
import DeeprobModel.Lemmas.CircLemmas
/-
Children-first node tables: induction along the table, unfoldings do not depend on the fuel, and the
bottom-up value table holds the tree semantics of every node's unfolding.
-/
namespace Deeprob
variable {α : Type}

def WellOrdered (net : Net α) : Prop :=
  ∀ i (x : NNode α), net[i]? = some x → ∀ c ∈ x.ch, c < i

/-- induction along a children-first table: a property that passes from the children of a stored node
to the node holds of every stored node -/
theorem WellOrdered.induction {net : Net α} (hw : WellOrdered net) {P : Nat → Prop}
    (h : ∀ i x, net[i]? = some x → (∀ c ∈ x.ch, P c) → P i) : ∀ i, i < net.length → P i := by
  intro i
  induction i using Nat.strong_induction_on with
  | _ i ih =>
    intro hi
    have hn := List.getElem?_eq_getElem hi
    exact h i _ hn fun c hc => ih c (hw i _ hn c hc) (Nat.lt_trans (hw i _ hn c hc) hi)

theorem wellOrderedB_iff (net : Net α) : Net.wellOrderedB net = true ↔ WellOrdered net := by
  unfold Net.wellOrderedB WellOrdered Net.chOf
  simp only [List.all_eq_true, List.mem_range, decide_eq_true_eq]
  constructor
  · intro h i x hx c hc
    have := h i (List.getElem?_eq_some_iff.1 hx).1
    rw [hx] at this
    exact this c hc
  · intro h i hi c hc
    rw [List.getElem?_eq_getElem hi] at hc
    exact h i net[i] (List.getElem?_eq_getElem hi) c hc

namespace Net

theorem scopeEqB_iff (a b : List Nat) : scopeEqB a b = true ↔ scopeEq a b := by
  unfold scopeEqB scopeEq
  simp only [Bool.and_eq_true, List.all_eq_true, List.contains_iff_mem]
  constructor
  · rintro ⟨h1, h2⟩ v; exact ⟨h1 v, h2 v⟩
  · intro h; exact ⟨fun v hv => (h v).1 hv, fun v hv => (h v).2 hv⟩

theorem nodupB_iff (l : List Nat) : nodupB l = true ↔ l.Nodup := by
  induction l with
  | nil => simp [nodupB]
  | cons x xs ih =>
    simp only [nodupB, Bool.and_eq_true, Bool.not_eq_true', List.nodup_cons, ih]
    have : (xs.contains x = false) ↔ x ∉ xs := by
      rw [← Bool.not_eq_true, List.contains_iff_mem]
    rw [this]

end Net

theorem chOf_some (t : Net α) (c : Nat) (y : NNode α) (h : t[c]? = some y) : Net.chOf t c = y.ch := by
  unfold Net.chOf; rw [h]

theorem getD_take_lt {β : Type} (l : List β) (k i : Nat) (d : β) (h : i < k) : (l.take k).getD i d = l.getD i d := by
  rw [List.getD_eq_getElem?_getD, List.getD_eq_getElem?_getD, List.getElem?_take_of_lt h]

/-! statements over every stored node, unrolled on a concrete table -/
theorem forall_idx_nil {β : Type} (P : Nat → β → Prop) :
    (∀ (i : Nat) x, ([] : List β)[i]? = some x → P i x) ↔ True :=
  iff_true_intro fun _ _ h => nomatch h

theorem forall_idx_cons {β : Type} (P : Nat → β → Prop) (a : β) (l : List β) :
    (∀ (i : Nat) x, (a :: l)[i]? = some x → P i x) ↔ P 0 a ∧ ∀ (i : Nat) x, l[i]? = some x → P (i+1) x :=
  ⟨fun h => ⟨h 0 a rfl, fun i x hx => h (i+1) x hx⟩, fun h i x hx => by
    cases i with
    | zero => cases hx; exact h.1
    | succ k => exact h.2 k x hx⟩

section unfold
variable {β : Type} {net : Net α} (hw : WellOrdered net) (F : Nat → Nat → β) (d : β)
  (g : Nat → NNode α → List β → β)
  (hF : ∀ fuel i, F (fuel+1) i = match net[i]? with | none => d | some x => g i x (x.ch.map (F fuel)))
include hw hF

/-- an unfolding `F fuel i` of table nodes that spends one unit of fuel per level does not depend on the
fuel once it exceeds the index -/
theorem WellOrdered.unfold_fuel : ∀ i fuel, i < fuel → F fuel i = F (i+1) i := by
  intro i
  induction i using Nat.strong_induction_on with
  | _ i ih =>
    intro fuel hlt
    obtain ⟨f, rfl⟩ : ∃ f, fuel = f + 1 := ⟨fuel - 1, by omega⟩
    rw [hF, hF]
    cases hn : net[i]? with
    | none => rfl
    | some x =>
      have key : x.ch.map (F f) = x.ch.map (F i) :=
        List.map_congr_left fun c hc => by
          have hci := hw i x hn c hc
          rw [ih c hci f (by omega), ih c hci i hci]
      simp only [key]

/-- the unfolding of a stored node, every child at its own canonical fuel -/
theorem WellOrdered.unfold_node {i : Nat} {x : NNode α} (hn : net[i]? = some x) :
    F (i+1) i = g i x (x.ch.map fun c => F (c+1) c) := by
  rw [hF, hn]
  exact congrArg (g i x) (List.map_congr_left fun c hc => hw.unfold_fuel F d g hF c i (hw i x hn c hc))

/-- a table filled front to back with one entry per stored node holds, at `i`, the `sem`-value of the
unfolding of node `i`, provided `step` computes from the entries of the children the `sem`-value of the node
built from the children's unfoldings -/
theorem WellOrdered.foldl_prefix {γ : Type} (sem : β → γ) (step : List γ → NNode α → γ) (z : γ)
    (hstep : ∀ (vals : List γ) (x : NNode α) (cs : List β), x.ch.map (fun c => vals.getD c z) = cs.map sem →
      step vals x = sem (g vals.length x cs)) :
    ∀ k, k ≤ net.length →
      (net.take k).foldl (fun vals x => vals ++ [step vals x]) [] = (List.range k).map fun i => sem (F (i+1) i) := by
  intro k
  induction k with
  | zero => intro _; rfl
  | succ k ih =>
    intro hk
    have hn : net[k]? = some net[k] := List.getElem?_eq_getElem hk
    rw [List.take_add_one, List.foldl_append, ih (Nat.le_of_succ_le hk), hn, List.range_succ, List.map_append]
    simp only [Option.toList_some, List.foldl_cons, List.foldl_nil, List.map_cons, List.map_nil]
    congr 2
    rw [hw.unfold_node F d g hF hn, hstep _ _ (net[k].ch.map fun c => F (c+1) c), List.length_map, List.length_range]
    -- the entries of the children are already in the table
    rw [List.map_map]
    apply List.map_congr_left; intro c hc
    rw [List.getD_eq_getElem?_getD, List.getElem?_map, List.getElem?_range (hw k _ hn c hc)]; rfl

theorem WellOrdered.foldl_getD {γ : Type} (sem : β → γ) (step : List γ → NNode α → γ) (z : γ)
    (hstep : ∀ (vals : List γ) (x : NNode α) (cs : List β), x.ch.map (fun c => vals.getD c z) = cs.map sem →
      step vals x = sem (g vals.length x cs)) {i : Nat} (hi : i < net.length) :
    (net.foldl (fun vals x => vals ++ [step vals x]) []).getD i z = sem (F (i+1) i) := by
  have h := hw.foldl_prefix F d g hF sem step z hstep net.length (le_refl _)
  rw [List.take_length] at h
  rw [h, List.getD_eq_getElem?_getD, List.getElem?_map, List.getElem?_range hi]; rfl

end unfold

variable [CommSemiring α]

theorem foldl_eval_prefix (e : Ev) (dens : List α) (b : Net α) (v : List α) :
    ∃ s, b.foldl (fun vals x => vals ++ [evalNode e dens vals x]) v = v ++ s ∧ s.length = b.length := by
  induction b generalizing v with
  | nil => exact ⟨[], (List.append_nil v).symm, rfl⟩
  | cons x xs ih =>
    obtain ⟨s, hs, hl⟩ := ih (v ++ [evalNode e dens v x])
    exact ⟨evalNode e dens v x :: s, by rw [List.foldl_cons, hs, List.append_assoc]; rfl, congrArg (· + 1) hl⟩

theorem evalNet_length (e : Ev) (dens : List α) (t : Net α) : (evalNet e dens t).length = t.length := by
  obtain ⟨s, hs, hl⟩ := foldl_eval_prefix e dens t []
  unfold evalNet; rw [hs]; exact hl

/-- the tree node that `toTree` builds for the node `x` stored at `i` from the unfoldings of its children -/
def toTreeNode (dens : List α) (i : Nat) (x : NNode α) (cs : List (Circ α)) : Circ α :=
  match x.kind with
  | .leaf => .leaf x.scope (x.leaf.fn x.scope (dens.getD i 0))
  | .sum => .sum x.scope x.ws cs
  | .prod => .prod x.scope cs

/-- more fuel than the index never changes the unfolding -/
theorem toTree_fuel (net : Net α) (dens : List α) (hw : WellOrdered net) :
    ∀ i fuel, i < fuel → toTree net dens fuel i = toTree net dens (i+1) i :=
  hw.unfold_fuel (toTree net dens) _ (toTreeNode dens) fun _ _ => rfl

theorem toTree_node {net : Net α} (dens : List α) (hw : WellOrdered net) {i : Nat} {x : NNode α}
    (hn : net[i]? = some x) :
    toTree net dens (i+1) i = match x.kind with
      | .leaf => .leaf x.scope (x.leaf.fn x.scope (dens.getD i 0))
      | .sum => .sum x.scope x.ws (x.ch.map fun c => toTree net dens (c+1) c)
      | .prod => .prod x.scope (x.ch.map fun c => toTree net dens (c+1) c) :=
  hw.unfold_node (toTree net dens) _ (toTreeNode dens) (fun _ _ => rfl) hn

/-- `evalNode` computes, from the values of the children, the value of the tree node built from their unfoldings -/
theorem evalNode_toTreeNode (e : Ev) (dens : List α) (vals : List α) (x : NNode α) (cs : List (Circ α))
    (h : x.ch.map (fun c => vals.getD c 0) = cs.map (Circ.eval e)) :
    evalNode e dens vals x = Circ.eval e (toTreeNode dens vals.length x cs) := by
  rw [evalNode, h, toTreeNode]
  cases x.kind <;> simp only [Circ.eval]

theorem evalNet_prefix (e : Ev) (dens : List α) (net : Net α) (hw : WellOrdered net) :
    ∀ k, k ≤ net.length →
      (net.take k).foldl (fun vals x => vals ++ [evalNode e dens vals x]) []
        = (List.range k).map (fun i => Circ.eval e (toTree net dens (i+1) i)) :=
  hw.foldl_prefix (toTree net dens) _ (toTreeNode dens) (fun _ _ => rfl) (Circ.eval e) (evalNode e dens) 0
    (evalNode_toTreeNode e dens)

/-- **DAG ⇒ tree refinement**: the value table filled children-first holds, for every node,
the tree semantics of its unfolding — shared sub-circuits included. -/
theorem evalNet_refines (e : Ev) (dens : List α) (net : Net α) (hw : WellOrdered net) (i : Nat) (hi : i < net.length) :
    (evalNet e dens net).getD i 0 = Circ.eval e (toTree net dens (i+1) i) :=
  hw.foldl_getD (toTree net dens) _ (toTreeNode dens) (fun _ _ => rfl) (Circ.eval e) (evalNode e dens) 0
    (evalNode_toTreeNode e dens) hi

end Deeprob
