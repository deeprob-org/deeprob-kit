import DeeprobModel.Lemmas.RewriteNetExport
set_option linter.unusedSectionVars false
set_option linter.unusedSimpArgs false
set_option linter.unusedVariables false
/-
Scopes under the net-level `prune`. `prune` never writes a `scope`, so every statement is about the scopes
`scopeOf net` of the input table: the replacement of a node of `P` has the node's scope (as a set) and is smooth /
decomposable with respect to its rewritten children (`sol_valid`).
-/
namespace Deeprob
open Net
variable {α : Type} [CommSemiring α]

/-- what `check_spn` guarantees about the scopes of the nodes in `P` -/
def LocalOK (net : Net α) (P : Nat → Prop) : Prop :=
  ∀ (i : Nat) (x : NNode α), P i → net[i]? = some x →
    (x.kind = .sum → ∀ c ∈ x.ch, scopeEq (scopeOf net c) x.scope) ∧
    (x.kind = .prod → (x.ch.map (scopeOf net)).Pairwise List.Disjoint ∧
      scopeEq (x.ch.map (scopeOf net)).flatten x.scope)

/-- node `r` of the rewritten table is smooth / decomposable (scopes read in the input table) -/
def VAt (net t : Net α) (r : Nat) : Prop :=
  (kindOf t r = .sum → ∀ c ∈ chOf t r, scopeEq (scopeOf net c) (scopeOf net r)) ∧
  (kindOf t r = .prod → ((chOf t r).map (scopeOf net)).Pairwise List.Disjoint ∧
    scopeEq ((chOf t r).map (scopeOf net)).flatten (scopeOf net r))

/-- refining every block of a list of pairwise disjoint blocks into pairwise disjoint pieces with the same union keeps
the pieces pairwise disjoint, and the union -/
theorem pairwise_disjoint_refine {β γ : Type} (l : List β) (W : β → List Nat) (P : β → List γ) (sc : γ → List Nat)
    (h1 : ∀ b ∈ l, ((P b).map sc).Pairwise List.Disjoint ∧ ∀ v, (∃ a ∈ P b, v ∈ sc a) ↔ v ∈ W b)
    (h2 : (l.map W).Pairwise List.Disjoint) :
    (((l.map P).flatten).map sc).Pairwise List.Disjoint ∧
    scopeEq (((l.map P).flatten).map sc).flatten (l.map W).flatten := by
  constructor
  · rw [List.pairwise_map, List.pairwise_flatten]
    constructor
    · intro p hp
      obtain ⟨b, hb, rfl⟩ := List.mem_map.1 hp
      exact List.pairwise_map.1 (h1 b hb).1
    · rw [List.pairwise_map] at h2 ⊢
      refine h2.imp_of_mem fun {b b'} hb hb' hdis a ha a' ha' v hva hva' => ?_
      exact hdis (((h1 b hb).2 v).1 ⟨a, ha, hva⟩) (((h1 b' hb').2 v).1 ⟨a', ha', hva'⟩)
  · intro v
    rw [mem_flatten_map_sc, mem_flatten_map_sc]
    constructor
    · rintro ⟨a, ha, hva⟩
      obtain ⟨p, hp, hap⟩ := List.mem_flatten.1 ha
      obtain ⟨b, hb, rfl⟩ := List.mem_map.1 hp
      exact ⟨b, hb, ((h1 b hb).2 v).1 ⟨a, hap, hva⟩⟩
    · rintro ⟨b, hb, hv⟩
      obtain ⟨a, ha, hva⟩ := ((h1 b hb).2 v).2 hv
      exact ⟨a, List.mem_flatten.2 ⟨_, List.mem_map_of_mem hb, ha⟩, hva⟩

theorem sol_valid (net t : Net α) (rep : List Nat) (hw : WellOrdered net) (S : Sol true net t rep)
    (P : Nat → Prop) (hP : ∀ i, P i → ∀ c ∈ chOf net i, P c) (hsh : ShapeOK net P) (hlo : LocalOK net P) :
    ∀ k, k < net.length → P k →
      scopeEq (scopeOf net (rep.getD k k)) (scopeOf net k) ∧ VAt net t (rep.getD k k) := by
  intro k
  induction k using Nat.strong_induction_on with
  | _ k ih =>
    intro hk hPk
    have hx : net[k]? = some net[k] := List.getElem?_eq_getElem hk
    generalize net[k] = x at hx
    have hch := hw k x hx
    have hsk : scopeOf net k = x.scope := scopeOf_some net k x hx
    have hPc : ∀ c ∈ x.ch, P c := by
      intro c hc; exact hP k hPk c (by rw [chOf_some net k x hx]; exact hc)
    obtain ⟨hloS, hloP⟩ := hlo k x hPk hx
    have hgoodAll := sol_good net t rep hw S P hP hsh
    have hcn : ∀ c ∈ repCh rep x, ∃ c0 ∈ x.ch, rep.getD c0 c0 = c ∧ c < k ∧
        scopeEq (scopeOf net c) (scopeOf net c0) ∧ VAt net t c ∧ GoodAt t rep P c := by
      intro c hc
      obtain ⟨c0, hc0, rfl⟩ := (mem_repCh rep x c).1 hc
      have h0 := hch c0 hc0
      have h2 := (S.basic c0 (by omega)).rep_le
      obtain ⟨h3, h4⟩ := ih c0 h0 (by omega) (hPc c0 hc0)
      exact ⟨c0, hc0, rfl, by omega, h3, h4, hgoodAll c0 (by omega) (hPc c0 hc0)⟩
    -- children of an inner replaced child are valid themselves
    have hgc : ∀ c ∈ repCh rep x, kindOf t c ≠ .leaf → ∀ g ∈ chOf t c, VAt net t g := by
      intro c hc hnl g hg
      obtain ⟨_, _, _, hck, _, _, ⟨y, hy, hgood⟩⟩ := hcn c hc
      rw [kindOf_some t c y hy] at hnl
      rw [chOf_some t c y hy] at hg
      rcases hgood with h | ⟨_, _, h3⟩
      · exact absurd h.1 hnl
      · obtain ⟨_, j, hj, hPj, hjg⟩ := h3 g hg
        rw [← hjg]; exact (ih j (by omega) (by omega) hPj).2
    -- a sum with scope `x.scope`: scope of every key
    have hkeySc : x.kind = .sum → ∀ g ∈ (sumItems' t (repCh rep x) x.ws).map Prod.fst,
        scopeEq (scopeOf net g) x.scope ∧ VAt net t g := by
      intro hks g hg
      obtain ⟨c, hc, h | h⟩ := keys_sumItems' t _ _ g hg
      · obtain ⟨c0, hc0, _, _, h3, h4, _⟩ := hcn c hc
        rw [h.1]; exact ⟨h3.trans (hloS hks c0 hc0), h4⟩
      · obtain ⟨c0, hc0, _, _, h3, h4, _⟩ := hcn c hc
        exact ⟨((h4.1 h.1 g h.2).trans h3).trans (hloS hks c0 hc0), hgc c hc (by rw [h.1]; simp) g h.2⟩
    rcases sol_outcome true net t rep hw S k x hx with ⟨hkd, e, r⟩ | ⟨hkd, c, hc, e, r⟩ | ⟨hkd, hlen, e, r⟩ |
        ⟨hkd, hlen, _, p, hp, e, r⟩ | ⟨hkd, hlen, hb, e, r⟩
    · rw [r]
      refine ⟨scopeEq.rfl', ?_, ?_⟩
      · rw [kindOf_some t k x e, hkd]; intro h; cases h
      · rw [kindOf_some t k x e, hkd]; intro h; cases h
    · rw [r]
      obtain ⟨c0, hc0, hrc, _, h3, h4, _⟩ := hcn c (by rw [hc]; simp)
      refine ⟨?_, h4⟩
      have hxc : x.ch = [c0] := by
        have hl : x.ch.length = 1 := by
          have := congrArg List.length hc; unfold repCh at this; simpa using this
        match hxch : x.ch, hl with
        | [d], _ => rw [hxch] at hc0; simp at hc0; rw [hc0]
      rw [hsk]
      apply h3.trans
      have h3k : x.kind = .leaf ∨ x.kind = .prod ∨ x.kind = .sum := by cases x.kind <;> simp
      rcases h3k with h | h | h
      · exact absurd h hkd
      · have := (hloP h).2
        rw [hxc] at this
        simpa using this
      · exact hloS h c0 hc0
    · rw [r]
      refine ⟨scopeEq.rfl', ?_, ?_⟩
      · rw [kindOf_some t k _ e]; simp only [hkd]; intro h; cases h
      · intro _
        rw [chOf_some t k _ e, hsk]
        show ((prodItems' t (repCh rep x)).map (scopeOf net)).Pairwise List.Disjoint ∧
          scopeEq ((prodItems' t (repCh rep x)).map (scopeOf net)).flatten x.scope
        obtain ⟨hpw, hun⟩ := hloP hkd
        -- every child `c0` contributes the pieces of its replacement, which partition its scope
        have href := pairwise_disjoint_refine x.ch (scopeOf net)
          (fun c0 => if kindOf t (rep.getD c0 c0) = .prod then chOf t (rep.getD c0 c0) else [rep.getD c0 c0])
          (scopeOf net) (fun c0 hc0 => by
            obtain ⟨_, _, _, _, _, h4, _⟩ := hcn _ ((mem_repCh rep x _).2 ⟨c0, hc0, rfl⟩)
            have h3 := (ih c0 (hch c0 hc0) (Nat.lt_trans (hch c0 hc0) hk) (hPc c0 hc0)).1
            split
            · rename_i hkp
              obtain ⟨q1, q2⟩ := h4.2 hkp
              exact ⟨q1, fun v => by rw [← mem_flatten_map_sc]; exact (q2 v).trans (h3 v)⟩
            · exact ⟨List.pairwise_singleton _ _, fun v =>
                ⟨fun ⟨a, ha, hv⟩ => (h3 v).1 (List.mem_singleton.1 ha ▸ hv),
                 fun hv => ⟨_, List.mem_singleton_self _, (h3 v).2 hv⟩⟩⟩) hpw
        have hitems : prodItems' t (repCh rep x) = (x.ch.map fun c0 =>
            if kindOf t (rep.getD c0 c0) = .prod then chOf t (rep.getD c0 c0) else [rep.getD c0 c0]).flatten := by
          unfold prodItems' repCh; rw [List.map_map]; rfl
        rw [hitems]
        exact ⟨href.1, href.2.trans hun⟩
    · rw [r]
      have : p.1 ∈ (sumAcc' t (repCh rep x) x.ws).map Prod.fst := by rw [hp]; simp
      rw [mem_sumAcc'_keys] at this
      rw [hsk]
      exact hkeySc hkd p.1 this
    · rw [r]
      refine ⟨scopeEq.rfl', ?_, ?_⟩
      · intro _
        rw [chOf_some t k _ e, hsk]
        intro g hg
        exact (hkeySc hkd g ((mem_sumAcc'_keys t _ _ g).1 hg)).1
      · rw [kindOf_some t k _ e]; simp only [hkd]; intro h; cases h

end Deeprob
