import DeeprobModel.Lemmas.TopDownLemmas
import DeeprobModel.Lemmas.ArgmaxLemmas
import Mathlib.Algebra.Order.Ring.Defs
import Mathlib.Algebra.Order.GroupWithZero.Basic
/-
Order facts for the MPE descent: the arg-max branch of a positive sum node is positive.
-/
namespace Deeprob

namespace TD

theorem argmax_zipWith_lt {α : Type} [Mul α] [LinearOrder α] (ws xs : List α) (hne : xs ≠ [])
    (hlen : ws.length = xs.length) : argmax (List.zipWith (· * ·) ws xs) < xs.length := by
  have hl : (List.zipWith (· * ·) ws xs).length = xs.length := by
    rw [List.length_zipWith, hlen, Nat.min_self]
  have := argmax_lt_length _ fun h0 =>
    hne (List.eq_nil_of_length_eq_zero (hl.symm.trans (congrArg List.length h0)))
  rwa [hl] at this

section order
variable {α : Type} [CommSemiring α] [LinearOrder α] [IsStrictOrderedRing α]

omit [IsStrictOrderedRing α] in
theorem lprod_pos_imp (xs : List α) (hx : ∀ x ∈ xs, 0 ≤ x) (h : 0 < lprod xs) : ∀ x ∈ xs, 0 < x :=
  fun x hm => (hx x hm).lt_of_ne' fun h0 => h.ne' (lprod_eq_prod xs ▸ List.prod_eq_zero (h0 ▸ hm))

/-- the first arg-max of `wᵢ·f cᵢ` of a positive weighted sum is a positive term -/
theorem argmax_wsum_pos {β : Type} (ws : List α) (cs : List β) (f : β → α) (h : 0 < wsum ws (cs.map f)) :
    ∃ w c, ws[argmax (List.zipWith (· * ·) ws (cs.map f))]? = some w ∧
      cs[argmax (List.zipWith (· * ·) ws (cs.map f))]? = some c ∧ 0 < w * f c := by
  rw [wsum_eq_sum, ← tsum_eq_sum] at h
  obtain ⟨y, hy, hy0⟩ := tsum_pos_exists _ h
  obtain ⟨m, hm, hle, _⟩ := argmax_spec _ (List.ne_nil_of_mem hy)
  rw [List.getElem?_zipWith, List.getElem?_map] at hm
  cases hw : ws[argmax (List.zipWith (· * ·) ws (cs.map f))]? with
  | none => simp [hw] at hm
  | some w =>
    cases hc : cs[argmax (List.zipWith (· * ·) ws (cs.map f))]? with
    | none => simp [hw, hc] at hm
    | some c =>
      simp only [hw, hc, Option.map_some, Option.some.injEq] at hm
      exact ⟨w, c, rfl, rfl, hm ▸ lt_of_lt_of_le hy0 (hle y hy)⟩

end order
end TD
open TD

namespace TCirc
variable {α : Type} [CommSemiring α] [LinearOrder α] [IsStrictOrderedRing α]

theorem eval_nonneg : ∀ (c : TCirc α), NonNeg c → ∀ e : Ev, 0 ≤ eval e c := by
  intro c
  induction c using TCirc.ind with
  | hl s f m cd => intro h e; unfold NonNeg at h; rw [eval_leaf]; exact h e
  | hs s ws cs ih =>
    intro h e; unfold NonNeg at h; rw [eval_sum]
    exact wsum_nonneg _ _ h.1 (List.forall_mem_map.2 fun c hc => ih c hc (h.2 c hc) e)
  | hp s cs ih =>
    intro h e; unfold NonNeg at h; rw [eval_prod]
    exact lprod_nonneg _ (List.forall_mem_map.2 fun c hc => ih c hc (h c hc) e)

omit [IsStrictOrderedRing α] in
theorem mpeBr_ok (dom : Nat → Nat) (e : Ev) : ∀ (c : TCirc α), Circ.Valid dom c.toCirc → BrOK (mpeBr e) c :=
  brOK_of_valid (mpeBr e) dom fun _ ws cs hne hlen => by
    have := argmax_zipWith_lt ws (cs.map (eval e)) (mt List.map_eq_nil_iff.1 hne) (by rw [List.length_map]; exact hlen)
    rwa [List.length_map] at this

omit [IsStrictOrderedRing α] in
theorem passAll_mpe_pos (dom : Nat → Nat) (e : Ev) (p : List Nat) (cs : List (TCirc α))
    (hnd : (cs.map scope).flatten.Nodup) (hval : ∀ c ∈ cs, Circ.Valid dom c.toCirc)
    (IH : ∀ c ∈ cs, ∀ (q : List Nat) (x : Ev), (∀ v ∈ c.scope, x v = e v) → 0 < eval e c →
      0 < eval (pass (mpeBr e) mpeFill q c x) c)
    (hpos : ∀ c ∈ cs, 0 < eval e c) :
    ∀ (j : Nat) (x : Ev), (∀ v ∈ (cs.map scope).flatten, x v = e v) →
      ∀ c ∈ cs, 0 < eval (passAll (mpeBr e) mpeFill p j cs x) c := by
  induction cs with
  | nil => intro j x _ c hc; cases hc
  | cons c cs ih =>
    intro j x hx d hd
    obtain ⟨_, hnd2, hdisj⟩ := (nodup_flatten_map_cons scope c cs).1 hnd
    rw [List.map_cons, List.flatten_cons] at hx
    have hvalc := hval c List.mem_cons_self
    have hvalcs : ∀ d ∈ cs, Circ.Valid dom d.toCirc := fun d hd => hval d (List.mem_cons_of_mem _ hd)
    rw [passAll]
    rcases List.mem_cons.1 hd with rfl | hd'
    · -- the later children do not write into the scope of the first
      rw [eval_congr' dom d hvalc _ (pass (mpeBr e) mpeFill (j :: p) d x) fun v hv =>
        passAll_outside' _ _ dom v p cs hvalcs (hdisj v hv) _ _]
      exact IH d List.mem_cons_self (j :: p) x (fun v hv => hx v (List.mem_append_left _ hv)) (hpos d List.mem_cons_self)
    · -- the first child does not write into the scopes of the later ones
      refine ih hnd2 hvalcs (fun d hd => IH d (List.mem_cons_of_mem _ hd))
        (fun d hd => hpos d (List.mem_cons_of_mem _ hd)) (j+1) _ (fun v hv => ?_) d hd'
      rw [pass_outside _ _ dom v c hvalc _ _ fun hc => hdisj v hc hv]
      exact hx v (List.mem_append_right _ hv)

/-- core of `mpe_positive`, for any starting row that agrees with the evidence on the scope -/
theorem pass_mpe_pos (dom : Nat → Nat) (e : Ev) : ∀ (c : TCirc α), Circ.Valid dom c.toCirc → NonNeg c → LeafPos c →
    ∀ (p : List Nat) (x : Ev), (∀ v ∈ c.scope, x v = e v) → 0 < eval e c →
      0 < eval (pass (mpeBr e) mpeFill p c x) c := by
  intro c
  induction c using TCirc.ind with
  | hl s f m cd =>
    intro hval _ hlp p x hx hpos
    have hok := valid_leaf.1 hval
    unfold LeafPos at hlp
    rw [eval_leaf] at hpos ⊢
    rw [pass, mpeFill, hok.local_ (writeScope s (m x) x) (m x) fun v hv => writeScope_mem _ _ _ hv]
    exact hlp x (hok.local_ x e hx ▸ hpos)
  | hs s ws cs ih =>
    intro hval hnn hlp p x hx hpos
    obtain ⟨_, hlen, hsc, hvc⟩ := valid_sum.1 hval
    unfold NonNeg at hnn; unfold LeafPos at hlp
    rw [eval_sum] at hpos
    -- the chosen term `w · eval e c` is positive, hence so are `w` and the value of the chosen child
    obtain ⟨w, c, hw, hck, hwl⟩ := argmax_wsum_pos ws cs (eval e) hpos
    rw [pass, passAt_eq, mpeBr, hck]
    generalize argmax (List.zipWith (· * ·) ws (cs.map (eval e))) = k at hw hck
    have hc : c ∈ cs := List.mem_of_getElem? hck
    have hl0 : 0 < eval e c := pos_of_mul_pos_right hwl (hnn.1 w (List.mem_of_getElem? hw))
    have hy := ih c hc (hvc c hc) (hnn.2 c hc) (hlp c hc) (k :: p) x (fun v hv => hx v ((hsc c hc v).1 hv)) hl0
    rw [eval_sum]
    exact lt_of_lt_of_le (mul_pos (pos_of_mul_pos_left hwl hl0.le) hy)
      (le_wsum ws _ hnn.1 (List.forall_mem_map.2 fun d hd => eval_nonneg d (hnn.2 d hd) _) hw
        (by rw [List.getElem?_map, hck]; rfl))
  | hp s cs ih =>
    intro hval hnn hlp p x hx hpos
    obtain ⟨hnd, hsc, hvc⟩ := valid_prod.1 hval
    unfold NonNeg at hnn; unfold LeafPos at hlp
    rw [eval_prod] at hpos ⊢
    have hpos' : ∀ c ∈ cs, 0 < eval e c := fun c hc =>
      lprod_pos_imp _ (List.forall_mem_map.2 fun d hd => eval_nonneg d (hnn d hd) _) hpos _ (List.mem_map_of_mem hc)
    rw [pass]
    exact lprod_pos _ (List.forall_mem_map.2 fun d hd =>
      passAll_mpe_pos dom e p cs hnd hvc (fun c hc q y hy h0 => ih c hc (hvc c hc) (hnn c hc) (hlp c hc) q y hy h0)
        hpos' 0 x (fun v hv => hx v ((hsc v).1 hv)) d hd)

end TCirc
end Deeprob
