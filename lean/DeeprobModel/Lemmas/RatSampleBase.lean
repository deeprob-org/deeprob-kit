import DeeprobModel.Lemmas.RatSampleMpe
set_option linter.unusedSimpArgs false
set_option linter.unusedVariables false
set_option linter.unusedSectionVars false
/-
C16 (MPE clause): the root step and the base layer — the MPE descent of the unrolled circuit is a fold over
the columns (variable, is-dummy, mode) of the leaves that the layer-wise pass selects.
-/
namespace Deeprob
namespace RatSample
open RatSpn TCirc Tensor

/-- write `k` into entry `v` if it is missing (`Bernoulli` mode / `torch.where(isnan(x), samples, x)`) -/
def fillVar (v k : Nat) (x : Ev) : Ev := match x v with | none => x.set v k | some _ => x

/-- one column of a selected leaf: (variable, is-dummy, mode) -/
def stepFn (x : Ev) (z : Nat × Bool × Nat) : Ev := if z.2.1 then x else fillVar z.1 z.2.2 x

theorem fillVar_other (v k : Nat) (x : Ev) {i : Nat} (h : i ≠ v) : fillVar v k x i = x i := by
  unfold fillVar
  cases x v with
  | none => exact Ev.set_ne _ _ h
  | some _ => rfl

theorem fillVar_self (v k : Nat) (x : Ev) : fillVar v k x v = match x v with | some a => some a | none => some k := by
  unfold fillVar
  cases h : x v with
  | none => exact Ev.set_self _ _ _
  | some a => exact h

/-- columns whose (non-dummy) variable is not `i` leave entry `i` alone -/
theorem foldl_step_other (i : Nat) : ∀ (Z : List (Nat × Bool × Nat)) (x : Ev),
    (∀ z ∈ Z, z.2.1 = false → z.1 ≠ i) → (Z.foldl stepFn x) i = x i
  | [], x, _ => rfl
  | z :: Z, x, h => by
      rw [List.foldl_cons, foldl_step_other i Z _ (fun z' hz' => h z' (List.mem_cons_of_mem _ hz'))]
      unfold stepFn
      cases hb : z.2.1 with
      | true => rfl
      | false => exact fillVar_other _ _ _ (fun hc => h z List.mem_cons_self hb hc.symm)

/-- the non-dummy columns carry pairwise different variables -/
def KeysNodup {γ : Type} (Z : List (Nat × Bool × γ)) : Prop := ((Z.filter (fun z => !z.2.1)).map (fun z => z.1)).Nodup

/-- two non-dummy columns with the same variable carry the same payload (there is only one) -/
theorem KeysNodup.unique {γ : Type} {Z : List (Nat × Bool × γ)} (hnd : KeysNodup Z) {i : Nat} {k k' : γ}
    (h1 : (i, false, k) ∈ Z) (h2 : (i, false, k') ∈ Z) : k = k' := by
  have := List.inj_on_of_nodup_map hnd (List.mem_filter.2 ⟨h1, rfl⟩) (List.mem_filter.2 ⟨h2, rfl⟩) rfl
  exact congrArg (fun z => z.2.2) this

/-- **the write that reaches a variable**: if the non-dummy columns carry pairwise different variables
and column `(i, false, k)` occurs, the fold leaves an observed entry `i` alone and writes `k` into a
missing one -/
theorem foldl_step_at (i k : Nat) : ∀ (Z : List (Nat × Bool × Nat)) (x : Ev),
    KeysNodup Z → (i, false, k) ∈ Z →
    (Z.foldl stepFn x) i = match x i with | some a => some a | none => some k
  | z :: Z, x, hnd, hmem => by
      rw [List.foldl_cons]
      unfold KeysNodup at hnd
      cases hb : z.2.1 with
      | true =>
        have hz : stepFn x z = x := by rw [stepFn, hb]; rfl
        rw [hz]
        rw [List.filter_cons, hb] at hnd
        refine foldl_step_at i k Z x hnd ((List.mem_cons.1 hmem).resolve_left ?_)
        intro h; rw [← h] at hb; cases hb
      | false =>
        have hz : stepFn x z = fillVar z.1 z.2.2 x := by rw [stepFn, hb]; rfl
        rw [hz]
        rw [List.filter_cons, hb] at hnd
        obtain ⟨hnotin, hnd'⟩ := List.nodup_cons.1 hnd
        have hkey : ∀ z' ∈ Z, z'.2.1 = false → z'.1 ≠ z.1 := fun z' hz' hb2 hc =>
          hnotin (List.mem_map.2 ⟨z', List.mem_filter.2 ⟨hz', by rw [hb2]; rfl⟩, hc⟩)
        rcases List.mem_cons.1 hmem with h | h
        · -- this column is the one; no later column touches variable `i`
          rw [← h] at hkey ⊢
          rw [foldl_step_other i Z _ hkey, fillVar_self]
        · rw [foldl_step_at i k Z _ hnd' h, fillVar_other _ _ _ (fun hc => hkey _ h rfl hc)]

section cols
variable {α : Type}

/-- all `dimension` columns of the selected leaves, in the order of the flattened padded row:
(variable, is-dummy, payload `f g o k` of column `k` of leaf `(g, o)`) -/
def ZofG {γ : Type} (S : Spec α) (f : Nat → Nat → Nat → γ) (io : Idx) : List (Nat × Bool × γ) :=
  (io.1.zip io.2).flatMap (fun go => (List.range (S.mrow go.1).length).map (fun k =>
    ((S.mrow go.1).getD k 0, (S.prow go.1).getD k false, f go.1 go.2 k)))

theorem ZofG_map {γ δ : Type} (S : Spec α) (f : Nat → Nat → Nat → γ) (F : Nat × Bool × γ → δ) (io : Idx) :
    (ZofG S f io).map F = (io.1.zip io.2).flatMap (fun go => (List.range (S.mrow go.1).length).map (fun k =>
      F ((S.mrow go.1).getD k 0, (S.prow go.1).getD k false, f go.1 go.2 k))) := by
  unfold ZofG
  rw [List.map_flatMap]
  exact List.flatMap_congr (fun go _ => List.map_map)

end cols

section base
variable {α : Type} [Field α] [LinearOrder α] [IsStrictOrderedRing α]

/-- the columns with the modes of the leaves as payload -/
def Zof (S : Spec α) (io : Idx) : List (Nat × Bool × Nat) := ZofG S (fun g o k => bernIdx (S.tbl g o k)) io

theorem Zof_modes (S : Spec α) (io : Idx) : (Zof S io).map (fun z => z.2.2) = modes S io :=
  ZofG_map S _ _ io

theorem desc_dummyT (e x : Ev) : desc e (dummyT : TCirc α) x = x := by
  unfold desc dummyT
  simp only [pass, mpeFill]
  funext v
  simp [writeScope]

theorem desc_bernT (e x : Ev) (v : Nat) (tbl : List α) : desc e (bernT v tbl) x = fillVar v (bernIdx tbl) x := by
  unfold desc bernT
  simp only [pass, mpeFill]
  funext w
  unfold writeScope bernMode fillVar
  by_cases hw : w = v
  · subst hw
    cases hx : x w <;> simp [hx]
  · cases hx : x v with
    | none => simp [hw, Ev.set_ne _ _ hw]
    | some a => simp [hw]

theorem desc_base (S : Spec α) (e : Ev) (g o : Nat) (x : Ev) :
    desc e ((baseT S).at_ g o) x = ((List.range (S.mrow g).length).map (fun k =>
      ((S.mrow g).getD k 0, (S.prow g).getD k false, bernIdx (S.tbl g o k)))).foldl stepFn x := by
  simp only [baseT, baseNodeT]
  rw [desc_prod, List.foldl_map]
  refine congrArg (fun f => List.foldl f x (List.range _)) (funext fun x => funext fun k => ?_)
  unfold stepFn
  cases (S.prow g).getD k false
  · exact desc_bernT e x _ _
  · exact desc_dummyT e x

theorem foldDesc_base (S : Spec α) (e : Ev) (io : Idx) (x : Ev) :
    foldDesc e (baseT S) io x = (Zof S io).foldl stepFn x := by
  unfold foldDesc Zof ZofG
  rw [List.foldl_flatMap]
  exact congrArg (fun f => List.foldl f x _) (funext fun x => funext fun go => desc_base S e go.1 go.2 x)

theorem desc_rootT (e : Ev) (T : Tab (TCirc α)) (V : Tab α) (hA : Aligned e T V) (hpos : 0 < V.groups * V.nodes)
    (wroot : List α) (n : Nat) (x : Ev) :
    desc e (rootT wroot n T) x = foldDesc e T (rootMpe wroot V) x := by
  unfold rootT rootMpe
  have hlt : argmax (List.zipWith (· * ·) wroot (flat V)) < T.groups * T.nodes := by
    rw [hA.1, hA.2.1]
    exact argmax_lt_of_pos _ _ hpos (by rw [List.length_zipWith, flat_length]; exact Nat.min_le_right _ _)
  rw [desc_sum, flat_map_eval hA, flat_getElem? T _ hlt, hA.2.1]
  rfl

/-- **the MPE descent of the unrolled circuit is the fold over the columns of the leaves that the
layer-wise pass selects** -/
theorem mpeDescent_eq_fold (S : Spec α) (y : Nat) (e : Ev) (hb : 0 < S.batch) (hs : 0 < S.rgSum)
    (hg : 0 < (topVal S e).groups) :
    mpeDescent e (unrollT S y) = (Zof S (mpeIdx S y e)).foldl stepFn e := by
  have hN : 0 < (topVal S e).nodes := innerVal_nodes_pos S.w S.rgSum hs S.depth 0 (baseVal S e) hb
  change desc e (unrollT S y) e = _
  unfold unrollT
  rw [desc_rootT e _ _ (aligned_top S e) (Nat.mul_pos hg hN),
    foldDesc_inner e S.w S.rgSum hs S.depth 0 (baseT S) (baseVal S e) (aligned_base S e) hb,
    foldDesc_base]
  rfl

end base

end RatSample
end Deeprob
