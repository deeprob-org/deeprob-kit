import DeeprobModel.Lemmas.MpeNetRefines
import DeeprobModel.Lemmas.TopDownExample
/-
Table-level conditions that make the unfolded tree satisfy every hypothesis of the top-down theorems.
-/
namespace Deeprob
open TD
open TCirc
variable {α : Type} [CommSemiring α] [LinearOrder α] [IsStrictOrderedRing α]

/-- every stored leaf is a normalised non-negative table leaf over its own single variable; leaves
flagged `isBern` are binary -/
def CatLeaves (dom : Nat → Nat) (net : Net α) (isBern : Nat → Bool) : Prop :=
  ∀ (i : Nat) (x : NNode α), net[i]? = some x → x.kind = .leaf →
    ∃ v tbl, x.leaf = .cat v tbl ∧ x.scope = [v] ∧ tbl.length = dom v ∧ tsum tbl = 1 ∧ (∀ t ∈ tbl, 0 ≤ t) ∧
      (isBern i = true → dom v = 2)

def NonNegW (net : Net α) : Prop :=
  ∀ (i : Nat) (x : NNode α), net[i]? = some x → x.kind = .sum → ∀ w ∈ x.ws, 0 ≤ w

theorem tdok_toTTree (dom : Nat → Nat) (net : Net α) (dens : List α) (isBern : Nat → Bool) (hw : WellOrdered net)
    (hok : ∀ i (x : NNode α), net[i]? = some x → NodeOK dom net dens i x)
    (hcat : CatLeaves dom net isBern) (hnw : NonNegW net) :
    ∀ i, i < net.length → TDOK dom (toTTree net dens isBern (i+1) i) := by
  refine hw.induction fun i x hn ih => ?_
  have hx := hok i x hn
  unfold NodeOK at hx
  rw [toTTree_node dens isBern hw hn]
  cases hk : x.kind <;> simp only [hk] at hx ⊢
  · obtain ⟨hne, hlen, hsc⟩ := hx
    refine TDOK.sum dom _ _ _ (mt List.map_eq_nil_iff.1 hne) (by rw [List.length_map]; exact hlen)
      (hnw i x hn hk) (List.forall_mem_map.2 fun c hc => ?_) (List.forall_mem_map.2 ih)
    rw [TT_scope]; exact hsc c hc
  · refine TDOK.prod dom _ _ ?_ ?_ (List.forall_mem_map.2 ih) <;> rw [map_scope_TT]
    exacts [hx.1, hx.2]
  · obtain ⟨v, tbl, hleaf, hscope, hl, hs, h0, hb⟩ := hcat i x hn hk
    simp only [hleaf, hscope, LeafP.fn, LeafP.mode, LeafP.cond]
    cases hbi : isBern i with
    | true =>
      have hd := hb hbi
      simp only [if_true]
      exact bernT_ok dom v tbl (hl.trans hd) hd hs h0
    | false =>
      simp only [Bool.false_eq_true, if_false]
      exact catT_ok dom v tbl hl hs h0

end Deeprob
