import DeeprobModel.Spec.NormalForm
import DeeprobModel.Lemmas.CircLemmas
set_option linter.unusedSectionVars false
set_option linter.unusedSimpArgs false
/-
Lemmas about the tree-level `prune` of `Model/Rewrite.lean` (C09). Each property is first shown for one
rebuilt node (`rwSum` / `rwProd`, which absorb children of the same kind and drop single-child nodes): its
value, validity and scopes, normal form, normalised weights. The last three are lifted to `prune` by induction
on the tree; a normal form is a fixed point of `prune`.
-/
namespace Deeprob

theorem map_eq_self_of_mem {β : Type} {f : β → β} {l : List β} (h : ∀ a ∈ l, f a = a) : l.map f = l :=
  (List.map_congr_left h).trans (List.map_id' l)

theorem mem_flatten_map_sc {β : Type} (sc : β → List Nat) (l : List β) (v : Nat) :
    v ∈ (l.map sc).flatten ↔ ∃ c ∈ l, v ∈ sc c := by
  rw [← List.flatMap_def]; exact List.mem_flatMap

theorem flatten_nodup_of {β : Type} (cs : List β) (A B : β → List Nat)
    (h : ∀ c ∈ cs, (B c).Nodup ∧ scopeEq (B c) (A c)) (hnd : (cs.map A).flatten.Nodup) :
    (cs.map B).flatten.Nodup ∧ scopeEq (cs.map B).flatten (cs.map A).flatten := by
  induction cs with
  | nil => exact ⟨by simp, scopeEq.rfl'⟩
  | cons c cs ih =>
    simp only [List.map_cons, List.flatten_cons] at hnd ⊢
    rw [List.nodup_append] at hnd
    obtain ⟨_, h2, hd⟩ := hnd
    obtain ⟨hB, hBA⟩ := h c List.mem_cons_self
    obtain ⟨ih1, ih2⟩ := ih (fun d hd' => h d (List.mem_cons_of_mem _ hd')) h2
    refine ⟨?_, ?_⟩
    · rw [List.nodup_append]
      refine ⟨hB, ih1, ?_⟩
      intro a ha b hb hab
      exact hd a ((hBA a).1 ha) b ((ih2 b).1 hb) hab
    · intro v
      simp only [List.mem_append]
      rw [hBA v, ih2 v]

namespace Circ

variable {α : Type} [CommSemiring α]

@[simp] theorem scope_leaf (s : List Nat) (f : Ev → α) : scope (leaf s f) = s := rfl
@[simp] theorem scope_sum (s : List Nat) (ws : List α) (cs : List (Circ α)) : scope (sum s ws cs) = s := rfl
@[simp] theorem scope_prod (s : List Nat) (cs : List (Circ α)) : scope (prod s cs) = s := rfl

theorem absorbProd_cons (c : Circ α) (cs : List (Circ α)) : absorbProd (c :: cs) = prodKids c ++ absorbProd cs := rfl

theorem absorbSum_cons (w : α) (ws : List α) (c : Circ α) (cs : List (Circ α)) :
    absorbSum (w :: ws) (c :: cs) = sumKids w c ++ absorbSum ws cs := rfl

theorem ws_eq_one {ws : List α} (hl : ws.length = 1) (hs : tsum ws = 1) : ws = [1] := by
  match ws, hl with
  | [w], _ => rw [show w = 1 by simpa only [tsum, add_zero] using hs]

theorem lprod_prodKids (e : Ev) (c : Circ α) : lprod ((prodKids c).map (eval e)) = eval e c := by
  cases c <;> simp [prodKids, eval, lprod]

theorem lprod_absorbProd (e : Ev) (cs : List (Circ α)) :
    lprod ((absorbProd cs).map (eval e)) = lprod (cs.map (eval e)) := by
  induction cs with
  | nil => rfl
  | cons c cs ih =>
    rw [absorbProd_cons, List.map_append, lprod_append, ih, lprod_prodKids]; rfl

theorem wsum_append (a b x y : List α) (h : a.length = x.length) :
    wsum (a ++ b) (x ++ y) = wsum a x + wsum b y := by
  induction a generalizing x with
  | nil =>
    obtain rfl : x = [] := List.length_eq_zero_iff.1 h.symm
    exact (zero_add _).symm
  | cons w ws ih =>
    match x, h with
    | v :: vs, h =>
      show w * v + wsum (ws ++ b) (vs ++ y) = w * v + wsum ws vs + wsum b y
      rw [ih vs (Nat.succ.inj h), add_assoc]

theorem wsum_zip_scale (V : Circ α → α) (w : α) (ws : List α) (cs : List (Circ α)) :
    wsum (((ws.zip cs).map (fun p => (w * p.1, p.2))).map Prod.fst)
         ((((ws.zip cs).map (fun p => (w * p.1, p.2))).map Prod.snd).map V)
      = w * wsum ws (cs.map V) := by
  induction ws generalizing cs with
  | nil => exact (mul_zero w).symm
  | cons v vs ih => cases cs with
    | nil => exact (mul_zero w).symm
    | cons c cs => simp only [List.zip_cons_cons, List.map_cons, wsum, ih cs]; ring

/-- what a sum parent takes over from a child reached with weight `w` has `w` times the value of the child, for
every valuation `V` of the nodes that the child, if it is a sum, satisfies (`eval e`, or the constant one for a
normalised sum) -/
theorem wsum_sumKids (V : Circ α → α) (w : α) (c : Circ α)
    (hV : ∀ s ws cs, c = sum s ws cs → wsum ws (cs.map V) = V c) :
    wsum ((sumKids w c).map Prod.fst) (((sumKids w c).map Prod.snd).map V) = w * V c := by
  cases c with
  | leaf s f => exact (add_zero _)
  | prod s cs => exact (add_zero _)
  | sum s ws cs => rw [← hV s ws cs rfl]; exact wsum_zip_scale V w ws cs

theorem wsum_absorbSum (V : Circ α → α) (ws : List α) (cs : List (Circ α))
    (hV : ∀ c ∈ cs, ∀ s ws' cs', c = sum s ws' cs' → wsum ws' (cs'.map V) = V c) :
    wsum ((absorbSum ws cs).map Prod.fst) (((absorbSum ws cs).map Prod.snd).map V) = wsum ws (cs.map V) := by
  induction ws generalizing cs with
  | nil => rfl
  | cons v vs ih => cases cs with
    | nil => rfl
    | cons c cs =>
      rw [absorbSum_cons, List.map_append, List.map_append, List.map_append,
        wsum_append _ _ _ _ (by rw [List.length_map, List.length_map, List.length_map]),
        wsum_sumKids V v c (hV c List.mem_cons_self), ih cs (fun d hd => hV d (List.mem_cons_of_mem _ hd))]
      rfl

theorem eval_mkProd (e : Ev) (s : List Nat) (cs : List (Circ α)) :
    eval e (rwProd s cs) = lprod (cs.map (eval e)) := by
  unfold rwProd
  split
  · simp [lprod]
  · simp only [eval, lprod_absorbProd]

theorem eval_mkSum (e : Ev) (s : List Nat) (ws : List α) (cs : List (Circ α))
    (h : cs.length = 1 → ws = [1]) :
    eval e (rwSum s ws cs) = wsum ws (cs.map (eval e)) := by
  unfold rwSum
  split
  · rw [h (by simp)]; simp [wsum]
  · rw [eval, wsum_absorbSum (eval e) ws cs (fun _ _ s ws' cs' h => by rw [h, eval])]

theorem scopesNodup_scope : (c : Circ α) → ScopesNodup c → (scope c).Nodup
  | leaf _ _, h => by unfold ScopesNodup at h; exact h
  | sum _ _ _, h => by unfold ScopesNodup at h; exact h.1
  | prod _ _, h => by unfold ScopesNodup at h; exact h.1

theorem mem_sumKids {w x : α} {c d : Circ α} (h : (x, d) ∈ sumKids w c) :
    (d = c ∧ isSum c = false) ∨ ∃ s ws cs, c = sum s ws cs ∧ d ∈ cs := by
  cases c with
  | leaf s f => left; simp [sumKids] at h; exact ⟨h.2, rfl⟩
  | prod s cs => left; simp [sumKids] at h; exact ⟨h.2, rfl⟩
  | sum s ws cs =>
    right
    simp only [sumKids, List.mem_map] at h
    obtain ⟨p, hp, hpe⟩ := h
    refine ⟨s, ws, cs, rfl, ?_⟩
    have := (List.of_mem_zip hp).2
    simp only [Prod.mk.injEq] at hpe
    rw [← hpe.2]; exact this

theorem mem_absorbSum {ws : List α} {cs : List (Circ α)} {d : Circ α}
    (h : d ∈ (absorbSum ws cs).map Prod.snd) :
    ∃ c ∈ cs, (d = c ∧ isSum c = false) ∨ ∃ s ws' cs', c = sum s ws' cs' ∧ d ∈ cs' := by
  simp only [absorbSum, List.mem_map, List.mem_flatten] at h
  obtain ⟨⟨x, d'⟩, ⟨l, ⟨p, hp, rfl⟩, hin⟩, rfl⟩ := h
  exact ⟨p.2, (List.of_mem_zip hp).2, mem_sumKids hin⟩

theorem mem_prodKids {c d : Circ α} (h : d ∈ prodKids c) :
    (d = c ∧ isProd c = false) ∨ ∃ s cs, c = prod s cs ∧ d ∈ cs := by
  cases c with
  | leaf s f => left; simp [prodKids] at h; exact ⟨h, rfl⟩
  | sum s ws cs => left; simp [prodKids] at h; exact ⟨h, rfl⟩
  | prod s cs => right; exact ⟨s, cs, rfl, by simpa [prodKids] using h⟩

theorem mem_absorbProd {cs : List (Circ α)} {d : Circ α} (h : d ∈ absorbProd cs) :
    ∃ c ∈ cs, (d = c ∧ isProd c = false) ∨ ∃ s cs', c = prod s cs' ∧ d ∈ cs' := by
  simp only [absorbProd, List.mem_flatten, List.mem_map] at h
  obtain ⟨l, ⟨c, hc, rfl⟩, hd⟩ := h
  exact ⟨c, hc, mem_prodKids hd⟩

theorem sumKids_ne_nil (dom : Nat → Nat) (w : α) (c : Circ α) (hv : Valid dom c) : sumKids w c ≠ [] := by
  cases c with
  | leaf s f => exact List.cons_ne_nil _ _
  | prod s cs => exact List.cons_ne_nil _ _
  | sum s ws cs =>
    unfold Valid at hv
    obtain ⟨hne, hlen, _, _⟩ := hv
    match ws, cs, hne, hlen with
    | _ :: _, _ :: _, _, _ => exact List.cons_ne_nil _ _
    | [], _ :: _, _, hlen => exact (Nat.succ_ne_zero _ hlen.symm).elim
    | _, [], hne, _ => exact (hne rfl).elim

theorem absorbSum_ne_nil (dom : Nat → Nat) {ws : List α} {cs : List (Circ α)} (hne : cs ≠ [])
    (hlen : ws.length = cs.length) (hv : ∀ c ∈ cs, Valid dom c) : absorbSum ws cs ≠ [] := by
  match ws, cs, hne, hlen with
  | v :: vs, c :: cs, _, _ =>
    rw [absorbSum_cons]
    exact List.append_ne_nil_of_left_ne_nil (sumKids_ne_nil dom v c (hv c List.mem_cons_self)) _
  | [], _ :: _, _, hlen => exact (Nat.succ_ne_zero _ hlen.symm).elim
  | _, [], hne, _ => exact (hne rfl).elim

theorem valid_mkSum (dom : Nat → Nat) (s : List Nat) (ws : List α) (cs : List (Circ α))
    (hs : s.Nodup) (hne : cs ≠ []) (hlen : ws.length = cs.length)
    (hsc : ∀ c ∈ cs, scopeEq (scope c) s) (hv : ∀ c ∈ cs, Valid dom c) (hn : ∀ c ∈ cs, ScopesNodup c) :
    Valid dom (rwSum s ws cs) ∧ ScopesNodup (rwSum s ws cs) ∧ scopeEq (scope (rwSum s ws cs)) s := by
  unfold rwSum
  split
  · rename_i c
    exact ⟨hv c (by simp), hn c (by simp), hsc c (by simp)⟩
  · have key : ∀ d ∈ (absorbSum ws cs).map Prod.snd, scopeEq (scope d) s ∧ Valid dom d ∧ ScopesNodup d := by
      intro d hd
      obtain ⟨c, hc, h | ⟨s', ws', cs', rfl, hd'⟩⟩ := mem_absorbSum hd
      · rw [h.1]; exact ⟨hsc c hc, hv c hc, hn c hc⟩
      · have h1 := hv _ hc
        have h2 := hsc _ hc
        have h3 := hn _ hc
        unfold Valid at h1
        unfold ScopesNodup at h3
        exact ⟨(h1.2.2.1 d hd').trans h2, h1.2.2.2 d hd', h3.2 d hd'⟩
    refine ⟨?_, ?_, scopeEq.rfl'⟩
    · unfold Valid
      refine ⟨?_, by rw [List.length_map, List.length_map], fun d hd => (key d hd).1, fun d hd => (key d hd).2.1⟩
      rw [Ne, List.map_eq_nil_iff]
      exact absorbSum_ne_nil dom hne hlen hv
    · unfold ScopesNodup
      exact ⟨hs, fun d hd => (key d hd).2.2⟩

theorem prodKids_scopes (dom : Nat → Nat) (c : Circ α) (hv : Valid dom c) (hn : ScopesNodup c) :
    ((prodKids c).map scope).flatten.Nodup ∧ scopeEq ((prodKids c).map scope).flatten (scope c) := by
  cases c with
  | leaf s f => simpa [prodKids, scopeEq] using scopesNodup_scope _ hn
  | sum s ws cs => simpa [prodKids, scopeEq] using scopesNodup_scope _ hn
  | prod s cs => unfold Valid at hv; exact ⟨hv.1, hv.2.1⟩

theorem absorbProd_scope_flatten (cs : List (Circ α)) :
    ((absorbProd cs).map scope).flatten = (cs.map (fun c => ((prodKids c).map scope).flatten)).flatten := by
  induction cs with
  | nil => rfl
  | cons c cs ih =>
    rw [absorbProd_cons, List.map_append, List.flatten_append, ih]; rfl

theorem valid_mkProd (dom : Nat → Nat) (s : List Nat) (cs : List (Circ α)) (hs : s.Nodup)
    (hnd : (cs.map scope).flatten.Nodup) (hsc : scopeEq (cs.map scope).flatten s)
    (hv : ∀ c ∈ cs, Valid dom c) (hn : ∀ c ∈ cs, ScopesNodup c) :
    Valid dom (rwProd s cs) ∧ ScopesNodup (rwProd s cs) ∧ scopeEq (scope (rwProd s cs)) s := by
  unfold rwProd
  split
  · rename_i c
    refine ⟨hv c (by simp), hn c (by simp), ?_⟩
    simpa using hsc
  · have key : ∀ d ∈ absorbProd cs, Valid dom d ∧ ScopesNodup d := by
      intro d hd
      obtain ⟨c, hc, h | ⟨s', cs', rfl, hd'⟩⟩ := mem_absorbProd hd
      · rw [h.1]; exact ⟨hv c hc, hn c hc⟩
      · have h1 := hv _ hc
        have h3 := hn _ hc
        unfold Valid at h1
        unfold ScopesNodup at h3
        exact ⟨h1.2.2 d hd', h3.2 d hd'⟩
    obtain ⟨k1, k2⟩ := flatten_nodup_of cs scope (fun c => ((prodKids c).map scope).flatten)
      (fun c hc => prodKids_scopes dom c (hv c hc) (hn c hc)) hnd
    refine ⟨?_, ?_, scopeEq.rfl'⟩
    · unfold Valid
      rw [absorbProd_scope_flatten]
      exact ⟨k1, k2.trans hsc, fun d hd => (key d hd).1⟩
    · unfold ScopesNodup
      exact ⟨hs, fun d hd => (key d hd).2⟩

theorem prune_ok (dom : Nat → Nat) (c : Circ α) : Valid dom c → ScopesNodup c →
    Valid dom (prune c) ∧ ScopesNodup (prune c) ∧ scopeEq (scope (prune c)) (scope c) := by
  induction c using ind with
  | hl s f => rw [prune]; exact fun hv hn => ⟨hv, hn, scopeEq.rfl'⟩
  | hs s ws cs ih =>
    intro hv hn
    unfold Valid at hv; unfold ScopesNodup at hn
    obtain ⟨hne, hlen, hsc, hval⟩ := hv
    have ih' := fun c hc => ih c hc (hval c hc) (hn.2 c hc)
    rw [prune]
    apply valid_mkSum dom s ws _ hn.1 (by simpa using hne) (by simpa using hlen) <;>
      rw [List.forall_mem_map]
    · exact fun c hc => (ih' c hc).2.2.trans (hsc c hc)
    · exact fun c hc => (ih' c hc).1
    · exact fun c hc => (ih' c hc).2.1
  | hp s cs ih =>
    intro hv hn
    unfold Valid at hv; unfold ScopesNodup at hn
    obtain ⟨hnd, hsc, hval⟩ := hv
    have ih' := fun c hc => ih c hc (hval c hc) (hn.2 c hc)
    obtain ⟨k1, k2⟩ := flatten_nodup_of cs scope (fun c => scope (prune c))
      (fun c hc => ⟨scopesNodup_scope _ (ih' c hc).2.1, (ih' c hc).2.2⟩) hnd
    rw [prune]
    apply valid_mkProd dom s _ hn.1
    · rw [List.map_map]; exact k1
    · rw [List.map_map]; exact k2.trans hsc
    · rw [List.forall_mem_map]; exact fun c hc => (ih' c hc).1
    · rw [List.forall_mem_map]; exact fun c hc => (ih' c hc).2.1

theorem length_sumKids (w : α) (c : Circ α) (hs : Shape c) (hn : NormalForm c) :
    1 ≤ (sumKids w c).length := by
  cases c with
  | leaf s f => simp [sumKids]
  | prod s cs => simp [sumKids]
  | sum s ws cs =>
    unfold Shape at hs; unfold NormalForm at hn
    simp only [sumKids, List.length_map, List.length_zip, hs.2.1]
    omega

theorem length_absorbSum (ws : List α) (cs : List (Circ α)) (hlen : ws.length = cs.length)
    (hs : ∀ c ∈ cs, Shape c) (hn : ∀ c ∈ cs, NormalForm c) :
    cs.length ≤ (absorbSum ws cs).length := by
  induction ws generalizing cs with
  | nil => cases cs with
    | nil => simp [absorbSum]
    | cons _ _ => simp at hlen
  | cons v vs ih => cases cs with
    | nil => simp at hlen
    | cons c cs =>
      have h1 := ih cs (by simpa using hlen) (fun d hd => hs d (List.mem_cons_of_mem _ hd))
        (fun d hd => hn d (List.mem_cons_of_mem _ hd))
      have h2 := length_sumKids v c (hs c List.mem_cons_self) (hn c List.mem_cons_self)
      rw [absorbSum_cons, List.length_append, List.length_cons]
      omega

theorem length_prodKids (c : Circ α) (hn : NormalForm c) : 1 ≤ (prodKids c).length := by
  cases c with
  | leaf s f => simp [prodKids]
  | sum s ws cs => simp [prodKids]
  | prod s cs => unfold NormalForm at hn; simp only [prodKids]; omega

theorem length_absorbProd (cs : List (Circ α)) (hn : ∀ c ∈ cs, NormalForm c) :
    cs.length ≤ (absorbProd cs).length := by
  induction cs with
  | nil => simp [absorbProd]
  | cons c cs ih =>
    have h1 := ih (fun d hd => hn d (List.mem_cons_of_mem _ hd))
    have h2 := length_prodKids c (hn c List.mem_cons_self)
    rw [absorbProd_cons, List.length_append, List.length_cons]
    omega

theorem two_le_of_not_single {β : Type} (cs : List β) (hne : cs ≠ []) (hnot : ∀ c, cs = [c] → False) :
    2 ≤ cs.length := by
  match cs, hne, hnot with
  | [c], _, hnot => exact absurd rfl (hnot c)
  | _ :: _ :: _, _, _ => simp

theorem nf_mkSum (s : List Nat) (ws : List α) (cs : List (Circ α)) (hne : cs ≠ [])
    (hlen : ws.length = cs.length) (hs : ∀ c ∈ cs, Shape c) (hn : ∀ c ∈ cs, NormalForm c) :
    Shape (rwSum s ws cs) ∧ NormalForm (rwSum s ws cs) := by
  unfold rwSum
  split
  · rename_i c; exact ⟨hs c (by simp), hn c (by simp)⟩
  · rename_i hnot
    have hl := length_absorbSum ws cs hlen hs hn
    have h2 : 2 ≤ cs.length := two_le_of_not_single cs hne hnot
    have key : ∀ d ∈ (absorbSum ws cs).map Prod.snd, isSum d = false ∧ Shape d ∧ NormalForm d := by
      intro d hd
      obtain ⟨c, hc, h | ⟨s', ws', cs', rfl, hd'⟩⟩ := mem_absorbSum hd
      · rw [h.1]; exact ⟨h.2, hs c hc, hn c hc⟩
      · have h1 := hs _ hc
        have h3 := hn _ hc
        unfold Shape at h1
        unfold NormalForm at h3
        exact ⟨h3.2.1 d hd', h1.2.2 d hd', h3.2.2 d hd'⟩
    have hl2 : 2 ≤ ((absorbSum ws cs).map Prod.snd).length := by simp; omega
    constructor
    · unfold Shape
      refine ⟨?_, by simp, fun d hd => (key d hd).2.1⟩
      intro h; rw [h] at hl2; simp at hl2
    · unfold NormalForm
      exact ⟨hl2, fun d hd => (key d hd).1, fun d hd => (key d hd).2.2⟩

theorem nf_mkProd (s : List Nat) (cs : List (Circ α)) (hne : cs ≠ [])
    (hs : ∀ c ∈ cs, Shape c) (hn : ∀ c ∈ cs, NormalForm c) :
    Shape (rwProd s cs) ∧ NormalForm (rwProd s cs) := by
  unfold rwProd
  split
  · rename_i c; exact ⟨hs c (by simp), hn c (by simp)⟩
  · rename_i hnot
    have hl := length_absorbProd cs hn
    have h2 : 2 ≤ cs.length := two_le_of_not_single cs hne hnot
    have key : ∀ d ∈ absorbProd cs, isProd d = false ∧ Shape d ∧ NormalForm d := by
      intro d hd
      obtain ⟨c, hc, h | ⟨s', cs', rfl, hd'⟩⟩ := mem_absorbProd hd
      · rw [h.1]; exact ⟨h.2, hs c hc, hn c hc⟩
      · have h1 := hs _ hc
        have h3 := hn _ hc
        unfold Shape at h1
        unfold NormalForm at h3
        exact ⟨h3.2.1 d hd', h1.2 d hd', h3.2.2 d hd'⟩
    constructor
    · unfold Shape
      refine ⟨?_, fun d hd => (key d hd).2.1⟩
      intro h
      have : (absorbProd cs).length = 0 := by rw [h]; rfl
      omega
    · unfold NormalForm
      exact ⟨by omega, fun d hd => (key d hd).1, fun d hd => (key d hd).2.2⟩

theorem prune_shape_nf (c : Circ α) : Shape c → Shape (prune c) ∧ NormalForm (prune c) := by
  induction c using ind with
  | hl s f => rw [prune]; exact fun h => ⟨h, by unfold NormalForm; trivial⟩
  | hs s ws cs ih =>
    intro h
    unfold Shape at h
    obtain ⟨hne, hlen, hs⟩ := h
    rw [prune]
    apply nf_mkSum s ws _ (by simpa using hne) (by simpa using hlen) <;> rw [List.forall_mem_map]
    · exact fun c hc => (ih c hc (hs c hc)).1
    · exact fun c hc => (ih c hc (hs c hc)).2
  | hp s cs ih =>
    intro h
    unfold Shape at h
    obtain ⟨hne, hs⟩ := h
    rw [prune]
    apply nf_mkProd s _ (by simpa using hne) <;> rw [List.forall_mem_map]
    · exact fun c hc => (ih c hc (hs c hc)).1
    · exact fun c hc => (ih c hc (hs c hc)).2

theorem shape_of_valid (dom : Nat → Nat) (c : Circ α) : Valid dom c → ProdNE c → Shape c := by
  induction c using ind with
  | hl s f => intro _ _; unfold Shape; trivial
  | hs s ws cs ih =>
    unfold Valid ProdNE Shape
    exact fun hv hp => ⟨hv.1, hv.2.1, fun c hc => ih c hc (hv.2.2.2 c hc) (hp c hc)⟩
  | hp s cs ih =>
    unfold Valid ProdNE Shape
    exact fun hv hp => ⟨hp.1, fun c hc => ih c hc (hv.2.2 c hc) (hp.2 c hc)⟩

theorem lenOK_of_shape (c : Circ α) : Shape c → LenOK c := by
  induction c using ind with
  | hl s f => intro _; unfold LenOK; trivial
  | hs s ws cs ih =>
    unfold Shape LenOK
    exact fun h => ⟨h.2.1, fun c hc => ih c hc (h.2.2 c hc)⟩
  | hp s cs ih =>
    unfold Shape LenOK
    exact fun h c hc => ih c hc (h.2 c hc)

theorem lenOK_of_valid (dom : Nat → Nat) (c : Circ α) : Valid dom c → LenOK c := by
  induction c using ind with
  | hl s f => intro _; unfold LenOK; trivial
  | hs s ws cs ih =>
    unfold Valid LenOK
    exact fun h => ⟨h.2.1, fun c hc => ih c hc (h.2.2.2 c hc)⟩
  | hp s cs ih =>
    unfold Valid LenOK
    exact fun h c hc => ih c hc (h.2.2 c hc)

theorem prodKids_of_not_prod (c : Circ α) (h : isProd c = false) : prodKids c = [c] := by
  cases c <;> simp_all [prodKids, isProd]

theorem absorbProd_id (cs : List (Circ α)) (h : ∀ c ∈ cs, isProd c = false) : absorbProd cs = cs := by
  induction cs with
  | nil => rfl
  | cons c cs ih =>
    rw [absorbProd_cons, ih (fun d hd => h d (List.mem_cons_of_mem _ hd)),
      prodKids_of_not_prod c (h c List.mem_cons_self)]
    rfl

theorem sumKids_of_not_sum (w : α) (c : Circ α) (h : isSum c = false) : sumKids w c = [(w, c)] := by
  cases c <;> simp_all [sumKids, isSum]

theorem absorbSum_id (ws : List α) (cs : List (Circ α)) (h : ∀ c ∈ cs, isSum c = false) :
    absorbSum ws cs = ws.zip cs := by
  induction ws generalizing cs with
  | nil => simp [absorbSum]
  | cons v vs ih => cases cs with
    | nil => simp [absorbSum]
    | cons c cs =>
      rw [absorbSum_cons, ih cs (fun d hd => h d (List.mem_cons_of_mem _ hd)),
        sumKids_of_not_sum v c (h c List.mem_cons_self)]
      rfl

theorem prune_fix : (c : Circ α) → NormalForm c → LenOK c → prune c = c := by
  intro c
  induction c using ind with
  | hl s f => intro _ _; rw [prune]
  | hs s ws cs ih =>
    intro hn hl
    unfold NormalForm at hn; unfold LenOK at hl
    have hmap : cs.map prune = cs :=
      map_eq_self_of_mem (fun c hc => ih c hc (hn.2.2 c hc) (hl.2 c hc))
    rw [prune, hmap]
    unfold rwSum
    split
    · rename_i c; have := hn.1; simp at this
    · rw [absorbSum_id ws cs hn.2.1, List.map_fst_zip (by omega), List.map_snd_zip (by omega)]
  | hp s cs ih =>
    intro hn hl
    unfold NormalForm at hn; unfold LenOK at hl
    have hmap : cs.map prune = cs :=
      map_eq_self_of_mem (fun c hc => ih c hc (hn.2.2 c hc) (hl c hc))
    rw [prune, hmap]
    unfold rwProd
    split
    · rename_i c; have := hn.1; simp at this
    · rw [absorbProd_id cs hn.2.1]

theorem tsum_absorbSum (ws : List α) (cs : List (Circ α)) (hlen : ws.length = cs.length)
    (hl : ∀ c ∈ cs, LenOK c) (hn : ∀ c ∈ cs, NormW c) :
    tsum ((absorbSum ws cs).map Prod.fst) = tsum ws := by
  have hone : ∀ (l : List (Circ α)) x, x ∈ l.map (fun _ => (1:α)) → x = 1 :=
    fun l x hx => by obtain ⟨_, _, rfl⟩ := List.mem_map.1 hx; rfl
  rw [← wsum_ones _ (((absorbSum ws cs).map Prod.snd).map (fun _ => 1)) (hone _)
      (by rw [List.length_map, List.length_map, List.length_map]),
    wsum_absorbSum (fun _ => 1) ws cs, wsum_ones _ _ (hone cs) (by rw [List.length_map, hlen])]
  -- a normalised sum child has total weight one
  intro c hc s ws' cs' h
  have h1 := hl c hc; have h2 := hn c hc
  rw [h] at h1 h2
  unfold LenOK at h1; unfold NormW at h2
  rw [wsum_ones _ _ (hone cs') (by rw [List.length_map, h1.1]), h2.1]

theorem norm_mkSum (dom : Nat → Nat) (s : List Nat) (ws : List α) (cs : List (Circ α))
    (hlen : ws.length = cs.length) (hw : tsum ws = 1)
    (ih : ∀ d ∈ cs, LenOK d ∧ NormW d ∧ LeafNorm dom d) :
    LenOK (rwSum s ws cs) ∧ NormW (rwSum s ws cs) ∧ LeafNorm dom (rwSum s ws cs) := by
  unfold rwSum
  split
  · rename_i c; exact ih c (by simp)
  · have key : ∀ d ∈ (absorbSum ws cs).map Prod.snd, LenOK d ∧ NormW d ∧ LeafNorm dom d := by
      intro d hd
      obtain ⟨c, hc, h | ⟨s', ws', cs', rfl, hd'⟩⟩ := mem_absorbSum hd
      · rw [h.1]; exact ih c hc
      · obtain ⟨h1, h2, h3⟩ := ih _ hc
        unfold LenOK at h1; unfold NormW at h2; unfold LeafNorm at h3
        exact ⟨h1.2 d hd', h2.2 d hd', h3 d hd'⟩
    refine ⟨?_, ?_, ?_⟩
    · unfold LenOK; exact ⟨by simp, fun d hd => (key d hd).1⟩
    · unfold NormW
      refine ⟨?_, fun d hd => (key d hd).2.1⟩
      rw [tsum_absorbSum ws cs hlen (fun c hc => (ih c hc).1) (fun c hc => (ih c hc).2.1), hw]
    · unfold LeafNorm; exact fun d hd => (key d hd).2.2

theorem norm_mkProd (dom : Nat → Nat) (s : List Nat) (cs : List (Circ α))
    (ih : ∀ d ∈ cs, LenOK d ∧ NormW d ∧ LeafNorm dom d) :
    LenOK (rwProd s cs) ∧ NormW (rwProd s cs) ∧ LeafNorm dom (rwProd s cs) := by
  unfold rwProd
  split
  · rename_i c; exact ih c (by simp)
  · have key : ∀ d ∈ absorbProd cs, LenOK d ∧ NormW d ∧ LeafNorm dom d := by
      intro d hd
      obtain ⟨c, hc, h | ⟨s', cs', rfl, hd'⟩⟩ := mem_absorbProd hd
      · rw [h.1]; exact ih c hc
      · obtain ⟨h1, h2, h3⟩ := ih _ hc
        unfold LenOK at h1; unfold NormW at h2; unfold LeafNorm at h3
        exact ⟨h1 d hd', h2 d hd', h3 d hd'⟩
    refine ⟨?_, ?_, ?_⟩
    · unfold LenOK; exact fun d hd => (key d hd).1
    · unfold NormW; exact fun d hd => (key d hd).2.1
    · unfold LeafNorm; exact fun d hd => (key d hd).2.2

theorem prune_norm (dom : Nat → Nat) (c : Circ α) : LenOK c → NormW c → LeafNorm dom c →
    LenOK (prune c) ∧ NormW (prune c) ∧ LeafNorm dom (prune c) := by
  induction c using ind with
  | hl s f => rw [prune]; exact fun h1 h2 h3 => ⟨h1, h2, h3⟩
  | hs s ws cs ih =>
    intro h1 h2 h3
    unfold LenOK at h1; unfold NormW at h2; unfold LeafNorm at h3
    rw [prune]
    apply norm_mkSum dom s ws _ (by simpa using h1.1) h2.1
    rw [List.forall_mem_map]
    exact fun c hc => ih c hc (h1.2 c hc) (h2.2 c hc) (h3 c hc)
  | hp s cs ih =>
    intro h1 h2 h3
    unfold LenOK at h1; unfold NormW at h2; unfold LeafNorm at h3
    rw [prune]
    apply norm_mkProd dom s
    rw [List.forall_mem_map]
    exact fun c hc => ih c hc (h1 c hc) (h2 c hc) (h3 c hc)

theorem unitSingle_of_normW (c : Circ α) : LenOK c → NormW c → UnitSingle c := by
  induction c using ind with
  | hl s f => intro _ _; unfold UnitSingle; trivial
  | hs s ws cs ih =>
    intro h1 h2
    unfold LenOK at h1; unfold NormW at h2; unfold UnitSingle
    exact ⟨fun h => ws_eq_one (by rw [h1.1, h]) h2.1, fun c hc => ih c hc (h1.2 c hc) (h2.2 c hc)⟩
  | hp s cs ih =>
    unfold LenOK NormW UnitSingle
    exact fun h1 h2 c hc => ih c hc (h1 c hc) (h2 c hc)

section catLeaf
variable (dom : Nat → Nat) (v : Nat) (tbl : List α)
theorem normW_catLeaf : NormW (catLeaf v tbl) := by unfold catLeaf NormW; trivial
theorem leafNorm_catLeaf : LeafNorm dom (catLeaf v tbl) := by unfold catLeaf LeafNorm; rfl
theorem scopesNodup_catLeaf : ScopesNodup (catLeaf v tbl) := by
  unfold catLeaf ScopesNodup; exact List.nodup_singleton v
theorem prodNE_catLeaf : ProdNE (catLeaf v tbl) := by unfold catLeaf ProdNE; trivial
theorem normalForm_catLeaf : NormalForm (catLeaf v tbl) := by unfold catLeaf NormalForm; trivial
theorem lenOK_catLeaf : LenOK (catLeaf v tbl) := by unfold catLeaf LenOK; trivial
theorem isSum_catLeaf : isSum (catLeaf v tbl) = false := rfl
theorem isProd_catLeaf : isProd (catLeaf v tbl) = false := rfl
theorem margLeafOK_catLeaf (keep : List Nat) (margLeaf : List Nat → (Ev → α) → List Nat → Option (Circ α)) :
    MargLeafOK dom keep margLeaf (catLeaf v tbl) := by
  unfold catLeaf MargLeafOK; exact fun h => absurd rfl h
end catLeaf

end Circ
end Deeprob
