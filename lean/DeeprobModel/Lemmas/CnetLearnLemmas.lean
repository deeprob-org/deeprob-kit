import DeeprobModel.Model.CnetLearn
import DeeprobModel.Spec.Cnet
import DeeprobModel.Spec.CnetLearn
import DeeprobModel.Lemmas.CnetLemmas
import Mathlib.Data.List.Perm.Basic
import Mathlib.Data.List.Nodup
import Mathlib.Algebra.Order.Field.Basic
import Mathlib.Tactic.Ring
set_option linter.unusedSectionVars false
/-
The invariant of the work-queue machine of Model/CnetLearn.lean (`Inv`, preserved by `step` / `run` for every
script), its transfer to the unfolded tree (`Good`), termination of the loop (`run_queue_empty`), and what `Good`
gives for property C18: the OR weights are smoothed proportions in `[0, 1]`, the leaves partition the rows, and the
resulting cutset network is well formed.
-/
namespace Deeprob.CnetLearn
open Deeprob

section
variable {α : Type} [Field α] {cfg : Cfg} {data : List (List Nat)}

theorem getN_eq (tbl : List (Node α)) (i : Nat) : getN tbl i = (tbl[i]?).getD default := by
  simp [getN, List.getD_eq_getElem?_getD]

/-- the table after cell `i` is split on `v`: the split is recorded in cell `i` and the two children are appended -/
def splitTable (cfg : Cfg) (data : List (List Nat)) (T : List (Node α)) (i v : Nat) : List (Node α) :=
  let nd := getN T i
  let w0 : α := leftWeight cfg.kind nd.par (side data v 0 nd.rows).length nd.rows.length
  T.set i { nd with split := some { v := v, w0 := w0, w1 := 1 - w0, l := T.length, r := T.length + 1 } } ++
    [{ rows := side data v 0 nd.rows, scope := nd.scope.erase v, par := childPar cfg.kind nd.par },
     { rows := side data v 1 nd.rows, scope := nd.scope.erase v, par := childPar cfg.kind nd.par }]

section splitTable
variable (cfg : Cfg) (data : List (List Nat)) (T : List (Node α)) (i v : Nat)

theorem length_splitTable : (splitTable cfg data T i v).length = T.length + 2 := by
  simp [splitTable]

/-- the old cells stay, except that cell `i` records the split -/
theorem getN_splitTable_old {j : Nat} (hj : j < T.length) :
    getN (splitTable cfg data T i v) j =
      { getN T j with
        split := if j = i then
          some ⟨v,
            leftWeight cfg.kind (getN T i).par (side data v 0 (getN T i).rows).length (getN T i).rows.length,
            1 - leftWeight cfg.kind (getN T i).par (side data v 0 (getN T i).rows).length (getN T i).rows.length,
            T.length, T.length + 1⟩
          else (getN T j).split } := by
  rw [getN_eq, splitTable, List.getElem?_append_left (by simpa using hj), List.getElem?_set]
  split
  · subst i; rw [if_pos rfl, if_pos hj]; rfl
  · rename_i h; rw [if_neg (Ne.symm h), ← getN_eq]

theorem getN_splitTable_left :
    getN (splitTable cfg data T i v) T.length =
      { rows := side data v 0 (getN T i).rows, scope := (getN T i).scope.erase v, par := childPar cfg.kind (getN T i).par } := by
  rw [getN_eq, splitTable, List.getElem?_append_right (by simp), List.length_set, Nat.sub_self]
  rfl

theorem getN_splitTable_right :
    getN (splitTable cfg data T i v) (T.length + 1) =
      { rows := side data v 1 (getN T i).rows, scope := (getN T i).scope.erase v, par := childPar cfg.kind (getN T i).par } := by
  rw [getN_eq, splitTable, List.getElem?_append_right (by simp), List.length_set, Nat.add_sub_cancel_left]
  rfl

theorem getN_splitTable_static {j : Nat} (hj : j < T.length) :
    (getN (splitTable cfg data T i v) j).rows = (getN T j).rows ∧
    (getN (splitTable cfg data T i v) j).scope = (getN T j).scope ∧
    (getN (splitTable cfg data T i v) j).par = (getN T j).par := by
  rw [getN_splitTable_old cfg data T i v hj]
  exact ⟨rfl, rfl, rfl⟩

end splitTable

/-- a successful iteration pops the head `i` of the queue and either leaves the cell a leaf without asking the oracle,
or consumes a `stop`, or consumes a `cut v` and splits the cell: then the oracle was consulted, `v` is in the scope
and (score-based learners) no side is empty -/
theorem step_ok {s s' : St α} {i : Nat} {q : List Nat} (hq : s.queue = i :: q) (h : step cfg data s = .ok s') :
    s' = { s with queue := q } ∨
    (∃ sc, s.script = .stop :: sc ∧ s' = { s with queue := q, script := sc }) ∨
    (∃ v sc, s.script = .cut v :: sc ∧
      consults cfg (getN s.nodes i).rows.length (getN s.nodes i).scope.length = true ∧ v ∈ (getN s.nodes i).scope ∧
      (cfg.kind ≠ .fit → side data v 0 (getN s.nodes i).rows ≠ [] ∧ side data v 1 (getN s.nodes i).rows ≠ []) ∧
      s' = ⟨splitTable cfg data s.nodes i v, q ++ [s.nodes.length, s.nodes.length + 1], sc⟩) := by
  unfold step at h
  simp only [hq] at h
  cases hcons : consults cfg (getN s.nodes i).rows.length (getN s.nodes i).scope.length with
  | false =>
    rw [hcons] at h
    exact Or.inl (Except.ok.inj h).symm
  | true =>
    cases hcr : candCrash cfg (getN s.nodes i).scope.length with
    | true => rw [hcons, hcr] at h; cases h
    | false =>
      rw [hcons, hcr] at h
      cases hsc : s.script with
      | nil => rw [hsc] at h; cases h
      | cons d sc =>
        rw [hsc] at h
        cases d with
        | stop => exact Or.inr (Or.inl ⟨sc, rfl, (Except.ok.inj h).symm⟩)
        | cut v =>
          simp only [Bool.not_true, Bool.false_eq_true, if_false] at h
          split at h
          · cases h
          rename_i hv
          split at h
          · cases h
          rename_i hside
          refine Or.inr (Or.inr ⟨v, sc, rfl, rfl, by simpa using hv, ?_, (Except.ok.inj h).symm⟩)
          intro hk
          simpa [hk, List.isEmpty_iff] using hside

/-- what the code guarantees when it splits a node with rows `r`, scope `s` and parameter `p` on `v`, with weights `w0`,
`w1`, into children with rows `r0`, `r1` over the scopes `s0`, `s1` -/
structure SplitOK (cfg : Cfg) (data : List (List Nat)) (p : α) (r s : List Nat) (v : Nat) (w0 w1 : α)
    (r0 s0 r1 s1 : List Nat) : Prop where
  mem : v ∈ s
  consulted : consults cfg r.length s.length = true
  rows0 : r0 = side data v 0 r
  rows1 : r1 = side data v 1 r
  scope0 : s0 = s.erase v
  scope1 : s1 = s.erase v
  weight0 : w0 = leftWeight cfg.kind p r0.length r.length
  weight1 : w1 = 1 - w0
  nonempty : cfg.kind ≠ .fit → r0 ≠ [] ∧ r1 ≠ []

/-- local invariant of table cell `i` with the recorded split `sp`: the two child cells are later cells of the table,
and they are what the split says -/
structure CellOK (cfg : Cfg) (data : List (List Nat)) (tbl : List (Node α)) (i : Nat) (sp : Split α) : Prop where
  lt : i < sp.l
  succ : sp.r = sp.l + 1
  bound : sp.r < tbl.length
  split : SplitOK cfg data (getN tbl i).par (getN tbl i).rows (getN tbl i).scope sp.v sp.w0 sp.w1
    (getN tbl sp.l).rows (getN tbl sp.l).scope (getN tbl sp.r).rows (getN tbl sp.r).scope
  par0 : (getN tbl sp.l).par = childPar cfg.kind (getN tbl i).par
  par1 : (getN tbl sp.r).par = childPar cfg.kind (getN tbl i).par

/-- `CellOK` reads rows, scope and parameter of three cells only: it survives any growth of the table that keeps them -/
theorem CellOK.frame {tbl tbl' : List (Node α)} {i : Nat} {sp : Split α}
    (h : CellOK cfg data tbl i sp) (hi : i < tbl.length) (hlen : tbl.length ≤ tbl'.length)
    (hsame : ∀ j, j < tbl.length → (getN tbl' j).rows = (getN tbl j).rows ∧
      (getN tbl' j).scope = (getN tbl j).scope ∧ (getN tbl' j).par = (getN tbl j).par) :
    CellOK cfg data tbl' i sp := by
  have hr := h.bound
  have hl : sp.l < tbl.length := by have := h.succ; omega
  obtain ⟨ri, si, pi⟩ := hsame i hi
  obtain ⟨rl, sl, pl⟩ := hsame sp.l hl
  obtain ⟨rr, sr, pr⟩ := hsame sp.r hr
  refine ⟨h.lt, h.succ, by omega, ?_, ?_, ?_⟩
  · rw [ri, si, pi, rl, sl, rr, sr]; exact h.split
  · rw [pl, pi]; exact h.par0
  · rw [pr, pi]; exact h.par1

/-- invariant of the machine state (root cell fixed to rows `R`, scope `S`, parameter `p`) -/
structure Inv (cfg : Cfg) (data : List (List Nat)) (R S : List Nat) (p : α) (s : St α) : Prop where
  cells : ∀ i, i < s.nodes.length → ∀ sp, (getN s.nodes i).split = some sp → CellOK cfg data s.nodes i sp
  queue : ∀ i ∈ s.queue, i < s.nodes.length
  pos : 0 < s.nodes.length
  root_rows : (getN s.nodes 0).rows = R
  root_scope : (getN s.nodes 0).scope = S
  root_par : (getN s.nodes 0).par = p

theorem inv_init (nRows nCols : Nat) (p : α) (script : List Dec) :
    Inv cfg data (List.range nRows) (List.range nCols) p (init nRows nCols p script) := by
  refine ⟨?_, ?_, Nat.one_pos, rfl, rfl, rfl⟩
  · intro i hi sp hsp
    obtain rfl : i = 0 := Nat.lt_one_iff.1 hi
    cases hsp
  · intro i hi
    obtain rfl : i = 0 := List.mem_singleton.1 hi
    exact Nat.one_pos

theorem step_inv {R S : List Nat} {p : α} {s s' : St α} (hinv : Inv cfg data R S p s) (h : step cfg data s = .ok s') :
    Inv cfg data R S p s' := by
  cases hq : s.queue with
  | nil =>
    rw [step, hq] at h
    cases h
    exact hinv
  | cons i q =>
    have hi : i < s.nodes.length := hinv.queue i (by simp [hq])
    have hqb : ∀ j ∈ q, j < s.nodes.length := fun j hj => hinv.queue j (by simp [hq, hj])
    have pop : ∀ sc, Inv cfg data R S p { s with queue := q, script := sc } := fun sc =>
      ⟨hinv.cells, hqb, hinv.pos, hinv.root_rows, hinv.root_scope, hinv.root_par⟩
    rcases step_ok hq h with rfl | ⟨sc, _, rfl⟩ | ⟨v, sc, _, hcons, hv, hside, rfl⟩
    · exact pop s.script
    · exact pop sc
    have hstatic := fun j => getN_splitTable_static cfg data s.nodes i v (j := j)
    have hlen := length_splitTable cfg data s.nodes i v
    refine ⟨?_, ?_, ?_, ?_, ?_, ?_⟩
    · intro j hj sp hsp
      simp only [hlen] at hj
      by_cases hjT : j < s.nodes.length
      · by_cases hji : j = i
        · -- the cell that is split: its children are the two fresh cells
          subst hji
          rw [getN_splitTable_old cfg data s.nodes j v hi, if_pos rfl] at hsp
          cases hsp
          obtain ⟨hr, hs, hp⟩ := hstatic j hi
          refine ⟨hi, rfl, by simp only [hlen]; omega, ?_, ?_, ?_⟩
          · simp only [getN_splitTable_left, getN_splitTable_right, hr, hs, hp]
            exact ⟨hv, hcons, rfl, rfl, rfl, rfl, rfl, rfl, hside⟩
          · simp only [getN_splitTable_left, hp]
          · simp only [getN_splitTable_right, hp]
        · rw [getN_splitTable_old cfg data s.nodes i v hjT, if_neg hji] at hsp
          exact (hinv.cells j hjT sp hsp).frame hjT (by simp only [hlen]; omega) hstatic
      · -- a fresh cell records no split
        obtain rfl | rfl : j = s.nodes.length ∨ j = s.nodes.length + 1 := by omega
        · rw [getN_splitTable_left] at hsp; cases hsp
        · rw [getN_splitTable_right] at hsp; cases hsp
    · intro j hj
      simp only [hlen]
      rcases List.mem_append.1 hj with hj | hj
      · have := hqb j hj; omega
      · simp only [List.mem_cons, List.not_mem_nil, or_false] at hj; omega
    · simp only [hlen]; omega
    · rw [(hstatic 0 hinv.pos).1]; exact hinv.root_rows
    · rw [(hstatic 0 hinv.pos).2.1]; exact hinv.root_scope
    · rw [(hstatic 0 hinv.pos).2.2]; exact hinv.root_par

/-- induction along a successful `run`: it stops at once (no fuel, or an empty queue), or makes one `step` and runs on -/
theorem run_induct {motive : Nat → St α → St α → Prop}
    (stop : ∀ f s, f = 0 ∨ s.queue = [] → motive f s s)
    (next : ∀ f s s1 s' i q, s.queue = i :: q → step cfg data s = .ok s1 → run cfg data f s1 = .ok s' →
      motive f s1 s' → motive (f + 1) s s') :
    ∀ f s s', run cfg data f s = .ok s' → motive f s s' := by
  intro f
  induction f with
  | zero => intro s s' h; cases h; exact stop 0 s (Or.inl rfl)
  | succ f ih =>
    intro s s' h
    unfold run at h
    cases hq : s.queue with
    | nil => simp only [hq] at h; cases h; exact stop _ s (Or.inr hq)
    | cons i q =>
      simp only [hq] at h
      cases hs : step cfg data s with
      | error e => simp only [hs] at h; cases h
      | ok s1 => simp only [hs] at h; exact next f s s1 s' i q hq hs h (ih s1 s' h)

theorem run_nil {f : Nat} {s : St α} (h : s.queue = []) : run cfg data f s = .ok s := by
  cases f <;> simp [run, h]

theorem run_inv {R S : List Nat} {p : α} {fuel : Nat} {s s' : St α} (hinv : Inv cfg data R S p s)
    (h : run cfg data fuel s = .ok s') : Inv cfg data R S p s' :=
  run_induct (motive := fun _ s s' => Inv cfg data R S p s → Inv cfg data R S p s') (fun _ _ _ hinv => hinv)
    (fun _ _ _ _ _ _ _ hs _ ih hinv => ih (step_inv hinv hs)) fuel s s' h hinv

theorem step_measure (cfg : Cfg) (data : List (List Nat)) (s s' : St α) (i : Nat) (q : List Nat)
    (hq : s.queue = i :: q) (h : step cfg data s = .ok s') :
    s'.queue.length + 2 * s'.script.length + 1 ≤ s.queue.length + 2 * s.script.length := by
  rcases step_ok hq h with rfl | ⟨sc, hsc, rfl⟩ | ⟨v, sc, hsc, _, _, _, rfl⟩
  · simp only [hq, List.length_cons]; omega
  · simp only [hq, hsc, List.length_cons]; omega
  · simp only [hq, hsc, List.length_cons, List.length_append, List.length_nil]; omega

theorem run_queue_empty {fuel : Nat} {s s' : St α} (hm : s.queue.length + 2 * s.script.length ≤ fuel)
    (h : run cfg data fuel s = .ok s') : s'.queue = [] := by
  refine run_induct (motive := fun f s s' => s.queue.length + 2 * s.script.length ≤ f → s'.queue = [])
    ?_ ?_ fuel s s' h hm
  · rintro f s (rfl | hq) hm
    · exact List.length_eq_zero_iff.1 (by omega)
    · exact hq
  · intro f s s1 s' i q hq hs _ ih hm
    have := step_measure cfg data s s1 i q hq hs
    exact ih (by omega)

/-- what the machine guarantees about a learned tree whose root carries the smoothing parameter `p` -/
def Good (cfg : Cfg) (data : List (List Nat)) : α → LTree α → Prop
  | _, .leaf _ _ => True
  | p, .or rows scope v w0 w1 c0 c1 =>
      v ∈ scope ∧ consults cfg rows.length scope.length = true ∧
      c0.rows = side data v 0 rows ∧ c1.rows = side data v 1 rows ∧
      c0.scope = scope.erase v ∧ c1.scope = scope.erase v ∧
      w0 = leftWeight cfg.kind p c0.rows.length rows.length ∧ w1 = 1 - w0 ∧
      (cfg.kind ≠ .fit → c0.rows ≠ [] ∧ c1.rows ≠ []) ∧
      Good cfg data (childPar cfg.kind p) c0 ∧ Good cfg data (childPar cfg.kind p) c1

theorem Good.or_iff {p : α} {r s : List Nat} {v : Nat} {w0 w1 : α}
    {c0 c1 : LTree α} :
    Good cfg data p (.or r s v w0 w1 c0 c1) ↔
      SplitOK cfg data p r s v w0 w1 c0.rows c0.scope c1.rows c1.scope ∧
      Good cfg data (childPar cfg.kind p) c0 ∧ Good cfg data (childPar cfg.kind p) c1 := by
  rw [Good]
  constructor
  · rintro ⟨a1, a2, a3, a4, a5, a6, a7, a8, a9, g0, g1⟩
    exact ⟨⟨a1, a2, a3, a4, a5, a6, a7, a8, a9⟩, g0, g1⟩
  · rintro ⟨⟨a1, a2, a3, a4, a5, a6, a7, a8, a9⟩, g0, g1⟩
    exact ⟨a1, a2, a3, a4, a5, a6, a7, a8, a9, g0, g1⟩

/-- induction on a `Good` tree: at an OR node the local facts and the induction hypotheses for both children -/
theorem Good.induction {motive : α → LTree α → Prop}
    (leaf : ∀ p r s, motive p (.leaf r s))
    (or : ∀ p r s v w0 w1 c0 c1, SplitOK cfg data p r s v w0 w1 c0.rows c0.scope c1.rows c1.scope →
      motive (childPar cfg.kind p) c0 → motive (childPar cfg.kind p) c1 → motive p (.or r s v w0 w1 c0 c1)) :
    ∀ (t : LTree α) (p : α), Good cfg data p t → motive p t := by
  intro t
  induction t with
  | leaf r s => intro p _; exact leaf p r s
  | or r s v w0 w1 c0 c1 ih0 ih1 =>
    intro p h
    obtain ⟨hs, g0, g1⟩ := Good.or_iff.1 h
    exact or p r s v w0 w1 c0 c1 hs (ih0 _ g0) (ih1 _ g1)

theorem toTree_rows (tbl : List (Node α)) (fuel i : Nat) : (toTree tbl fuel i).rows = (getN tbl i).rows := by
  cases fuel with
  | zero => rfl
  | succ f =>
    unfold toTree
    simp only
    cases (getN tbl i).split <;> rfl

theorem toTree_scope (tbl : List (Node α)) (fuel i : Nat) : (toTree tbl fuel i).scope = (getN tbl i).scope := by
  cases fuel with
  | zero => rfl
  | succ f =>
    unfold toTree
    simp only
    cases (getN tbl i).split <;> rfl

theorem toTree_good {tbl : List (Node α)}
    (h : ∀ i, i < tbl.length → ∀ sp, (getN tbl i).split = some sp → CellOK cfg data tbl i sp) :
    ∀ (fuel i : Nat), i < tbl.length → tbl.length ≤ fuel + i →
      Good cfg data (getN tbl i).par (toTree tbl fuel i) := by
  intro fuel
  induction fuel with
  | zero => intro i hi hl; omega
  | succ f ih =>
    intro i hi hl
    unfold toTree
    simp only
    cases hs : (getN tbl i).split with
    | none => trivial
    | some sp =>
      have c := h i hi sp hs
      have hlt := c.lt
      have hsucc := c.succ
      have hb := c.bound
      rw [Good.or_iff, toTree_rows, toTree_scope, toTree_rows, toTree_scope]
      refine ⟨c.split, ?_, ?_⟩
      · rw [← c.par0]; exact ih sp.l (by omega) (by omega)
      · rw [← c.par1]; exact ih sp.r hb (by omega)

end

section ordered
variable {α : Type} [Field α] [LinearOrder α] [IsStrictOrderedRing α]
variable {cfg : Cfg} {data : List (List Nat)} {dom : Nat → Nat} {lf : List Nat → List Nat → Ev → α}

theorem childPar_nonneg (k : Kind) {p : α} (hp : 0 ≤ p) : 0 ≤ childPar k p := by
  cases k
  · exact hp
  · exact div_nonneg hp (Nat.cast_nonneg 2)
  · exact hp

theorem childPar_pos (k : Kind) {p : α} (hp : 0 < p) : 0 < childPar k p := by
  cases k
  · exact hp
  · rw [childPar, Nat.cast_ofNat]; exact half_pos hp
  · exact hp

theorem parAt_nonneg (k : Kind) (p : α) (hp : 0 ≤ p) (d : Nat) : 0 ≤ parAt k p d := by
  induction d with
  | zero => exact hp
  | succ d ih => exact childPar_nonneg k ih

theorem parAt_pos (k : Kind) (p : α) (hp : 0 < p) (d : Nat) : 0 < parAt k p d := by
  induction d with
  | zero => exact hp
  | succ d ih => exact childPar_pos k ih

/-- closed form of the parameter at depth `d` -/
theorem parAt_bd (p : α) (d : Nat) : parAt Kind.bd p d = p / 2 ^ d := by
  induction d with
  | zero => rw [pow_zero, div_one]; rfl
  | succ d ih => rw [parAt, ih, childPar, Nat.cast_ofNat, div_div, pow_succ]

theorem parAt_of_ne_bd {k : Kind} (hk : k ≠ .bd) (p : α) (d : Nat) : parAt k p d = p := by
  induction d with
  | zero => rfl
  | succ d ih =>
    rw [parAt, ih]
    cases k
    · rfl
    · exact absurd rfl hk
    · rfl

theorem parAt_bic (p : α) (d : Nat) : parAt Kind.bic p d = p := parAt_of_ne_bd (by decide) p d

/-- the smoothing mass a branch receives is the parameter its child is queued with: `alpha`, resp. `node_ess / 2` -/
theorem leftWeight_eq (k : Kind) (p : α) (n0 n : Nat) :
    leftWeight k p n0 n = ((n0 : α) + childPar k p) / ((n : α) + 2 * childPar k p) := by
  cases k
  · simp only [leftWeight, childPar, Nat.cast_ofNat]
  · simp only [leftWeight, childPar, Nat.cast_ofNat, mul_div_cancel₀ p (two_ne_zero' α)]
  · simp only [leftWeight, childPar, Nat.cast_ofNat]

/-- the right weight is the left weight of the complementary count -/
theorem one_sub_leftWeight (k : Kind) (p : α) {n0 n : Nat} (h : n0 ≤ n) (hden : (n : α) + 2 * childPar k p ≠ 0) :
    1 - leftWeight k p n0 n = leftWeight k p (n - n0) n := by
  rw [leftWeight_eq, leftWeight_eq, Nat.cast_sub h, one_sub_div hden]
  congr 1
  ring

theorem leftWeight_nonneg (k : Kind) {p : α} (hp : 0 ≤ p) (n0 n : Nat) : 0 ≤ leftWeight k p n0 n := by
  rw [leftWeight_eq]
  have hc := childPar_nonneg k hp
  exact div_nonneg (add_nonneg (Nat.cast_nonneg n0) hc) (add_nonneg (Nat.cast_nonneg n) (mul_nonneg zero_le_two hc))

theorem leftWeight_pos (k : Kind) {p : α} (hp : 0 ≤ p) {n0 n : Nat} (h : n0 ≤ n) (hn : 0 < n0 ∨ 0 < p) :
    0 < leftWeight k p n0 n := by
  rw [leftWeight_eq]
  have hc := childPar_nonneg k hp
  have hnum : 0 < (n0 : α) + childPar k p := by
    rcases hn with hn | hn
    · exact add_pos_of_pos_of_nonneg (Nat.cast_pos.2 hn) hc
    · exact add_pos_of_nonneg_of_pos (Nat.cast_nonneg n0) (childPar_pos k hn)
  exact div_pos hnum
    (lt_of_lt_of_le hnum (add_le_add (Nat.cast_le.2 h) (le_mul_of_one_le_left hc one_le_two)))

variable {q : α} {r s r0 s0 r1 s1 : List Nat} {v : Nat} {w0 w1 : α} {c0 c1 : LTree α}

/-- a node that is split has at least one row (fit: `n_samples > min_n_samples ≥ 0`; score-based learners:
both sides are non-empty) -/
theorem SplitOK.rows_pos (h : SplitOK cfg data q r s v w0 w1 r0 s0 r1 s1) : 0 < r.length := by
  by_cases hk : cfg.kind = .fit
  · have hc := h.consulted
    simp only [consults, hk, Bool.not_eq_true', Bool.or_eq_false_iff, decide_eq_false_iff_not] at hc
    omega
  · have hne := (h.nonempty hk).1
    rw [h.rows0] at hne
    exact List.length_pos_of_ne_nil (fun hr => hne (by rw [hr]; rfl))

/-- so a child that receives no row is not split again -/
theorem Good.isLeaf_of_rows_nil {c : LTree α} (h : Good cfg data q c) (hr : c.rows = []) :
    c.isLeaf = true := by
  cases c with
  | leaf _ _ => rfl
  | or r s v w0 w1 c0 c1 =>
    have hpos := (Good.or_iff.1 h).1.rows_pos
    rw [show r = [] from hr] at hpos
    exact absurd hpos (Nat.lt_irrefl 0)

theorem side_length_add_le (data : List (List Nat)) (v : Nat) (rows : List Nat) :
    (side data v 0 rows).length + (side data v 1 rows).length ≤ rows.length := by
  rw [List.length_eq_length_filter_add (l := rows) (fun r => cellOf data r v == 0)]
  refine Nat.add_le_add_left (List.Sublist.length_le (List.monotone_filter_right rows ?_)) _
  intro r hr
  rw [beq_iff_eq] at hr
  simp [hr]

/-- the facts about the two weights of one OR node whose smoothing parameter is `q ≥ 0` -/
theorem SplitOK.weights (h : SplitOK cfg data q r s v w0 w1 r0 s0 r1 s1) (hq : 0 ≤ q) :
    w0 = leftWeight cfg.kind q (side data v 0 r).length r.length ∧
    w1 = 1 - w0 ∧ w0 + w1 = 1 ∧ 0 ≤ w0 ∧ w0 ≤ 1 ∧ 0 ≤ w1 ∧ w1 ≤ 1 ∧
    ((0 < q ∨ cfg.kind ≠ .fit) → 0 < w0 ∧ w0 < 1 ∧ 0 < w1 ∧ w1 < 1) := by
  have hle : (side data v 0 r).length ≤ r.length := List.length_filter_le _ _
  have hw0 : w0 = leftWeight cfg.kind q (side data v 0 r).length r.length := by rw [h.weight0, h.rows0]
  -- the right weight is a left weight too, so every bound is needed for left weights only
  have hden : (r.length : α) + 2 * childPar cfg.kind q ≠ 0 :=
    ne_of_gt (add_pos_of_pos_of_nonneg (Nat.cast_pos.2 h.rows_pos) (mul_nonneg zero_le_two (childPar_nonneg _ hq)))
  have hw1 : w1 = leftWeight cfg.kind q (r.length - (side data v 0 r).length) r.length := by
    rw [h.weight1, hw0, one_sub_leftWeight _ _ hle hden]
  have n0 : 0 ≤ w0 := hw0 ▸ leftWeight_nonneg _ hq _ _
  have n1 : 0 ≤ w1 := hw1 ▸ leftWeight_nonneg _ hq _ _
  have e1 := h.weight1
  refine ⟨hw0, e1, by rw [e1, add_sub_cancel], n0, sub_nonneg.1 (e1 ▸ n1), n1, e1 ▸ sub_le_self 1 n0, ?_⟩
  intro hs
  have p0 : 0 < w0 := by
    rw [hw0]
    refine leftWeight_pos _ hq hle (hs.symm.imp_left fun hk => ?_)
    exact List.length_pos_of_ne_nil (h.rows0 ▸ (h.nonempty hk).1)
  have p1 : 0 < w1 := by
    rw [hw1]
    refine leftWeight_pos _ hq (Nat.sub_le _ _) (hs.symm.imp_left fun hk => ?_)
    have : 0 < (side data v 1 r).length := List.length_pos_of_ne_nil (h.rows1 ▸ (h.nonempty hk).2)
    have := side_length_add_le data v r
    omega
  exact ⟨p0, sub_pos.1 (e1 ▸ p1), p1, e1 ▸ sub_lt_self 1 p0⟩

/-- a fact that follows from `Good` at one OR node (with the parameter of its depth) holds at every OR node -/
theorem Good.allOr (p0 : α)
    (P : Nat → List Nat → List Nat → Nat → α → α → LTree α → LTree α → Prop)
    (hP : ∀ d r s v w0 w1 c0 c1, Good cfg data (parAt cfg.kind p0 d) (.or r s v w0 w1 c0 c1) → P d r s v w0 w1 c0 c1)
    (t : LTree α) : ∀ d : Nat, Good cfg data (parAt cfg.kind p0 d) t → t.AllOr P d := by
  induction t with
  | leaf _ _ => intro _ _; trivial
  | or r s v w0 w1 c0 c1 ih0 ih1 =>
    intro d h
    obtain ⟨_, g0, g1⟩ := Good.or_iff.1 h
    exact ⟨hP d r s v w0 w1 c0 c1 h, ih0 (d + 1) g0, ih1 (d + 1) g1⟩

theorem side_filter_agrees (data : List (List Nat)) (v b : Nat) (path : List (Nat × Nat)) (rows : List Nat) :
    (side data v b rows).filter (agrees data path) = rows.filter (agrees data ((v, b) :: path)) := by
  rw [side, List.filter_filter]
  apply List.filter_congr
  intro r _
  simp [agrees, Bool.and_comm]

theorem good_leaves : ∀ (t : LTree α) (p : α), Good cfg data p t →
    ∀ x ∈ t.leaves, x.2.1 = t.rows.filter (agrees data x.1) ∧ x.2.2 = scopeAfter t.scope x.1 := by
  refine Good.induction ?_ ?_
  · intro p r s x hx
    obtain rfl := List.mem_singleton.1 hx
    exact ⟨(List.filter_eq_self.2 fun _ _ => rfl).symm, rfl⟩
  · intro p r s v w0 w1 c0 c1 h ih0 ih1 x hx
    simp only [LTree.leaves, List.mem_append, List.mem_map] at hx
    rcases hx with ⟨y, hy, rfl⟩ | ⟨y, hy, rfl⟩
    · obtain ⟨hr, hs⟩ := ih0 y hy
      exact ⟨by rw [hr, h.rows0, side_filter_agrees]; rfl, by rw [hs, h.scope0]; rfl⟩
    · obtain ⟨hr, hs⟩ := ih1 y hy
      exact ⟨by rw [hr, h.rows1, side_filter_agrees]; rfl, by rw [hs, h.scope1]; rfl⟩

/-- the Boolean check the driver runs on the data implies `BinaryData` -/
theorem binaryData_of_isBinaryB (data : List (List Nat)) (h : isBinaryB data = true) : BinaryData data := by
  simp only [isBinaryB, List.all_eq_true, decide_eq_true_eq] at h
  intro r v
  rw [cellOf, List.getD_eq_getElem?_getD, List.getD_eq_getElem?_getD]
  cases hr : data[r]? with
  | none => simp
  | some row =>
    cases hv : row[v]? with
    | none => simp [hv]
    | some c => simpa [hv] using h row (List.mem_of_getElem? hr) c (List.mem_of_getElem? hv)

theorem side_perm (data : List (List Nat)) (hb : BinaryData data) (v : Nat) (rows : List Nat) :
    (side data v 0 rows ++ side data v 1 rows).Perm rows := by
  have : side data v 1 rows = rows.filter (fun r => !(cellOf data r v == 0)) := by
    apply List.filter_congr
    intro r _
    have := hb r v
    rcases hc : cellOf data r v with _ | _ | k
    · simp
    · simp
    · omega
  rw [this]
  exact List.filter_append_perm _ _

theorem good_leaves_perm (hb : BinaryData data) :
    ∀ (t : LTree α) (p : α), Good cfg data p t → ((t.leaves.map (fun x => x.2.1)).flatten).Perm t.rows := by
  refine Good.induction ?_ ?_
  · intro p r s
    simp [LTree.leaves, LTree.rows]
  · intro p r s v w0 w1 c0 c1 h ih0 ih1
    rw [h.rows0] at ih0
    rw [h.rows1] at ih1
    simp only [LTree.leaves, List.map_append, List.map_map, List.flatten_append, LTree.rows]
    exact (List.Perm.append ih0 ih1).trans (side_perm data hb v r)

theorem good_cutVars_subset :
    ∀ (t : LTree α) (p : α), Good cfg data p t → ∀ u ∈ t.cutVars, u ∈ t.scope := by
  refine Good.induction ?_ ?_
  · intro p r s u hu
    cases hu
  · intro p r s v w0 w1 c0 c1 h ih0 ih1 u hu
    simp only [LTree.cutVars, List.mem_cons, List.mem_append] at hu
    rcases hu with rfl | hu | hu
    · exact h.mem
    · exact List.mem_of_mem_erase (h.scope0 ▸ ih0 u hu)
    · exact List.mem_of_mem_erase (h.scope1 ▸ ih1 u hu)

theorem toCNet_scope (lf : List Nat → List Nat → Ev → α) (t : LTree α) : (toCNet lf t).scope = t.scope := by
  cases t <;> rfl

theorem leavesDist_or :
    LeavesDist dom lf (.or r s v w0 w1 c0 c1) ↔ LeavesDist dom lf c0 ∧ LeavesDist dom lf c1 := by
  simp only [LeavesDist, LTree.leaves, List.mem_append, List.mem_map, or_imp, forall_and, forall_exists_index, and_imp,
    forall_apply_eq_imp_iff₂]

theorem leavesOK_of_leavesDist {t : LTree α} (h : LeavesDist dom lf t) : C18.CNet.LeavesOK dom (toCNet lf t) := by
  induction t with
  | leaf r s => exact h ([], r, s) (List.mem_singleton_self _)
  | or r s v w0 w1 c0 c1 ih0 ih1 =>
    rw [leavesDist_or] at h
    exact ⟨ih0 h.1, ih1 h.2⟩

theorem good_WF :
    ∀ (t : LTree α) (p : α), Good cfg data p t → t.scope.Nodup → (∀ v ∈ t.scope, dom v = 2) →
      C18.CNet.LeavesOK dom (toCNet lf t) → C18.CNet.WF dom (toCNet lf t) := by
  refine Good.induction ?_ ?_
  · intro p r s _ _ hl
    exact hl
  · intro p r s v w0 w1 c0 c1 h ih0 ih1 hnd hdom hl
    have hsub : ∀ u ∈ s.erase v, dom u = 2 := fun u hu => hdom u (List.mem_of_mem_erase hu)
    exact C18.CNet.WF.or hnd h.mem (hdom v h.mem) (by rw [h.weight1, add_sub_cancel])
      (by rw [toCNet_scope, h.scope0]) (by rw [toCNet_scope, h.scope1])
      (ih0 (h.scope0 ▸ hnd.erase v) (h.scope0 ▸ hsub) hl.1) (ih1 (h.scope1 ▸ hnd.erase v) (h.scope1 ▸ hsub) hl.2)

theorem cnetEval_descend (lf : List Nat → List Nat → Ev → α) {x : Ev} {t : LTree α} (hb : BinaryRow t.cutVars x) :
      cnetEval x (toCNet lf t) = lprod (t.descend x).1 * lf (t.descend x).2.2.1 (t.descend x).2.2.2 x ∧
      ((t.descend x).2.1, (t.descend x).2.2) ∈ t.leaves ∧
      (∀ vb ∈ (t.descend x).2.1, x vb.1 = some vb.2) := by
  induction t with
  | leaf r s => simp [LTree.descend, toCNet, cnetEval, lprod, LTree.leaves]
  | or r s v w0 w1 c0 c1 ih0 ih1 =>
    obtain ⟨e0, m0, a0⟩ := ih0 fun u hu => hb u (by simp [LTree.cutVars, hu])
    obtain ⟨e1, m1, a1⟩ := ih1 fun u hu => hb u (by simp [LTree.cutVars, hu])
    rcases hb v (by simp [LTree.cutVars]) with hx | hx <;>
      simp only [LTree.descend, hx, toCNet, cnetEval, lprod, e0, e1, LTree.leaves, List.mem_append, List.mem_map]
    · exact ⟨by ring, Or.inl ⟨_, m0, rfl⟩, List.forall_mem_cons.2 ⟨hx, a0⟩⟩
    · exact ⟨by ring, Or.inr ⟨_, m1, rfl⟩, List.forall_mem_cons.2 ⟨hx, a1⟩⟩

section validator
variable [DecidableEq α]

theorem good_wellFormedB :
    ∀ (t : LTree α) (p : α), Good cfg data p t → 0 ≤ p → (0 < p ∨ cfg.kind ≠ .fit) → t.scope.Nodup →
      (∀ v ∈ t.scope, dom v = 2) → cnetWellFormedB dom (toCNet lf t) = true := by
  refine Good.induction ?_ ?_
  · intro p r s _ _ _ _
    rfl
  · intro p r s v w0 w1 c0 c1 h ih0 ih1 hp hs hnd hdom
    obtain ⟨_, _, hsum, _, _, _, _, hstrict⟩ := h.weights hp
    obtain ⟨pos0, _, pos1, _⟩ := hstrict hs
    have hsub : ∀ u ∈ s.erase v, dom u = 2 := fun u hu => hdom u (List.mem_of_mem_erase hu)
    have hp' := childPar_nonneg cfg.kind hp
    have hs' := hs.imp_left (childPar_pos cfg.kind)
    rw [toCNet, C18.cnetWellFormedB_or, toCNet_scope, toCNet_scope]
    exact ⟨hnd, h.mem, hdom v h.mem, h.scope0, h.scope1, hsum, pos0, pos1,
      ih0 hp' hs' (h.scope0 ▸ hnd.erase v) (h.scope0 ▸ hsub), ih1 hp' hs' (h.scope1 ▸ hnd.erase v) (h.scope1 ▸ hsub)⟩

end validator

/-- when the root is not split the loop ends after one iteration with the root cell alone -/
theorem learnSt_nosplit {nCols : Nat} (p : α) {script : List Dec}
    (hroot : consults cfg data.length nCols = false ∨ (candCrash cfg nCols = false ∧ script.head? = some .stop)) :
    ∃ sc, learnSt cfg data nCols p script =
      .ok { nodes := [{ rows := List.range data.length, scope := List.range nCols, par := p }], queue := [], script := sc } := by
  unfold learnSt run
  cases hc : consults cfg data.length nCols with
  | false => exact ⟨script, by simp [init, step, getN, hc, run_nil]⟩
  | true =>
    obtain ⟨hcr, hst⟩ := hroot.resolve_left (by simp [hc])
    cases script with
    | nil => simp at hst
    | cons d sc =>
      obtain rfl : d = .stop := by simpa using hst
      exact ⟨sc, by simp [init, step, getN, hc, hcr, run_nil]⟩

end ordered
end Deeprob.CnetLearn
