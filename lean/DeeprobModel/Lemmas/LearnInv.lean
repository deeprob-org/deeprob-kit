import DeeprobModel.Lemmas.LearnSlices
import DeeprobModel.Lemmas.LearnStep
import Mathlib.Data.List.Basic
import Mathlib.Data.List.Perm.Basic
import Mathlib.Tactic.Common
/-
The invariant of the LearnSPN work-queue machine and its preservation by one iteration (`Step`) when a
single-slice task is re-queued at the front (`cfg.front = true`, the corrected library's `tasks.appendleft`).
Per node it ties the children attached so far together with the tasks still pending for that node to the
slices fixed when the node was created.
-/
namespace Deeprob.Learn
open List

theorem getN_append_left (tbl ys : List Node) (i : Nat) (h : i < tbl.length) :
    getN (tbl ++ ys) i = getN tbl i := by
  unfold getN; rw [getD_eq_getElem?_getD, getD_eq_getElem?_getD, getElem?_append_left h]

theorem getN_append_right (tbl ys : List Node) (j : Nat) : getN (tbl ++ ys) (tbl.length + j) = getN ys j := by
  unfold getN
  rw [getD_eq_getElem?_getD, getD_eq_getElem?_getD, getElem?_append_right (Nat.le_add_right _ _),
    Nat.add_sub_cancel_left]

theorem length_addChild (tbl : List Node) (p c : Nat) : (addChild tbl p c).length = tbl.length := by
  simp [addChild]

theorem getN_addChild_ne (tbl : List Node) (p c i : Nat) (h : i ≠ p) :
    getN (addChild tbl p c) i = getN tbl i := by
  unfold addChild getN
  simp only [getD_eq_getElem?_getD]
  rw [getElem?_set_ne (fun e => h e.symm)]

theorem getN_addChild_self (tbl : List Node) (p c : Nat) (h : p < tbl.length) :
    getN (addChild tbl p c) p = { getN tbl p with children := (getN tbl p).children ++ [c] } := by
  unfold addChild
  show (List.set _ _ _).getD p default = _
  rw [getD_eq_getElem?_getD, getElem?_set_self (by simpa using h)]
  rfl

/-- the tasks of the deque whose parent is node `p`, in deque order -/
def pend (q : List Task) (p : Nat) : List Task := q.filter (fun t => t.parent == p)

/-- a projection of the children attached so far, then of the pending tasks (deque order) -/
def itemsG (fN : Node → List Nat) (fT : Task → List Nat) (s : St) (i : Nat) : List (List Nat) :=
  (s.node i).children.map (fun c => fN (s.node c)) ++ (pend s.queue i).map fT

/-- row sets of the children attached so far, then of the pending tasks (deque order) -/
def rowItems (s : St) (i : Nat) : List (List Nat) := itemsG Node.rows Task.rows s i

/-- scopes of the children attached so far, then of the pending tasks (deque order) -/
def scopeItems (s : St) (i : Nat) : List (List Nat) := itemsG Node.scope Task.scope s i

/-- what is fixed when a sum node is created: its slices are the label classes of the splitter's answer, in
`np.unique` order, and its weights are `|slice| / |rows|` in that order -/
def SumStatic (x : Node) : Prop :=
  ∃ labels : List Int, labels.length = x.rows.length ∧ x.parts = slicesOf labels x.rows ∧
    x.weights = weightsOf x.parts x.rows.length

/-- what is fixed when a product node is created: non-empty scope slices that partition its scope -/
def ProdStatic (x : Node) : Prop := x.parts.flatten.Perm x.scope ∧ ∀ p ∈ x.parts, p ≠ []

/-- the invariant at node `i`: its items (children attached so far, then its pending tasks) are exactly its
slices, in order — row slices with the node's scope under a sum, scope slices with the node's rows under a
product — so that once nothing is pending the children are the slices -/
structure NodeInv (s : St) (i : Nat) : Prop where
  ch_lt : ∀ c ∈ (s.node i).children, i < c ∧ c < s.size
  rows_ne : (s.node i).rows ≠ []
  scope_ne : (s.node i).scope ≠ []
  sum : (s.node i).kind = .sum →
    rowItems s i = (s.node i).parts ∧ (∀ sc ∈ scopeItems s i, sc = (s.node i).scope) ∧ SumStatic (s.node i)
  prod : (s.node i).kind = .prod →
    scopeItems s i = (s.node i).parts ∧ (∀ r ∈ rowItems s i, r = (s.node i).rows) ∧ ProdStatic (s.node i)
  leafy : (s.node i).kind = .leaf ∨ (s.node i).kind = .naive → (s.node i).children = []

/-- the invariant of the machine (any oracle script, front re-queue) -/
structure Inv (s : St) : Prop where
  size_pos : 0 < s.size
  root_prod : (s.node 0).kind = .prod
  tasks : ∀ t ∈ s.queue, t.parent < s.size ∧ t.rows ≠ [] ∧ t.scope ≠ [] ∧
    ((s.node t.parent).kind = .sum ∨ (s.node t.parent).kind = .prod)
  nodes : ∀ i, i < s.size → NodeInv s i

/-- two table cells that differ at most in their `children` -/
structure SameStatic (x y : Node) : Prop where
  kind : x.kind = y.kind
  scope : x.scope = y.scope
  rows : x.rows = y.rows
  parts : x.parts = y.parts
  weights : x.weights = y.weights

theorem SameStatic.trans {x y z : Node} (h1 : SameStatic x y) (h2 : SameStatic y z) : SameStatic x z :=
  ⟨h1.kind.trans h2.kind, h1.scope.trans h2.scope, h1.rows.trans h2.rows, h1.parts.trans h2.parts,
    h1.weights.trans h2.weights⟩

theorem NodeInv.transfer {s s' : St} {i : Nat} (h : NodeInv s i) (hst : SameStatic (s'.node i) (s.node i))
    (hch : ∀ c ∈ (s'.node i).children, i < c ∧ c < s'.size)
    (hr : rowItems s' i = rowItems s i) (hsc : scopeItems s' i = scopeItems s i)
    (hleaf : (s.node i).kind = .leaf ∨ (s.node i).kind = .naive → (s'.node i).children = []) :
    NodeInv s' i := by
  obtain ⟨k1, k2, k3, k4, k5⟩ := hst
  refine ⟨hch, k3 ▸ h.rows_ne, k2 ▸ h.scope_ne, ?_, ?_, fun hk => hleaf (k1 ▸ hk)⟩
  · unfold SumStatic
    rw [k1, k2, k3, k4, k5, hr, hsc]
    exact h.sum
  · unfold ProdStatic
    rw [k1, k2, k3, k4, hr, hsc]
    exact h.prod

section attach
variable {s : St} {t : Task} {q : List Task} {sc : List Ans} {x : Node} {extra : Option Node} {nt : List Task}

theorem attach_size : (attach s t q sc x extra nt).size = s.size + 1 + extra.toList.length := by
  simp [attach, St.size, length_addChild]; omega

theorem attach_node_old (i : Nat) (hi : i < s.size) (hne : i ≠ t.parent) :
    (attach s t q sc x extra nt).node i = s.node i := by
  unfold attach St.node
  simp only
  rw [getN_addChild_ne _ _ _ _ hne, getN_append_left _ _ _ hi]

theorem attach_node_parent (hp : t.parent < s.size) :
    (attach s t q sc x extra nt).node t.parent
      = { s.node t.parent with children := (s.node t.parent).children ++ [s.size] } := by
  unfold attach St.node
  simp only
  rw [getN_addChild_self _ _ _ (by simp [St.size] at hp ⊢; omega), getN_append_left _ _ _ hp]

theorem attach_node_new (hp : t.parent < s.size) : (attach s t q sc x extra nt).node s.size = x := by
  unfold attach St.node
  simp only
  rw [getN_addChild_ne _ _ _ _ (by omega)]
  exact getN_append_right _ _ 0

theorem attach_node_extra (hp : t.parent < s.size) (y : Node) :
    (attach s t q sc x (some y) nt).node (s.size + 1) = y := by
  unfold attach St.node
  simp only
  rw [getN_addChild_ne _ _ _ _ (by omega)]
  exact getN_append_right _ _ 1

theorem attach_sameStatic (i : Nat) (hi : i < s.size) (hp : t.parent < s.size) :
    SameStatic ((attach s t q sc x extra nt).node i) (s.node i) := by
  by_cases hne : i = t.parent
  · subst hne; rw [attach_node_parent hp]; exact ⟨rfl, rfl, rfl, rfl, rfl⟩
  · rw [attach_node_old i hi hne]; exact ⟨rfl, rfl, rfl, rfl, rfl⟩

theorem attach_children (i : Nat) (hi : i < s.size) (hp : t.parent < s.size) :
    ((attach s t q sc x extra nt).node i).children
      = (s.node i).children ++ (if i = t.parent then [s.size] else []) := by
  by_cases hne : i = t.parent
  · subst hne; rw [attach_node_parent hp]; simp
  · rw [attach_node_old i hi hne]; simp [hne]

end attach

theorem pend_append (q r : List Task) (p : Nat) : pend (q ++ r) p = pend q p ++ pend r p := by
  simp [pend]

theorem pend_cons (t : Task) (q : List Task) (p : Nat) :
    pend (t :: q) p = if t.parent = p then t :: pend q p else pend q p := by
  unfold pend
  by_cases h : t.parent = p
  · rw [filter_cons_of_pos (by simp [h]), if_pos h]
  · rw [filter_cons_of_neg (by simp [h]), if_neg h]

theorem pend_nil_of (r : List Task) (p : Nat) (h : ∀ u ∈ r, u.parent ≠ p) : pend r p = [] := by
  unfold pend
  rw [filter_eq_nil_iff]
  intro u hu; simp [h u hu]

theorem pend_self_of (r : List Task) (p : Nat) (h : ∀ u ∈ r, u.parent = p) : pend r p = r := by
  unfold pend
  rw [filter_eq_self]
  intro u hu; simp [h u hu]

theorem items_attach (fN : Node → List Nat) (fT : Task → List Nat)
    {s : St} {t : Task} {q : List Task} (sc : List Ans) {x : Node} (extra : Option Node) {nt : List Task}
    (hI : Inv s) (hq : s.queue = t :: q) (hx : fN x = fT t)
    (hfN : ∀ a b : Node, SameStatic a b → fN a = fN b)
    (hnt : ∀ u ∈ nt, u.parent = s.size) (i : Nat) (hi : i < s.size) :
    itemsG fN fT (attach s t q sc x extra nt) i = itemsG fN fT s i := by
  have hp : t.parent < s.size := (hI.tasks t (hq ▸ mem_cons_self ..)).1
  unfold itemsG
  rw [attach_children i hi hp, map_append]
  have hold : (s.node i).children.map (fun c => fN ((attach s t q sc x extra nt).node c))
      = (s.node i).children.map (fun c => fN (s.node c)) := by
    apply map_congr_left
    intro c hc
    exact hfN _ _ (attach_sameStatic c ((hI.nodes i hi).ch_lt c hc).2 hp)
  have hpend : pend (attach s t q sc x extra nt).queue i = pend q i := by
    show pend (q ++ nt) i = pend q i
    rw [pend_append, pend_nil_of nt i (fun u hu => by rw [hnt u hu]; omega), append_nil]
  rw [hold, hpend, hq, pend_cons]
  by_cases he : i = t.parent
  · subst he
    rw [if_pos rfl, if_pos rfl]
    simp only [map_cons, map_nil, append_assoc, singleton_append]
    rw [attach_node_new hp, hx]
  · rw [if_neg he, if_neg (fun e => he e.symm)]
    simp

/-- preservation by `attach`: the new node's items are `extra` followed by the new tasks, and the hypotheses
ask of them what `NodeInv` asks of a node's items -/
theorem inv_attach {s : St} {t : Task} {q : List Task} {sc : List Ans} {x : Node} {extra : Option Node}
    {nt : List Task} (hI : Inv s) (hq : s.queue = t :: q)
    (hx_rows : x.rows = t.rows) (hx_scope : x.scope = t.scope)
    (hnt : ∀ u ∈ nt, u.parent = s.size ∧ u.rows ≠ [] ∧ u.scope ≠ [])
    (hkind : nt ≠ [] → x.kind = .sum ∨ x.kind = .prod)
    (hxch : x.children = extra.toList.map (fun _ => s.size + 1))
    (hextra : ∀ y, extra = some y → (y.kind = .leaf ∨ y.kind = .naive) ∧ y.children = [] ∧ y.rows ≠ [] ∧ y.scope ≠ [])
    (hsum : x.kind = .sum → extra.toList.map (·.rows) ++ nt.map (·.rows) = x.parts ∧
        (∀ sc ∈ extra.toList.map (·.scope) ++ nt.map (·.scope), sc = x.scope) ∧ SumStatic x)
    (hprod : x.kind = .prod → extra.toList.map (·.scope) ++ nt.map (·.scope) = x.parts ∧
        (∀ r ∈ extra.toList.map (·.rows) ++ nt.map (·.rows), r = x.rows) ∧ ProdStatic x)
    (hleaf : x.kind = .leaf ∨ x.kind = .naive → extra = none) :
    Inv (attach s t q sc x extra nt) := by
  have ht := hI.tasks t (hq ▸ mem_cons_self ..)
  have hp : t.parent < s.size := ht.1
  have hsz : (attach s t q sc x extra nt).size = _ := attach_size
  have hpendq : pend q s.size = [] :=
    pend_nil_of q _ (fun u hu => by have := (hI.tasks u (hq ▸ mem_cons_of_mem _ hu)).1; omega)
  have hpendnt : pend nt s.size = nt := pend_self_of nt _ (fun u hu => (hnt u hu).1)
  have hpend_new : pend (attach s t q sc x extra nt).queue s.size = nt := by
    show pend (q ++ nt) s.size = nt
    rw [pend_append, hpendq, hpendnt, nil_append]
  refine ⟨by omega, ?_, ?_, ?_⟩
  · rw [(attach_sameStatic 0 hI.size_pos hp).kind]; exact hI.root_prod
  · intro u hu
    rcases mem_append.1 hu with hu | hu
    · obtain ⟨a, b, c, d⟩ := hI.tasks u (hq ▸ mem_cons_of_mem _ hu)
      refine ⟨by omega, b, c, ?_⟩
      rw [(attach_sameStatic u.parent a hp).kind]; exact d
    · obtain ⟨a, b, c⟩ := hnt u hu
      refine ⟨by omega, b, c, ?_⟩
      rw [a, attach_node_new hp]
      exact hkind (ne_nil_of_mem hu)
  · intro i hi
    by_cases hold : i < s.size
    · -- an old node
      refine (hI.nodes i hold).transfer (attach_sameStatic i hold hp) ?_ ?_ ?_ ?_
      · intro c hc
        rw [attach_children i hold hp, mem_append] at hc
        rcases hc with hc | hc
        · have := (hI.nodes i hold).ch_lt c hc; omega
        · split at hc
          · rw [mem_singleton] at hc; omega
          · simp at hc
      · exact items_attach Node.rows Task.rows sc extra hI hq hx_rows (fun _ _ h => h.rows)
          (fun u hu => (hnt u hu).1) i hold
      · exact items_attach Node.scope Task.scope sc extra hI hq hx_scope (fun _ _ h => h.scope)
          (fun u hu => (hnt u hu).1) i hold
      · intro hk
        have hne : i ≠ t.parent := by
          intro e; subst e
          rcases ht.2.2.2 with h | h <;> rcases hk with h' | h' <;> rw [h] at h' <;> cases h'
        rw [attach_node_old i hold hne]
        exact (hI.nodes i hold).leafy hk
    · by_cases hnew : i = s.size
      · -- the new node
        subst hnew
        have hnode : (attach s t q sc x extra nt).node s.size = x := attach_node_new hp
        have hitems : ∀ (fN : Node → List Nat) (fT : Task → List Nat),
            itemsG fN fT (attach s t q sc x extra nt) s.size
              = extra.toList.map fN ++ nt.map fT := by
          intro fN fT
          unfold itemsG
          rw [hpend_new, hnode, hxch]
          congr 1
          cases extra with
          | none => rfl
          | some y =>
            simp only [Option.toList_some, map_cons, map_nil]
            rw [attach_node_extra hp _]
        refine ⟨?_, by rw [hnode, hx_rows]; exact ht.2.1, by rw [hnode, hx_scope]; exact ht.2.2.1, ?_, ?_, ?_⟩
        · intro c hc
          rw [hnode, hxch] at hc
          cases extra with
          | none => simp at hc
          | some y =>
            simp at hc; subst hc
            simp at hsz; omega
        · rw [rowItems, scopeItems, hitems, hitems, hnode]
          exact hsum
        · rw [rowItems, scopeItems, hitems, hitems, hnode]
          exact hprod
        · intro hk
          rw [hnode] at hk ⊢
          rw [hxch, hleaf hk]; rfl
      · -- the naive factorisation under a REM_FEATURES product
        cases extra with
        | none => simp at hsz; omega
        | some y =>
          have hi' : i = s.size + 1 := by simp at hsz; omega
          subst hi'
          have hnode : (attach s t q sc x (some y) nt).node (s.size + 1) = y := attach_node_extra hp y
          obtain ⟨a, b, c, d⟩ := hextra y rfl
          refine ⟨by rw [hnode, b]; simp, by rw [hnode]; exact c, by rw [hnode]; exact d, ?_, ?_, ?_⟩
          · intro hk; rw [hnode] at hk; rcases a with a | a <;> rw [a] at hk <;> cases hk
          · intro hk; rw [hnode] at hk; rcases a with a | a <;> rw [a] at hk <;> cases hk
          · intro _; rw [hnode]; exact b

/-- preservation by the single-slice re-queue at the front (`tasks.appendleft`): the task keeps its place -/
theorem inv_requeue {s : St} {t : Task} (t' : Task) {q : List Task} (sc : List Ans) (hI : Inv s)
    (hq : s.queue = t :: q) (h1 : t'.parent = t.parent) (h2 : t'.rows = t.rows) (h3 : t'.scope = t.scope) :
    Inv { s with queue := t' :: q, script := sc } := by
  have ht := hI.tasks t (hq ▸ mem_cons_self ..)
  have hitems : ∀ (fN : Node → List Nat) (fT : Task → List Nat), fT t' = fT t → ∀ i,
      itemsG fN fT { s with queue := t' :: q, script := sc } i = itemsG fN fT s i := by
    intro fN fT hf i
    unfold itemsG
    show _ ++ map fT (pend (t' :: q) i) = _ ++ map fT (pend s.queue i)
    rw [hq, pend_cons, pend_cons, h1]
    by_cases he : t.parent = i
    · rw [if_pos he, if_pos he, map_cons, map_cons, hf]; rfl
    · rw [if_neg he, if_neg he]; rfl
  refine ⟨hI.size_pos, hI.root_prod, ?_, ?_⟩
  · intro u hu
    rcases mem_cons.1 hu with rfl | hu
    · rw [h1, h2, h3]; exact ht
    · exact hI.tasks u (hq ▸ mem_cons_of_mem _ hu)
  · intro i hi
    exact (hI.nodes i hi).transfer ⟨rfl, rfl, rfl, rfl, rfl⟩ (hI.nodes i hi).ch_lt
      (hitems Node.rows Task.rows h2 i) (hitems Node.scope Task.scope h3 i) (hI.nodes i hi).leafy

section steps
variable {cfg : Cfg} {s s' : St} {t : Task} {q : List Task} {k : Nat}

/-- one iteration of the loop with the re-queue at the front keeps the invariant, whatever the oracle
script answers -/
theorem Step.inv (hf : cfg.front = true) (hI : Inv s)
    (hq : s.queue = t :: q) (h : Step cfg s t q s') : Inv s' := by
  have ht := hI.tasks t (hq ▸ mem_cons_self ..)
  cases h with
  | naive | leaf =>
    exact inv_attach hI hq rfl rfl (by simp) (by simp) rfl (by simp)
      (fun hk => by cases hk) (fun hk => by cases hk) (fun _ => rfl)
  | @rem pos sc h =>
    obtain ⟨htrue, hfalse⟩ := selectOp_rem cfg t _ h.op_eq
    have hlen := length_zvMask pos t.scope.length
    have hrem := selectBy_ne_nil hlen true htrue
    have hoth := selectBy_ne_nil hlen false hfalse
    refine inv_attach hI hq rfl rfl ?_ (fun _ => Or.inr rfl) rfl ?_
      (fun hk => by cases hk) ?_ (fun hk => by rcases hk with hk | hk <;> cases hk)
    · exact forall_mem_singleton.2 ⟨rfl, ht.2.1, hoth⟩
    · intro y hy
      cases hy
      exact ⟨Or.inr rfl, rfl, ht.2.1, hrem⟩
    · intro _
      refine ⟨rfl, ?_, ?_, ?_⟩
      · exact forall_mem_cons.2 ⟨rfl, forall_mem_singleton.2 rfl⟩
      · show ([_, _] : List (List Nat)).flatten.Perm t.scope
        simpa using selectBy_perm hlen
      · exact forall_mem_cons.2 ⟨hrem, forall_mem_singleton.2 hoth⟩
  | rowsRetry | colsRetry =>
    unfold requeue; rw [hf]
    exact inv_requeue _ _ hI hq rfl rfl rfl
  | @rowsSplit pos labels sc _ hlen _ =>
    refine inv_attach hI hq rfl rfl ?_ (fun _ => Or.inl rfl) rfl (by simp)
      ?_ (fun hk => by cases hk) (fun hk => by rcases hk with hk | hk <;> cases hk)
    · exact forall_mem_map.2 fun r hr => ⟨rfl, slicesOf_ne_nil hlen r hr, ht.2.2.1⟩
    · intro _
      refine ⟨?_, ?_, ⟨labels, hlen, rfl, rfl⟩⟩
      · show map _ (map _ _) = _
        rw [map_map]; exact map_id' _
      · exact forall_mem_map.2 (forall_mem_map.2 fun _ _ => rfl)
  | @colsSplit pos labels sc _ hlen _ =>
    refine inv_attach hI hq rfl rfl ?_ (fun _ => Or.inr rfl) rfl (by simp)
      (fun hk => by cases hk) ?_ (fun hk => by rcases hk with hk | hk <;> cases hk)
    · exact forall_mem_map.2 fun c hc => ⟨rfl, ht.2.1, slicesOf_ne_nil hlen c hc⟩
    · intro _
      refine ⟨?_, ?_, ⟨slicesOf_perm hlen, slicesOf_ne_nil hlen⟩⟩
      · show map _ (map _ _) = _
        rw [map_map]; exact map_id' _
      · exact forall_mem_map.2 (forall_mem_map.2 fun _ _ => rfl)

theorem Step.sameStatic (hI : Inv s)
    (hq : s.queue = t :: q) (h : Step cfg s t q s') (i : Nat) (hi : i < s.size) :
    SameStatic (s'.node i) (s.node i) := by
  have hp : t.parent < s.size := (hI.tasks t (hq ▸ mem_cons_self ..)).1
  cases h with
  | naive | rem | leaf | rowsSplit | colsSplit => exact attach_sameStatic i hi hp
  | rowsRetry | colsRetry => exact ⟨rfl, rfl, rfl, rfl, rfl⟩

theorem Steps.inv (hf : cfg.front = true) (hS : Steps cfg k s s')
    (hI : Inv s) : Inv s' := by
  induction hS with
  | refl => exact hI
  | cons hq h _ ih => exact ih (h.inv hf hI hq)

theorem Steps.root (hf : cfg.front = true) (hS : Steps cfg k s s')
    (hI : Inv s) : SameStatic (s'.node 0) (s.node 0) := by
  induction hS with
  | refl => exact ⟨rfl, rfl, rfl, rfl, rfl⟩
  | cons hq h _ ih => exact (ih (h.inv hf hI hq)).trans (h.sameStatic hI hq 0 hI.size_pos)

end steps

theorem inv_initOn (rows scope : List Nat) (script : List Ans) (hr : rows ≠ []) (hs : scope ≠ []) :
    Inv (initOn rows scope script) := by
  refine ⟨Nat.one_pos, rfl, ?_, ?_⟩
  · intro t ht
    obtain rfl : t = { parent := 0, rows := rows, scope := scope, isFirst := true } := mem_singleton.1 ht
    exact ⟨Nat.one_pos, hr, hs, Or.inr rfl⟩
  · intro i hi
    obtain rfl : i = 0 := Nat.lt_one_iff.1 hi
    refine ⟨fun c hc => absurd hc not_mem_nil, hr, hs, fun hk => (by cases hk), fun _ => ?_,
      fun hk => (by rcases hk with hk | hk <;> cases hk)⟩
    have hsi : scopeItems (initOn rows scope script) 0 = [scope] := rfl
    have hri : rowItems (initOn rows scope script) 0 = [rows] := rfl
    refine ⟨hsi, fun r hr' => ?_, ?_, ?_⟩
    · rw [hri, mem_singleton] at hr'
      exact hr'
    · show ([scope] : List (List Nat)).flatten.Perm scope
      rw [flatten_singleton]
    · intro p hp
      rw [show p = scope from mem_singleton.1 hp]
      exact hs

end Deeprob.Learn
