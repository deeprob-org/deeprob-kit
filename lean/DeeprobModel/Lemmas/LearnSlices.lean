import DeeprobModel.Model.Learn
import Mathlib.Data.List.Basic
import Mathlib.Data.List.Perm.Basic
import Mathlib.Data.List.Nodup
import Mathlib.Tactic.Common
/-
`np.unique` / cluster slicing lemmas: the slices of `split_rows_clusters` / `split_cols_clusters` are
non-empty and partition the sliced list (whenever there is one label per item). `pick` (labels) and
`selectBy` (zero-variance mask) are the same grouping of a keyed list, at key types `Int` and `Bool`; the two
facts are proved once for an arbitrary key type.
-/
namespace Deeprob.Learn
open List

theorem mem_insertSorted (x y : Int) (l : List Int) : y ∈ insertSorted x l ↔ y = x ∨ y ∈ l := by
  induction l with
  | nil => simp [insertSorted]
  | cons z zs ih =>
    unfold insertSorted
    split
    · exact mem_cons
    · split
      · rename_i hxz
        rw [hxz, mem_cons]
        exact (or_self_left).symm
      · rw [mem_cons, ih, mem_cons]
        exact or_left_comm

theorem sorted_insertSorted (x : Int) (l : List Int) (h : l.Pairwise (· < ·)) :
    (insertSorted x l).Pairwise (· < ·) := by
  induction l with
  | nil => exact pairwise_singleton _ _
  | cons z zs ih =>
    unfold insertSorted
    rw [pairwise_cons] at h
    split
    · rename_i h1
      refine pairwise_cons.2 ⟨?_, pairwise_cons.2 h⟩
      intro a ha
      rcases mem_cons.1 ha with rfl | ha
      · exact h1
      · exact Int.lt_trans h1 (h.1 a ha)
    · split
      · exact pairwise_cons.2 h
      · refine pairwise_cons.2 ⟨?_, ih h.2⟩
        intro a ha
        rcases (mem_insertSorted x a zs).1 ha with rfl | ha
        · omega
        · exact h.1 a ha

theorem mem_uniqSorted (y : Int) (l : List Int) : y ∈ uniqSorted l ↔ y ∈ l := by
  induction l with
  | nil => rfl
  | cons x xs ih =>
    unfold uniqSorted at ih ⊢
    rw [foldr_cons, mem_insertSorted, ih, mem_cons]

theorem sorted_uniqSorted (l : List Int) : (uniqSorted l).Pairwise (· < ·) := by
  induction l with
  | nil => exact Pairwise.nil
  | cons x xs ih => exact sorted_insertSorted x _ ih

theorem nodup_uniqSorted (l : List Int) : (uniqSorted l).Nodup :=
  (sorted_uniqSorted l).imp (fun h => Int.ne_of_lt h)

section group
variable {κ β : Type} [BEq κ] [LawfulBEq κ]

theorem group_ne_nil (keys : List κ) (items : List β) (h : keys.length = items.length) (k : κ)
    (hk : k ∈ keys) : ((keys.zip items).filter (fun p => p.1 == k)).map (·.2) ≠ [] := by
  rw [← map_fst_zip (l₂ := items) (Nat.le_of_eq h)] at hk
  obtain ⟨p, hp, rfl⟩ := mem_map.1 hk
  intro he
  have : p ∈ (keys.zip items).filter (fun q => q.1 == p.1) := mem_filter.2 ⟨hp, beq_self_eq_true _⟩
  rw [map_eq_nil_iff.1 he] at this
  exact not_mem_nil this

theorem flatMap_filter_perm (u : List κ) (hu : u.Nodup) (l : List (κ × β)) (hc : ∀ p ∈ l, p.1 ∈ u) :
    (u.flatMap (fun c => l.filter (fun p => p.1 == c))).Perm l := by
  induction u generalizing l with
  | nil =>
    rw [eq_nil_iff_forall_not_mem.2 (fun p hp => not_mem_nil (hc p hp))]
    exact Perm.refl _
  | cons c u ih =>
    rw [nodup_cons] at hu
    -- the groups of the other keys do not see the entries with key `c`
    have hrest : u.flatMap (fun d => l.filter (fun p => p.1 == d))
        = u.flatMap (fun d => (l.filter (fun p => !(p.1 == c))).filter (fun p => p.1 == d)) := by
      apply flatMap_congr
      intro d hd
      rw [filter_filter]
      apply filter_congr
      intro p _
      by_cases hpd : p.1 = d
      · rw [beq_eq_false_iff_ne.2 (fun e : p.1 = c => hu.1 (e ▸ hpd ▸ hd)), Bool.not_false, Bool.and_true]
      · rw [beq_eq_false_iff_ne.2 hpd, Bool.false_and]
    rw [flatMap_cons, hrest]
    refine (Perm.append_left _ (ih hu.2 _ ?_)).trans (filter_append_perm _ l)
    intro p hp
    obtain ⟨hpl, hpc⟩ := mem_filter.1 hp
    rcases mem_cons.1 (hc p hpl) with e | hpu
    · rw [e, beq_self_eq_true] at hpc; cases hpc
    · exact hpu

theorem groups_perm (keys : List κ) (items : List β) (h : keys.length = items.length) (u : List κ)
    (hu : u.Nodup) (hc : ∀ k ∈ keys, k ∈ u) :
    (u.map (fun k => ((keys.zip items).filter (fun p => p.1 == k)).map (·.2))).flatten.Perm items := by
  have := (flatMap_filter_perm u hu (keys.zip items) (fun p hp => hc _ (of_mem_zip hp).1)).map (·.2)
  rw [map_snd_zip (Nat.le_of_eq h.symm), flatMap_def, map_flatten, map_map] at this
  exact this

end group

theorem slicesOf_perm {β : Type} {labels : List Int} {items : List β} (h : labels.length = items.length) :
    (slicesOf labels items).flatten.Perm items :=
  groups_perm labels items h (uniqSorted labels) (nodup_uniqSorted labels)
    (fun k hk => (mem_uniqSorted k labels).2 hk)

theorem slicesOf_ne_nil {β : Type} {labels : List Int} {items : List β} (h : labels.length = items.length) :
    ∀ sl ∈ slicesOf labels items, sl ≠ [] := by
  intro sl hsl
  obtain ⟨c, hc, rfl⟩ := mem_map.1 hsl
  exact group_ne_nil labels items h c ((mem_uniqSorted c labels).1 hc)

theorem slicesOf_length_pos {β : Type} {labels : List Int} {items : List β} (h : labels.length = items.length)
    (hne : items ≠ []) : slicesOf labels items ≠ [] := by
  intro he
  have := slicesOf_perm h
  rw [he] at this
  exact hne this.symm.eq_nil

theorem sum_length_slicesOf {β : Type} {labels : List Int} {items : List β}
    (h : labels.length = items.length) : ((slicesOf labels items).map length).sum = items.length := by
  rw [← length_flatten]
  exact (slicesOf_perm h).length_eq

theorem selectBy_perm {mask : List Bool} {scope : List Nat} (h : mask.length = scope.length) :
    (selectBy mask scope true ++ selectBy mask scope false).Perm scope := by
  have := groups_perm mask scope h [true, false] (by decide) (fun k _ => by cases k <;> simp)
  rw [map_cons, map_singleton, flatten_cons, flatten_singleton] at this
  exact this

theorem selectBy_ne_nil {mask : List Bool} {scope : List Nat} (h : mask.length = scope.length) (b : Bool)
    (hb : b ∈ mask) : selectBy mask scope b ≠ [] :=
  group_ne_nil mask scope h b hb

theorem length_zvMask (pos : List Nat) (n : Nat) : (zvMask pos n).length = n := by simp [zvMask]

end Deeprob.Learn
