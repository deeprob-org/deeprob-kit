import DeeprobModel.Lemmas.PredTree
/-
`mstBrute` (exhaustive maximum used by the driver as an instance-level cross-check) dominates the weight
of every predecessor vector rooted at vertex 0 that encodes a spanning tree.
-/
namespace Deeprob
namespace CltFit

theorem mem_allVecs (n : Nat) : ∀ (t : List Int), (∀ x ∈ t, 0 ≤ x ∧ x < (n : Int)) → t ∈ allVecs n t.length
  | [], _ => by simp [allVecs]
  | x :: t, h => by
      simp only [List.length_cons, allVecs, List.mem_flatMap, List.mem_map, List.mem_range]
      refine ⟨t, mem_allVecs n t (fun y hy => h y (List.mem_cons_of_mem _ hy)), x.toNat, ?_, ?_⟩
      · have := h x List.mem_cons_self; omega
      · have := h x List.mem_cons_self
        simp only [Int.ofNat_eq_natCast, List.cons.injEq, and_true]
        omega

theorem mem_allTrees {pred : List Int} (hT : isRootedSpanningTree pred 0 = true) :
    pred ∈ allTrees pred.length := by
  obtain ⟨hr, hm, hp, _⟩ := (isRST_iff pred 0).mp hT
  match pred, hT, hr, hm, hp with
  | x :: t, hT, hr, hm, hp =>
    have hx : x = -1 := by simpa using hm
    subst hx
    simp only [List.length_cons, allTrees, List.mem_filter, List.mem_map]
    refine ⟨⟨t, ?_, rfl⟩, hT⟩
    apply mem_allVecs
    intro y hy
    obtain ⟨k, hk, rfl⟩ := List.getElem_of_mem hy
    have h1 := hp (k+1) (by simp; omega)
    rcases h1 with h1 | h1
    · omega
    · obtain ⟨p, hp'⟩ := Option.isSome_iff_exists.mp h1
      obtain ⟨h2, h3⟩ := parent_some hp'
      have h4 : ((-1 : Int) :: t).getD (k+1) (-1) = t[k] := by
        simp [List.getD_eq_getElem?_getD, hk]
      rw [h4] at h2
      simp only [List.length_cons] at h3
      omega

theorem length_of_mem_allVecs (n : Nat) : ∀ (k : Nat) (t : List Int), t ∈ allVecs n k → t.length = k
  | 0, t, h => by
      rw [allVecs, List.mem_singleton] at h
      rw [h]; rfl
  | k+1, t, h => by
      simp only [allVecs, List.mem_flatMap, List.mem_map] at h
      obtain ⟨t', ht', _, _, rfl⟩ := h
      rw [List.length_cons, length_of_mem_allVecs n k t' ht']

/-- the candidates of the exhaustive search are rooted spanning trees on `n` vertices -/
theorem of_mem_allTrees {n : Nat} {t : List Int} (h : t ∈ allTrees n) :
    isRootedSpanningTree t 0 = true ∧ t.length = n := by
  cases n with
  | zero => cases h
  | succ m =>
    simp only [allTrees, List.mem_filter, List.mem_map] at h
    obtain ⟨⟨t', ht', rfl⟩, hT⟩ := h
    exact ⟨hT, by rw [List.length_cons, length_of_mem_allVecs (m+1) m t' ht']⟩

section order
variable {α : Type} [LinearOrder α]

theorem foldl_maxOpt_mem (l : List α) : ∀ (init : Option α) (b : α), l.foldl maxOpt init = some b →
    init = some b ∨ b ∈ l := by
  induction l with
  | nil => exact fun init b h => Or.inl h
  | cons y ys ih =>
    intro init b h
    rcases ih _ b h with h1 | h1
    · cases init with
      | none => exact Or.inr (by cases h1; exact List.mem_cons_self)
      | some a =>
        rw [maxOpt] at h1
        split at h1
        · exact Or.inr (by cases h1; exact List.mem_cons_self)
        · exact Or.inl h1
    · exact Or.inr (List.mem_cons_of_mem _ h1)

theorem foldl_maxOpt_some (l : List α) : ∀ init : α,
    ∃ b, l.foldl maxOpt (some init) = some b ∧ init ≤ b ∧ ∀ x ∈ l, x ≤ b := by
  induction l with
  | nil => exact fun init => ⟨init, rfl, le_refl _, by simp⟩
  | cons y ys ih =>
    intro init
    simp only [List.foldl_cons, maxOpt]
    by_cases h : init < y
    · simp only [h, if_true]
      obtain ⟨b, hb, h1, h2⟩ := ih y
      refine ⟨b, hb, le_trans (le_of_lt h) h1, ?_⟩
      intro x hx
      rcases List.mem_cons.mp hx with rfl | hx
      · exact h1
      · exact h2 x hx
    · simp only [h, if_false]
      obtain ⟨b, hb, h1, h2⟩ := ih init
      refine ⟨b, hb, h1, ?_⟩
      intro x hx
      rcases List.mem_cons.mp hx with rfl | hx
      · exact le_trans (not_lt.mp h) h1
      · exact h2 x hx

theorem foldl_maxOpt_none (l : List α) {x : α} (hx : x ∈ l) :
    ∃ b, l.foldl maxOpt none = some b ∧ x ≤ b := by
  cases l with
  | nil => cases hx
  | cons y ys =>
    simp only [List.foldl_cons, maxOpt]
    obtain ⟨b, hb, h1, h2⟩ := foldl_maxOpt_some ys y
    refine ⟨b, hb, ?_⟩
    rcases List.mem_cons.mp hx with rfl | hx
    · exact h1
    · exact h2 x hx

variable [Zero α] [Add α]

/-- the exhaustive maximum dominates every spanning tree rooted at vertex 0 -/
theorem mstBrute_ge (w : Nat → Nat → α) {pred : List Int} (hT : isRootedSpanningTree pred 0 = true) :
    ∃ b, mstBrute w pred.length = some b ∧ treeWeight w pred ≤ b := by
  unfold mstBrute
  rw [← List.foldl_map (f := treeWeight w) (g := maxOpt)]
  exact foldl_maxOpt_none _ (List.mem_map.mpr ⟨pred, mem_allTrees hT, rfl⟩)

/-- the exhaustive maximum is the weight of one of the candidates -/
theorem mstBrute_mem (w : Nat → Nat → α) {n : Nat} {b : α} (h : mstBrute w n = some b) :
    ∃ t ∈ allTrees n, treeWeight w t = b := by
  unfold mstBrute at h
  rw [← List.foldl_map (f := treeWeight w) (g := maxOpt)] at h
  rcases foldl_maxOpt_mem _ none b h with h1 | h1
  · cases h1
  · obtain ⟨t, ht, rfl⟩ := List.mem_map.1 h1
    exact ⟨t, ht, rfl⟩

/-- a spanning tree rooted at vertex 0 that is at least as heavy as every other one is what the exhaustive
search returns -/
theorem mstBrute_eq_of_max (w : Nat → Nat → α) {pred : List Int} (hT : isRootedSpanningTree pred 0 = true)
    (hmax : ∀ pred' : List Int, pred'.length = pred.length → isRootedSpanningTree pred' 0 = true →
      treeWeight w pred' ≤ treeWeight w pred) :
    mstBrute w pred.length = some (treeWeight w pred) := by
  obtain ⟨b, hb, hge⟩ := mstBrute_ge w hT
  obtain ⟨t, ht, rfl⟩ := mstBrute_mem w hb
  obtain ⟨htT, htl⟩ := of_mem_allTrees ht
  rw [hb, le_antisymm (hmax t htl htT) hge]

end order
end CltFit
end Deeprob
