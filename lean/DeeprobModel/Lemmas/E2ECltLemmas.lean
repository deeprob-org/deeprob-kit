import DeeprobModel.Oblig.Struct4Clt
import DeeprobModel.Oblig.Struct4CltMsg
import DeeprobModel.Oblig.Struct4CltMpe
import DeeprobModel.Oblig.StructClt
import DeeprobModel.Props.CltOrder
import DeeprobModel.Props.Clt
import DeeprobModel.Lemmas.RTreeInduction
set_option linter.unusedSectionVars false
/-
Linking lemmas between the definitions extracted from the source for Chow-Liu trees (`Gen.S4bfsStep`, `Gen.S4cltMessages`,
`Gen.S4cltRootValue`, `Gen.S4cltMpe`, `Gen.S4cltLogLikelihood`, read through the obligations of `Oblig/Struct4Clt*.lean`)
and the hand-written models (`Clt.up`, `Clt.value` of `Model/Clt.lean`, `Clt.decode` of `Model/CltPc.lean`,
`GraphIo.arrayPass` of `Model/GraphOrder.lean`).  Everything is stated for a vector `tree` with `GraphIo.WF tree r`, so that
the root `r` is named once.
One iteration of the generated upward loop is `GraphIo.passStep` on the list-of-pairs view of the `messages` array, for any
carrier with `0 1 + *` and no laws, so that both reductions ('mar': `+`, 'mpe': `+ := max`) are instances.
-/
namespace Deeprob.E2EClt
open Deeprob Deeprob.Clt

/-- `self.bfs` of the object built from the predecessor vector `tree` with root index `r`, as the generated loop computes
it: `Gen.S4bfsStep` iterated from `([root], [])` (`Struct4.bfsRun`; tree nodes = positions, children = `childrenOf`), with
fuel `n` = number of variables -/
def genBfs (tree : List Int) (r : Nat) : List Nat := Struct4.bfsRun tree tree.length [r] []

/-- the list `message_passing` / `mpe` receive: `self.bfs` as NumPy integers -/
def genBfsI (tree : List Int) (r : Nat) : List Int := (genBfs tree r).map (fun (a : Nat) => (a : Int))

section order
variable {tree : List Int} {r : Nat}

/-- on a well-formed vector the generated loop returns the levels of the tree one after the other, for every fuel `≥ n`
(the `while` loop of the source has no bound: any bound `≥ n` gives the same list) -/
theorem bfsRun_eq_levels (h : GraphIo.WF tree r) (f : Nat) (hf : tree.length ≤ f) :
    Struct4.bfsRun tree f [r] [] = (List.range tree.length).flatMap (GraphIo.level tree r) := by
  have hl : ((List.range tree.length).flatMap (fun j => GraphIo.level tree r (0 + j))).length ≤ f := by
    simp only [Nat.zero_add]
    rw [h.levels_perm.length_eq, List.length_range]; exact hf
  have := GraphIo.bfsLoop_levels (tree := tree) (r := r) _ h.getD_children tree.length 0 f hl
    (by rw [Nat.zero_add]; exact h.level_big (Nat.le_refl _))
  simp only [Nat.zero_add] at this
  rw [Struct4.bfs_as_coded, List.nil_append, ← GraphIo.bfsLoop_eq_cltBfsOrder _ h.getD_children]
  exact this

theorem genBfs_eq_levels (h : GraphIo.WF tree r) : genBfs tree r = (List.range tree.length).flatMap (GraphIo.level tree r) :=
  bfsRun_eq_levels h _ (Nat.le_refl _)

theorem genBfs_eq (h : GraphIo.WF tree r) : GraphIo.computeBfsOrdering tree = some (genBfs tree r) := by
  rw [genBfs_eq_levels h]; exact h.bfs_eq

theorem genBfs_facts (h : GraphIo.WF tree r) :
    (genBfs tree r).Perm (List.range tree.length) ∧
    (genBfs tree r).head? = some r ∧
    (∀ i p, i < tree.length → CltFit.parent tree i = some p → (genBfs tree r).idxOf p < (genBfs tree r).idxOf i) ∧
    (genBfs tree r).tail.reverse.Perm ((List.range tree.length).erase r) ∧
    GraphIo.childFirst tree (genBfs tree r).tail.reverse = true ∧
    genBfs tree r = (List.range tree.length).flatMap (GraphIo.level tree r) ∧
    (∀ f, tree.length ≤ f → Struct4.bfsRun tree f [r] [] = genBfs tree r) := by
  obtain ⟨r', bfs, hr', hb, hpf, _⟩ := GraphIo.bfsOrder_parent_before_child tree h.wf
  cases Option.some.inj (hr'.symm.trans h.root)
  cases Option.some.inj (hb.symm.trans h.bfs_eq)
  obtain ⟨rest, hrest⟩ := h.levels_head
  rw [genBfs_eq_levels h]
  exact ⟨h.levels_perm, by rw [hrest]; rfl, hpf, h.code_order_perm, h.code_order_childFirst, rfl, bfsRun_eq_levels h⟩

theorem mem_of_idxOf_lt_append {P B : List Nat} {p j : Nat}
    (hlt : (P ++ j :: B).idxOf p < (P ++ j :: B).idxOf j) : p ∈ P := by
  by_contra hp
  rw [List.idxOf_append, if_neg hp, List.idxOf_append] at hlt
  split at hlt
  · exact absurd (Nat.lt_of_lt_of_le hlt List.idxOf_le_length) (Nat.not_lt.2 (Nat.le_add_left _ _))
  · rw [List.idxOf_cons_self] at hlt
    exact absurd (Nat.lt_of_add_lt_add_right hlt) (Nat.not_lt_zero _)

theorem genBfs_cons (h : GraphIo.WF tree r) : ∃ L, genBfs tree r = r :: L ∧ (r :: L).Nodup ∧ (∀ j, j ∈ r :: L ↔ j < tree.length) ∧
    ∀ A j B, L = A ++ j :: B → ∀ p, CltFit.parent tree j = some p → p = r ∨ p ∈ A := by
  obtain ⟨hperm, hhead, hpf, _⟩ := genBfs_facts h
  obtain ⟨L, hL⟩ := List.head?_eq_some_iff.1 hhead
  rw [hL] at hperm hpf
  have hmem : ∀ j, j ∈ r :: L ↔ j < tree.length := fun j => hperm.mem_iff.trans List.mem_range
  refine ⟨L, hL, hperm.nodup_iff.2 List.nodup_range, hmem, fun A j B hAB p hp => ?_⟩
  have hlt := hpf j p ((hmem j).1 (by rw [hAB]; exact List.mem_cons_of_mem _ (List.mem_append_right _ List.mem_cons_self))) hp
  rw [hAB, ← List.cons_append] at hlt
  exact List.mem_cons.1 (mem_of_idxOf_lt_append hlt)

theorem genBfs_tail_mem (h : GraphIo.WF tree r) : ∀ j ∈ (genBfs tree r).tail.reverse, j < tree.length ∧ j ≠ r := by
  intro j hj
  obtain ⟨_, _, _, hperm, _⟩ := genBfs_facts h
  have := hperm.mem_iff.1 hj
  rw [List.Nodup.mem_erase_iff List.nodup_range, List.mem_range] at this
  exact ⟨this.2, this.1⟩

end order

section link
variable {α : Type} [Zero α] [One α] [Add α] [Mul α]

/-- the reduction along the value axis in the linear domain, for a carrier with `0` and `+`:
`Struct4.sumL` at a semiring ('mar': `logsumexp`), `Struct4.maxL` when `+ := max` ('mpe': `np.max`) -/
def redL (v : List α) : α := v.foldr (fun a b => a + b) 0

/-- `self.params` read in the linear domain (`Struct4.paramsOf` without the order instances) -/
def params (cpt : List (List (List α))) : Int → Int → Int → α := fun i l k => cptAt cpt i.toNat l.toNat k.toNat

/-- the `messages` array of one row (`messages[i, row, :]` = a two-element list) from the model's list of pairs -/
def ofPairs (M : List (α × α)) : List (List α) := M.map (fun p => [p.1, p.2])

theorem ofPairs_length (M : List (α × α)) : (ofPairs M).length = M.length := List.length_map _

theorem ofPairs_getD (M : List (α × α)) (j : Nat) (hj : j < M.length) :
    (ofPairs M).getD j [] = [(M.getD j (1, 1)).1, (M.getD j (1, 1)).2] := by
  rw [List.getD_eq_getElem _ _ (by rw [ofPairs_length]; exact hj), List.getD_eq_getElem _ _ hj]
  exact List.getElem_map _

theorem ofPairs_modify (M : List (α × α)) (p : Nat) (f : α × α → α × α) (hp : p < M.length) :
    ofPairs (M.modify p f) = (ofPairs M).set p [(f (M.getD p (1, 1))).1, (f (M.getD p (1, 1))).2] := by
  rw [List.getD_eq_getElem _ _ hp]
  apply List.ext_getElem?
  intro i
  simp only [ofPairs, List.getElem?_map, List.getElem?_modify, List.getElem?_set, List.length_map]
  by_cases hpi : p = i
  · subst hpi; simp only [↓reduceIte, hp, List.getElem?_eq_getElem hp, Option.map_eq_map, Option.map_some]
  · simp only [hpi, ↓reduceIte]
    cases M[i]? <;> rfl

theorem passStep_length (tree : List Int) (cpt : List (List (List α))) (row : Nat → Option Nat) (M : List (α × α)) (j : Nat) :
    (GraphIo.passStep tree cpt row M j).length = M.length := by
  unfold GraphIo.passStep
  split
  · rfl
  · exact List.length_modify ..

theorem arrayPass_length (tree : List Int) (cpt : List (List (List α))) (row : Nat → Option Nat) (order : List Nat) :
    (GraphIo.arrayPass tree cpt row order).length = tree.length := by
  have : ∀ (order : List Nat) (M : List (α × α)), (order.foldl (GraphIo.passStep tree cpt row) M).length = M.length := by
    intro order
    induction order with
    | nil => intro M; rfl
    | cons j rest ih => intro M; rw [List.foldl_cons, ih, passStep_length]
  unfold GraphIo.arrayPass
  rw [this, List.length_replicate]

theorem sel_zero (m : α × α) : GraphIo.sel m 0 = m.1 := rfl
theorem sel_one (m : α × α) : GraphIo.sel m 1 = m.2 := rfl

theorem pair_getD_eq_sel (a b d : α) {o : Nat} (ho : o < 2) : [a, b].getD o d = GraphIo.sel (a, b) o := by
  rcases o with _ | _ | o
  · rfl
  · rfl
  · exact absurd ho (Nat.not_lt.2 (Nat.le_add_left 2 o))

/-- the row of the evidence `e` as the code sees it: column `i` holds the entry of variable `scope[i]` (`none` = NaN) -/
def rowList (scope : List Nat) (n : Nat) (e : Ev) : List (Option Nat) := (List.range n).map (fun i => e (scope.getD i 0))

/-- … and back: the evidence a row stands for (variables outside the scope unobserved) -/
def evOfRow (scope : List Nat) (x : List (Option Nat)) : Ev := fun v => if v ∈ scope then x.getD (scope.idxOf v) none else none

theorem rowList_length (scope : List Nat) (n : Nat) (e : Ev) : (rowList scope n e).length = n := by
  rw [rowList, List.length_map, List.length_range]

theorem rowList_getElem (scope : List Nat) (n : Nat) (e : Ev) (j : Nat) (hj : j < (rowList scope n e).length) :
    (rowList scope n e)[j] = e (scope.getD j 0) := by
  simp only [rowList, List.getElem_map, List.getElem_range]

theorem rowList_getD (scope : List Nat) (n : Nat) (e : Ev) (j : Nat) (hj : j < n) :
    (rowList scope n e).getD j none = GraphIo.rowOf scope e j := by
  rw [List.getD_eq_getElem _ _ (by rw [rowList_length]; exact hj), rowList_getElem]; rfl

theorem bin_at {scope : List Nat} {n : Nat} {e : Ev} (hlen : scope.length = n)
    (hbin : ∀ v ∈ scope, ∀ o, e v = some o → o < 2) : ∀ j, j < n → ∀ o, e (scope.getD j 0) = some o → o < 2 :=
  fun _ hj o ho => hbin _ (getD_mem (hlen ▸ hj) 0) o ho

/-- every row of the right length is the row of an evidence: the theorems stated for `rowList scope n e` cover all rows -/
theorem rowList_evOfRow (scope : List Nat) (hnd : scope.Nodup) (x : List (Option Nat)) (hx : x.length = scope.length) :
    rowList scope scope.length (evOfRow scope x) = x := by
  apply List.ext_getElem
  · rw [rowList_length, hx]
  · intro i h1 h2
    have hi : i < scope.length := by rw [rowList_length] at h1; exact h1
    rw [rowList_getElem, evOfRow, if_pos (getD_mem hi 0), idxOf_getD hnd hi 0, List.getD_eq_getElem _ _ h2]

/-- the mask `~np.isnan(x)` of a row -/
theorem obs_getD (x : List (Option Nat)) (j : Nat) :
    (x.map (fun o => !o.isNone)).getD j false = (x.getD j none).isSome :=
  (List.getD_map x none (fun o => !o.isNone)).trans (by cases x.getD j none <;> rfl)

/-- one iteration as extracted is one step of the model's array pass, for both reductions: no algebraic law is used, the two
sides are the same expression.  `j` is a non-root position (its entry of `self.tree` is the index `p`) with binary data.
`reduce` is the string argument of `message_passing`: the extracted body branches on `reduce == "mar"` / `"mpe"` as the source
does (`logsumexp` / `np.max`, anything else raises), so the link names the string and the reduction that branch uses. -/
theorem msgStep_link (cpt : List (List (List α))) (tree : List Int) (lse mx : List α → α) (raised : List (List α))
    (scope : List Nat) (e : Ev) (reduce : String)
    (hred : (reduce = "mar" ∧ lse = redL) ∨ (reduce = "mpe" ∧ mx = redL))
    (M : List (α × α)) (hM : M.length = tree.length) (j p : Nat)
    (hbin : ∀ o, e (scope.getD j 0) = some o → o < 2)
    (hj : j < tree.length) (hp : tree.getD j (-1) = (p : Int)) (hpl : p < tree.length) :
    @Struct4.msgStep α ⟨1⟩ ⟨(· * ·)⟩ (params cpt) tree lse mx raised (rowList scope tree.length e)
        ((rowList scope tree.length e).map (fun o => !o.isNone)) reduce (ofPairs M) (j : Int) =
      ofPairs (GraphIo.passStep tree cpt (GraphIo.rowOf scope e) M j) := by
  have htj : Gen.Py4.getI tree (j : Int) 0 = (p : Int) := by
    rw [Oblig.StructPy.getI_natCast, CltFit.getD_irrel tree hj 0 (-1)]; exact hp
  rw [← hM] at hj hpl
  unfold GraphIo.passStep
  rw [hp, GraphIo.pyIndex_nat hpl]
  simp only
  rw [ofPairs_modify _ _ _ hpl]
  unfold Struct4.msgStep GraphIo.outMsg
  -- both sides now are `(ofPairs M).set p [·, ·]`; what is left is to resolve the masks, after which the entries agree by `rfl`
  have hx := rowList_getD scope tree.length e j (hM ▸ hj)
  cases hv : GraphIo.rowOf scope e j with
  | some o =>
    simp only [htj, Oblig.StructPy.getI_natCast, Oblig.StructPy.updI_natCast, ofPairs_getD _ _ hj, ofPairs_getD _ _ hpl, obs_getD, hx, hv,
      Gen.Py3.val, Option.getD_some, pair_getD_eq_sel _ _ _ (hbin o hv)]
    rcases hred with ⟨rfl, rfl⟩ | ⟨rfl, rfl⟩ <;> rfl
  | none =>
    simp only [htj, Oblig.StructPy.getI_natCast, Oblig.StructPy.updI_natCast, obs_getD, hx, hv, Option.isSome_none, Bool.false_eq_true,
      if_false, ofPairs_getD _ _ hj, ofPairs_getD _ _ hpl]
    rcases hred with ⟨rfl, rfl⟩ | ⟨rfl, rfl⟩ <;> rfl

/-- the root step as extracted is the model's `rootValue` (`logsumexp` whatever `reduce` is) -/
theorem rootValue_link (cpt : List (List (List α))) (bfs tree : List Int) (mx : List α → α) (nRows : Nat)
    (scope : List Nat) (n : Nat) (e : Ev) (M : List (α × α)) (r : Nat)
    (hbin : ∀ o, e (scope.getD r 0) = some o → o < 2) (hrn : r < n) (hr : r < M.length) :
    @Gen.S4cltRootValue α ⟨1⟩ ⟨(· * ·)⟩ (params cpt) (r : Int) bfs tree redL mx nRows (rowList scope n e)
        ((rowList scope n e).map (fun o => !o.isNone)) (ofPairs M) =
      some (GraphIo.rootValue cpt (GraphIo.rowOf scope e) r M) := by
  unfold Gen.S4cltRootValue GraphIo.rootValue GraphIo.outMsg
  have hx := rowList_getD scope n e r hrn
  cases hv : GraphIo.rowOf scope e r with
  | some o =>
    simp only [Oblig.StructPy.getI_natCast, ofPairs_getD _ _ hr, obs_getD, hx, hv, Gen.Py3.val, Option.getD_some,
      pair_getD_eq_sel _ _ _ (hbin o hv)]
    rfl
  | none =>
    simp only [Oblig.StructPy.getI_natCast, ofPairs_getD _ _ hr, obs_getD, hx, hv]
    rfl

/-- the final `messages` array of one row as the generated upward loop computes it for the object built from `tree`
(root index `r`, `self.bfs` = the generated breadth-first order), linear-domain reading.  The two remaining arguments of
the extracted definition are fixed: `nRows` is not used by it, `raised` only by the branch that raises. -/
def genMessages (cpt : List (List (List α))) (tree : List Int) (r : Nat) (lse mx : List α → α)
    (x : List (Option Nat)) (obs : List Bool) (reduce : String) : List (List α) :=
  @Gen.S4cltMessages α ⟨1⟩ ⟨(· * ·)⟩ (params cpt) (r : Int) (genBfsI tree r) tree lse mx [] 1 x obs reduce

/-- `message_passing(x, obs, return_lls=True, reduce)` of that object on one row, as generated: upward loop, then root step -/
def genValue (cpt : List (List (List α))) (tree : List Int) (r : Nat) (lse mx : List α → α)
    (x : List (Option Nat)) (obs : List Bool) (reduce : String) : Option α :=
  @Gen.S4cltRootValue α ⟨1⟩ ⟨(· * ·)⟩ (params cpt) (r : Int) (genBfsI tree r) tree lse mx 1 x obs
    (genMessages cpt tree r lse mx x obs reduce)

section loop
variable {tree : List Int} {r : Nat}

/-- the generated upward loop is the model's array pass in the order `reversed(bfs[1:])`, `bfs` the generated order -/
theorem genMessages_eq_arrayPass (h : GraphIo.WF tree r) (scope : List Nat) (cpt : List (List (List α))) (e : Ev)
    (lse mx : List α → α) (reduce : String)
    (hred : (reduce = "mar" ∧ lse = redL) ∨ (reduce = "mpe" ∧ mx = redL))
    (hbin : ∀ j, j < tree.length → ∀ o, e (scope.getD j 0) = some o → o < 2) :
    genMessages cpt tree r lse mx (rowList scope tree.length e)
        ((rowList scope tree.length e).map (fun o => !o.isNone)) reduce =
      ofPairs (GraphIo.arrayPass tree cpt (GraphIo.rowOf scope e) (genBfs tree r).tail.reverse) := by
  have hord : ((genBfsI tree r).drop 1).reverse = ((genBfs tree r).tail.reverse).map (fun (a : Nat) => (a : Int)) := by
    rw [genBfsI, List.drop_one, List.map_reverse, List.map_tail]
  -- the `np.zeros` the loop starts from, read with `0 ↦ 1`
  have hzero : List.replicate tree.length [@OfNat.ofNat α 0 (@Zero.toOfNat0 α ⟨1⟩), @OfNat.ofNat α 0 (@Zero.toOfNat0 α ⟨1⟩)] =
      ofPairs (List.replicate tree.length ((1 : α), (1 : α))) := by rw [ofPairs, List.map_replicate]; rfl
  unfold genMessages GraphIo.arrayPass
  rw [@Struct4.messages_as_coded α ⟨1⟩ ⟨(· * ·)⟩, hord, rowList_length, hzero]
  -- the two loops agree step by step, over any list of non-root positions and from any array of the right length
  have hM : (List.replicate tree.length ((1 : α), (1 : α))).length = tree.length := List.length_replicate ..
  have hok := genBfs_tail_mem h
  generalize List.replicate tree.length ((1 : α), (1 : α)) = M at hM ⊢
  generalize (genBfs tree r).tail.reverse = order at hok ⊢
  induction order generalizing M with
  | nil => rfl
  | cons j rest ih =>
    obtain ⟨hj, hjr⟩ := hok j List.mem_cons_self
    obtain ⟨p, _, _, hp, hpe⟩ := h.parent_ne hj hjr
    rw [List.map_cons, List.foldl_cons, List.foldl_cons,
      msgStep_link cpt tree lse mx [] scope e reduce hred M hM j p (hbin j hj) hj hpe hp]
    exact ih _ (by rw [passStep_length]; exact hM) (fun k hk => hok k (List.mem_cons_of_mem _ hk))

end loop

end link

section rel
variable {α β : Type} [Zero α] [One α] [Add α] [Mul α] [Zero β] [One β] [Add β] [Mul β]

theorem sel_rel (φ : β → α) (m : β × β) (k : Nat) : GraphIo.sel (φ m.1, φ m.2) k = φ (GraphIo.sel m k) := by
  unfold GraphIo.sel; split <;> rfl

/- `φ` preserves `0 1 + *` and carries the tables `cptB` to `cptA`: the array pass commutes with `φ` -/
variable (φ : β → α) (h0 : φ 0 = 0) (h1 : φ 1 = 1) (hadd : ∀ a b, φ (a + b) = φ a + φ b) (hmul : ∀ a b, φ (a * b) = φ a * φ b)
  (cptB : List (List (List β))) (cptA : List (List (List α))) (hc : ∀ i l k, φ (cptAt cptB i l k) = cptAt cptA i l k)
include h0 hadd hmul hc

theorem outMsg_rel (row : Nat → Option Nat) (j : Nat) (m : β × β) (l : Nat) :
    GraphIo.outMsg cptA row j (φ m.1, φ m.2) l = φ (GraphIo.outMsg cptB row j m l) := by
  unfold GraphIo.outMsg
  cases row j with
  | some v => simp only [hmul, hc, sel_rel]
  | none => simp only [sumVar, List.range, List.range.loop, List.foldr, hadd, hmul, hc, h0, sel_rel]

include h1

theorem passStep_rel (tree : List Int) (row : Nat → Option Nat) (M : List (β × β)) (j : Nat) :
    GraphIo.passStep tree cptA row (M.map (fun m => (φ m.1, φ m.2))) j =
      (GraphIo.passStep tree cptB row M j).map (fun m => (φ m.1, φ m.2)) := by
  unfold GraphIo.passStep
  rw [List.length_map]
  cases GraphIo.pyIndex M.length (tree.getD j (-1)) with
  | none => rfl
  | some p =>
    have hg := List.getD_map (l := M) (d := ((1 : β), (1 : β))) (n := j) (fun m => (φ m.1, φ m.2))
    rw [h1] at hg
    apply List.ext_getElem?
    intro i
    simp only [hg, List.getElem?_modify, List.getElem?_map]
    cases M[i]? with
    | none => rfl
    | some t =>
      by_cases hpi : p = i
      · simp only [hpi, if_true, Option.map_some, Option.map_eq_map, outMsg_rel φ h0 hadd hmul cptB cptA hc, hmul]
      · simp only [hpi, if_false, Option.map_some, Option.map_eq_map]

theorem arrayPass_rel (tree : List Int) (row : Nat → Option Nat) (order : List Nat) :
    GraphIo.arrayPass tree cptA row order = (GraphIo.arrayPass tree cptB row order).map (fun m => (φ m.1, φ m.2)) := by
  have : ∀ (order : List Nat) (M : List (β × β)),
      order.foldl (GraphIo.passStep tree cptA row) (M.map (fun m => (φ m.1, φ m.2))) =
        (order.foldl (GraphIo.passStep tree cptB row) M).map (fun m => (φ m.1, φ m.2)) := by
    intro order
    induction order with
    | nil => intro M; rfl
    | cons j rest ih =>
      intro M
      rw [List.foldl_cons, List.foldl_cons, passStep_rel φ h0 h1 hadd hmul cptB cptA hc, ih]
  unfold GraphIo.arrayPass
  rw [← this, List.map_replicate, h1]

end rel

section slots
variable {tree : List Int} {r : Nat}

theorem sumL_eq_redL {β : Type} [CommSemiring β] : (Struct4.sumL : List β → β) = redL := rfl

/-- the slots of the generated sum-product pass (`reduce='mar'`, `logsumexp ↦ Struct4.sumL`): the products of the upward
messages `Clt.up` of the children -/
theorem genMessages_mar_slots {α : Type} [CommSemiring α] (h : GraphIo.WF tree r) (scope : List Nat)
    (cpt : List (List (List α))) (e : Ev) (mx : List α → α)
    (hbin : ∀ j, j < tree.length → ∀ o, e (scope.getD j 0) = some o → o < 2) (j : Nat) (hj : j < tree.length) :
    (genMessages cpt tree r Struct4.sumL mx (rowList scope tree.length e)
        ((rowList scope tree.length e).map (fun o => !o.isNone)) "mar").getD j [] =
      [lprod ((childrenOf tree j).map (fun d => up scope cpt (build tree tree.length d) 0 e)),
       lprod ((childrenOf tree j).map (fun d => up scope cpt (build tree tree.length d) 1 e))] := by
  obtain ⟨_, _, _, hperm, hcf, _⟩ := genBfs_facts h
  obtain ⟨hlen, hslots⟩ := h.arrayPass_slots scope cpt e _ hperm hcf
  rw [genMessages_eq_arrayPass h scope cpt e Struct4.sumL mx "mar" (Or.inl ⟨rfl, sumL_eq_redL⟩) hbin,
    ofPairs_getD _ j (hlen.symm ▸ hj), hslots j hj]
  rfl

/-- the generated `message_passing(…, return_lls=True, reduce='mar')` returns `Clt.value` of the row's evidence -/
theorem genValue_mar {α : Type} [CommSemiring α] (h : GraphIo.WF tree r) (scope : List Nat)
    (cpt : List (List (List α))) (e : Ev) (mx : List α → α)
    (hbin : ∀ j, j < tree.length → ∀ o, e (scope.getD j 0) = some o → o < 2) :
    genValue cpt tree r Struct4.sumL mx (rowList scope tree.length e)
        ((rowList scope tree.length e).map (fun o => !o.isNone)) "mar" = some (Clt.value scope tree cpt e) := by
  unfold genValue
  obtain ⟨_, _, _, hperm, hcf, _⟩ := genBfs_facts h
  rw [genMessages_eq_arrayPass h scope cpt e Struct4.sumL mx "mar" (Or.inl ⟨rfl, sumL_eq_redL⟩) hbin,
    ← h.passValue_eq scope cpt e _ hperm hcf]
  exact rootValue_link cpt _ tree mx 1 scope _ e _ r (hbin r h.r_lt) h.r_lt (by rw [arrayPass_length]; exact h.r_lt)

end slots

section tree
variable {tree : List Int} {r : Nat}

/-- induction along a well-formed predecessor vector: a property of the positions holds everywhere as soon as it holds at
`c` whenever it holds at the children of `c` (children are deeper, and depths are bounded by `n - 1`) -/
theorem _root_.Deeprob.GraphIo.WF.children_induction (h : GraphIo.WF tree r) {P : Nat → Prop}
    (step : ∀ c, c < tree.length → (∀ d ∈ childrenOf tree c, P d) → P c) : ∀ c, c < tree.length → P c := by
  have key : ∀ k c, c < tree.length → tree.length ≤ GraphIo.depthOf tree c + k → P c := by
    intro k
    induction k with
    | zero =>
      intro c hc hk
      exact absurd (Nat.le_trans hk (h.depth_le hc)) (Nat.not_le.2 (Nat.sub_lt h.pos Nat.one_pos))
    | succ k ih =>
      intro c hc hk
      refine step c hc (fun d hd => ?_)
      obtain ⟨hdl, hdp⟩ := h.mem_children.1 hd
      exact ih d hdl (by rw [h.depth_child hdl hdp, Nat.add_right_comm]; exact hk)
  exact fun c hc => key _ c hc (Nat.le_add_left _ _)

theorem build_idx (tree : List Int) (f c : Nat) : (build tree f c).idx = c := by
  obtain ⟨cs, hcs⟩ := build_node tree f c
  rw [hcs]; rfl

theorem node_of_build (h : GraphIo.WF tree r) {j : Nat} {cs : List RTree} :
    ∀ c, c < tree.length → RTree.node j cs ∈ (build tree tree.length c).subtrees →
      j < tree.length ∧ cs = (childrenOf tree j).map (build tree tree.length) := by
  refine h.children_induction (fun c hc ih hm => ?_)
  rw [h.build_unfold c] at hm
  rcases (subtrees_node _ _ _).1 hm with heq | ⟨ch, hch, hu⟩
  · injection heq with hj hcs
    exact ⟨hj ▸ hc, hj ▸ hcs⟩
  · obtain ⟨d, hd, rfl⟩ := List.mem_map.1 hch
    exact ih d hd hu

theorem isChild_build (h : GraphIo.WF tree r) {p j : Nat}
    (hch : Struct4.IsChild (build tree tree.length r) p j) : j ∈ childrenOf tree p := by
  obtain ⟨cs, hm, c, hc, hidx⟩ := hch
  obtain ⟨_, hcs⟩ := node_of_build h r h.r_lt hm
  subst hcs
  obtain ⟨d, hd, rfl⟩ := List.mem_map.1 hc
  rw [build_idx] at hidx
  exact hidx ▸ hd

theorem vars_build_perm_range (h : GraphIo.WF tree r) :
    (build tree tree.length r).vars.Perm (List.range tree.length) :=
  isTree_root_perm h.isTree h.rootOf

theorem vars_build_nodup (h : GraphIo.WF tree r) : (build tree tree.length r).vars.Nodup :=
  (vars_build_perm_range h).nodup_iff.2 List.nodup_range

theorem mem_vars_build_iff (h : GraphIo.WF tree r) {j : Nat} : j ∈ (build tree tree.length r).vars ↔ j < tree.length :=
  (vars_build_perm_range h).mem_iff.trans List.mem_range

theorem lab_perm_scope (h : GraphIo.WF tree r) (scope : List Nat) (hlen : scope.length = tree.length) :
    (lab scope (build tree tree.length r)).Perm scope :=
  lab_build_perm scope hlen (vars_build_perm_range h)

end tree

section maxprod
variable {α : Type} [CommSemiring α] [LinearOrder α] [IsStrictOrderedRing α]
variable {tree : List Int} {r : Nat}

theorem maxL_eq_redL : (Struct4.maxL : List α → α) = @redL α _ ⟨max⟩ := rfl
theorem paramsOf_eq (cpt : List (List (List α))) : Struct4.paramsOf cpt = params cpt := rfl

theorem dec_iff_vars (scope : List Nat) (cpt : List (List (List α))) (e : Ev) (t : RTree) :
    ∀ l j, (∃ o, Struct4.Dec scope cpt e t l j o) ↔ j ∈ t.vars := by
  induction t using RTree.ind with
  | node i cs ih =>
    intro l j
    simp only [Struct4.dec_node, RTree.vars, List.mem_cons, List.mem_flatten, List.mem_map]
    constructor
    · rintro ⟨o, (⟨hj, _⟩ | ⟨c, hc, hd⟩)⟩
      · exact Or.inl hj
      · exact Or.inr ⟨c.vars, ⟨c, hc, rfl⟩, (ih c hc _ j).1 ⟨o, hd⟩⟩
    · rintro (hj | ⟨_, ⟨c, hc, rfl⟩, hm⟩)
      · exact ⟨_, Or.inl ⟨hj, rfl⟩⟩
      · obtain ⟨o, ho⟩ := (ih c hc (chosen scope cpt i cs l e) j).2 hm
        exact ⟨o, Or.inr ⟨c, hc, ho⟩⟩

/-- the slots of the generated max-product pass (`reduce='mpe'`, `np.max ↦ Struct4.maxL`): the products of the max-product
messages of the children.  The generated loop is the array pass at the carrier `α` with `+ := max`; that pass is the image
under `MaxTimes.val` of the pass at the max-times carrier (`arrayPass_rel`), whose slots `GraphIo.arrayPass_max_slots` gives. -/
theorem genMessages_mpe_slots (h : GraphIo.WF tree r) (scope : List Nat) (cpt : List (List (List α)))
    (hc : ∀ i l k, 0 ≤ cptAt cpt i l k) (e : Ev) (lse : List α → α)
    (hbin : ∀ j, j < tree.length → ∀ o, e (scope.getD j 0) = some o → o < 2) (j : Nat) (hj : j < tree.length) :
    (genMessages cpt tree r lse Struct4.maxL (rowList scope tree.length e)
        ((rowList scope tree.length e).map (fun o => !o.isNone)) "mpe").getD j [] =
      [lprod ((childrenOf tree j).map (fun d => upMax scope cpt (build tree tree.length d) 0 e)),
       lprod ((childrenOf tree j).map (fun d => upMax scope cpt (build tree tree.length d) 1 e))] := by
  obtain ⟨_, _, _, hperm2, hcf, _⟩ := genBfs_facts h
  have hval : ∀ k, k < 2 →
      (GraphIo.sel ((GraphIo.arrayPass tree (liftCpt cpt) (GraphIo.rowOf scope e) (genBfs tree r).tail.reverse).getD j (1, 1)) k).val =
        lprod ((childrenOf tree j).map (fun d => upMax scope cpt (build tree tree.length d) k e)) := by
    intro k hk
    rw [GraphIo.arrayPass_max_slots tree h.wf scope cpt hc e _ r h.root hperm2 hcf j hj k hk,
      lprod_rel MaxTimes.val rfl (fun a b => rfl), List.map_map]
    exact congrArg lprod (List.map_congr_left (fun d _ => MaxTimes.val_ofVal (upMax_nonneg scope cpt hc _ k e)))
  have hlen : j < (GraphIo.arrayPass tree (liftCpt cpt) (GraphIo.rowOf scope e) (genBfs tree r).tail.reverse).length := by
    rw [arrayPass_length]; exact hj
  rw [@genMessages_eq_arrayPass α _ _ ⟨max⟩ _ tree r h scope cpt e lse Struct4.maxL "mpe" (Or.inr ⟨rfl, rfl⟩) hbin,
    @arrayPass_rel α (MaxTimes α) _ _ ⟨max⟩ _ _ _ _ _ MaxTimes.val rfl rfl (fun a b => rfl) (fun a b => rfl)
      (liftCpt cpt) cpt (val_cptAt_lift cpt hc) tree,
    ofPairs_getD _ j (by rw [List.length_map]; exact hlen), List.getD_eq_getElem _ _ (by rw [List.length_map]; exact hlen),
    List.getElem_map, ← List.getD_eq_getElem _ (1, 1) hlen, ← hval 0 (by omega), ← hval 1 (by omega)]
  rfl

/-- the messages function `mpe` receives from the generated `message_passing(…, return_lls=False, reduce)` -/
def genMp (cpt : List (List (List α))) (tree : List Int) (r : Nat) (lse mx : List α → α) :
    List (Option Nat) → List Bool → Bool → String → Int → List α :=
  fun x obs _ reduce i => Gen.Py4.getI (genMessages cpt tree r lse mx x obs reduce) i []

/-- … in the form `Struct4.mpe_loop_is_decode` asks for -/
theorem genMp_msgsOK (h : GraphIo.WF tree r) (scope : List Nat) (cpt : List (List (List α)))
    (hc : ∀ i l k, 0 ≤ cptAt cpt i l k) (e : Ev) (lse : List α → α)
    (hbin : ∀ j, j < tree.length → ∀ o, e (scope.getD j 0) = some o → o < 2) :
    Struct4.MsgsOK scope cpt e (build tree tree.length r)
      (genMp cpt tree r lse Struct4.maxL (rowList scope tree.length e)
        ((rowList scope tree.length e).map (fun o => !o.isNone)) false "mpe") := by
  intro j cs hm
  obtain ⟨hjl, hcs⟩ := node_of_build h r h.r_lt hm
  unfold genMp
  rw [Oblig.StructPy.getI_natCast, genMessages_mpe_slots h scope cpt hc e lse hbin j hjl, hcs]
  simp only [msgMax, List.map_map]
  rfl

/-- the hypothesis bundle of `Struct4.mpe_loop_is_decode`, for the generated order `r :: L` and messages that hold the
max-product slots -/
theorem loopOK_genBfs (h : GraphIo.WF tree r) (scope : List Nat) (cpt : List (List (List α))) (e : Ev)
    (msgs : Int → List α) (hmsgs : Struct4.MsgsOK scope cpt e (build tree tree.length r) msgs) :
    ∃ L, genBfs tree r = r :: L ∧ (∀ j, j ∈ r :: L ↔ j < tree.length) ∧
      Struct4.LoopOK scope cpt e (build tree tree.length r) tree msgs (rowList scope tree.length e) L := by
  obtain ⟨L, hL, hnd, hmem, hpf⟩ := genBfs_cons h
  have hchild : ∀ {p j}, Struct4.IsChild (build tree tree.length r) p j → j < tree.length ∧ tree.getD j (-1) = (p : Int) :=
    fun hch => mem_childrenOf_iff.1 (isChild_build h hch)
  refine ⟨L, hL, hmem, ?_⟩
  exact {
    ev := fun j hj => by
      rw [rowList_length] at hj
      rw [rowList_getD scope _ e j hj]; rfl
    par := fun p j hch => by
      rw [Oblig.StructPy.getI_natCast, CltFit.getD_irrel tree (hchild hch).1 0 (-1)]
      exact (hchild hch).2
    msgs := hmsgs
    root := fun p hch => by
      rw [build_idx] at hch
      have := (hchild hch).2
      rw [h.root_entry] at this
      omega
    nodup := (List.nodup_cons.1 hnd).2
    rootOut := by rw [build_idx]; exact (List.nodup_cons.1 hnd).1
    parentFirst := fun A j B hAB p hch => by
      rw [build_idx]
      exact hpf A j B hAB p (h.mem_children.1 (isChild_build h hch)).2
    bound := fun j hj => by
      rw [build_idx, ← List.mem_cons] at hj
      rw [rowList_length]
      exact (hmem j).1 hj }

/-- `BinaryCLT.mpe` of the object built from `tree` on one row, as generated: the extracted decoding loop, fed with the
messages of the generated `message_passing` and the generated breadth-first order -/
def genMpe (cpt : List (List (List α))) (tree : List Int) (r : Nat) (lse mx : List α → α) (x : List (Option Nat)) :
    List (Option Nat) :=
  @Gen.S4cltMpe α ⟨(· * ·)⟩ _ _ (params cpt) (r : Int) (genBfsI tree r) tree (genMp cpt tree r lse mx) x

/-- the generated `mpe` is the model's decoding pass `Clt.decode`, entry by entry -/
theorem genMpe_is_decode (h : GraphIo.WF tree r) (scope : List Nat) (cpt : List (List (List α)))
    (hc : ∀ i l k, 0 ≤ cptAt cpt i l k) (hlen : scope.length = tree.length) (hnd : scope.Nodup) (e : Ev) (lse : List α → α)
    (hbin : ∀ j, j < tree.length → ∀ o, e (scope.getD j 0) = some o → o < 2) :
    (genMpe cpt tree r lse Struct4.maxL (rowList scope tree.length e)).length = tree.length ∧
    ∀ j, j < tree.length →
      (genMpe cpt tree r lse Struct4.maxL (rowList scope tree.length e)).getD j none =
        decode scope cpt (build tree tree.length r) 0 e (scope.getD j 0) := by
  obtain ⟨L, hL, hmem, ok⟩ := loopOK_genBfs h scope cpt e _ (genMp_msgsOK h scope cpt hc e lse hbin)
  -- variable ids are injective on the indices that receive a decision
  have hinj : ∀ i j o o', Struct4.Dec scope cpt e (build tree tree.length r) 0 i o →
      Struct4.Dec scope cpt e (build tree tree.length r) 0 j o' → scope.getD i 0 = scope.getD j 0 → i = j := by
    intro i j o o' hi hj heq
    have hil : i < scope.length := hlen ▸ (mem_vars_build_iff h).1 ((dec_iff_vars scope cpt e _ 0 i).1 ⟨o, hi⟩)
    have hjl : j < scope.length := hlen ▸ (mem_vars_build_iff h).1 ((dec_iff_vars scope cpt e _ 0 j).1 ⟨o', hj⟩)
    rw [← idxOf_getD hnd hil 0, heq, idxOf_getD hnd hjl 0]
  have inv := Struct4.mpe_loop_is_dec scope cpt e _ tree (genMp cpt tree r lse Struct4.maxL) _ L ok
  have hdec := Struct4.mpe_loop_is_decode scope cpt e _ tree (genMp cpt tree r lse Struct4.maxL) _ L ok hinj
  -- the generated function is the extracted loop over `root :: L`
  rw [build_idx] at inv hdec
  rw [genMpe, genBfsI, hL]
  refine ⟨inv.len.trans (rowList_length _ _ _), fun j hj => ?_⟩
  obtain ⟨o, ho⟩ := (dec_iff_vars scope cpt e _ 0 j).2 ((mem_vars_build_iff h).2 hj)
  exact hdec j o (List.mem_cons.1 ((hmem j).2 hj)) ho

end maxprod

section misc
variable {α : Type} [CommSemiring α]
variable {tree : List Int} {r : Nat}

theorem value_congr (h : GraphIo.WF tree r) (scope : List Nat) (hlen : scope.length = tree.length)
    (cpt : List (List (List α))) (a b : Ev) (hab : ∀ v ∈ scope, a v = b v) :
    value scope tree cpt a = value scope tree cpt b := by
  rw [value_eq_up scope tree cpt h.rootOf, value_eq_up scope tree cpt h.rootOf]
  exact up_congr scope cpt _ 0 a b (fun v hv => hab v ((lab_perm_scope h scope hlen).mem_iff.1 hv))

theorem toPc_build (h : GraphIo.WF tree r) (scope : List Nat) (cpt : List (List (List α))) :
    toPc scope tree cpt = pc scope cpt (build tree tree.length r) 1 := by
  simp only [toPc, h.rootOf]

/-- `self.message_passing` as `BinaryCLT.log_likelihood` calls it (a value per row): the generated upward loop and root
step; `none` (an entry of `np.empty` never written) is read as `0` — the theorems show it does not occur -/
def genMessagePassing {α : Type} [Zero α] [One α] [Add α] [Mul α] (cpt : List (List (List α))) (tree : List Int) (r : Nat)
    (lse mx : List α → α) : List (Option Nat) → List Bool → Bool → String → α :=
  fun x obs _ reduce => (genValue cpt tree r lse mx x obs reduce).getD 0

/-- `BinaryCLT.log_likelihood` of the object built from `tree` on one row, as generated (linear-domain reading) -/
def genLogLikelihood {α : Type} [Zero α] [One α] [Add α] [Mul α] (cpt : List (List (List α))) (tree : List Int) (r : Nat)
    (lse mx : List α → α) (batchAny : Bool) (nRows : Nat) (x : List (Option Nat)) : Option α :=
  @Gen.S4cltLogLikelihood α ⟨1⟩ ⟨(· * ·)⟩ (params cpt) tree (genMessagePassing cpt tree r lse mx) batchAny nRows x

theorem rowList_complete (scope : List Nat) (n : Nat) (e : Ev)
    (hno : (rowList scope n e).any Option.isNone = false) :
    (∀ j, j < n → e (scope.getD j 0) = some ((e (scope.getD j 0)).getD 0)) ∧
    rowList scope n e = Struct4.rowOf scope n (fun v => (e v).getD 0) := by
  have hsome : ∀ j, j < n → e (scope.getD j 0) = some ((e (scope.getD j 0)).getD 0) := by
    intro j hj
    cases he : e (scope.getD j 0) with
    | some o => rfl
    | none =>
      have : (rowList scope n e).any Option.isNone = true :=
        List.any_eq_true.2 ⟨_, List.mem_map.2 ⟨j, List.mem_range.2 hj, rfl⟩, by rw [he]; rfl⟩
      rw [hno] at this; cases this
  exact ⟨hsome, List.map_congr_left (fun j hj => hsome j (List.mem_range.1 hj))⟩

theorem _root_.Deeprob.GraphIo.WF.pred_range (h : GraphIo.WF tree r) :
    ∀ i < tree.length, -1 ≤ tree.getD i (-1) ∧ tree.getD i (-1) < (tree.length : Int) := by
  intro i hi
  by_cases hir : i = r
  · rw [hir, h.root_entry]
    exact ⟨Int.le_refl _, Int.lt_of_lt_of_le (by decide) (Int.natCast_nonneg _)⟩
  · obtain ⟨p, _, _, hpl, hpe⟩ := h.parent_ne hi hir
    rw [hpe]
    exact ⟨Int.le_trans (by decide) (Int.natCast_nonneg p), Int.ofNat_lt.2 hpl⟩

/-- the vectorised path on a complete row: the extracted formula `np.sum(params[vs, x[:, tree], x[:, vs]])` is `Clt.joint`
of the assignment the row holds, and (equal root rows, binary data) the tree's value of the row's evidence -/
theorem eviSum_complete (h : GraphIo.WF tree r) (scope : List Nat) (hlen : scope.length = tree.length)
    (cpt : List (List (List α))) (hroot : ∀ r, rootOf tree = some r → ∀ k, cptAt cpt r 0 k = cptAt cpt r 1 k) (e : Ev)
    (hbin : ∀ j, j < tree.length → ∀ o, e (scope.getD j 0) = some o → o < 2)
    (hno : (rowList scope tree.length e).any Option.isNone = false) :
    @Struct4.eviSum α ⟨1⟩ ⟨(· * ·)⟩ (params cpt) tree (rowList scope tree.length e) =
      Clt.joint scope tree cpt (fun v => (e v).getD 0) ∧
    Clt.joint scope tree cpt (fun v => (e v).getD 0) = Clt.value scope tree cpt e := by
  obtain ⟨hsome, hrow⟩ := rowList_complete scope tree.length e hno
  refine ⟨?_, ?_⟩
  · rw [hrow]
    exact (Struct4.joint_as_coded scope tree cpt (fun v => (e v).getD 0) h.pred_range).symm
  · rw [joint_eq_up scope tree cpt _ h.isTree hroot (fun i hi => hbin i hi _ (hsome i hi))]
    apply value_congr h scope hlen
    intro v hv
    have := hsome _ (hlen ▸ List.idxOf_lt_length_iff.2 hv)
    rw [getD_idxOf hv 0] at this
    exact this.symm

/-- what `to_pc` returns, read off the generated constants of its body alone: the hand-written unfolding `Clt.pc` of the
post-order stack, applied to the table row(s) of the buffer the extracted `return` statement reads
(`Gen.toPcReturnBuffer`, `Gen.toPcBufferRows`).  The extracted loop of `to_pc` itself is `genToPcLoop`
(`Model/ToPcLoop.lean`); `Props/E2EToPc.lean` proves that it returns `Clt.toPc`. -/
def genToPc {α : Type} [Zero α] [One α] [Add α] [Mul α] (scope : List Nat) (tree : List Int) (cpt : List (List (List α)))
    (r : Nat) : List (Circ α) :=
  ((Gen.toPcBufferRows.filter (fun b => b.1 == Gen.toPcReturnBuffer)).map (fun b => b.2.2.2.toNat)).map
    (fun row => pc scope cpt (build tree tree.length r) row)

end misc

end Deeprob.E2EClt
