import DeeprobModel.Model.TopDown
import Mathlib.Order.Defs.LinearOrder
import Mathlib.Order.Basic
/-
`argmax` = first index of the maximum (`np.argmax`).
-/
namespace Deeprob
variable {α : Type} [LinearOrder α]

/-- invariant of the scan: `pre` = elements already seen -/
theorem argmaxAux_spec (xs : List α) : ∀ (pre : List α) (i bi : Nat) (bv : α),
    pre.length = i → pre[bi]? = some bv → (∀ x ∈ pre, x ≤ bv) →
    (∀ j, j < bi → ∀ x, pre[j]? = some x → x < bv) →
    ∃ m, (pre ++ xs)[argmaxAux xs i bi bv]? = some m ∧ (∀ x ∈ pre ++ xs, x ≤ m) ∧
      (∀ j, j < argmaxAux xs i bi bv → ∀ x, (pre ++ xs)[j]? = some x → x < m) := by
  induction xs with
  | nil =>
    intro pre i bi bv _ hb hle hfirst
    exact ⟨bv, by simpa [argmaxAux] using hb, by simpa using hle, by simpa [argmaxAux] using hfirst⟩
  | cons x xs ih =>
    intro pre i bi bv hlen hb hle hfirst
    have hbi : bi < pre.length := (List.getElem?_eq_some_iff.1 hb).1
    have happ : pre ++ x :: xs = (pre ++ [x]) ++ xs := by simp
    rw [happ]
    unfold argmaxAux
    split
    · rename_i hlt
      apply ih (pre ++ [x]) (i+1) i x
      · simp [hlen]
      · rw [← hlen]; simp
      · intro y hy
        rcases List.mem_append.1 hy with h | h
        · exact le_of_lt (lt_of_le_of_lt (hle y h) hlt)
        · simp at h; rw [h]
      · intro j hj y hy
        rw [List.getElem?_append_left (by omega)] at hy
        exact lt_of_le_of_lt (hle y (List.mem_of_getElem? hy)) hlt
    · rename_i hnlt
      apply ih (pre ++ [x]) (i+1) bi bv
      · simp [hlen]
      · rw [List.getElem?_append_left hbi]; exact hb
      · intro y hy
        rcases List.mem_append.1 hy with h | h
        · exact hle y h
        · simp at h; rw [h]; exact not_lt.1 hnlt
      · intro j hj y hy
        rw [List.getElem?_append_left (by omega)] at hy
        exact hfirst j hj y hy

theorem argmax_spec (l : List α) (h : l ≠ []) :
    ∃ m, l[argmax l]? = some m ∧ (∀ x ∈ l, x ≤ m) ∧ (∀ j, j < argmax l → ∀ x, l[j]? = some x → x < m) := by
  cases l with
  | nil => exact absurd rfl h
  | cons x xs =>
    exact argmaxAux_spec xs [x] 1 0 x rfl rfl (fun y hy => (List.mem_singleton.1 hy).le) (fun j hj => by omega)

theorem argmax_lt_length (l : List α) (h : l ≠ []) : argmax l < l.length := by
  obtain ⟨m, hm, _⟩ := argmax_spec l h
  exact (List.getElem?_eq_some_iff.1 hm).1

end Deeprob
