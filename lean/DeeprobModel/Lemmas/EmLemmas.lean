import DeeprobModel.Spec.Em
import DeeprobModel.Lemmas.CircLemmas
set_option linter.unusedSimpArgs false
set_option linter.unusedVariables false
set_option linter.unusedSectionVars false
/-
Helper lemmas for C14: one EM iteration preserves the invariant (from the per-entry obligations), list surgery for
the backward-pass statement.
-/
namespace Deeprob.C14
open Deeprob Deeprob.Oblig.C14

section inv
variable {F : Type} [Field F] [LinearOrder F] [IsStrictOrderedRing F]

theorem forall_zipWith₂ {β γ δ : Type} (R : β → γ → Prop) (f : β → γ → δ) (P : δ → Prop) (as : List β) (bs : List γ)
    (hR : List.Forall₂ R as bs) (h : ∀ a b, a ∈ as → R a b → P (f a b)) : ∀ x ∈ List.zipWith f as bs, P x := by
  induction hR with
  | nil => simp
  | cons hab _ ih =>
    intro x hx
    simp only [List.zipWith_cons_cons, List.mem_cons] at hx
    rcases hx with rfl | hx
    · exact h _ _ List.mem_cons_self hab
    · exact ih (fun a b ha hr => h a b (List.mem_cons_of_mem _ ha) hr) x hx

theorem zipWith_map_eq {β γ δ ε : Type} (R : β → γ → Prop) (f : β → γ → δ) (g : δ → ε) (g' : β → ε)
    (as : List β) (bs : List γ) (hR : List.Forall₂ R as bs) (h : ∀ a b, a ∈ as → R a b → g (f a b) = g' a) :
    (List.zipWith f as bs).map g = as.map g' := by
  induction hR with
  | nil => simp
  | cons hab _ ih =>
    simp only [List.zipWith_cons_cons, List.map_cons]
    rw [h _ _ List.mem_cons_self hab, ih (fun a b ha hr => h a b (List.mem_cons_of_mem _ ha) hr)]

theorem rowOK_pos (row : List F) (h : RowOK row) : ∀ j < 2, 0 < row.getD j 0 := by
  obtain ⟨_, h0, h1, _⟩ := (rowOK_iff row).1 h
  intro j hj
  match j, hj with
  | 0, _ => exact h0
  | 1, _ => exact h1

theorem ne_nil_of_length_eq {β γ : Type} {l : List β} {l' : List γ} (h : l.length = l'.length) (hne : l' ≠ []) :
    l ≠ [] :=
  List.ne_nil_of_length_pos (h ▸ List.length_pos_iff.2 hne)

theorem em_step_inv (sqrt : F → F) (eta : F) (h0 : 0 ≤ eta) (h1 : eta ≤ 1) (cltPreds : List (List Int))
    (p : EmParams F) (b : EmBatch F) (hp : EmInv p) (hb : BatchOK cltPreds p b) :
    EmInv (emStep genEmFns sqrt eta cltPreds p b) ∧ EmShape (emStep genEmFns sqrt eta cltPreds p b) = EmShape p := by
  constructor
  · refine ⟨?_, ?_, ?_, ?_, ?_⟩ <;> simp only [emStep]
    · refine forall_zipWith₂ _ _ (fun x => Simplex x) _ _ hb.sums ?_
      intro ws ss hws ⟨hlen, hss⟩
      obtain ⟨hne, hw, hsum⟩ := hp.sums ws hws
      obtain ⟨l, nn, _, s1⟩ := sum_em_simplex eta ws ss hlen hne hw hsum hss h0 h1
      exact ⟨ne_nil_of_length_eq l hne, nn, s1⟩
    · refine forall_zipWith₂ _ _ (fun q => 0 ≤ q ∧ q ≤ 1) _ _ hb.bern ?_
      intro q sd hq ⟨hs, hd⟩
      obtain ⟨a, c, _⟩ := bernoulli_em_range eta q sd.1 sd.2 hs hd (hp.berns q hq).1 (hp.berns q hq).2 h0 h1
      exact ⟨a, c⟩
    · refine forall_zipWith₂ _ _ (fun x => Simplex x) _ _ hb.cat ?_
      intro ps sd hps ⟨hlen, hs, hd⟩
      obtain ⟨hne, hw, hsum⟩ := hp.cats ps hps
      obtain ⟨l, nn, _, s1⟩ := categorical_em_simplex eta ps sd.1 sd.2 hne hlen hs hd hw hsum h0 h1
      exact ⟨ne_nil_of_length_eq l hne, nn, s1⟩
    · refine forall_zipWith₂ _ _ (fun ms : F × F => 1 / 100000 ≤ ms.2) _ _ hb.gauss ?_
      intro ms sd hms _
      exact emMix_ge h0 h1 (hp.gauss ms hms) (le_max_right _ _)
    · refine forall_zipWith₂ _ _ (fun tbl : List (List (List F)) => ∀ blk ∈ tbl, blk.length = 2 ∧ ∀ row ∈ blk, RowOK row) _ _ hb.clt ?_
      intro po sd hpo ⟨hlen, hs, hbin⟩
      have hold : ∀ i < po.1.length, ∀ b < 2, ∀ j < 2, 0 < ((po.2.getD i []).getD b []).getD j 0 := by
        intro i hi bb hbb j hj
        obtain ⟨hl2, hrows⟩ := hp.clts po.2 (List.of_mem_zip hpo).2 _ (getD_mem (hlen ▸ hi) [])
        exact rowOK_pos _ (hrows _ (getD_mem (hl2 ▸ hbb) [])) j hj
      exact (clt_em_table_ok eta po.1 po.2 sd.1 sd.2 h0 h1 hs hbin hold).2
  · unfold EmShape emStep
    simp only [Prod.mk.injEq]
    refine ⟨?_, ?_, ?_, ?_, ?_⟩
    · apply zipWith_map_eq _ _ _ _ _ _ hb.sums
      intro ws ss _ ⟨hlen, _⟩
      rw [sumStepWith, List.length_zipWith, ← hlen, Nat.min_self]
    · rw [List.length_zipWith, hb.bern.length_eq, Nat.min_self]
    · apply zipWith_map_eq _ _ _ _ _ _ hb.cat
      intro ps sd _ _
      rw [catStepWith, catStats, List.length_zipWith, List.length_map, List.length_range, Nat.min_self]
    · rw [List.length_zipWith, hb.gauss.length_eq, Nat.min_self]
    · rw [zipWith_map_eq _ (fun (po : List Int × List (List (List F))) (sd : List F × List (List F)) =>
        cltStepWith genEmFns.clt eta po.1 po.2 sd.1 sd.2) List.length (fun po => po.2.length) _ _ hb.clt
        (by intro po sd _ ⟨hlen, _⟩; rw [cltStepWith, List.length_map, List.length_range, hlen])]
      have : (cltPreds.zip p.clts).map Prod.snd = p.clts := List.map_snd_zip (by rw [hb.cltLen])
      rw [← congrArg (List.map List.length) this, List.map_map]
      rfl

end inv

section backward
variable {α : Type} [CommSemiring α]

theorem wsum_modify₂ {β : Type} (G : β → α) (F F0 : β → β) (d : α) :
    ∀ (cs : List β) (ws : List α) (j : Nat) (c : β), cs[j]? = some c → G (F c) = G (F0 c) + d →
      wsum ws ((cs.modify j F).map G) = wsum ws ((cs.modify j F0).map G) + ws.getD j 0 * d := by
  intro cs
  induction cs with
  | nil => intro ws j c hc; simp at hc
  | cons c0 cs ih =>
    intro ws j c hc h
    cases ws with
    | nil => simp [wsum]
    | cons w ws =>
      cases j with
      | zero =>
        simp only [List.getElem?_cons_zero, Option.some.injEq] at hc; subst hc
        simp only [List.modify_cons, if_true, List.map_cons, wsum, h, List.getD_cons_zero]; ring
      | succ j =>
        simp only [List.getElem?_cons_succ] at hc
        simp only [List.modify_cons, Nat.add_one_ne_zero, if_false, Nat.add_sub_cancel, List.map_cons, wsum,
          List.getD_cons_succ]
        rw [ih ws j c hc h]; ring

theorem lprod_modify₂ {β : Type} (G : β → α) (F F0 : β → β) (d : α) (cs : List β) (j : Nat) (c : β)
    (hc : cs[j]? = some c) (h : G (F c) = G (F0 c) + d) :
    lprod ((cs.modify j F).map G) = lprod ((cs.modify j F0).map G) + lprod ((cs.eraseIdx j).map G) * d := by
  have hm : ∀ H : β → β, lprod ((cs.modify j H).map G) = G (H c) * lprod ((cs.eraseIdx j).map G) := fun H => by
    have hset : cs.modify j H = cs.set j (H c) := by rw [List.modify_eq_set_getElem?, hc]; rfl
    have hj : (cs.set j (H c))[j]? = some (H c) := by rw [List.getElem?_set_self (List.getElem?_eq_some_iff.1 hc).1]
    rw [hset, lprod_map_eraseIdx G hj, List.eraseIdx_set_eq]
  rw [hm, hm, h]
  ring

theorem map_modify_same {β γ : Type} (G : β → γ) (F : β → β) (cs : List β) (j : Nat) (c : β)
    (hc : cs[j]? = some c) (h : G (F c) = G c) : (cs.modify j F).map G = cs.map G := by
  refine List.ext_getElem? fun k => ?_
  rw [List.getElem?_map, List.getElem?_map, List.getElem?_modify]
  by_cases hjk : j = k
  · subst hjk
    simp only [hc, Option.map_eq_map, Option.map_some, if_true, h]
  · simp only [if_neg hjk, id_map']

end backward

end Deeprob.C14
