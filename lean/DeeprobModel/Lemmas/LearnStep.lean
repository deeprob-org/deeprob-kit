import DeeprobModel.Model.Learn
import DeeprobModel.Model.LearnTerm
import Mathlib.Tactic.Common
/-
The LearnSPN machine seen from outside: `Step` lists the ways one iteration of `step` can succeed, `Steps`
the successful iterations a run is made of. `step`, `run` and `LearnTerm.runCount` (Model/LearnTerm.lean: `run`
that also counts its iterations, hence the change of namespace below) succeed exactly when such a `Step` /
`Steps` exists, so facts about the machine can be case analyses on `Step` and inductions on `Steps`.
-/
namespace Deeprob.Learn
open List

theorem selectOp_rem (cfg : Cfg) (t : Task) (zv : List Bool) (h : selectOp cfg t zv = .remFeatures) :
    true ∈ zv ∧ false ∈ zv := by
  unfold selectOp at h
  by_cases hall : zv.all id = true
  · rw [if_pos hall] at h; cases h
  by_cases hany : zv.any id = true
  · exact ⟨by simpa using hany, by simpa using hall⟩
  · rw [if_neg hall, if_neg hany] at h
    split at h
    · cases h
    · split at h <;> cases h

theorem inRange_iff (pos : List Nat) (n : Nat) :
    (pos.any fun i => decide (n ≤ i)) = false ↔ ∀ i ∈ pos, i < n := by
  simp

/-- what every successful iteration on task `t` starts with: in-range zero-variance positions `pos` at the
head of the script (rest `sc`), for which the cascade selects `op` -/
structure Reads (cfg : Cfg) (s : St) (t : Task) (pos : List Nat) (op : Op) (sc : List Ans) : Prop where
  script : s.script = .zeroVar pos :: sc
  inRange : ∀ i ∈ pos, i < t.scope.length
  op_eq : selectOp cfg t (zvMask pos t.scope.length) = op

/-- The successful iterations from a deque `t :: q`, one constructor per path through `step`; a split reads
one more answer, with one label per row / column, and re-queues the task if there is a single slice. -/
inductive Step (cfg : Cfg) (s : St) (t : Task) (q : List Task) : St → Prop
  | naive {pos sc} (h : Reads cfg s t pos .splitNaive sc) :
      Step cfg s t q (attach s t q sc { kind := .naive, scope := t.scope, rows := t.rows } none [])
  | rem {pos sc} (h : Reads cfg s t pos .remFeatures sc) :
      Step cfg s t q (attach s t q sc
        { kind := .prod, scope := t.scope, rows := t.rows, children := [s.size + 1],
          parts := [selectBy (zvMask pos t.scope.length) t.scope true,
                    selectBy (zvMask pos t.scope.length) t.scope false] }
        (some { kind := .naive, scope := selectBy (zvMask pos t.scope.length) t.scope true, rows := t.rows })
        [{ parent := s.size, rows := t.rows, scope := selectBy (zvMask pos t.scope.length) t.scope false,
           isFirst := t.isFirst && q.isEmpty }])
  | leaf {pos sc} (h : Reads cfg s t pos .createLeaf sc) :
      Step cfg s t q (attach s t q sc { kind := .leaf, scope := t.scope, rows := t.rows } none [])
  | rowsRetry {pos labels sc} (h : Reads cfg s t pos .splitRows (.rows labels :: sc))
      (hlen : labels.length = t.rows.length) (h1 : (slicesOf labels t.rows).length = 1) :
      Step cfg s t q { s with
        queue := requeue cfg.front q { parent := t.parent, rows := t.rows, scope := t.scope,
                                       noColsSplit := false, noRowsSplit := true },
        script := sc }
  | rowsSplit {pos labels sc} (h : Reads cfg s t pos .splitRows (.rows labels :: sc))
      (hlen : labels.length = t.rows.length) (hk : (slicesOf labels t.rows).length ≠ 1) :
      Step cfg s t q (attach s t q sc
        { kind := .sum, scope := t.scope, rows := t.rows,
          weights := weightsOf (slicesOf labels t.rows) t.rows.length, parts := slicesOf labels t.rows } none
        ((slicesOf labels t.rows).map (fun r => { parent := s.size, rows := r, scope := t.scope })))
  | colsRetry {pos labels sc} (h : Reads cfg s t pos .splitCols (.cols labels :: sc))
      (hlen : labels.length = t.scope.length) (h1 : (slicesOf labels t.scope).length = 1) :
      Step cfg s t q { s with
        queue := requeue cfg.front q { parent := t.parent, rows := t.rows, scope := t.scope,
                                       noColsSplit := true, noRowsSplit := false },
        script := sc }
  | colsSplit {pos labels sc} (h : Reads cfg s t pos .splitCols (.cols labels :: sc))
      (hlen : labels.length = t.scope.length) (hk : (slicesOf labels t.scope).length ≠ 1) :
      Step cfg s t q (attach s t q sc
        { kind := .prod, scope := t.scope, rows := t.rows, parts := slicesOf labels t.scope } none
        ((slicesOf labels t.scope).map (fun c => { parent := s.size, rows := t.rows, scope := c })))

variable {cfg : Cfg} {s s' : St} {t : Task} {q : List Task} {n k : Nat}

theorem step_nil (cfg : Cfg) (s : St) (hq : s.queue = []) : step cfg s = .ok s := by
  unfold step; rw [hq]

theorem step_ok_iff (hq : s.queue = t :: q) :
    step cfg s = .ok s' ↔ Step cfg s t q s' := by
  constructor
  · intro h
    unfold step at h
    rw [hq] at h
    cases hsc : s.script with
    | nil => rw [hsc] at h; cases h
    | cons a sc =>
      rw [hsc] at h
      cases a with
      | rows l => cases h
      | cols l => cases h
      | zeroVar pos =>
        simp only at h
        by_cases hany : (pos.any fun i => decide (t.scope.length ≤ i)) = true
        · rw [if_pos hany] at h; cases h
        rw [if_neg hany] at h
        have hpos := (inRange_iff pos t.scope.length).1 (Bool.eq_false_iff.2 hany)
        cases hop : selectOp cfg t (zvMask pos t.scope.length) with
        | splitNaive => rw [hop] at h; cases h; exact .naive ⟨hsc, hpos, hop⟩
        | remFeatures => rw [hop] at h; cases h; exact .rem ⟨hsc, hpos, hop⟩
        | createLeaf => rw [hop] at h; cases h; exact .leaf ⟨hsc, hpos, hop⟩
        | splitRows =>
          rw [hop] at h
          cases sc with
          | nil => cases h
          | cons b sc' =>
            cases b with
            | zeroVar p => cases h
            | cols l => cases h
            | rows labels =>
              simp only at h
              by_cases hlen : labels.length = t.rows.length
              · rw [if_neg (not_not_intro hlen)] at h
                by_cases h1 : (slicesOf labels t.rows).length = 1
                · rw [if_pos h1] at h; cases h; exact .rowsRetry ⟨hsc, hpos, hop⟩ hlen h1
                · rw [if_neg h1] at h; cases h; exact .rowsSplit ⟨hsc, hpos, hop⟩ hlen h1
              · rw [if_pos hlen] at h; cases h
        | splitCols =>
          rw [hop] at h
          cases sc with
          | nil => cases h
          | cons b sc' =>
            cases b with
            | zeroVar p => cases h
            | rows l => cases h
            | cols labels =>
              simp only at h
              by_cases hlen : labels.length = t.scope.length
              · rw [if_neg (not_not_intro hlen)] at h
                by_cases h1 : (slicesOf labels t.scope).length = 1
                · rw [if_pos h1] at h; cases h; exact .colsRetry ⟨hsc, hpos, hop⟩ hlen h1
                · rw [if_neg h1] at h; cases h; exact .colsSplit ⟨hsc, hpos, hop⟩ hlen h1
              · rw [if_pos hlen] at h; cases h
  · intro h
    unfold step
    rw [hq]
    cases h with
    | naive h | rem h | leaf h => simp [h.script, (inRange_iff _ _).2 h.inRange, h.op_eq]
    | rowsRetry h hlen hk | rowsSplit h hlen hk | colsRetry h hlen hk | colsSplit h hlen hk =>
      simp [h.script, (inRange_iff _ _).2 h.inRange, h.op_eq, hlen, hk]

/-- `k` iterations of `while tasks:` lead from `s` to `s'` -/
inductive Steps (cfg : Cfg) : Nat → St → St → Prop
  | refl (s : St) : Steps cfg 0 s s
  | cons {k : Nat} {s s1 s' : St} {t : Task} {q : List Task} (hq : s.queue = t :: q)
      (h : Step cfg s t q s1) (hs : Steps cfg k s1 s') : Steps cfg (k + 1) s s'

end Deeprob.Learn

namespace Deeprob.LearnTerm
open Deeprob.Learn

variable {cfg : Cfg} {s s' : St} {n k : Nat}

theorem runCount_queue_nil (cfg : Cfg) (n : Nat) (s : St) (hq : s.queue = []) :
    runCount cfg n s = .ok (s, 0) := by
  cases n with
  | zero => rfl
  | succ n => unfold runCount; rw [hq]

theorem steps_of_runCount (cfg : Cfg) (n : Nat) (s s' : St) (k : Nat) (h : runCount cfg n s = .ok (s', k)) :
    Steps cfg k s s' ∧ k ≤ n ∧ (s'.queue = [] ∨ k = n) := by
  induction n generalizing s k with
  | zero =>
    cases h
    exact ⟨.refl _, Nat.le_refl _, .inr rfl⟩
  | succ n ih =>
    unfold runCount at h
    split at h
    · rename_i hq
      cases h
      exact ⟨.refl _, Nat.zero_le _, .inl hq⟩
    · rename_i t q hq
      split at h
      · rename_i s1 hs1
        split at h
        · rename_i k1 h1
          cases h
          obtain ⟨hS, hk, hstop⟩ := ih s1 k1 h1
          exact ⟨.cons hq ((step_ok_iff hq).1 hs1) hS, Nat.succ_le_succ hk, hstop.imp_right (congrArg (· + 1))⟩
        · cases h
      · cases h

theorem runCount_of_steps (hS : Steps cfg k s s') :
    ∀ n, k ≤ n → (s'.queue = [] ∨ k = n) → runCount cfg n s = .ok (s', k) := by
  induction hS with
  | refl s =>
    intro n _ hstop
    cases n with
    | zero => rfl
    | succ n => exact runCount_queue_nil cfg _ s (hstop.resolve_right (Nat.succ_ne_zero n).symm)
  | cons hq h _ ih =>
    intro n hk hstop
    obtain ⟨m, rfl⟩ := Nat.exists_eq_succ_of_ne_zero (Nat.ne_of_gt (Nat.lt_of_lt_of_le (Nat.succ_pos _) hk))
    unfold runCount
    rw [hq]
    simp only [(step_ok_iff hq).2 h, ih m (Nat.le_of_succ_le_succ hk) (hstop.imp_right Nat.succ.inj)]

theorem runCount_ok_iff :
    runCount cfg n s = .ok (s', k) ↔ Steps cfg k s s' ∧ k ≤ n ∧ (s'.queue = [] ∨ k = n) :=
  ⟨steps_of_runCount cfg n s s' k, fun ⟨hS, hk, hstop⟩ => runCount_of_steps hS n hk hstop⟩

end Deeprob.LearnTerm

namespace Deeprob.Learn
open Deeprob.LearnTerm

variable {cfg : Cfg} {s s' : St} {n k : Nat}

theorem run_eq_runCount (cfg : Cfg) (n : Nat) (s : St) : run cfg n s = (runCount cfg n s).map Prod.fst := by
  induction n generalizing s with
  | zero => rfl
  | succ n ih =>
    unfold run runCount
    cases s.queue with
    | nil => rfl
    | cons t q =>
      cases step cfg s with
      | error e => rfl
      | ok s1 =>
        simp only [ih s1]
        cases runCount cfg n s1 <;> rfl

theorem run_ok_iff :
    run cfg n s = .ok s' ↔ ∃ k, Steps cfg k s s' ∧ k ≤ n ∧ (s'.queue = [] ∨ k = n) := by
  rw [run_eq_runCount]
  constructor
  · intro h
    cases hr : runCount cfg n s with
    | error e => rw [hr] at h; cases h
    | ok p =>
      rw [hr] at h
      cases h
      exact ⟨p.2, runCount_ok_iff.1 hr⟩
  · rintro ⟨k, h⟩
    rw [runCount_ok_iff.2 h]
    rfl

theorem Steps.run (hS : Steps cfg k s s') (hq : s'.queue = [])
    (hk : k ≤ n) : runCount cfg n s = .ok (s', k) ∧ run cfg n s = .ok s' :=
  ⟨runCount_ok_iff.2 ⟨hS, hk, .inl hq⟩, run_ok_iff.2 ⟨k, hS, hk, .inl hq⟩⟩

end Deeprob.Learn
