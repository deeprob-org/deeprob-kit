import DeeprobModel.Lemmas.RewriteLemmas
import DeeprobModel.Props.CircMarg
set_option linter.unusedSectionVars false
set_option linter.unusedSimpArgs false
/-
Lemmas about the tree-level `marginalize` (C10): the argument checks, and, by induction on the circuit, the
per-node statement `StepOK`: a node is dropped only when none of its variables is kept, otherwise its
replacement is an exact marginal.
-/
namespace Deeprob

theorem nodupNatB_iff (l : List Nat) : nodupNatB l = true ↔ l.Nodup := by
  induction l with
  | nil => exact ⟨fun _ => List.nodup_nil, fun _ => rfl⟩
  | cons x xs ih =>
    rw [nodupNatB, Bool.and_eq_true, ih, List.nodup_cons, Bool.not_eq_true', List.contains_eq_mem,
      decide_eq_false_iff_not]

/-- the four outcomes of the argument checks, in the order of the `raise`s -/
theorem margGuard_cases (keep scope : List Nat) :
    (keep = [] ∧ margGuard keep scope = some "empty") ∨
    (keep ≠ [] ∧ ¬ keep.Nodup ∧ margGuard keep scope = some "duplicates") ∨
    (keep ≠ [] ∧ keep.Nodup ∧ (¬ ∀ v ∈ keep, v ∈ scope) ∧ margGuard keep scope = some "subset") ∨
    (keep ≠ [] ∧ keep.Nodup ∧ (∀ v ∈ keep, v ∈ scope) ∧ margGuard keep scope = none) := by
  have hsub : keep.all (fun v => scope.contains v) = true ↔ ∀ v ∈ keep, v ∈ scope := by
    simp only [List.all_eq_true, List.contains_iff_mem]
  unfold margGuard
  by_cases h1 : keep = []
  · exact Or.inl ⟨h1, by rw [h1]; rfl⟩
  · rw [if_neg (by rwa [List.isEmpty_iff])]
    by_cases h2 : keep.Nodup
    · rw [if_neg (by rw [(nodupNatB_iff keep).2 h2]; exact Bool.false_ne_true)]
      by_cases h3 : ∀ v ∈ keep, v ∈ scope
      · exact Or.inr (Or.inr (Or.inr ⟨h1, h2, h3, by rw [if_neg (by rw [hsub.2 h3]; exact Bool.false_ne_true)]⟩))
      · refine Or.inr (Or.inr (Or.inl ⟨h1, h2, h3, ?_⟩))
        rw [if_pos (by rw [Bool.not_eq_true', ← Bool.not_eq_true, hsub]; exact h3)]
    · refine Or.inr (Or.inl ⟨h1, h2, ?_⟩)
      rw [if_pos (by rw [Bool.not_eq_true', ← Bool.not_eq_true, nodupNatB_iff]; exact h2)]

variable {α : Type} [CommSemiring α]

theorem wsum_filterMap {β γ : Type} (f : β → Option γ) (V : γ → α) (W : β → α) (ws : List α) (cs : List β)
    (h : ∀ c ∈ cs, ∃ c', f c = some c' ∧ V c' = W c) :
    wsum ws ((cs.filterMap f).map V) = wsum ws (cs.map W) := by
  induction cs generalizing ws with
  | nil => rfl
  | cons c cs ih =>
    obtain ⟨c', h1, h2⟩ := h c List.mem_cons_self
    rw [List.filterMap_cons_some h1]
    cases ws with
    | nil => rfl
    | cons w ws =>
      simp only [List.map_cons, wsum, h2, ih ws (fun d hd => h d (List.mem_cons_of_mem _ hd))]

theorem length_filterMap_some {β γ : Type} (f : β → Option γ) (cs : List β) (h : ∀ c ∈ cs, ∃ c', f c = some c') :
    (cs.filterMap f).length = cs.length := by
  induction cs with
  | nil => rfl
  | cons c cs ih =>
    obtain ⟨c', h1⟩ := h c List.mem_cons_self
    rw [List.filterMap_cons_some h1, List.length_cons, List.length_cons,
      ih (fun d hd => h d (List.mem_cons_of_mem _ hd))]

theorem lprod_filterMap {β γ : Type} (f : β → Option γ) (V : γ → α) (W : β → α) (cs : List β)
    (h : ∀ c ∈ cs, (f c = none → W c = 1) ∧ (∀ c', f c = some c' → V c' = W c)) :
    lprod ((cs.filterMap f).map V) = lprod (cs.map W) := by
  induction cs with
  | nil => rfl
  | cons c cs ih =>
    have ih' := ih (fun d hd => h d (List.mem_cons_of_mem _ hd))
    obtain ⟨h1, h2⟩ := h c List.mem_cons_self
    cases hf : f c with
    | none => rw [List.filterMap_cons_none hf, ih', List.map_cons, lprod, h1 hf, one_mul]
    | some c' => rw [List.filterMap_cons_some hf]; simp only [List.map_cons, lprod, ih', h2 c' hf]

namespace Circ

theorem nodup_filterMap_scopes (f : Circ α → Option (Circ α)) (cs : List (Circ α))
    (hnd : (cs.map scope).flatten.Nodup)
    (h : ∀ c ∈ cs, ∀ c', f c = some c' → (scope c').Nodup ∧ ∀ v ∈ scope c', v ∈ scope c) :
    ((cs.filterMap f).map scope).flatten.Nodup := by
  induction cs with
  | nil => simp
  | cons c cs ih =>
    simp only [List.map_cons, List.flatten_cons] at hnd
    rw [List.nodup_append] at hnd
    obtain ⟨_, h2, hd⟩ := hnd
    have ih' := ih h2 (fun d hd => h d (List.mem_cons_of_mem _ hd))
    cases hf : f c with
    | none => rw [List.filterMap_cons_none hf]; exact ih'
    | some c' =>
      rw [List.filterMap_cons_some hf]
      simp only [List.map_cons, List.flatten_cons]
      rw [List.nodup_append]
      obtain ⟨k1, k2⟩ := h c List.mem_cons_self c' hf
      refine ⟨k1, ih', ?_⟩
      intro a ha b hb hab
      apply hd a (k2 a ha) b _ hab
      simp only [List.mem_flatten, List.mem_map, List.mem_filterMap] at hb ⊢
      obtain ⟨l, ⟨d', ⟨d, hdm, hfd⟩, rfl⟩, hbl⟩ := hb
      exact ⟨scope d, ⟨d, hdm, rfl⟩, (h d (List.mem_cons_of_mem _ hdm) d' hfd).2 b hbl⟩

/-- the per-node statement proved by induction: `none` only when nothing is kept, otherwise an exact marginal -/
def StepOK (dom : Nat → Nat) (keep : List Nat) (margLeaf : List Nat → (Ev → α) → List Nat → Option (Circ α))
    (c : Circ α) : Prop :=
  (margStep margLeaf keep c = none → ∀ v ∈ scope c, v ∉ keep) ∧
  (∀ c', margStep margLeaf keep c = some c' → MargRes dom keep c c')

theorem eval_dropped (dom : Nat → Nat) (keep : List Nat) (c : Circ α) (hv : Valid dom c) (hn : NormW c)
    (hl : LeafNorm dom c) (hdis : ∀ v ∈ scope c, v ∉ keep) (e : Ev) (he : ∀ v, v ∉ keep → e v = none) :
    eval e c = 1 := by
  rw [eval_congr dom c hv e (fun _ => none) (fun v hvs => he v (hdis v hvs))]
  exact all_missing_one dom c hv hn hl

theorem stepOK_leaf (dom : Nat → Nat) (keep : List Nat) (margLeaf : List Nat → (Ev → α) → List Nat → Option (Circ α))
    (s : List Nat) (f : Ev → α) (hv : Valid dom (leaf s f)) (hl : LeafNorm dom (leaf s f))
    (hd : ScopesNodup (leaf s f)) (hm : MargLeafOK dom keep margLeaf (leaf s f)) :
    StepOK dom keep margLeaf (leaf s f) := by
  unfold MargLeafOK at hm
  have single : ∀ v, s = [v] → StepOK dom keep margLeaf (leaf s f) := by
    intro v hs; subst hs
    unfold StepOK
    simp only [margStep]
    by_cases hk : keep.contains v = true
    · simp only [hk, if_true]
      refine ⟨by simp, ?_⟩
      intro c' hc'
      simp only [Option.some.injEq] at hc'; subst hc'
      have hvk : v ∈ keep := by simpa using hk
      exact { valid := hv, normW := by unfold NormW; trivial, leafNorm := hl, nodup := hd,
              scope_iff := by
                intro w; simp only [scope, List.mem_singleton]
                exact ⟨fun h => ⟨h, h ▸ hvk⟩, fun h => h.1⟩
              hit := ⟨v, by simp [scope], hvk⟩, eval_eq := fun _ _ => rfl }
    · simp only [hk]
      refine ⟨?_, by simp⟩
      intro _ w hw
      simp only [scope, List.mem_singleton] at hw; subst hw
      simpa using hk
  match s, hm, single with
  | [], hm, _ =>
    have := hm (by simp)
    unfold StepOK; simp only [margStep]; exact this
  | [v], _, single => exact single v rfl
  | v :: w :: t, hm, _ =>
    have := hm (by simp)
    unfold StepOK; simp only [margStep]; exact this

theorem margSum_cases (ws : List α) (cs' : List (Circ α)) :
    (cs' = [] ∧ margSum ws cs' = none) ∨ (∃ d, cs' = [d] ∧ margSum ws cs' = some d) ∨
    (∃ d, d ∈ cs' ∧ 2 ≤ cs'.length ∧ margSum ws cs' = some (sum (scope d) ws cs')) := by
  match cs' with
  | [] => exact Or.inl ⟨rfl, rfl⟩
  | [d] => exact Or.inr (Or.inl ⟨d, rfl, rfl⟩)
  | d :: _ :: _ => exact Or.inr (Or.inr ⟨d, List.mem_cons_self, Nat.le_add_left _ _, rfl⟩)

theorem margProd_cases (cs' : List (Circ α)) :
    (cs' = [] ∧ margProd cs' = none) ∨ (∃ d, cs' = [d] ∧ margProd cs' = some d) ∨
    (2 ≤ cs'.length ∧ margProd cs' = some (prod (cs'.map scope).flatten cs')) := by
  match cs' with
  | [] => exact Or.inl ⟨rfl, rfl⟩
  | [d] => exact Or.inr (Or.inl ⟨d, rfl, rfl⟩)
  | _ :: _ :: _ => exact Or.inr (Or.inr ⟨Nat.le_add_left _ _, rfl⟩)

theorem stepOK_sum (dom : Nat → Nat) (keep : List Nat) (margLeaf : List Nat → (Ev → α) → List Nat → Option (Circ α))
    (s : List Nat) (ws : List α) (cs : List (Circ α)) (hv : Valid dom (sum s ws cs)) (hn : NormW (sum s ws cs))
    (ih : ∀ c ∈ cs, StepOK dom keep margLeaf c) :
    StepOK dom keep margLeaf (sum s ws cs) := by
  have hlen0 := lenOK_of_valid dom _ hv
  have hunit := unitSingle_of_normW _ hlen0 hn
  unfold Valid at hv; unfold NormW at hn; unfold UnitSingle at hunit
  obtain ⟨hne, hlen, hsc, hval⟩ := hv
  unfold StepOK
  simp only [margStep, scope]
  generalize hcs' : cs.filterMap (margStep margLeaf keep) = cs'
  have hmem : ∀ d, d ∈ cs' ↔ ∃ c ∈ cs, margStep margLeaf keep c = some d := by
    intro d; rw [← hcs']; exact List.mem_filterMap
  rcases margSum_cases ws cs' with ⟨hnil, e⟩ | ⟨d, h1, e⟩ | ⟨d, hd, h2, e⟩ <;> rw [e]
  · refine ⟨fun _ v hvs => ?_, fun _ h => (nomatch h)⟩
    rw [hnil, List.filterMap_eq_nil_iff] at hcs'
    obtain ⟨c0, hc0⟩ := List.exists_mem_of_ne_nil cs hne
    exact (ih c0 hc0).1 (hcs' c0 hc0) v ((hsc c0 hc0 v).2 hvs)
  all_goals
    refine ⟨fun h => (nomatch h), fun r hr => ?_⟩
    cases hr
    have hd : d ∈ cs' := by first | exact hd | exact h1 ▸ List.mem_singleton_self d
    -- a kept variable exists, so every child survives
    obtain ⟨c0, hc0, hf0⟩ := (hmem d).1 hd
    obtain ⟨v0, hv0s, hv0k⟩ := ((ih c0 hc0).2 d hf0).hit
    have hv0 : v0 ∈ s := (hsc c0 hc0 v0).1 hv0s
    have hall : ∀ c ∈ cs, ∃ c', margStep margLeaf keep c = some c' := fun c hc =>
      Option.ne_none_iff_exists'.1 fun hf => (ih c hc).1 hf v0 ((hsc c hc v0).2 hv0) hv0k
    have hlen' : cs'.length = cs.length := by rw [← hcs']; exact length_filterMap_some _ cs hall
    have hres : ∀ x ∈ cs', ∃ c ∈ cs, MargRes dom keep c x := fun x hx => by
      obtain ⟨c, hc, hf⟩ := (hmem x).1 hx; exact ⟨c, hc, (ih c hc).2 x hf⟩
    have hscope : ∀ x ∈ cs', ∀ v, v ∈ scope x ↔ v ∈ s ∧ v ∈ keep := fun x hx v => by
      obtain ⟨c, hc, R⟩ := hres x hx
      rw [R.scope_iff v, hsc c hc v]
    have heval : ∀ e : Ev, (∀ v, v ∉ keep → e v = none) →
        wsum ws (cs'.map (eval e)) = wsum ws (cs.map (eval e)) := fun e he => by
      rw [← hcs']
      refine wsum_filterMap _ _ _ ws cs fun c hc => ?_
      obtain ⟨c', hf⟩ := hall c hc
      exact ⟨c', hf, ((ih c hc).2 c' hf).eval_eq e he⟩
  · obtain ⟨c, hc, R⟩ := hres d hd
    have hws : ws = [1] := hunit.1 (by rw [← hlen', h1]; rfl)
    refine { valid := R.valid, normW := R.normW, leafNorm := R.leafNorm, nodup := R.nodup,
             scope_iff := hscope d hd, hit := ⟨v0, hv0, hv0k⟩, eval_eq := fun e he => ?_ }
    have := heval e he
    rw [hws, h1] at this
    rw [eval, hws, ← this]
    exact (add_zero _).symm.trans (congrArg (· + 0) (one_mul _).symm)
  · exact { valid := by
              unfold Valid
              exact ⟨fun h0 => by rw [h0] at h2; exact absurd h2 (Nat.not_succ_le_zero 1), hlen.trans hlen'.symm,
                fun x hx v => by rw [hscope x hx v, hscope d hd v],
                fun x hx => by obtain ⟨c, _, R⟩ := hres x hx; exact R.valid⟩
            normW := by
              unfold NormW
              exact ⟨hn.1, fun x hx => by obtain ⟨c, _, R⟩ := hres x hx; exact R.normW⟩
            leafNorm := by
              unfold LeafNorm
              exact fun x hx => by obtain ⟨c, _, R⟩ := hres x hx; exact R.leafNorm
            nodup := by
              unfold ScopesNodup
              obtain ⟨c, _, R⟩ := hres d hd
              exact ⟨scopesNodup_scope _ R.nodup, fun x hx => by obtain ⟨c, _, R⟩ := hres x hx; exact R.nodup⟩
            scope_iff := hscope d hd
            hit := ⟨v0, hv0, hv0k⟩
            eval_eq := fun e he => by rw [eval, eval]; exact heval e he }

theorem stepOK_prod (dom : Nat → Nat) (keep : List Nat) (margLeaf : List Nat → (Ev → α) → List Nat → Option (Circ α))
    (s : List Nat) (cs : List (Circ α)) (hv : Valid dom (prod s cs)) (hn : NormW (prod s cs))
    (hl : LeafNorm dom (prod s cs))
    (ih : ∀ c ∈ cs, StepOK dom keep margLeaf c) :
    StepOK dom keep margLeaf (prod s cs) := by
  unfold Valid at hv; unfold NormW at hn; unfold LeafNorm at hl
  obtain ⟨hnd, hsc, hval⟩ := hv
  unfold StepOK
  simp only [margStep, scope]
  generalize hcs' : cs.filterMap (margStep margLeaf keep) = cs'
  have hmem : ∀ d, d ∈ cs' ↔ ∃ c ∈ cs, margStep margLeaf keep c = some d := by
    intro d; rw [← hcs']; exact List.mem_filterMap
  have hins : ∀ v, v ∈ s ↔ ∃ c ∈ cs, v ∈ scope c := fun v =>
    (hsc v).symm.trans (mem_flatten_map_sc scope cs v)
  rcases margProd_cases cs' with ⟨hnil, e⟩ | hsome
  · rw [e]
    refine ⟨fun _ v hvs => ?_, fun _ h => (nomatch h)⟩
    rw [hnil, List.filterMap_eq_nil_iff] at hcs'
    obtain ⟨c, hc, hvc⟩ := (hins v).1 hvs
    exact (ih c hc).1 (hcs' c hc) v hvc
  · have hne' : cs' ≠ [] := by
      rcases hsome with ⟨d, h1, _⟩ | ⟨h2, _⟩
      · rw [h1]; exact List.cons_ne_nil _ _
      · exact fun h0 => by rw [h0] at h2; exact absurd h2 (Nat.not_succ_le_zero 1)
    have hres : ∀ d ∈ cs', ∃ c ∈ cs, MargRes dom keep c d := by
      intro d hd; obtain ⟨c, hc, hf⟩ := (hmem d).1 hd; exact ⟨c, hc, (ih c hc).2 d hf⟩
    obtain ⟨d0, hd0⟩ := List.exists_mem_of_ne_nil cs' hne'
    have hhit : ∃ v, v ∈ s ∧ v ∈ keep := by
      obtain ⟨c0, hc0, R0⟩ := hres d0 hd0
      obtain ⟨v0, hv0s, hv0k⟩ := R0.hit
      exact ⟨v0, (hins v0).2 ⟨c0, hc0, hv0s⟩, hv0k⟩
    have hF : ∀ v, v ∈ (cs'.map scope).flatten ↔ v ∈ s ∧ v ∈ keep := by
      intro v
      simp only [List.mem_flatten, List.mem_map]
      constructor
      · rintro ⟨l, ⟨d, hd, rfl⟩, hvl⟩
        obtain ⟨c, hc, R⟩ := hres d hd
        have := (R.scope_iff v).1 hvl
        exact ⟨(hins v).2 ⟨c, hc, this.1⟩, this.2⟩
      · rintro ⟨hvs, hvk⟩
        obtain ⟨c, hc, hvc⟩ := (hins v).1 hvs
        cases hf : margStep margLeaf keep c with
        | none => exact absurd hvk ((ih c hc).1 hf v hvc)
        | some d =>
          exact ⟨scope d, ⟨d, (hmem d).2 ⟨c, hc, hf⟩, rfl⟩, (((ih c hc).2 d hf).scope_iff v).2 ⟨hvc, hvk⟩⟩
    have hFnd : (cs'.map scope).flatten.Nodup := by
      rw [← hcs']
      apply nodup_filterMap_scopes _ cs hnd
      intro c hc c' hf
      have R := (ih c hc).2 c' hf
      exact ⟨scopesNodup_scope _ R.nodup, fun v hv => ((R.scope_iff v).1 hv).1⟩
    have heval : ∀ e : Ev, (∀ v, v ∉ keep → e v = none) →
        lprod (cs'.map (eval e)) = lprod (cs.map (eval e)) := by
      intro e he
      rw [← hcs']
      apply lprod_filterMap
      intro c hc
      refine ⟨fun hf => ?_, fun c' hf => ((ih c hc).2 c' hf).eval_eq e he⟩
      exact eval_dropped dom keep c (hval c hc) (hn c hc) (hl c hc) ((ih c hc).1 hf) e he
    rcases hsome with ⟨d, h1, e⟩ | ⟨_, e⟩ <;> rw [e] <;>
      refine ⟨fun h => (nomatch h), fun r hr => ?_⟩ <;> cases hr
    · obtain ⟨c, hc, R⟩ := hres d (h1 ▸ List.mem_singleton_self d)
      rw [h1] at hF heval
      exact { valid := R.valid, normW := R.normW, leafNorm := R.leafNorm, nodup := R.nodup,
              scope_iff := fun v => (by rw [← List.append_nil (scope d)]; rfl : v ∈ scope d ↔ _).trans (hF v)
              hit := hhit,
              eval_eq := fun e he => by rw [eval, ← heval e he]; exact (mul_one _).symm }
    · exact { valid := by
                unfold Valid
                exact ⟨hFnd, scopeEq.rfl', fun x hx => by obtain ⟨c, _, R⟩ := hres x hx; exact R.valid⟩
              normW := by
                unfold NormW
                exact fun x hx => by obtain ⟨c, _, R⟩ := hres x hx; exact R.normW
              leafNorm := by
                unfold LeafNorm
                exact fun x hx => by obtain ⟨c, _, R⟩ := hres x hx; exact R.leafNorm
              nodup := by
                unfold ScopesNodup
                exact ⟨hFnd, fun x hx => by obtain ⟨c, _, R⟩ := hres x hx; exact R.nodup⟩
              scope_iff := hF
              hit := hhit
              eval_eq := fun e he => by rw [eval, eval]; exact heval e he }

theorem margStep_ok (dom : Nat → Nat) (keep : List Nat) (margLeaf : List Nat → (Ev → α) → List Nat → Option (Circ α))
    (c : Circ α) : Valid dom c → NormW c → LeafNorm dom c → ScopesNodup c → MargLeafOK dom keep margLeaf c →
    StepOK dom keep margLeaf c := by
  induction c using ind with
  | hl s f => exact fun hv _ hl hd hm => stepOK_leaf dom keep margLeaf s f hv hl hd hm
  | hs s ws cs ih =>
    intro hv hn hl hd hm
    apply stepOK_sum dom keep margLeaf s ws cs hv hn
    unfold Valid at hv; unfold NormW at hn; unfold LeafNorm at hl; unfold ScopesNodup at hd
    unfold MargLeafOK at hm
    exact fun c hc => ih c hc (hv.2.2.2 c hc) (hn.2 c hc) (hl c hc) (hd.2 c hc) (hm c hc)
  | hp s cs ih =>
    intro hv hn hl hd hm
    apply stepOK_prod dom keep margLeaf s cs hv hn hl
    unfold Valid at hv; unfold NormW at hn; unfold LeafNorm at hl; unfold ScopesNodup at hd
    unfold MargLeafOK at hm
    exact fun c hc => ih c hc (hv.2.2 c hc) (hn c hc) (hl c hc) (hd.2 c hc) (hm c hc)

end Circ
end Deeprob
