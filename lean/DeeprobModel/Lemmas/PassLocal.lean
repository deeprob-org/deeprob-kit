import DeeprobModel.Lemmas.TopDownLemmas
set_option linter.unusedSectionVars false
/-
Locality of the top-down pass: on the scope of a valid circuit the result depends only on the
scope entries of the starting row (and not on the path, when `br`/`fill` ignore it); the passes of
the children of a product do not interfere.
-/
namespace Deeprob
namespace TCirc
variable {α : Type} [Zero α] [One α] [Add α] [Mul α]

/-- leaf completions look only at their own columns and ignore the path -/
def FillLocal (fill : List Nat → (Ev → Ev) → Ev → Ev) : TCirc α → Prop
  | leaf s _ m _ => ∀ (p q : List Nat) (a b : Ev), (∀ v ∈ s, a v = b v) → ∀ v ∈ s, fill p m a v = fill q m b v
  | sum _ _ cs => ∀ c ∈ cs, FillLocal fill c
  | prod _ cs => ∀ c ∈ cs, FillLocal fill c

variable (br : List Nat → List α → List (TCirc α) → Nat) (fill : List Nat → (Ev → Ev) → Ev → Ev)

theorem passAll_local (dom : Nat → Nat) (cs : List (TCirc α))
    (hnd : (cs.map scope).flatten.Nodup) (hval : ∀ c ∈ cs, Circ.Valid dom c.toCirc)
    (IH : ∀ c ∈ cs, ∀ (p q : List Nat) (a b : Ev), (∀ v ∈ c.scope, a v = b v) →
      ∀ v ∈ c.scope, pass br fill p c a v = pass br fill q c b v) :
    ∀ (p q : List Nat) (j j' : Nat) (a b : Ev), (∀ v ∈ (cs.map scope).flatten, a v = b v) →
      ∀ v ∈ (cs.map scope).flatten, passAll br fill p j cs a v = passAll br fill q j' cs b v := by
  induction cs with
  | nil => intro p q j j' a b _ v hv; simp at hv
  | cons c cs ih =>
    intro p q j j' a b hab v hv
    obtain ⟨_, hnd2, hdisj⟩ := (nodup_flatten_map_cons scope c cs).1 hnd
    simp only [List.map_cons, List.flatten_cons] at hab hv
    have hvalc := hval c List.mem_cons_self
    have hvalcs : ∀ d ∈ cs, Circ.Valid dom d.toCirc := fun d hd => hval d (List.mem_cons_of_mem _ hd)
    simp only [passAll]
    rcases List.mem_append.1 hv with hvc | hvcs
    · rw [passAll_outside' br fill dom v p cs hvalcs (hdisj v hvc), passAll_outside' br fill dom v q cs hvalcs (hdisj v hvc)]
      exact IH c List.mem_cons_self _ _ a b (fun w hw => hab w (List.mem_append_left _ hw)) v hvc
    · apply ih hnd2 hvalcs (fun d hd => IH d (List.mem_cons_of_mem _ hd)) p q (j+1) (j'+1) _ _ _ v hvcs
      intro w hw
      have hnot : w ∉ c.scope := fun h => hdisj w h hw
      rw [pass_outside br fill dom w c hvalc _ _ hnot, pass_outside br fill dom w c hvalc _ _ hnot]
      exact hab w (List.mem_append_right _ hw)

/-- **locality**: with path-independent branch and leaf functions, the pass restricted to the scope
of a valid circuit is a function of the scope entries of the starting row only -/
theorem pass_local (dom : Nat → Nat) (hbr : ∀ (p q : List Nat) (ws : List α) (cs : List (TCirc α)), br p ws cs = br q ws cs) :
    ∀ (c : TCirc α), Circ.Valid dom c.toCirc → FillLocal fill c →
    ∀ (p q : List Nat) (a b : Ev), (∀ v ∈ c.scope, a v = b v) →
      ∀ v ∈ c.scope, pass br fill p c a v = pass br fill q c b v := by
  intro c
  induction c using TCirc.ind with
  | hl s f m cd =>
    intro _ hf p q a b hab v hv
    unfold FillLocal at hf
    simp only [scope] at hab hv
    simp only [pass]
    rw [writeScope_mem _ _ _ hv, writeScope_mem _ _ _ hv]
    exact hf p q a b hab v hv
  | hs s ws cs ih =>
    intro hval hf p q a b hab v hv
    obtain ⟨_, _, hsc, hvc⟩ := valid_sum.1 hval
    unfold FillLocal at hf
    simp only [scope] at hab hv
    simp only [pass, passAt_eq]
    rw [hbr q p ws cs]
    cases hk : cs[br p ws cs]? with
    | none => exact hab v hv
    | some c =>
      have hc := List.mem_of_getElem? hk
      exact ih c hc (hvc c hc) (hf c hc) _ _ a b (fun w hw => hab w ((hsc c hc w).1 hw)) v ((hsc c hc v).2 hv)
  | hp s cs ih =>
    intro hval hf p q a b hab v hv
    obtain ⟨hnd, hsc, hvc⟩ := valid_prod.1 hval
    unfold FillLocal at hf
    simp only [scope] at hab hv
    simp only [pass]
    exact passAll_local br fill dom cs hnd hvc
      (fun c hc p q a b h w hw => ih c hc (hvc c hc) (hf c hc) p q a b h w hw) p q 0 0 a b
      (fun w hw => hab w ((hsc w).1 hw)) v ((hsc v).2 hv)

/-- on the scope of one child, the pass over all children of a product is that child's pass -/
theorem passAll_pointwise (dom : Nat → Nat) (hbr : ∀ (p q : List Nat) (ws : List α) (cs : List (TCirc α)), br p ws cs = br q ws cs)
    (cs : List (TCirc α)) (hnd : (cs.map scope).flatten.Nodup) (hval : ∀ c ∈ cs, Circ.Valid dom c.toCirc)
    (hf : ∀ c ∈ cs, FillLocal fill c) :
    ∀ (p q : List Nat) (j : Nat) (x : Ev), ∀ c ∈ cs, ∀ v ∈ c.scope,
      passAll br fill p j cs x v = pass br fill q c x v := by
  induction cs with
  | nil => intro p q j x c hc; simp at hc
  | cons c0 cs ih =>
    intro p q j x c hc v hv
    obtain ⟨_, hnd2, hdisj⟩ := (nodup_flatten_map_cons scope c0 cs).1 hnd
    have hvalc := hval c0 List.mem_cons_self
    have hvalcs : ∀ d ∈ cs, Circ.Valid dom d.toCirc := fun d hd => hval d (List.mem_cons_of_mem _ hd)
    simp only [passAll]
    rcases List.mem_cons.1 hc with rfl | hc'
    · rw [passAll_outside' br fill dom v p cs hvalcs (hdisj v hv)]
      exact pass_local br fill dom hbr c hvalc (hf c List.mem_cons_self) _ _ x x (fun _ _ => rfl) v hv
    · rw [ih hnd2 hvalcs (fun d hd => hf d (List.mem_cons_of_mem _ hd)) p q (j+1) _ c hc' v hv]
      apply pass_local br fill dom hbr c (hvalcs c hc') (hf c (List.mem_cons_of_mem _ hc')) q q _ _ _ v hv
      intro w hw
      have hwcs : w ∈ (cs.map scope).flatten := List.mem_flatten.2 ⟨c.scope, List.mem_map_of_mem hc', hw⟩
      exact pass_outside br fill dom w c0 hvalc _ _ (fun h => hdisj w h hwcs)

end TCirc
end Deeprob
