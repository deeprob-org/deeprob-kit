import Mathlib.Data.List.Induction
/-
Passes that walk a table once and append, for every entry, one element to each of two result lists, the step
seeing the results so far: `prunePass`, `margPass` (Model/RewriteNet.lean) have this form.
-/
namespace Deeprob
variable {β γ δ : Type}

def snocPass (F : List β → List γ → δ → β × γ) (l : List δ) : List β × List γ :=
  l.foldl (fun st x => (st.1 ++ [(F st.1 st.2 x).1], st.2 ++ [(F st.1 st.2 x).2])) ([], [])

theorem snocPass_snoc (F : List β → List γ → δ → β × γ) (a : List δ) (x : δ) :
    snocPass F (a ++ [x]) = ((snocPass F a).1 ++ [(F (snocPass F a).1 (snocPass F a).2 x).1],
      (snocPass F a).2 ++ [(F (snocPass F a).1 (snocPass F a).2 x).2]) := by
  unfold snocPass
  rw [List.foldl_append]
  rfl

theorem snocPass_length (F : List β → List γ → δ → β × γ) (l : List δ) :
    (snocPass F l).1.length = l.length ∧ (snocPass F l).2.length = l.length := by
  induction l using List.reverseRecOn with
  | nil => exact ⟨rfl, rfl⟩
  | append_singleton a x ih =>
    rw [snocPass_snoc, List.length_append, List.length_append, List.length_append, ih.1, ih.2]
    exact ⟨rfl, rfl⟩

theorem snocPass_getElem? (F : List β → List γ → δ → β × γ) (l : List δ) (k : Nat) (x : δ) (hx : l[k]? = some x) :
    (snocPass F l).1[k]? = some (F ((snocPass F l).1.take k) ((snocPass F l).2.take k) x).1 ∧
    (snocPass F l).2[k]? = some (F ((snocPass F l).1.take k) ((snocPass F l).2.take k) x).2 := by
  induction l using List.reverseRecOn with
  | nil => cases hx
  | append_singleton a y ih =>
    obtain ⟨h1, h2⟩ := snocPass_length F a
    rw [snocPass_snoc]
    rcases Nat.lt_or_ge k a.length with h | h
    · rw [List.getElem?_append_left h] at hx
      rw [List.getElem?_append_left (h1 ▸ h), List.getElem?_append_left (h2 ▸ h),
        List.take_append_of_le_length (by omega), List.take_append_of_le_length (by omega)]
      exact ih hx
    · have hk : k = a.length := by
        have := (List.getElem?_eq_some_iff.1 hx).1
        rw [List.length_append, List.length_singleton] at this
        omega
      subst hk
      rw [List.getElem?_concat_length] at hx
      cases hx
      have g1 : ∀ u : β, ((snocPass F a).1 ++ [u])[a.length]? = some u :=
        fun u => by rw [← h1]; exact List.getElem?_concat_length
      have g2 : ∀ u : γ, ((snocPass F a).2 ++ [u])[a.length]? = some u :=
        fun u => by rw [← h2]; exact List.getElem?_concat_length
      rw [g1, g2, List.take_left' h1, List.take_left' h2]
      exact ⟨rfl, rfl⟩

/-- **a pass whose step reads only what is already final solves its own equations.** Let the step at position `k` be
`G t r k x`. If, in the final state `(t, r)` and given `Q` at all earlier positions, the step at `k` returns on the first
`k` entries what it returns on all of `(t, r)`, and `Q` passes on to position `k` along the equation, then every
position satisfies its equation and `Q` -/
theorem snocPass_sol (G : List β → List γ → Nat → δ → β × γ) (l : List δ) (Q : List β → List γ → Nat → Prop)
    (hloc : ∀ t r k x, l[k]? = some x → (∀ j, j < k → Q t r j) → G (t.take k) (r.take k) k x = G t r k x)
    (hQ : ∀ t r k x, l[k]? = some x → (∀ j, j < k → Q t r j) →
      t[k]? = some (G t r k x).1 → r[k]? = some (G t r k x).2 → Q t r k)
    {t : List β} {r : List γ} (h : snocPass (fun t r x => G t r t.length x) l = (t, r)) :
    t.length = l.length ∧ r.length = l.length ∧
    ∀ k x, l[k]? = some x → t[k]? = some (G t r k x).1 ∧ r[k]? = some (G t r k x).2 ∧ Q t r k := by
  obtain ⟨hl1, hl2⟩ := snocPass_length (fun t r x => G t r t.length x) l
  have hrec := snocPass_getElem? (fun t r x => G t r t.length x) l
  rw [h] at hl1 hl2 hrec
  simp only at hl1 hl2 hrec
  refine ⟨hl1, hl2, fun k => ?_⟩
  induction k using Nat.strongRecOn with
  | ind k ih =>
    intro x hx
    have hk := (List.getElem?_eq_some_iff.1 hx).1
    have IH : ∀ j, j < k → Q t r j := fun j hj =>
      (ih j hj _ (List.getElem?_eq_getElem (Nat.lt_trans hj hk))).2.2
    obtain ⟨r1, r2⟩ := hrec k x hx
    rw [List.length_take_of_le (hl1 ▸ Nat.le_of_lt hk), hloc t r k x hx IH] at r1 r2
    exact ⟨r1, r2, hQ t r k x hx IH r1 r2⟩

end Deeprob
