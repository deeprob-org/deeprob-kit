import DeeprobModel.Model.RewriteNet
import DeeprobModel.Model.AssignIds
import DeeprobModel.Lemmas.CheckLemmas
import DeeprobModel.Lemmas.MpeNetRefines
/-
Correctness of the modelled `topological_order` (`Net.kahn`, Model/RewriteNet.lean: what a returned ordering
guarantees, with children in range and no acyclicity assumption), totality of it and of the modelled
`topological_order_layered` (`Sched.layers`, Model/Sched.lean) on children-first (hence acyclic) tables,
and `assign_ids` (ids = position in the Kahn order).

The queue loop keeps its counters in a `List Nat` (`k - 1` truncated at 0, test `k == 1` before the
decrement); they are the positive parts of the integer counters of `Sched.procEdge` (`PosPart`), so the
counting argument is the one of LayersLemmas (`CountInv`).
-/
namespace Deeprob
namespace Net
open List Sched

variable {α : Type}

theorem getD_of_length_le (cnt : List Nat) (v : Nat) (h : cnt.length ≤ v) : cnt.getD v 0 = 0 := by
  rw [getD_eq_getElem?_getD, getElem?_eq_none h]; rfl

theorem incr_length (cnt : List Nat) (c : Nat) : (incr cnt c).length = cnt.length :=
  length_set

theorem incr_getD (cnt : List Nat) (c v : Nat) (hc : c < cnt.length) :
    (incr cnt c).getD v 0 = cnt.getD v 0 + (if v = c then 1 else 0) := by
  rw [incr, getD_set]
  by_cases h : v = c
  · rw [if_pos ⟨h, hc⟩, if_pos h, h]
  · rw [if_neg (fun hh => h hh.1), if_neg h]; rfl

theorem foldl_incr (es : List Nat) : ∀ (cnt : List Nat), (∀ c ∈ es, c < cnt.length) →
    (es.foldl incr cnt).length = cnt.length ∧
      ∀ v, (es.foldl incr cnt).getD v 0 = cnt.getD v 0 + count v es := by
  induction es with
  | nil => intro cnt _; exact ⟨rfl, fun v => rfl⟩
  | cons c es ih =>
    intro cnt h
    have hc : c < cnt.length := h c (mem_cons_self ..)
    obtain ⟨h1, h2⟩ := ih (incr cnt c) (fun x hx => by rw [incr_length]; exact h x (mem_cons_of_mem _ hx))
    rw [foldl_cons]
    refine ⟨by rw [h1, incr_length], fun v => ?_⟩
    rw [h2 v, incr_getD cnt c v hc, count_cons]
    by_cases hv : v = c
    · subst hv; rw [if_pos rfl, if_pos (beq_self_eq_true v)]; omega
    · rw [if_neg hv, if_neg (by simpa using Ne.symm hv)]; omega

theorem kahnCounts_eq (t : Net α) (root : Nat) :
    kahnCounts t root = (edgesOf t (collect t root)).foldl incr (List.replicate t.length 0) :=
  foldl_flatMap.symm

/-- children in range: the hypothesis of `collect_closed` and `reachOK_collect`, which state it over
`n[i]?`; `forall_mem_chOf_iff` converts -/
def InRange (t : Net α) : Prop := ∀ a, ∀ c ∈ chOf t a, c < t.length

theorem kahnCounts_spec (t : Net α) (root : Nat) (h : InRange t) :
    (kahnCounts t root).length = t.length ∧
      ∀ v, (kahnCounts t root).getD v 0 = count v (edgesOf t (collect t root)) := by
  rw [kahnCounts_eq]
  obtain ⟨h1, h2⟩ := foldl_incr (edgesOf t (collect t root)) (List.replicate t.length 0)
    (fun c hc => by rw [length_replicate]; obtain ⟨p, _, hcp⟩ := mem_flatMap.1 hc; exact h p c hcp)
  refine ⟨by rw [h1, length_replicate], fun v => ?_⟩
  have h0 : (List.replicate t.length 0).getD v 0 = 0 := by
    rw [getD_eq_getElem?_getD, getElem?_replicate]; split <;> rfl
  rw [h2 v, h0, Nat.zero_add]

/-- one child of a visit: `num_outgoings[c] -= 1; if num_outgoings[c] == 0: queue.append(c)` -/
def kstep (st : List Nat × List Nat) (c : Nat) : List Nat × List Nat :=
  (st.1.set c (st.1.getD c 0 - 1), if st.1.getD c 0 == 1 then st.2 ++ [c] else st.2)

theorem kahnVisit_eq (cnt ch : List Nat) : kahnVisit cnt ch = ch.foldl kstep (cnt, []) := rfl

theorem kstep_fst (st : List Nat × List Nat) (c v : Nat) :
    (kstep st c).1.getD v 0 = st.1.getD v 0 - (if v = c then 1 else 0) := by
  rw [kstep, getD_set]
  by_cases h : v = c
  · subst h
    rw [if_pos rfl]
    split
    · rfl
    · -- outside the list nothing is written and the counter reads 0 before and after
      next hl => rw [getD_of_length_le _ _ (Nat.le_of_not_lt fun hh => hl ⟨rfl, hh⟩)]
  · rw [if_neg (fun hh => h hh.1), if_neg h]; rfl

theorem kstep_snd (st : List Nat × List Nat) (c : Nat) :
    (kstep st c).2 = if st.1.getD c 0 = 1 then st.2 ++ [c] else st.2 := by
  unfold kstep
  simp only [beq_iff_eq]

theorem kstep_length (st : List Nat × List Nat) (c : Nat) : (kstep st c).1.length = st.1.length :=
  length_set

/-- the list counters hold the positive part of the integer counters of `Sched.procEdge` -/
def PosPart (cI : Nat → Int) (cN : List Nat) : Prop := ∀ v, cN.getD v 0 = (cI v).toNat

theorem toNat_eq_one_iff (k : Int) : k.toNat = 1 ↔ k - 1 = 0 := by omega

/-- the test `k == 1` before the truncated decrement is the test `k - 1 == 0` after the integer one -/
theorem kstep_sim (cI : Nat → Int) (cN A : List Nat) (c : Nat) (h : PosPart cI cN) :
    (kstep (cN, A) c).2 = (procEdge (cI, A) c).2 ∧ PosPart (procEdge (cI, A) c).1 (kstep (cN, A) c).1 := by
  refine ⟨?_, fun v => ?_⟩
  · rw [kstep_snd, procEdge_snd, h c, if_congr (toNat_eq_one_iff _) rfl rfl]
  · rw [kstep_fst, procEdge_fst, h v]
    by_cases e : v = c
    · rw [if_pos e, if_pos e]; exact (Int.toNat_sub' _ 1).symm
    · rw [if_neg e, if_neg e, Nat.sub_zero, Int.sub_zero]

theorem kfold_sim (es : List Nat) : ∀ (cI : Nat → Int) (cN A : List Nat), PosPart cI cN →
    (es.foldl kstep (cN, A)).2 = (es.foldl procEdge (cI, A)).2 ∧
      PosPart (es.foldl procEdge (cI, A)).1 (es.foldl kstep (cN, A)).1 := by
  induction es with
  | nil => exact fun _ _ _ h => ⟨rfl, h⟩
  | cons c es ih =>
    intro cI cN A h
    obtain ⟨h1, h2⟩ := kstep_sim cI cN A c h
    have e : kstep (cN, A) c = ((kstep (cN, A) c).1, (procEdge (cI, A) c).2) := Prod.ext rfl h1
    rw [foldl_cons, foldl_cons, e]
    exact ih _ _ _ h2

theorem kfold_snd_sub (es : List Nat) (st : List Nat × List Nat) :
    ∀ v ∈ (es.foldl kstep st).2, v ∈ st.2 ∨ v ∈ es := by
  rw [(kfold_sim es (fun v => st.1.getD v 0) st.1 st.2 (fun _ => rfl)).1]
  exact fold_snd_sub es _

theorem all_zero_iff (l : List Nat) : l.all (fun k => k == 0) = true ↔ ∀ v, l.getD v 0 = 0 := by
  simp only [all_eq_true, beq_iff_eq]
  constructor
  · intro h v
    by_cases hv : v < l.length
    · rw [List.getD_eq_getElem?_getD, List.getElem?_eq_getElem hv]
      exact h _ (getElem_mem hv)
    · exact getD_of_length_le l v (Nat.le_of_not_lt hv)
  · intro h k hk
    obtain ⟨i, hi, rfl⟩ := getElem_of_mem hk
    have := h i
    rwa [List.getD_eq_getElem?_getD, List.getElem?_eq_getElem hi] at this

section loop
variable (t : Net α) (root : Nat)

/-- loop invariant of `kahnLoop`; `R = collect t root`, `q` = queue, `ord` = ordering so far -/
structure KInv (R q cnt ord : List Nat) : Prop extends CountInv t R ord q where
  cnt_eq : ∀ v, cnt.getD v 0 = count v (edgesOf t R) - count v (edgesOf t ord)
  noback : (ord ++ q).Pairwise (fun a b => a ∉ chOf t b)
  noself : ∀ a ∈ ord ++ q, a ∉ chOf t a
  head : (ord ++ q).head? = some root

variable {t root}

theorem KInv.posPart {R q cnt ord : List Nat} (h : KInv t root R q cnt ord) :
    PosPart (remaining t R ord) cnt := by
  intro v; rw [h.cnt_eq]; unfold remaining; omega

variable (t root)

/-- one visit of the queue loop is `CountInv.step` with `P = [a]`: `kfold_sim` carries the list counters
along, and `hre` re-associates the new `ord ++ queue` so that the facts about the previous one apply -/
theorem kinv_step (R : List Nat) (hcl : ∀ p ∈ R, ∀ c ∈ chOf t p, c ∈ R) (a : Nat) (qs cnt ord : List Nat)
    (h : KInv t root R (a :: qs) cnt ord) :
    KInv t root R (qs ++ (kahnVisit cnt (chOf t a)).2) (kahnVisit cnt (chOf t a)).1 (ord ++ [a]) := by
  obtain ⟨hs, hcnt⟩ := h.toCountInv.step (P := [a]) (rest := qs) hcl
  obtain ⟨h2, h1⟩ := kfold_sim (chOf t a) _ _ [] h.posPart
  rw [edgesOf_singleton] at hs hcnt
  rw [kahnVisit_eq, h2]
  have hnb := hs.no_back
  generalize ((chOf t a).foldl procEdge (remaining t R ord, [])).2 = new at hs hnb ⊢
  have hre : (ord ++ [a]) ++ (qs ++ new) = (ord ++ a :: qs) ++ new := by simp
  rw [hre] at hnb
  refine ⟨hs, fun v => ?_, ?_, ?_, ?_⟩
  · rw [h1 v, hcnt]; unfold remaining; omega
  · rw [hre, pairwise_append]
    refine ⟨h.noback, ?_, fun x hx y hy hcon => hnb y (mem_append_right _ hy) x hcon (mem_append_left _ hx)⟩
    exact pairwise_of_forall_mem_list fun x hx y hy hcon =>
      hnb y (mem_append_right _ hy) x hcon (mem_append_right _ hx)
  · rw [hre]
    intro p hp hcon
    rcases mem_append.1 hp with hp' | hp'
    · exact h.noself p hp' hcon
    · exact hnb p (mem_append_right _ hp') p hcon hp
  · rw [hre, head?_append_of_ne_nil _ (by simp)]
    exact h.head

theorem kahnLoop_inv (R : List Nat) (hcl : ∀ p ∈ R, ∀ c ∈ chOf t p, c ∈ R) :
    ∀ (fuel : Nat) (q cnt ord : List Nat), KInv t root R q cnt ord → R.length ≤ ord.length + fuel →
      KInv t root R [] (kahnLoop t fuel q cnt ord).1 (kahnLoop t fuel q cnt ord).2 := by
  intro fuel
  induction fuel with
  | zero =>
    intro q cnt ord h hf
    have hl := h.toCountInv.length_le
    have hq : q = [] := length_eq_zero_iff.1 (by omega)
    subst hq
    exact h
  | succ f ih =>
    intro q cnt ord h hf
    cases q with
    | nil => exact h
    | cons a qs =>
      exact ih _ _ _ (kinv_step t root R hcl a qs cnt ord h) (by rw [length_append, length_singleton]; omega)

end loop

theorem inRange_of_chLt (t : Net α) (h : ChLt t) : InRange t := by
  intro a c hc
  by_cases ha : a < t.length
  · exact lt_trans (h a c hc) ha
  · rw [chOf_nil_of_ge t a (Nat.le_of_not_lt ha)] at hc; cases hc

theorem reachOK_of_inRange (t : Net α) (root : Nat) (h : InRange t) : ReachOK t root (collect t root) :=
  reachOK_collect t root ((forall_mem_chOf_iff t _).1 h)

theorem collect_le_root (t : Net α) (root : Nat) (h : ChLt t) : ∀ v ∈ collect t root, v ≤ root := by
  intro v hv
  have hreach := (mem_collect_iff_reach t root ((forall_mem_chOf_iff t _).1 (inRange_of_chLt t h)) v).1 hv
  clear hv
  induction hreach with
  | refl => exact le_refl _
  | tail _ hbc ih => exact le_of_lt (lt_of_lt_of_le (h _ _ hbc) ih)

theorem root_count_zero (t : Net α) (root : Nat) (h : ChLt t) :
    count root (edgesOf t (collect t root)) = 0 := by
  rw [count_eq_zero]
  intro hm
  obtain ⟨p, hp, hc⟩ := mem_flatMap.1 hm
  have h1 := collect_le_root t root h p hp
  have h2 := h p root hc
  omega

theorem collect_length_le (t : Net α) (root : Nat) (h : InRange t) : (collect t root).length ≤ t.length + 1 := by
  have hR := reachOK_of_inRange t root h
  have hnd : ((collect t root).erase root).Nodup := (collect_nodup t root).erase root
  have hlt : ∀ v ∈ (collect t root).erase root, v < t.length := by
    intro v hv
    have hne : v ≠ root := ((collect_nodup t root).mem_erase_iff.1 hv).1
    rcases hR.parent v (mem_of_mem_erase hv) with e | ⟨p, _, hc⟩
    · exact absurd e hne
    · exact h p v hc
  have := nodup_length_le _ _ hnd hlt
  rw [length_erase_of_mem hR.root_mem] at this
  omega

/-- targets of the edges into `v`: only the sources having `v` as a child matter -/
theorem count_edgesOf_filter (t : Net α) (R : List Nat) (v : Nat) :
    count v (edgesOf t (R.filter (fun p => decide (v ∈ chOf t p)))) = count v (edgesOf t R) := by
  unfold edgesOf
  induction R with
  | nil => rfl
  | cons a R ih =>
    by_cases ha : v ∈ chOf t a
    · rw [filter_cons_of_pos (by simpa using ha)]
      simp only [flatMap_cons, count_append, ih]
    · rw [filter_cons_of_neg (by simpa using ha)]
      simp only [flatMap_cons, count_append, ih, count_eq_zero_of_not_mem ha, Nat.zero_add]

/-- the acyclicity argument: on a children-first table a run with nothing pending has listed every reachable node,
each once (induction on the distance from the top of the table: the parents of a node are stored above it) -/
theorem CountInv.complete (t : Net α) (root : Nat) (hwo : ChLt t) {done : List Nat}
    (h : CountInv t (collect t root) done []) (hroot : root ∈ done) : done.Perm (collect t root) := by
  have hR := reachOK_of_inRange t root (inRange_of_chLt t hwo)
  have key : ∀ d v, v ∈ collect t root → root - v ≤ d → v ∈ done := by
    intro d
    induction d with
    | zero =>
      intro v hv hd
      rw [show v = root by have := collect_le_root t root hwo v hv; omega]; exact hroot
    | succ d ih =>
      intro v hv hd
      refine h.mem_of_nonpos root hR hroot v hv ?_
      -- every parent of `v` is listed, so every edge into `v` starts in `done`
      have hs : (collect t root).filter (fun p => decide (v ∈ chOf t p)) ⊆ done := by
        intro p hp
        rw [mem_filter, decide_eq_true_eq] at hp
        have := hwo p v hp.2
        have := collect_le_root t root hwo p hp.1
        exact ih p hp.1 (by omega)
      have hcap := capacity t _ done ((collect_nodup t root).filter _) hs v
      rw [count_edgesOf_filter] at hcap
      unfold remaining; omega
  exact (perm_ext_iff_of_nodup (by simpa using h.nodup) (collect_nodup t root)).2
    fun v => ⟨fun hv => h.sub v (mem_append_left _ hv), fun hv => key _ v hv (le_refl _)⟩

theorem count_edgesOf_perm (t : Net α) {R done : List Nat} (h : done.Perm R) (v : Nat) :
    count v (edgesOf t R) = count v (edgesOf t done) :=
  ((h.flatMap_right (chOf t)).count_eq v).symm

theorem kahn_eq_some_iff (t : Net α) (root : Nat) (ord : List Nat) :
    kahn t root = some ord ↔
      (kahnCounts t root).getD root 0 = 0 ∧
      (kahnLoop t (t.length + 1) [root] (kahnCounts t root) []).1.all (fun k => k == 0) = true ∧
      ord = (kahnLoop t (t.length + 1) [root] (kahnCounts t root) []).2 := by
  unfold kahn
  simp only [bne_iff_ne, ne_eq, ite_not]
  split_ifs with h0 h1
  · simp only [h0, h1, true_and, Option.some.injEq]; exact eq_comm
  · simp only [h1, false_and, and_false, reduceCtorEq]
  · simp only [h0, false_and]

theorem kahn_init (t : Net α) (root : Nat) (h : InRange t)
    (h0 : count root (edgesOf t (collect t root)) = 0) :
    KInv t root (collect t root) [root] (kahnCounts t root) [] := by
  have hc := CountInv.init (n := t) root (root_mem_collect t root) h0
  refine ⟨hc, fun v => by rw [(kahnCounts_spec t root h).2 v]; rfl, pairwise_singleton _ _, ?_, rfl⟩
  intro a ha hcon
  exact hc.no_back a ha a hcon ha

theorem kahn_final (t : Net α) (root : Nat) (h : InRange t)
    (h0 : count root (edgesOf t (collect t root)) = 0) :
    KInv t root (collect t root) [] (kahnLoop t (t.length + 1) [root] (kahnCounts t root) []).1
      (kahnLoop t (t.length + 1) [root] (kahnCounts t root) []).2 :=
  kahnLoop_inv t root _ (reachOK_of_inRange t root h).closed _ _ _ _ (kahn_init t root h h0)
    (by have := collect_length_le t root h; simp; omega)

/-- **what a successful run of `topological_order` guarantees** (children in range; no acyclicity
assumption): the ordering is duplicate-free, lists exactly the nodes of `collect t root`, starts with the
root, and no listed node has an edge to itself or to a node listed before it. -/
theorem kahn_spec (t : Net α) (root : Nat) (h : InRange t) (ord : List Nat) (hk : kahn t root = some ord) :
    ord.Nodup ∧ (∀ v, v ∈ ord ↔ v ∈ collect t root) ∧ ord.head? = some root ∧
      ord.Pairwise (fun a b => a ∉ chOf t b) ∧ (∀ a ∈ ord, a ∉ chOf t a) := by
  obtain ⟨hr0, hall, hord⟩ := (kahn_eq_some_iff t root ord).1 hk
  rw [(kahnCounts_spec t root h).2 root] at hr0
  have hfin := kahn_final t root h hr0
  rw [← hord] at hfin
  have hhead : ord.head? = some root := by simpa using hfin.head
  refine ⟨by simpa using hfin.nodup, fun v => ⟨fun hv => hfin.sub v (mem_append_left _ hv), fun hv => ?_⟩,
    hhead, by simpa using hfin.noback, fun a ha => hfin.noself a (mem_append_left _ ha)⟩
  refine hfin.mem_of_nonpos root (reachOK_of_inRange t root h) (mem_of_mem_head? hhead) v hv ?_
  have := (all_zero_iff _).1 hall v
  rw [hfin.posPart v] at this
  omega

/-- **Kahn never reports a cycle on a children-first (acyclic) table** -/
theorem kahn_some_of (t : Net α) (root : Nat) (hwo : ChLt t) : ∃ ord, kahn t root = some ord := by
  have h := inRange_of_chLt t hwo
  have h0 := root_count_zero t root hwo
  have hfin := kahn_final t root h h0
  refine ⟨_, (kahn_eq_some_iff t root _).2 ⟨by rw [(kahnCounts_spec t root h).2 root]; exact h0, ?_, rfl⟩⟩
  have hroot : root ∈ (kahnLoop t (t.length + 1) [root] (kahnCounts t root) []).2 :=
    mem_of_mem_head? (by simpa using hfin.head)
  have hperm := CountInv.complete t root hwo hfin.toCountInv hroot
  rw [all_zero_iff]
  intro v
  rw [hfin.cnt_eq v, count_edgesOf_perm t hperm v, Nat.sub_self]

theorem idx_lt_of_noBack (t : Net α) (M : List Nat)
    (hcl : ∀ p ∈ M, ∀ c ∈ chOf t p, c ∈ M)
    (hnb : M.Pairwise (fun a b => a ∉ chOf t b)) (hns : ∀ a ∈ M, a ∉ chOf t a)
    (p c : Nat) (hp : p ∈ M) (hc : c ∈ chOf t p) : M.idxOf p < M.idxOf c := by
  have hi : M.idxOf p < M.length := idxOf_lt_length_iff.2 hp
  have hj : M.idxOf c < M.length := idxOf_lt_length_iff.2 (hcl p hp c hc)
  refine Nat.lt_of_le_of_ne (Nat.le_of_not_lt fun hlt => ?_) (fun heq => ?_)
  · have := pairwise_iff_getElem.1 hnb _ _ hj hi hlt
    rw [getElem_idxOf hi, getElem_idxOf hj] at this
    exact this hc
  · obtain rfl := (idxOf_inj hp).1 heq
    exact hns p hp hc

/-- a duplicate-free list of stored nodes, closed under children, with no edge backwards or to itself is a
`TopoOrd` (the hypothesis of `C06.mpeNetOrd_refines`) -/
theorem topoOrd_of_noBack (t : Net α) : ∀ (M : List Nat), M.Nodup → (∀ v ∈ M, v < t.length) →
    (∀ p ∈ M, ∀ c ∈ chOf t p, c ∈ M) → M.Pairwise (fun a b => a ∉ chOf t b) → (∀ a ∈ M, a ∉ chOf t a) →
    TopoOrd t M := by
  intro M
  induction M with
  | nil => intro _ _ _ _ _; simp [TopoOrd]
  | cons k rest ih =>
    intro hnd hlt hcl hnb hns
    rw [nodup_cons] at hnd
    rw [pairwise_cons] at hnb
    unfold TopoOrd
    refine ⟨hnd.1, hlt k (mem_cons_self ..), ?_, ih hnd.2 (fun v hv => hlt v (mem_cons_of_mem _ hv)) ?_ hnb.2
      (fun a ha => hns a (mem_cons_of_mem _ ha))⟩
    · intro c hc
      rcases mem_cons.1 (hcl k (mem_cons_self ..) c hc) with e | hm
      · subst e; exact absurd hc (hns c (mem_cons_self ..))
      · exact hm
    · intro p hp c hc
      rcases mem_cons.1 (hcl p (mem_cons_of_mem _ hp) c hc) with e | hm
      · subst e; exact absurd hc (hnb.1 p hp)
      · exact hm

theorem relabel_length (t : Net α) (ko : List Nat) : (relabel t ko).length = t.length := by
  unfold relabel; simp

theorem relabel_get (t : Net α) (ko : List Nat) (i : Nat) :
    (relabel t ko)[i]? = (t[i]?).map (fun x => if ko.contains i then { x with id := posIn ko i } else x) := by
  unfold relabel; rw [getElem?_mapIdx]

theorem chOf_relabel (t : Net α) (ko : List Nat) (i : Nat) : chOf (relabel t ko) i = chOf t i := by
  unfold chOf
  rw [relabel_get]
  cases t[i]? with
  | none => rfl
  | some x => simp only [Option.map_some]; split <;> rfl

theorem idOf_relabel (t : Net α) (ko : List Nat) (i : Nat) (hi : i < t.length) (hk : i ∈ ko) :
    idOf (relabel t ko) i = ko.idxOf i := by
  unfold idOf
  rw [relabel_get, List.getElem?_eq_getElem hi]
  simp [hk, posIn]

theorem idOf_relabel_of_not_mem (t : Net α) (ko : List Nat) (i : Nat) (hk : i ∉ ko) :
    idOf (relabel t ko) i = idOf t i := by
  unfold idOf
  rw [relabel_get]
  cases t[i]? with
  | none => rfl
  | some x => simp [hk]

/-- BFS only looks at children lists and the table length -/
theorem bfsAux_congr (t t' : Net α) (h : ∀ i, chOf t' i = chOf t i) :
    ∀ fuel q seen, bfsAux t' fuel q seen = bfsAux t fuel q seen := by
  intro fuel
  induction fuel with
  | zero => intro q seen; simp [bfsAux]
  | succ f ih =>
    intro q seen
    cases q with
    | nil => simp [bfsAux]
    | cons a qs => rw [bfsAux_step, bfsAux_step, h a, ih]

theorem collect_congr (t t' : Net α) (h : ∀ i, chOf t' i = chOf t i) (hl : t'.length = t.length) (root : Nat) :
    collect t' root = collect t root := by
  unfold collect; rw [hl]; exact bfsAux_congr t t' h _ _ _

theorem collect_relabel (t : Net α) (ko : List Nat) (root : Nat) :
    collect (relabel t ko) root = collect t root :=
  collect_congr t _ (chOf_relabel t ko) (relabel_length t ko) root

theorem map_idxOf_self (l : List Nat) (h : l.Nodup) : l.map (fun i => l.idxOf i) = List.range l.length := by
  apply List.ext_getElem
  · simp
  · intro i h1 h2
    simp only [getElem_map, getElem_range]
    exact h.idxOf_getElem i (by simpa using h1)

/-- ids = positions in a duplicate-free list `ko` that enumerates exactly the reachable nodes ⇒ the ids
of the reachable nodes are a permutation of `0 .. len-1` -/
theorem relabel_ids_perm (t : Net α) (root : Nat) (ko : List Nat) (hnd : ko.Nodup)
    (hmem : ∀ v, v ∈ ko ↔ v ∈ collect t root) (hlt : ∀ v ∈ ko, v < t.length) :
    ((collect (relabel t ko) root).map (idOf (relabel t ko))).Perm
      (List.range (collect (relabel t ko) root).length) := by
  rw [collect_relabel]
  have hperm : (collect t root).Perm ko :=
    (perm_ext_iff_of_nodup (collect_nodup t root) hnd).2 (fun v => (hmem v).symm)
  have h1 : (collect t root).map (idOf (relabel t ko)) = (collect t root).map (fun i => ko.idxOf i) := by
    apply map_congr_left
    intro i hi
    have hk := (hmem i).2 hi
    exact idOf_relabel t ko i (hlt i hk) hk
  rw [h1, hperm.length_eq, ← map_idxOf_self ko hnd]
  exact hperm.map _

end Net

namespace Sched
open Net List
variable {α : Type}

/-- on any table with children in range (cyclic or not) the model's fuel is sufficient: `layers … = none`
can only come from one of the two "not a DAG" tests of the code, never from fuel exhaustion -/
theorem layersGo_total (n : Net α) (root : Nat) (hR : ReachOK n root (Net.collect n root))
    (h0 : count root (edgesOf n (Net.collect n root)) = 0) :
    ∃ r, layersGo n ((Net.collect n root).length + 1) (indeg n root) [] [root] = some r :=
  layersGo_some n root _ hR _ _ _ _ (linv_init n root _ hR.root_mem h0) (by simp) (by simp)

/-- **`topological_order_layered` never reports "not a DAG" on a children-first table** -/
theorem layers_some_of (n : Net α) (root : Nat) (hwo : ChLt n) : ∃ L, layers n root = some L := by
  have hR := reachOK_of_inRange n root (inRange_of_chLt n hwo)
  have h0 := root_count_zero n root hwo
  have hinit := linv_init n root _ hR.root_mem h0
  obtain ⟨⟨cnt', L⟩, hgo⟩ := layersGo_total n root hR h0
  have hfin := layersGo_inv n root _ hR _ _ _ _ hinit cnt' L hgo
  have hperm := CountInv.complete n root hwo hfin.toCountInv (by simpa using hfin.root_mem)
  refine ⟨L, (layers_eq_some_iff n root L).2 ⟨by rw [indeg_eq, h0]; rfl, cnt', hgo, ?_⟩⟩
  apply List.sum_eq_zero
  intro x hx
  obtain ⟨w, _, rfl⟩ := mem_map.1 hx
  rw [hfin.cnt_eq]
  unfold remaining
  rw [count_edgesOf_perm n hperm w, Int.sub_self]

end Sched
end Deeprob
