import DeeprobModel.Lemmas.GraphOrderBfs
import DeeprobModel.Lemmas.CltLemmas
set_option linter.unusedSectionVars false
/-
The array-based bottom-up pass of `message_passing` run in any order that visits children before parents
computes, in every slot, the product of the upward messages of the inductive model (`Clt.up`) for its children; hence the value
returned for a row is `Clt.value`.
-/
namespace Deeprob.GraphIo
open Deeprob Deeprob.Clt Deeprob.CltFit

section build
variable {tree : List Int} {r : Nat} (h : WF tree r)
include h

theorem WF.no_children_of_deep {c : Nat} (hd : tree.length - 1 ≤ depthOf tree c) : childrenOf tree c = [] := by
  apply List.eq_nil_iff_forall_not_mem.2
  intro d hdm
  obtain ⟨hdl, hdp⟩ := h.mem_children.1 hdm
  have h1 := h.depth_child hdl hdp
  have h2 := h.depth_le hdl
  have := h.pos
  omega

theorem WF.build_stable_dep (f c : Nat) (hf : tree.length - 1 - depthOf tree c ≤ f) :
    build tree (f + 1) c = build tree f c := by
  induction f generalizing c with
  | zero => rw [build_succ, build, h.no_children_of_deep (by omega)]; rfl
  | succ f ih =>
    rw [build_succ tree (f + 1), build_succ tree f]
    congr 1
    apply List.map_congr_left
    intro d hdm
    obtain ⟨hdl, hdp⟩ := h.mem_children.1 hdm
    have h1 := h.depth_child hdl hdp
    exact ih d (by omega)

theorem WF.build_unfold (c : Nat) :
    build tree tree.length c = .node c ((childrenOf tree c).map (build tree tree.length)) := by
  obtain ⟨m, hm⟩ : ∃ m, tree.length = m + 1 := ⟨tree.length - 1, by have := h.pos; omega⟩
  conv_lhs => rw [hm, build_succ]
  congr 1
  apply List.map_congr_left
  intro d _
  rw [hm, h.build_stable_dep m d (by omega)]

end build

section pass
variable {α : Type} [CommSemiring α]

/-- visiting one more child multiplies its message into the slot -/
theorem lprod_filter_insert {β : Type} [DecidableEq β] (f : β → α) (x : β) (done : List β) (hx : x ∉ done)
    (L : List β) (hnd : L.Nodup) (hm : x ∈ L) :
    lprod ((L.filter (fun d => decide (d ∈ x :: done))).map f) =
      lprod ((L.filter (fun d => decide (d ∈ done))).map f) * f x := by
  have hp : (L.filter (fun d => decide (d ∈ x :: done))).Perm (x :: L.filter (fun d => decide (d ∈ done))) := by
    refine (List.perm_ext_iff_of_nodup (hnd.filter _) (List.nodup_cons.2
      ⟨fun h => hx (by simpa using (List.mem_filter.1 h).2), hnd.filter _⟩)).2 (fun d => ?_)
    simp only [List.mem_filter, List.mem_cons, decide_eq_true_eq]
    constructor
    · rintro ⟨hd, rfl | hdd⟩
      · exact Or.inl rfl
      · exact Or.inr ⟨hd, hdd⟩
    · rintro (rfl | ⟨hd, hdd⟩)
      · exact ⟨hm, Or.inl rfl⟩
      · exact ⟨hd, Or.inr hdd⟩
  rw [lprod_perm (hp.map f), List.map_cons, lprod, mul_comm]

variable {tree : List Int} {r : Nat} (h : WF tree r)
variable (scope : List Nat) (cpt : List (List (List α))) (e : Ev)

/-- the upward message of the inductive model (`Clt.up`) for the sub-tree hanging at `c` -/
def upAt (tree : List Int) (scope : List Nat) (cpt : List (List (List α))) (e : Ev) (c l : Nat) : α :=
  up scope cpt (build tree tree.length c) l e

/-- the row as the code sees it: column `i` holds the value of variable `scope[i]` -/
def rowOf (scope : List Nat) (e : Ev) : Nat → Option Nat := fun i => e (scope.getD i 0)

/-- product of the messages of the children of `j` that have already been visited -/
def partialSlot (tree : List Int) (scope : List Nat) (cpt : List (List (List α))) (e : Ev)
    (done : List Nat) (j k : Nat) : α :=
  lprod (((childrenOf tree j).filter (fun d => decide (d ∈ done))).map (fun d => upAt tree scope cpt e d k))

/-- complete slot: all children -/
def fullSlot (tree : List Int) (scope : List Nat) (cpt : List (List (List α))) (e : Ev) (j k : Nat) : α :=
  lprod ((childrenOf tree j).map (fun d => upAt tree scope cpt e d k))

theorem partialSlot_eq_full {tree : List Int} (scope : List Nat) (cpt : List (List (List α))) (e : Ev)
    {done : List Nat} {j : Nat} (hch : ∀ d ∈ childrenOf tree j, d ∈ done) (k : Nat) :
    partialSlot tree scope cpt e done j k = fullSlot tree scope cpt e j k := by
  unfold partialSlot fullSlot
  rw [List.filter_eq_self.2 (fun d hd => by simpa using hch d hd)]

theorem sel_pair (a b : α) (k : Nat) : sel (a, b) k = if k = 0 then a else b := rfl

include h in
/-- what a node with a complete slot sends is the upward message of its sub-tree -/
theorem WF.outMsg_full (c l : Nat) :
    outMsg cpt (rowOf scope e) c (fullSlot tree scope cpt e c 0, fullSlot tree scope cpt e c 1) l =
      upAt tree scope cpt e c l := by
  unfold upAt outMsg rowOf
  rw [h.build_unfold c]
  cases hrow : e (scope.getD c 0) with
  | some o =>
    rw [up_obs scope cpt c _ l hrow, List.map_map]
    rcases o with _ | _ | o
    · rfl
    · rfl
    · simp only [cptAt_ge cpt c l _ (show 2 ≤ o + 1 + 1 by omega), zero_mul]
  | none =>
    rw [up_mis scope cpt c _ l hrow, sumVar_two, List.map_map, List.map_map]
    rfl

/-- invariant: slot `j` holds the product of the messages of the already visited children of `j` -/
def Inv (tree : List Int) (scope : List Nat) (cpt : List (List (List α))) (e : Ev)
    (done : List Nat) (M : List (α × α)) : Prop :=
  M.length = tree.length ∧ ∀ j, j < tree.length →
    M.getD j (1, 1) = (partialSlot tree scope cpt e done j 0, partialSlot tree scope cpt e done j 1)

theorem inv_init : Inv tree scope cpt e [] (List.replicate tree.length ((1 : α), (1 : α))) := by
  refine ⟨by simp, fun j hj => ?_⟩
  simp [List.getD_eq_getElem?_getD, hj, partialSlot, lprod]

include h in
theorem WF.inv_step {done : List Nat} {M : List (α × α)} (hI : Inv tree scope cpt e done M) {x : Nat}
    (hx : x < tree.length) (hxr : x ≠ r) (hxd : x ∉ done) (hch : ∀ d ∈ childrenOf tree x, d ∈ done) :
    Inv tree scope cpt e (x :: done) (passStep tree cpt (rowOf scope e) M x) := by
  obtain ⟨hlen, hslots⟩ := hI
  obtain ⟨p, hp, hpx, hpl, hpe⟩ := h.parent_ne hx hxr
  have hfull := partialSlot_eq_full scope cpt e hch
  have hstep : passStep tree cpt (rowOf scope e) M x =
      M.modify p (fun t => (t.1 * upAt tree scope cpt e x 0, t.2 * upAt tree scope cpt e x 1)) := by
    unfold passStep
    rw [hpe, hlen, pyIndex_nat hpl]
    simp only
    rw [hslots x hx, hfull 0, hfull 1, h.outMsg_full scope cpt e x 0, h.outMsg_full scope cpt e x 1]
  rw [hstep]
  refine ⟨by rw [List.length_modify]; exact hlen, fun j hj => ?_⟩
  have hjM : j < M.length := by omega
  rw [List.getD_eq_getElem?_getD, List.getElem?_modify, List.getElem?_eq_getElem hjM]
  have hMj : M[j] = (partialSlot tree scope cpt e done j 0, partialSlot tree scope cpt e done j 1) := by
    have := hslots j hj
    rw [List.getD_eq_getElem?_getD, List.getElem?_eq_getElem hjM] at this
    exact this
  show (if p = j then _ else _) = _
  by_cases hpj : p = j
  · subst hpj
    rw [if_pos rfl, hMj]
    have hxm : x ∈ childrenOf tree p := h.mem_children.2 ⟨hx, hp⟩
    simp only [partialSlot]
    rw [lprod_filter_insert _ x done hxd _ (childrenOf_nodup tree p) hxm,
      lprod_filter_insert _ x done hxd _ (childrenOf_nodup tree p) hxm]
  · rw [if_neg hpj, hMj]
    have hfil : (childrenOf tree j).filter (fun d => decide (d ∈ x :: done)) =
        (childrenOf tree j).filter (fun d => decide (d ∈ done)) := by
      apply List.filter_congr
      intro d hd
      have hdx : d ≠ x := by
        rintro rfl
        have := (h.mem_children.1 hd).2
        rw [hp] at this
        exact hpj (by simpa using this)
      simp [hdx]
    simp only [partialSlot, hfil]

include h in
/-- the pass over `order`, which lists exactly the non-root variables not yet visited, children before parents -/
theorem WF.inv_fold : ∀ (order done : List Nat) (M : List (α × α)), Inv tree scope cpt e done M → order.Nodup →
    (∀ x, x ∈ order ↔ x < tree.length ∧ x ≠ r ∧ x ∉ done) →
    order.Pairwise (fun a b => parent tree b ≠ some a) →
    Inv tree scope cpt e (order.reverse ++ done) (order.foldl (passStep tree cpt (rowOf scope e)) M)
  | [], done, M, hI, _, _, _ => by simpa using hI
  | x :: rest, done, M, hI, hnd, hmem, hpw => by
    rw [List.nodup_cons] at hnd
    rw [List.pairwise_cons] at hpw
    obtain ⟨hx, hxr, hxd⟩ := (hmem x).1 List.mem_cons_self
    -- a child of `x` that is not yet visited would come after `x`
    have hch : ∀ d ∈ childrenOf tree x, d ∈ done := by
      intro d hdm
      obtain ⟨hdl, hdp⟩ := h.mem_children.1 hdm
      have hdr : d ≠ r := by
        rintro rfl; rw [h.parent_root] at hdp; cases hdp
      by_contra hdd
      rcases List.mem_cons.1 ((hmem d).2 ⟨hdl, hdr, hdd⟩) with rfl | hd
      · obtain ⟨p, hp, hpx, _⟩ := h.parent_ne hx hxr
        rw [hp] at hdp
        exact hpx (Option.some.inj hdp)
      · exact hpw.1 d hd hdp
    have hrest : ∀ y, y ∈ rest ↔ y < tree.length ∧ y ≠ r ∧ y ∉ x :: done := by
      intro y
      constructor
      · intro hy
        obtain ⟨h1, h2, h3⟩ := (hmem y).1 (List.mem_cons_of_mem _ hy)
        exact ⟨h1, h2, fun hm => (List.mem_cons.1 hm).elim (fun e => hnd.1 (e ▸ hy)) h3⟩
      · rintro ⟨h1, h2, h3⟩
        rcases List.mem_cons.1 ((hmem y).2 ⟨h1, h2, fun hd => h3 (List.mem_cons_of_mem _ hd)⟩) with rfl | hy
        · exact absurd List.mem_cons_self h3
        · exact hy
    have := WF.inv_fold rest (x :: done) _ (h.inv_step scope cpt e hI hx hxr hxd hch) hnd.2 hrest hpw.2
    simpa [List.foldl_cons, List.reverse_cons, List.append_assoc] using this

include h in
/-- **all slots are complete after a pass in any order that visits every non-root variable once, children
before parents** -/
theorem WF.arrayPass_slots (order : List Nat) (hperm : order.Perm ((List.range tree.length).erase r))
    (hcf : childFirst tree order = true) :
    (arrayPass tree cpt (rowOf scope e) order).length = tree.length ∧
    ∀ j, j < tree.length → (arrayPass tree cpt (rowOf scope e) order).getD j (1, 1) =
      (fullSlot tree scope cpt e j 0, fullSlot tree scope cpt e j 1) := by
  have hnd : order.Nodup := hperm.nodup_iff.2 (List.nodup_range.erase r)
  have hmem : ∀ x, x ∈ order ↔ x < tree.length ∧ x ≠ r := by
    intro x
    rw [hperm.mem_iff, List.Nodup.mem_erase_iff List.nodup_range, List.mem_range]
    tauto
  obtain ⟨hlen, hslots⟩ := h.inv_fold scope cpt e order [] _ (inv_init scope cpt e) hnd
    (fun x => by rw [hmem x]; simp) ((childFirst_iff tree order).1 hcf)
  refine ⟨hlen, fun j hj => ?_⟩
  have := hslots j hj
  unfold arrayPass
  rw [this]
  have hfull := partialSlot_eq_full (tree := tree) (done := order.reverse ++ []) (j := j) scope cpt e (fun d hdm => by
    obtain ⟨hdl, hdp⟩ := h.mem_children.1 hdm
    have hdr : d ≠ r := by
      rintro rfl; rw [h.parent_root] at hdp; cases hdp
    simpa using (hmem d).2 ⟨hdl, hdr⟩)
  rw [hfull 0, hfull 1]

include h in
/-- … hence the value returned for the row is the value of the inductive model -/
theorem WF.passValue_eq (order : List Nat) (hperm : order.Perm ((List.range tree.length).erase r))
    (hcf : childFirst tree order = true) :
    passValue tree cpt (rowOf scope e) r order = Clt.value scope tree cpt e := by
  unfold passValue rootValue
  rw [(h.arrayPass_slots scope cpt e order hperm hcf).2 r h.r_lt, h.outMsg_full scope cpt e r 0]
  rw [value_eq_up scope tree cpt h.rootOf]
  rfl

end pass

end Deeprob.GraphIo
