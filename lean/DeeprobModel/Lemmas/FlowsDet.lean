import DeeprobModel.Lemmas.FlowsLemmas
import Mathlib.Tactic.LinearCombination
import Mathlib.LinearAlgebra.Matrix.Block
import Mathlib.Data.Fin.Tuple.Sort
import Mathlib.Algebra.BigOperators.Fin
import Mathlib.Algebra.Order.BigOperators.Ring.Finset
/-
Determinant part of property C15: a matrix that is triangular with respect to a degree assignment
has determinant `∏ diag`; `exp` of a finite sum; log|det| of the Jacobian patterns of the layers.

The theorems speak about *any* matrix `J` with the stated diagonal and vanishing pattern; that the Jacobian of a
layer has this pattern and diagonal is proved over ℝ in `Props/C15Calculus.lean`.
-/
open Matrix BigOperators

namespace Deeprob.Flows

section Det
variable {n : Nat} {R : Type} [CommRing R]

/-- A square matrix whose off-diagonal entry `(i, j)` vanishes whenever `deg i ≤ deg j` (row `i` may
only read columns of strictly smaller degree, besides its own) has determinant `∏ᵢ Jᵢᵢ`: sorting the indices by
degree makes the matrix lower triangular.  `Props/C15.lean` states the same theorem as `det_triangular_by_degree`. -/
theorem det_triangular_by_degree' (J : Matrix (Fin n) (Fin n) R) (deg : Fin n → ℕ)
    (h : ∀ i j, i ≠ j → deg i ≤ deg j → J i j = 0) : J.det = ∏ i, J i i := by
  let σ := Tuple.sort deg
  have hmono : Monotone (deg ∘ σ) := Tuple.monotone_sort deg
  have hlow : (J.submatrix σ σ).IsLowerTriangular := by
    intro i j hij
    have hij' : i < j := hij
    show J (σ i) (σ j) = 0
    apply h
    · exact fun e => (ne_of_lt hij') (σ.injective e)
    · exact hmono (le_of_lt hij')
  have hdet := det_of_isLowerTriangular _ hlow
  rw [det_submatrix_equiv_self] at hdet
  rw [hdet]
  exact Equiv.prod_comp σ (fun i => J i i)

end Det

section SumBridge
variable {α : Type} [AddCommMonoid α]

theorem sumVar_eq_sum (n : Nat) (f : Nat → α) : sumVar n f = ∑ i : Fin n, f i := by
  induction n with
  | zero => rfl
  | succ n ih => rw [sumVar_succ, ih, Fin.sum_univ_castSucc]; rfl

end SumBridge

section ExpSum
variable {F : Type} [Field F] [LinearOrder F] (E : ExpLog F)

theorem exp_sum {ι : Type} (s : Finset ι) (f : ι → F) : E.exp (∑ i ∈ s, f i) = ∏ i ∈ s, E.exp (f i) := by
  classical
  induction s using Finset.induction_on with
  | empty => simp [E.exp_zero]
  | insert a s ha ih => rw [Finset.sum_insert ha, Finset.prod_insert ha, E.exp_add, ih]

/-- Division-free form: `det J = exp (Σ dᵢ)` for a degree-triangular matrix with diagonal `exp dᵢ`. -/
theorem det_eq_exp_sum {n : Nat} (J : Matrix (Fin n) (Fin n) F) (deg : Fin n → ℕ) (d : Fin n → F)
    (hdiag : ∀ i, J i i = E.exp (d i)) (h : ∀ i j, i ≠ j → deg i ≤ deg j → J i j = 0) :
    J.det = E.exp (∑ i, d i) := by
  rw [det_triangular_by_degree' J deg h, exp_sum]
  exact Finset.prod_congr rfl (fun i _ => hdiag i)

variable [IsStrictOrderedRing F]

/-- `log |det J| = Σ dᵢ` for a degree-triangular matrix with diagonal `exp dᵢ`. -/
theorem logabsdet_eq_sum {n : Nat} (J : Matrix (Fin n) (Fin n) F) (deg : Fin n → ℕ) (d : Fin n → F)
    (hdiag : ∀ i, J i i = E.exp (d i)) (h : ∀ i j, i ≠ j → deg i ≤ deg j → J i j = 0) :
    E.log |J.det| = ∑ i, d i := by
  rw [det_eq_exp_sum E J deg d hdiag h, abs_of_pos (E.exp_pos _), E.log_exp]

end ExpSum

section DiagLogDet
variable {F : Type} [Field F] [LinearOrder F] [IsStrictOrderedRing F] (E : ExpLog F)

theorem log_prod {ι : Type} (s : Finset ι) (f : ι → F) (hf : ∀ i ∈ s, 0 < f i) :
    E.log (∏ i ∈ s, f i) = ∑ i ∈ s, E.log (f i) := by
  classical
  induction s using Finset.induction_on with
  | empty => simp [E.log_one]
  | insert a s ha ih =>
    rw [Finset.prod_insert ha, Finset.sum_insert ha,
      E.log_mul (hf a (Finset.mem_insert_self a s))
        (Finset.prod_pos (fun i hi => hf i (Finset.mem_insert_of_mem hi))),
      ih (fun i hi => hf i (Finset.mem_insert_of_mem hi))]

/-- `log|det J| = Σ log dₖ` for a diagonal matrix with positive diagonal `d`. -/
theorem logabsdet_diag {n : Nat} (J : Matrix (Fin n) (Fin n) F) (d : Fin n → F)
    (hoff : ∀ i j, i ≠ j → J i j = 0) (hdiag : ∀ k, J k k = d k) (hpos : ∀ k, 0 < d k) :
    E.log |J.det| = ∑ k, E.log (d k) := by
  rw [det_triangular_by_degree' J (fun _ => 0) (fun i j hij _ => hoff i j hij)]
  simp only [hdiag]
  rw [abs_of_pos (Finset.prod_pos (fun i _ => hpos i)), log_prod E _ _ (fun i _ => hpos i)]

end DiagLogDet

section SumDiv
variable {α : Type} [CommSemiring α]

theorem sumVar_add_range (a b : Nat) (f : Nat → α) :
    sumVar (a + b) f = sumVar a f + sumVar b (fun k => f (a + k)) := by
  rw [sumVar_eq_sum_map, sumVar_eq_sum_map, sumVar_eq_sum_map, List.range_add, List.map_append, List.sum_append,
    List.map_map]
  rfl

theorem sumVar_const (n : Nat) (c : α) : sumVar n (fun _ => c) = (n : α) * c := by
  rw [sumVar_eq_sum_map, List.map_const', List.sum_replicate, List.length_range, nsmul_eq_mul]

/-- Per-channel parameters broadcast over a grid: `Σ_{k < C·g} f(k / g) = (Σ_{c < C} f c) · g`. -/
theorem sumVar_div_grid (C g : Nat) (f : Nat → α) :
    sumVar (C * g) (fun k => f (k / g)) = sumVar C f * (g : α) := by
  induction C with
  | zero => simp [sumVar]
  | succ C ih =>
    rw [Nat.succ_mul, sumVar_add_range, ih, sumVar_succ]
    have : sumVar g (fun k => f ((C * g + k) / g)) = sumVar g (fun _ => f C) := by
      apply sumVar_congr_lt
      intro k hk
      rw [mul_add_div' _ _ _ hk]
    rw [this, sumVar_const]
    ring

end SumDiv

section Bn2d
variable {F : Type} [Field F] (exp log sqrt : F → F) (half eps : F) (C grid : Nat) (w b mean var : Nat → F)

/-- `BatchNormLayer2d` on a `(C, H, W)` tensor is `BatchNormLayer1d` on its `C·grid` entries with every per-channel
parameter broadcast over the grid (the reported log-dets agree by `sumVar_div_grid`). -/
theorem bn2dBackward_eq_bn1d :
    bn2dBackward exp log sqrt half eps C grid (grid : F) w b mean var
      = bn1dBackward exp log sqrt half eps (C * grid) (fun k => w (k / grid)) (fun k => b (k / grid))
          (fun k => mean (k / grid)) (fun k => var (k / grid)) :=
  funext fun _ => Prod.ext rfl (sumVar_div_grid C grid _).symm

theorem bn2dForward_eq_bn1d :
    bn2dForward exp log sqrt half eps C grid (grid : F) w b mean var
      = bn1dForward exp log sqrt half eps (C * grid) (fun k => w (k / grid)) (fun k => b (k / grid))
          (fun k => mean (k / grid)) (fun k => var (k / grid)) :=
  funext fun _ => Prod.ext rfl <| (sumVar_div_grid C grid _).symm.trans <|
    sumVar_congr _ _ _ fun _ => sub_eq_neg_add _ _

end Bn2d

end Deeprob.Flows
