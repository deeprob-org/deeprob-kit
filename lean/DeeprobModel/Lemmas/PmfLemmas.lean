import DeeprobModel.Lemmas.MpeLemmas
import DeeprobModel.Props.CircMarg
import Mathlib.Algebra.Order.Field.Basic
/-
Algebra of the sampler's law (`topDownPmf`).
-/
namespace Deeprob
open TD

theorem Completes.mono {S T : List Nat} {e x : Ev} (h : Completes S e x) (hT : ∀ v ∈ T, v ∈ S) : Completes T e x :=
  ⟨h.1, fun v hv => h.2 v (hT v hv)⟩

/-- `sumOver` enumerates completions only: two summands that agree on completions give equal sums -/
theorem sumOver_congr_completes {α : Type} [CommSemiring α] (dom : Nat → Nat) (S : List Nat) (e : Ev) (f g : Ev → α)
    (h : ∀ x, Completes S e x → f x = g x) : sumOver dom S e f = sumOver dom S e g :=
  sumOver_congr_of_completion dom S e f g fun x _ h1 h2 => h x ⟨h1, h2⟩

/-- a weighted sum of non-negative terms that vanishes stays zero when each factor `fL c` is replaced by one
that vanishes with it: every term is already zero -/
theorem wsum_zero_transfer {α β : Type} [CommSemiring α] [LinearOrder α] [IsStrictOrderedRing α] [NoZeroDivisors α]
    (ws : List α) (cs : List β) (fL fX : β → α)
    (hw : ∀ w ∈ ws, 0 ≤ w) (hL : ∀ c ∈ cs, 0 ≤ fL c) (h0 : ∀ c ∈ cs, fL c = 0 → fX c = 0)
    (h : wsum ws (cs.map fL) = 0) : wsum ws (cs.map fX) = 0 := by
  rw [wsum_eq_sum] at h ⊢
  refine List.sum_eq_zero fun y hy => ?_
  obtain ⟨i, hi, rfl⟩ := List.mem_iff_getElem.1 hy
  rw [List.length_zipWith, List.length_map] at hi
  have hiw : i < ws.length := Nat.lt_of_lt_of_le hi (Nat.min_le_left _ _)
  have hic : i < cs.length := Nat.lt_of_lt_of_le hi (Nat.min_le_right _ _)
  have hterm : ws[i] * fL cs[i] = 0 :=
    List.all_zero_of_le_zero_le_of_sum_eq_zero (zipWith_mul_nonneg hw (List.forall_mem_map.2 hL)) h
      (List.mem_of_getElem? (by rw [List.getElem?_zipWith, List.getElem?_map, List.getElem?_eq_getElem hiw,
        List.getElem?_eq_getElem hic]; rfl))
  rw [List.getElem_zipWith, List.getElem_map]
  rcases mul_eq_zero.1 hterm with hz | hz
  · rw [hz, zero_mul]
  · rw [h0 _ (List.getElem_mem hic) hz, mul_zero]

theorem wsum_branchPmf_mul {α β : Type} [Field α] (L : α) (hL : L ≠ 0) (ws : List α) (cs : List β) (fL fP fX : β → α)
    (h : ∀ c ∈ cs, fP c * fL c = fX c) :
    wsum (TCirc.branchPmf L ws (cs.map fL)) (cs.map fP) * L = wsum ws (cs.map fX) := by
  induction ws generalizing cs with
  | nil => simp only [TCirc.branchPmf, List.zipWith_nil_left, wsum, zero_mul]
  | cons w ws ih =>
    cases cs with
    | nil => simp only [TCirc.branchPmf, List.map_nil, List.zipWith_nil_right, wsum, zero_mul]
    | cons c cs =>
      have ih' := ih cs (fun d hd => h d (List.mem_cons_of_mem _ hd))
      simp only [TCirc.branchPmf, List.map_cons, List.zipWith_cons_cons, wsum] at ih' ⊢
      rw [add_mul, ih', ← h c List.mem_cons_self]
      rw [mul_right_comm, div_mul_cancel₀ _ hL, mul_assoc, mul_comm (fL c)]

theorem lprod_mul_map {α β : Type} [CommSemiring α] (cs : List β) (fL fP fX : β → α)
    (h : ∀ c ∈ cs, fP c * fL c = fX c) : lprod (cs.map fP) * lprod (cs.map fL) = lprod (cs.map fX) := by
  rw [lprod_eq_prod, lprod_eq_prod, lprod_eq_prod, ← List.prod_map_mul, List.map_congr_left h]

namespace TCirc
section
variable {α : Type} [Zero α] [One α] [Add α] [Mul α] [Div α]

theorem topDownPmf_sum (e x : Ev) (s : List Nat) (ws : List α) (cs : List (TCirc α)) :
    topDownPmf e x (.sum s ws cs) =
      wsum (branchPmf (wsum ws (cs.map (eval e))) ws (cs.map (eval e))) (cs.map (topDownPmf e x)) := by
  rw [topDownPmf]; rfl

theorem topDownPmf_prod (e x : Ev) (s : List Nat) (cs : List (TCirc α)) :
    topDownPmf e x (.prod s cs) = lprod (cs.map (topDownPmf e x)) := by
  rw [topDownPmf]

end
variable {α : Type} [Field α] [LinearOrder α] [IsStrictOrderedRing α]

/-- core of `topDownPmf_exact`. At a sum node of value zero both sides vanish: every term `wᵢ·eval e cᵢ` is
zero, hence so is `wᵢ·eval x cᵢ = wᵢ·(pmfᵢ·eval e cᵢ)`. -/
theorem pmf_exact (dom : Nat → Nat) : ∀ (c : TCirc α), Circ.Valid dom c.toCirc → NonNeg c → LeafExact c →
    ∀ e x : Ev, Completes c.scope e x → topDownPmf e x c * eval e c = eval x c := by
  intro c
  induction c using TCirc.ind with
  | hl s f m cd =>
    intro _ _ hle e x hc
    unfold LeafExact at hle
    rw [eval_leaf, eval_leaf, topDownPmf]; exact hle e x hc
  | hs s ws cs ih =>
    intro hval hnn hle e x hc
    obtain ⟨_, _, hsc, hvc⟩ := valid_sum.1 hval
    unfold NonNeg at hnn; unfold LeafExact at hle
    have ihc : ∀ c ∈ cs, topDownPmf e x c * eval e c = eval x c := fun c hcm =>
      ih c hcm (hvc c hcm) (hnn.2 c hcm) (hle c hcm) e x (hc.mono fun v hv => (hsc c hcm v).1 hv)
    rw [topDownPmf_sum, eval_sum, eval_sum]
    by_cases hL : wsum ws (cs.map (eval e)) = 0
    · rw [hL, mul_zero]
      exact (wsum_zero_transfer ws cs (eval e) (eval x) hnn.1 (fun c hcm => eval_nonneg c (hnn.2 c hcm) e)
        (fun c hcm h0 => by rw [← ihc c hcm, h0, mul_zero]) hL).symm
    · exact wsum_branchPmf_mul _ hL ws cs (eval e) (topDownPmf e x) (eval x) ihc
  | hp s cs ih =>
    intro hval hnn hle e x hc
    obtain ⟨_, hsc, hvc⟩ := valid_prod.1 hval
    unfold NonNeg at hnn; unfold LeafExact at hle
    rw [topDownPmf_prod, eval_prod, eval_prod]
    exact lprod_mul_map cs (eval e) (topDownPmf e x) (eval x) fun c hcm =>
      ih c hcm (hvc c hcm) (hnn c hcm) (hle c hcm) e x
        (hc.mono fun v hv => (hsc v).1 (List.mem_flatten_of_mem (List.mem_map_of_mem hcm) hv))

end TCirc
end Deeprob
