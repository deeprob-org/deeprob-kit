import DeeprobModel.Model.Posterior
import DeeprobModel.Spec.Softmax
import DeeprobModel.Lemmas.ListSums
import DeeprobModel.Lemmas.ExpLogLemmas
import Mathlib.Algebra.Order.Field.Basic
import Mathlib.Algebra.Order.BigOperators.Group.List
set_option linter.unusedSimpArgs false
set_option linter.unusedVariables false
set_option linter.unusedSectionVars false
/-
Helper lemmas for C20: sums of quotients, `exp`/`log` algebra from the `ExpLog` laws, `np.argmax` under
strictly increasing maps.
-/
namespace Deeprob.C20
open Deeprob

section field
variable {F : Type} [Field F]

theorem tsum_map_div (xs : List F) (d : F) : tsum (xs.map (fun s => s / d)) = tsum xs / d := by
  rw [tsum_map_div_const, List.map_id']

theorem tsum_classScores (w : List F) (L : List (List F)) (r : Nat) : tsum (classScores w L r) = evidenceOf w L r :=
  tsum_zipWith_mul w (colOf L r)

end field

section ordered
variable {F : Type} [Field F] [LinearOrder F] [IsStrictOrderedRing F]

theorem tsum_exp_pos (E : ExpLog F) (zs : List F) (h : zs ≠ []) : 0 < tsum (zs.map E.exp) := by
  rw [tsum_eq_sum]
  refine List.sum_pos _ (fun x hx => ?_) (by simpa using h)
  obtain ⟨z, _, rfl⟩ := List.mem_map.1 hx
  exact E.exp_pos z

theorem classLL_exp (E : ExpLog F) (w ls : List F) (hw : ∀ x ∈ w, 0 < x) (hl : ∀ x ∈ ls, 0 < x) :
    (classLL E w (ls.map E.log)).map E.exp = List.zipWith (fun a b => a * b) w ls := by
  unfold classLL
  induction w generalizing ls with
  | nil => simp
  | cons a w ih =>
    cases ls with
    | nil => simp
    | cons l ls =>
      simp only [List.map_cons, List.zipWith_cons_cons]
      rw [ih ls (fun x hx => hw x (List.mem_cons_of_mem _ hx)) (fun x hx => hl x (List.mem_cons_of_mem _ hx)),
        E.exp_log_add (hw a List.mem_cons_self) (hl l List.mem_cons_self)]

theorem exp_logSoftmax (E : ExpLog F) (zs : List F) :
    (logSoftmax E zs).map E.exp = (zs.map E.exp).map (fun s => s / tsum (zs.map E.exp)) := by
  unfold logSoftmax
  rw [List.map_map, List.map_map]
  apply List.map_congr_left
  intro z hz
  have hne : zs ≠ [] := List.ne_nil_of_mem hz
  simp only [Function.comp]
  rw [E.exp_sub, E.exp_log _ (tsum_exp_pos E zs hne)]

theorem postArgmaxAux_map (f : F → F) (hf : ∀ a b, a < b ↔ f a < f b) (xs : List F) (i : Nat) (b : F) (bi : Nat) :
    postArgmaxAux (xs.map f) i (f b) bi = postArgmaxAux xs i b bi := by
  induction xs generalizing i b bi with
  | nil => rfl
  | cons x xs ih =>
    simp only [List.map_cons, postArgmaxAux]
    by_cases h : b < x
    · rw [if_pos h, if_pos ((hf b x).1 h)]; exact ih _ _ _
    · rw [if_neg h, if_neg (fun h' => h ((hf b x).2 h'))]; exact ih _ _ _

/-- a strictly increasing map does not change `np.argmax` (ties included: the first maximum stays first) -/
theorem argmaxL_map (f : F → F) (hf : ∀ a b, a < b ↔ f a < f b) (xs : List F) :
    argmaxL (xs.map f) = argmaxL xs := by
  cases xs with
  | nil => rfl
  | cons x xs => simp only [List.map_cons, argmaxL]; exact postArgmaxAux_map f hf xs 1 x 0

theorem exp_lt_iff (E : ExpLogMono F) (a b : F) : a < b ↔ E.exp a < E.exp b :=
  (show StrictMono E.exp from fun a b h => E.exp_lt a b h).lt_iff_lt.symm

end ordered
end Deeprob.C20
