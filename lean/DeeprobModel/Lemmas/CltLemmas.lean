import DeeprobModel.Model.CltPc
import DeeprobModel.Lemmas.RTreeInduction
import DeeprobModel.Spec.Structured
import DeeprobModel.Props.CircMarg
import Mathlib.Tactic.Ring
import Mathlib.Algebra.Order.Field.Basic
import Mathlib.Data.List.Perm.Basic
import Mathlib.Data.List.Pairwise

/-!
Binary Chow-Liu trees (`Model/Clt.lean`, `Model/CltPc.lean`).  The circuit `pc` built by `to_pc` evaluates to the
message `up` and is valid, so `up` is the sum over completions (`Circ.marg`) and the CLT is a leaf distribution.
Also: the tree unfolded from a predecessor array (`build`, `isTree`, `joint`), the product scopes of `pc` and of
`get_scopes` as scopes of sub-trees (a laminar family), and exactness / definedness of the sampler `samplePmf`.
-/

namespace Deeprob
section
variable {α : Type} [CommSemiring α]

theorem lprod_reverse (a : List α) : lprod a.reverse = lprod a := by
  rw [lprod_eq_prod, lprod_eq_prod, List.prod_reverse]

theorem lprod_perm {a b : List α} (h : a.Perm b) : lprod a = lprod b := by
  rw [lprod_eq_prod, lprod_eq_prod, h.prod_eq]

theorem lprod_map_mul {β : Type} (cs : List β) (f g : β → α) :
    lprod (cs.map fun c => f c * g c) = lprod (cs.map f) * lprod (cs.map g) := by
  rw [lprod_eq_prod, lprod_eq_prod, lprod_eq_prod, List.prod_map_mul]

theorem lprod_flatten (L : List (List α)) : lprod L.flatten = lprod (L.map lprod) := by
  rw [lprod_eq_prod, lprod_eq_prod, List.prod_flatten, funext lprod_eq_prod]

theorem lprod_zero_mem (a : List α) (h : (0:α) ∈ a) : lprod a = 0 := by
  rw [lprod_eq_prod, List.prod_eq_zero h]

end

namespace Circ

theorem mkSum_cons_scope {α : Type} (ws : List α) (c : Circ α) (cs : List (Circ α)) :
    scope (mkSum ws (c :: cs)) = scope c := rfl

theorem mkProd_scope {α : Type} (cs : List (Circ α)) : scope (mkProd cs) = (cs.map scope).flatten := rfl

theorem mkProd_mem_prodScopes {α : Type} (s : List Nat) (cs : List (Circ α)) :
    s ∈ prodScopes (mkProd cs) ↔ s = scope (mkProd cs) ∨ ∃ c ∈ cs, s ∈ prodScopes c := by
  rw [mkProd_scope]; unfold mkProd
  simp [prodScopes]

section
variable {α : Type} [Zero α] [One α] [Add α] [Mul α]

theorem mkSum_eval (e : Ev) (ws : List α) (cs : List (Circ α)) :
    eval e (mkSum ws cs) = wsum ws (cs.map (eval e)) := by
  unfold mkSum; rw [eval]

theorem mkProd_eval (e : Ev) (cs : List (Circ α)) : eval e (mkProd cs) = lprod (cs.map (eval e)) := by
  unfold mkProd; rw [eval]

theorem eval_catLeaf (e : Ev) (v : Nat) (tbl : List α) : eval e (catLeaf v tbl) = catLeafFn v tbl e := by
  unfold catLeaf; rw [eval]

omit [One α] [Mul α] in
theorem mkSum_pair_valid (dom : Nat → Nat) (w0 w1 : α) {a b : Circ α} (hs : scopeEq (scope b) (scope a))
    (ha : Valid dom a) (hb : Valid dom b) : Valid dom (mkSum [w0, w1] [a, b]) := by
  unfold mkSum Valid
  exact ⟨List.cons_ne_nil _ _, rfl, forall_mem_pair.2 ⟨fun _ => Iff.rfl, hs⟩, forall_mem_pair.2 ⟨ha, hb⟩⟩

omit [One α] [Mul α] in
theorem mkProd_valid (dom : Nat → Nat) {cs : List (Circ α)} (hnd : (scope (mkProd cs)).Nodup)
    (h : ∀ c ∈ cs, Valid dom c) : Valid dom (mkProd cs) := by
  unfold mkProd Valid
  exact ⟨hnd, fun _ => Iff.rfl, h⟩

theorem mkSum_pair_detAt (e : Ev) (ws : List α) {a b : Circ α} (h0 : eval e a = 0 ∨ eval e b = 0)
    (ha : DetAt e a) (hb : DetAt e b) : DetAt e (mkSum ws [a, b]) := by
  unfold mkSum DetAt
  exact ⟨List.pairwise_pair.2 h0, forall_mem_pair.2 ⟨ha, hb⟩⟩

theorem mkProd_detAt (e : Ev) {cs : List (Circ α)} (h : ∀ c ∈ cs, DetAt e c) : DetAt e (mkProd cs) := by
  unfold mkProd DetAt
  exact h

omit [Add α] [Mul α] in
theorem catLeafFn_of_none {v : Nat} {e : Ev} (tbl : List α) (h : e v = none) : catLeafFn v tbl e = 1 := by
  simp only [catLeafFn, h]

omit [Add α] [Mul α] in
theorem catLeafFn_of_some {v o : Nat} {e : Ev} (tbl : List α) (h : e v = some o) :
    catLeafFn v tbl e = tbl.getD o 0 := by
  simp only [catLeafFn, h]

end
end Circ

namespace Clt
section
variable {α : Type} [CommSemiring α] (scope : List Nat) (cpt : List (List (List α)))

theorem cptAt_ge (cpt : List (List (List α))) (i l k : Nat) (h : 2 ≤ k) : cptAt cpt i l k = 0 := by
  unfold cptAt; rw [if_neg (by omega)]

theorem up_obs (i : Nat) (cs : List RTree) (l : Nat) {e : Ev} {o : Nat}
    (h : e (scope.getD i 0) = some o) :
    up scope cpt (.node i cs) l e = cptAt cpt i l o * lprod (cs.map (fun c => up scope cpt c o e)) := by
  rw [up]; simp only [h]

theorem up_mis (i : Nat) (cs : List RTree) (l : Nat) {e : Ev}
    (h : e (scope.getD i 0) = none) :
    up scope cpt (.node i cs) l e =
      cptAt cpt i l 0 * lprod (cs.map (fun c => up scope cpt c 0 e)) +
      cptAt cpt i l 1 * lprod (cs.map (fun c => up scope cpt c 1 e)) := by
  rw [up]; simp only [h, sumVar_two]

theorem indicator_zero_getD (o : Nat) : (indicator (α := α) 0).getD o 0 = if o = 0 then 1 else 0 := by
  rcases o with _ | _ | o <;> rfl

theorem indicator_one_getD (o : Nat) : (indicator (α := α) 1).getD o 0 = if o = 1 then 1 else 0 := by
  rcases o with _ | _ | o <;> rfl

/-- the value the sum node of `pc` and the message `up` share: one term per value of the variable, the terms of the
values excluded by the evidence switched off by the indicator leaves -/
theorem up_node (i : Nat) (cs : List RTree) (l : Nat) (e : Ev) :
    up scope cpt (.node i cs) l e =
      wsum [cptAt cpt i l 0, cptAt cpt i l 1]
        [Circ.catLeafFn (scope.getD i 0) (indicator 0) e * lprod (cs.map (fun c => up scope cpt c 0 e)),
         Circ.catLeafFn (scope.getD i 0) (indicator 1) e * lprod (cs.map (fun c => up scope cpt c 1 e))] := by
  cases h : e (scope.getD i 0) with
  | none =>
    rw [up_mis scope cpt i cs l h, Circ.catLeafFn_of_none _ h, Circ.catLeafFn_of_none _ h]
    simp only [wsum, one_mul, add_zero]
  | some o =>
    rw [up_obs scope cpt i cs l h, Circ.catLeafFn_of_some _ h, Circ.catLeafFn_of_some _ h,
      indicator_zero_getD, indicator_one_getD]
    rcases o with _ | _ | o
    · simp [wsum]
    · simp [wsum]
    · simp [wsum, cptAt_ge]

/-- the child of the sum node that `to_pc` builds for a tree node, for the value `k` of its variable: the indicator leaf
alone (tree leaf), or the product of the indicator leaf and the children's circuits for parent value `k` -/
def pcBranch (v : Nat) (cs : List RTree) (k : Nat) : Circ α :=
  if cs.isEmpty then Circ.catLeaf v (indicator k)
  else Circ.mkProd (Circ.catLeaf v (indicator k) :: (cs.map (fun c => pc scope cpt c k)).reverse)

theorem pc_node (i : Nat) (cs : List RTree) (l : Nat) :
    pc scope cpt (.node i cs) l =
      Circ.mkSum [cptAt cpt i l 0, cptAt cpt i l 1]
        [pcBranch scope cpt (scope.getD i 0) cs 0, pcBranch scope cpt (scope.getD i 0) cs 1] := by
  rw [pc]; unfold pcBranch; split <;> rfl

theorem eval_pcBranch (e : Ev) (scope : List Nat) (cpt : List (List (List α))) (v : Nat) (cs : List RTree) (k : Nat) :
    Circ.eval e (pcBranch scope cpt v cs k) =
      Circ.catLeafFn v (indicator k) e * lprod (cs.map (fun c => Circ.eval e (pc scope cpt c k))) := by
  cases cs with
  | nil => rw [List.map_nil, lprod, mul_one]; exact Circ.eval_catLeaf e v _
  | cons c cs =>
    show Circ.eval e (Circ.mkProd _) = _
    rw [Circ.mkProd_eval, List.map_cons, lprod, Circ.eval_catLeaf, List.map_reverse, lprod_reverse, List.map_map]
    rfl

theorem pc_eval_lem (t : RTree) (l : Nat) (e : Ev) :
    Circ.eval e (pc scope cpt t l) = up scope cpt t l e := by
  induction t using RTree.ind generalizing l with
  | node i cs ih =>
    rw [pc_node, Circ.mkSum_eval, up_node]
    simp only [List.map_cons, List.map_nil, eval_pcBranch]
    rw [List.map_congr_left (fun c hc => ih c hc 0), List.map_congr_left (fun c hc => ih c hc 1)]

theorem lab_node (i : Nat) (cs : List RTree) :
    lab scope (.node i cs) = scope.getD i 0 :: (cs.map (lab scope)).flatten := by
  simp only [lab, RTree.vars, List.map_cons, List.map_flatten, List.map_map]
  rfl

theorem root_mem_lab (i : Nat) (cs : List RTree) : scope.getD i 0 ∈ lab scope (.node i cs) := by
  rw [lab_node]; exact List.mem_cons_self

theorem lab_child_sub (i : Nat) (cs : List RTree) (c : RTree) (hc : c ∈ cs) :
    ∀ v ∈ lab scope c, v ∈ lab scope (.node i cs) := by
  intro v hv
  rw [lab_node]
  exact List.mem_cons_of_mem _ (List.mem_flatten_of_mem (List.mem_map_of_mem hc) hv)

theorem lab_child_nodup (i : Nat) (cs : List RTree) (c : RTree) (hc : c ∈ cs)
    (h : (lab scope (.node i cs)).Nodup) : (lab scope c).Nodup := by
  rw [lab_node] at h
  exact (List.nodup_flatten.1 (List.nodup_cons.1 h).2).1 _ (List.mem_map_of_mem hc)

theorem reverse_flatten_perm {β : Type} (cs : List β) (f g : β → List Nat) (h : ∀ c ∈ cs, (f c).Perm (g c)) :
    ((cs.map f).reverse.flatten).Perm (cs.map g).flatten :=
  (List.reverse_perm _).flatten.trans (List.Perm.flatMap_left cs h)

/-- the scope stored by `to_pc` lists exactly the variables of the sub-tree (in another order) -/
theorem pcScope_perm (t : RTree) : (pcScope scope t).Perm (lab scope t) := by
  induction t using RTree.ind with
  | node i cs ih =>
    rw [pcScope, lab_node]
    exact List.Perm.cons _ (reverse_flatten_perm cs _ _ ih)

theorem scope_pcBranch (v : Nat) (cs : List RTree) (k : Nat) :
    Circ.scope (pcBranch scope cpt v cs k) =
      v :: ((cs.map (fun c => Circ.scope (pc scope cpt c k))).reverse).flatten := by
  cases cs with
  | nil => rfl
  | cons c cs =>
    show Circ.scope (Circ.mkProd _) = _
    rw [Circ.mkProd_scope, List.map_cons, List.map_reverse, List.map_map]
    rfl

theorem pc_scope (t : RTree) (l : Nat) :
    Circ.scope (pc scope cpt t l) = pcScope scope t := by
  induction t using RTree.ind generalizing l with
  | node i cs ih =>
    rw [pc_node, Circ.mkSum_cons_scope, scope_pcBranch, pcScope, List.map_congr_left (fun c hc => ih c hc 0)]

theorem scope_pcBranch_node (i : Nat) (cs : List RTree) (k : Nat) :
    Circ.scope (pcBranch scope cpt (scope.getD i 0) cs k) = pcScope scope (.node i cs) := by
  rw [scope_pcBranch, pcScope, List.map_congr_left (fun c _ => pc_scope scope cpt c k)]

theorem tsum_indicator (k : Nat) : tsum (indicator (α := α) k) = 1 := by
  unfold indicator; split <;> simp [tsum]

theorem length_indicator (k : Nat) : (indicator (α := α) k).length = 2 := by
  unfold indicator; split <;> rfl

theorem valid_pcBranch (dom : Nat → Nat) (scope : List Nat) (cpt : List (List (List α))) (i : Nat) (cs : List RTree)
    (k : Nat) (hv : dom (scope.getD i 0) = 2) (hnd : (pcScope scope (.node i cs)).Nodup)
    (h : ∀ c ∈ cs, Circ.Valid dom (pc scope cpt c k)) :
    Circ.Valid dom (pcBranch scope cpt (scope.getD i 0) cs k) := by
  have hleaf : Circ.Valid dom (Circ.catLeaf (scope.getD i 0) (indicator (α := α) k)) := by
    unfold Circ.catLeaf Circ.Valid
    exact Circ.catLeaf_ok dom _ _ (by rw [length_indicator, hv]) (tsum_indicator k)
  rw [← scope_pcBranch_node scope cpt i cs k] at hnd
  cases cs with
  | nil => exact hleaf
  | cons c cs =>
    refine Circ.mkProd_valid dom hnd (fun d hd => ?_)
    rcases List.mem_cons.1 hd with rfl | hd
    · exact hleaf
    · obtain ⟨d', hd', rfl⟩ := List.mem_map.1 (List.mem_reverse.1 hd)
      exact h d' hd'

theorem pc_valid_lem (dom : Nat → Nat) (scope : List Nat) (cpt : List (List (List α))) (t : RTree) (l : Nat)
    (hnd : (lab scope t).Nodup) (hdom : ∀ v ∈ lab scope t, dom v = 2) : Circ.Valid dom (pc scope cpt t l) := by
  induction t using RTree.ind generalizing l with
  | node i cs ih =>
    have hb : ∀ k, Circ.Valid dom (pcBranch scope cpt (scope.getD i 0) cs k) := fun k =>
      valid_pcBranch dom scope cpt i cs k (hdom _ (root_mem_lab scope i cs))
        ((pcScope_perm scope _).nodup_iff.2 hnd)
        (fun c hc => ih c hc k (lab_child_nodup scope i cs c hc hnd)
          (fun v hv => hdom v (lab_child_sub scope i cs c hc v hv)))
    rw [pc_node]
    refine Circ.mkSum_pair_valid dom _ _ ?_ (hb 0) (hb 1)
    rw [scope_pcBranch_node, scope_pcBranch_node]
    exact fun _ => Iff.rfl

theorem up_congr (t : RTree) (l : Nat) (a b : Ev)
    (h : ∀ v ∈ lab scope t, a v = b v) : up scope cpt t l a = up scope cpt t l b := by
  induction t using RTree.ind generalizing l with
  | node i cs ih =>
    have hkids : ∀ k, cs.map (fun c => up scope cpt c k a) = cs.map (fun c => up scope cpt c k b) := fun k =>
      List.map_congr_left (fun c hc => ih c hc k (fun v hv => h v (lab_child_sub scope i cs c hc v hv)))
    rw [up, up, h _ (root_mem_lab scope i cs)]
    simp only [hkids]

/-- **message passing = explicit sum over completions** (every evidence pattern), obtained from
`Circ.marg` applied to the circuit `to_pc` builds -/
theorem up_marg_lem (dom : Nat → Nat) (scope : List Nat) (cpt : List (List (List α))) (t : RTree) (l : Nat)
    (hnd : (lab scope t).Nodup) (hdom : ∀ v ∈ lab scope t, dom v = 2) (e : Ev) :
    up scope cpt t l e = sumOver dom (lab scope t) e (fun e' => up scope cpt t l e') := by
  have h := Circ.marg dom (pc scope cpt t l) (pc_valid_lem dom scope cpt t l hnd hdom) e
  rw [pc_eval_lem, pc_scope, sumOver_perm dom (pcScope_perm scope t)] at h
  simpa only [pc_eval_lem] using h

theorem clt_leafOK_lem (dom : Nat → Nat) (scope : List Nat) (cpt : List (List (List α))) (t : RTree) (l : Nat)
    (hnd : (lab scope t).Nodup) (hdom : ∀ v ∈ lab scope t, dom v = 2) :
    LeafOK dom (lab scope t) (up scope cpt t l) where
  local_ := fun a b h => up_congr scope cpt t l a b h
  marg := fun e => (up_marg_lem dom scope cpt t l hnd hdom e).symm

theorem vars_child_sub (i : Nat) (cs : List RTree) (c : RTree) (hc : c ∈ cs) :
    ∀ j ∈ c.vars, j ∈ (RTree.node i cs).vars := by
  intro j hj
  rw [RTree.vars]
  exact List.mem_cons_of_mem _ (List.mem_flatten_of_mem (List.mem_map_of_mem hc) hj)

theorem root_mem_vars (i : Nat) (cs : List RTree) : i ∈ (RTree.node i cs).vars := by
  rw [RTree.vars]; exact List.mem_cons_self

theorem up_all_missing (t : RTree) (l : Nat) (hl : l < 2)
    (h : ∀ i ∈ t.vars, ∀ l < 2, cptAt cpt i l 0 + cptAt cpt i l 1 = 1) : up scope cpt t l (fun _ => none) = 1 := by
  induction t using RTree.ind generalizing l with
  | node i cs ih =>
    have hkids : ∀ k < 2, lprod (cs.map (fun c => up scope cpt c k (fun _ => none))) = 1 := fun k hk =>
      Circ.lprod_ones _ (fun x hx => by
        obtain ⟨c, hc, rfl⟩ := List.mem_map.1 hx
        exact ih c hc k hk (fun j hj => h j (vars_child_sub i cs c hc j hj)))
    rw [up_mis scope cpt i cs l rfl, hkids 0 (by omega), hkids 1 (by omega), mul_one, mul_one]
    exact h i (root_mem_vars i cs) l hl

/-- one factor of the vectorised full-evidence path `params[vs, x[:, tree], x[:, vs]]` -/
def jointFactor (scope : List Nat) (pred : List Int) (cpt : List (List (List α))) (x : Nat → Nat) (i : Nat) : α :=
  cptAt cpt i (x (scope.getD (if pred.getD i (-1) < 0 then pred.length - 1 else (pred.getD i (-1)).toNat) 0))
    (x (scope.getD i 0))

theorem joint_eq_lprod (scope : List Nat) (pred : List Int) (cpt : List (List (List α))) (x : Nat → Nat) :
    joint scope pred cpt x = lprod ((List.range pred.length).map (jointFactor scope pred cpt x)) := rfl

theorem mem_childrenOf_iff {pred : List Int} {j c : Nat} :
    c ∈ childrenOf pred j ↔ c < pred.length ∧ pred.getD c (-1) = (j : Int) := by
  unfold childrenOf
  simp [List.mem_filter]

theorem mem_childrenOf {pred : List Int} {j d : Nat} (h : d ∈ childrenOf pred j) : pred.getD d (-1) = (j : Int) :=
  (mem_childrenOf_iff.1 h).2

theorem jointFactor_child (scope : List Nat) (pred : List Int) (cpt : List (List (List α))) (x : Nat → Nat)
    {j d : Nat} (h : pred.getD d (-1) = (j : Int)) :
    jointFactor scope pred cpt x d = cptAt cpt d (x (scope.getD j 0)) (x (scope.getD d 0)) := by
  unfold jointFactor
  rw [h]
  have hn : ¬ ((j : Int) < 0) := by omega
  simp [hn]

theorem vars_build (pred : List Int) (fuel c : Nat) :
    (build pred fuel c).vars = c :: (build pred fuel c).vars.tail := by
  cases fuel <;> simp [build, RTree.vars]

theorem treeJoint_build (scope : List Nat) (pred : List Int) (cpt : List (List (List α))) (x : Nat → Nat) :
    ∀ (fuel c l : Nat), treeJoint scope cpt x (build pred fuel c) l =
      cptAt cpt c l (x (scope.getD c 0)) * lprod ((build pred fuel c).vars.tail.map (jointFactor scope pred cpt x)) := by
  intro fuel
  induction fuel with
  | zero => intro c l; simp [build, treeJoint, RTree.vars]
  | succ n ih =>
    intro c l
    rw [build, treeJoint, RTree.vars, List.tail_cons, List.map_map, List.map_map, List.map_flatten, lprod_flatten,
      List.map_map, List.map_map]
    congr 1
    congr 1
    apply List.map_congr_left
    intro d hd
    simp only [Function.comp]
    rw [ih, vars_build pred n d, List.map_cons, lprod, jointFactor_child scope pred cpt x (mem_childrenOf hd), List.tail_cons]

theorem filter_range_singleton (p : Nat → Bool) (r : Nat) : ∀ n, r < n →
    (∀ c, c < n → (p c = true ↔ c = r)) → (List.range n).filter p = [r] := by
  intro n hr hp
  rw [List.filter_congr (q := (· == r)) (fun c hc => Bool.eq_iff_iff.2 (by
    rw [hp c (List.mem_range.1 hc), beq_iff_eq])), List.filter_beq,
    List.count_eq_one_of_mem List.nodup_range (List.mem_range.2 hr)]
  rfl

/-- `rootOf` finds `r` exactly when `r` is the only position that holds `-1` -/
theorem rootOf_eq_some_iff {pred : List Int} {r : Nat} :
    rootOf pred = some r ↔ r < pred.length ∧ ∀ c, c < pred.length → (pred.getD c 0 = -1 ↔ c = r) := by
  constructor
  · intro h
    unfold rootOf at h
    split at h
    · rename_i r' heq
      cases h
      have hmem : ∀ c, c ∈ (List.range pred.length).filter (fun c => pred.getD c 0 == -1) ↔ c = r := by
        intro c; rw [heq]; exact List.mem_singleton
      simp only [List.mem_filter, List.mem_range, beq_iff_eq] at hmem
      exact ⟨((hmem r).2 rfl).1, fun c hc => ⟨fun hcm => (hmem c).1 ⟨hc, hcm⟩, fun e => ((hmem c).2 e).2⟩⟩
    · cases h
  · rintro ⟨hr, h⟩
    unfold rootOf
    rw [filter_range_singleton _ r pred.length hr]
    intro c hc
    simpa using h c hc

theorem rootOf_spec {pred : List Int} {r : Nat} (h : rootOf pred = some r) : pred.getD r (-1) = -1 := by
  obtain ⟨hr, hc⟩ := rootOf_eq_some_iff.1 h
  have hroot := (hc r hr).2 rfl
  rw [List.getD_eq_getElem?_getD, List.getElem?_eq_getElem hr, Option.getD_some] at hroot ⊢
  exact hroot

/-- `isTree` unpacked: there is a root and the unfolding from it lists every index exactly once -/
theorem isTree_perm {pred : List Int} (h : isTree pred = true) :
    ∃ r, rootOf pred = some r ∧ (build pred pred.length r).vars.Perm (List.range pred.length) := by
  unfold isTree at h
  cases hr : rootOf pred with
  | none => simp [hr] at h
  | some r =>
    refine ⟨r, rfl, ?_⟩
    simp only [hr, Bool.and_eq_true, beq_iff_eq, List.all_eq_true, List.mem_range, List.contains_iff_mem] at h
    obtain ⟨hlen, hall⟩ := h
    have hsub : List.range pred.length ⊆ (build pred pred.length r).vars := fun i hi => by
      simpa using hall i (List.mem_range.1 hi)
    have hsp := List.subperm_of_subset List.nodup_range hsub
    exact (hsp.perm_of_length_le (by simp [hlen])).symm

theorem value_eq_up (scope : List Nat) (pred : List Int) (cpt : List (List (List α))) {r : Nat}
    (hr : rootOf pred = some r) (e : Ev) :
    value scope pred cpt e = up scope cpt (build pred pred.length r) 0 e := by
  simp only [value, hr]

theorem build_node (pred : List Int) (fuel r : Nat) : ∃ cs, build pred fuel r = .node r cs := by
  cases fuel
  · exact ⟨[], rfl⟩
  · exact ⟨_, rfl⟩

theorem lab_build_perm {pred : List Int} {r : Nat} (hlen : scope.length = pred.length)
    (hperm : (build pred pred.length r).vars.Perm (List.range pred.length)) :
    (lab scope (build pred pred.length r)).Perm scope := by
  have h2 : (List.range pred.length).map (fun i => scope.getD i 0) = scope := by
    rw [← hlen]; exact map_getD_range scope 0
  have := hperm.map (fun i => scope.getD i 0)
  rw [h2] at this
  exact this

theorem isTree_lab_perm {pred : List Int} (htree : isTree pred = true)
    (hlen : scope.length = pred.length) :
    ∃ r, rootOf pred = some r ∧ (lab scope (build pred pred.length r)).Perm scope := by
  obtain ⟨r, hr, hperm⟩ := isTree_perm htree
  exact ⟨r, hr, lab_build_perm scope hlen hperm⟩

/-- the row used at the root of a sub-tree does not matter when its two rows are equal -/
theorem up_build_root_row (pred : List Int) (fuel r : Nat) (e : Ev)
    (h : ∀ k, cptAt cpt r 0 k = cptAt cpt r 1 k) :
    up scope cpt (build pred fuel r) 1 e = up scope cpt (build pred fuel r) 0 e := by
  obtain ⟨cs, hcs⟩ := build_node pred fuel r
  rw [hcs, up, up]
  simp only [h]

theorem leafOK_perm (dom : Nat → Nat) {S T : List Nat} (h : S.Perm T) (f : Ev → α) (hf : LeafOK dom S f) :
    LeafOK dom T f where
  local_ := fun a b hab => hf.local_ a b (fun v hv => hab v (h.mem_iff.1 hv))
  marg := fun e => by rw [← sumOver_perm dom h]; exact hf.marg e

/-- the CLT leaf is a distribution over its scope (what `Circ.Valid` asks of a leaf) -/
theorem value_leafOK_lem (dom : Nat → Nat) (scope : List Nat) (pred : List Int) (cpt : List (List (List α)))
    (htree : isTree pred = true) (hlen : scope.length = pred.length) (hnd : scope.Nodup)
    (hdom : ∀ v ∈ scope, dom v = 2) : LeafOK dom scope (value scope pred cpt) := by
  obtain ⟨r, hr, hp⟩ := isTree_lab_perm scope htree hlen
  rw [show value scope pred cpt = up scope cpt (build pred pred.length r) 0 from
    funext (value_eq_up scope pred cpt hr)]
  exact leafOK_perm dom hp _ (clt_leafOK_lem dom scope cpt _ 0 (hp.nodup_iff.2 hnd) (fun v hv => hdom v (hp.mem_iff.1 hv)))

theorem indicator_contra (v o : Nat) (e : Ev) (h : e v = some o) :
    Circ.catLeafFn v (indicator (α := α) 0) e = 0 ∨ Circ.catLeafFn v (indicator (α := α) 1) e = 0 := by
  rw [Circ.catLeafFn_of_some _ h, Circ.catLeafFn_of_some _ h, indicator_zero_getD, indicator_one_getD]
  by_cases ho : o = 0
  · right; rw [if_neg (by omega)]
  · left; rw [if_neg ho]

theorem detAt_pcBranch (e : Ev) (scope : List Nat) (cpt : List (List (List α))) (v : Nat) (cs : List RTree) (k : Nat)
    (h : ∀ c ∈ cs, Circ.DetAt e (pc scope cpt c k)) : Circ.DetAt e (pcBranch scope cpt v cs k) := by
  have hleaf : Circ.DetAt e (Circ.catLeaf v (indicator (α := α) k)) := by
    unfold Circ.catLeaf Circ.DetAt; trivial
  cases cs with
  | nil => exact hleaf
  | cons c cs =>
    refine Circ.mkProd_detAt e (fun d hd => ?_)
    rcases List.mem_cons.1 hd with rfl | hd
    · exact hleaf
    · obtain ⟨d', hd', rfl⟩ := List.mem_map.1 (List.mem_reverse.1 hd)
      exact h d' hd'

theorem subtrees_node (i : Nat) (cs : List RTree) (u : RTree) :
    u ∈ (RTree.node i cs).subtrees ↔ u = .node i cs ∨ ∃ c ∈ cs, u ∈ c.subtrees := by
  simp only [RTree.subtrees, List.mem_cons, List.mem_flatten, List.mem_map, exists_exists_and_eq_and]

theorem subtrees_self (t : RTree) : t ∈ t.subtrees := by
  cases t; rw [RTree.subtrees]; exact List.mem_cons_self

theorem mem_prodScopes_pcBranch (s : List Nat) (i : Nat)
    (cs : List RTree) (k : Nat) :
    s ∈ Circ.prodScopes (pcBranch scope cpt (scope.getD i 0) cs k) ↔
      (cs ≠ [] ∧ s = pcScope scope (.node i cs)) ∨ ∃ c ∈ cs, s ∈ Circ.prodScopes (pc scope cpt c k) := by
  have hs := scope_pcBranch_node scope cpt i cs k
  cases cs with
  | nil => simp [pcBranch, Circ.catLeaf, Circ.prodScopes]
  | cons c cs =>
    refine (Circ.mkProd_mem_prodScopes s _).trans (or_congr ?_ ?_)
    · exact ⟨fun h => ⟨List.cons_ne_nil _ _, h.trans hs⟩, fun h => h.2.trans hs.symm⟩
    · simpa [Circ.catLeaf, Circ.prodScopes] using or_comm

theorem mem_prodScopes_pc (s : List Nat) (t : RTree) (l : Nat) :
    s ∈ Circ.prodScopes (pc scope cpt t l) ↔ ∃ u ∈ t.subtrees, u.kids ≠ [] ∧ s = pcScope scope u := by
  induction t using RTree.ind generalizing l with
  | node i cs ih =>
    have hb : ∀ k, s ∈ Circ.prodScopes (pcBranch scope cpt (scope.getD i 0) cs k) ↔
        ∃ u ∈ (RTree.node i cs).subtrees, u.kids ≠ [] ∧ s = pcScope scope u := by
      intro k
      rw [mem_prodScopes_pcBranch]
      constructor
      · rintro (⟨hne, rfl⟩ | ⟨c, hc, hs⟩)
        · exact ⟨_, subtrees_self _, hne, rfl⟩
        · obtain ⟨u, hu, hk, rfl⟩ := (ih c hc k).1 hs
          exact ⟨u, (subtrees_node i cs u).2 (Or.inr ⟨c, hc, hu⟩), hk, rfl⟩
      · rintro ⟨u, hu, hk, rfl⟩
        rcases (subtrees_node i cs u).1 hu with rfl | ⟨c, hc, huc⟩
        · exact Or.inl ⟨hk, rfl⟩
        · exact Or.inr ⟨c, hc, (ih c hc k).2 ⟨u, huc, hk, rfl⟩⟩
    rw [pc_node, Circ.mkSum, Circ.prodScopes]
    simp only [List.map_cons, List.map_nil, List.flatten_cons, List.flatten_nil, List.append_nil, List.mem_append,
      hb, or_self]

theorem subtree_lab_sub (t : RTree) : ∀ u ∈ t.subtrees, ∀ v ∈ lab scope u, v ∈ lab scope t := by
  induction t using RTree.ind with
  | node i cs ih =>
    intro u hu v hv
    rcases (subtrees_node i cs u).1 hu with rfl | ⟨c, hc, huc⟩
    · exact hv
    · exact lab_child_sub scope i cs c hc v (ih c hc u huc v hv)

theorem flatten_disjoint {β : Type} (f : β → List Nat) (cs : List β) (h : (cs.map f).flatten.Nodup)
    (c1 c2 : β) (h1 : c1 ∈ cs) (h2 : c2 ∈ cs) (hne : c1 ≠ c2) (v : Nat) (hv1 : v ∈ f c1) (hv2 : v ∈ f c2) : False := by
  have hp : cs.Pairwise (fun a b => (f a).Disjoint (f b)) := List.pairwise_map.1 (List.nodup_flatten.1 h).2
  have : Std.Symm (fun a b => (f a).Disjoint (f b)) := ⟨fun _ _ hd => hd.symm⟩
  exact hp.forall h1 h2 hne hv1 hv2

theorem subtrees_laminar (t : RTree) (hnd : (lab scope t).Nodup) :
    ∀ u1 ∈ t.subtrees, ∀ u2 ∈ t.subtrees,
      (∀ v ∈ lab scope u1, v ∈ lab scope u2) ∨ (∀ v ∈ lab scope u2, v ∈ lab scope u1) ∨
        (∀ v, ¬ (v ∈ lab scope u1 ∧ v ∈ lab scope u2)) := by
  induction t using RTree.ind with
  | node i cs ih =>
    intro u1 h1 u2 h2
    rcases (subtrees_node i cs u1).1 h1 with rfl | ⟨c1, hc1, hu1⟩
    · exact Or.inr (Or.inl (subtree_lab_sub scope _ u2 h2))
    rcases (subtrees_node i cs u2).1 h2 with rfl | ⟨c2, hc2, hu2⟩
    · exact Or.inl (subtree_lab_sub scope _ u1 h1)
    by_cases hcc : c1 = c2
    · subst hcc
      exact ih c1 hc1 (lab_child_nodup scope i cs c1 hc1 hnd) u1 hu1 u2 hu2
    · refine Or.inr (Or.inr ?_)
      rintro v ⟨hv1, hv2⟩
      rw [lab_node] at hnd
      exact flatten_disjoint (lab scope) cs (List.nodup_cons.1 hnd).2 c1 c2 hc1 hc2 hcc v
        (subtree_lab_sub scope c1 u1 hu1 v hv1) (subtree_lab_sub scope c2 u2 hu2 v hv2)

theorem getScopeTop_perm (t : RTree) : (getScopeTop scope t).Perm (lab scope t) := by
  induction t using RTree.ind with
  | node i cs ih =>
    rw [getScopeTop, lab_node]
    exact List.perm_append_comm.trans (List.Perm.cons _ (reverse_flatten_perm cs _ _ ih))

theorem mem_getScopes (s : List Nat) (t : RTree) :
    s ∈ getScopes scope t ↔ ∃ u ∈ t.subtrees, u.kids ≠ [] ∧ s = getScopeTop scope u := by
  induction t using RTree.ind with
  | node i cs ih =>
    rw [getScopes]
    simp only [List.mem_append, List.mem_flatten, List.mem_reverse, List.mem_map]
    constructor
    · rintro (⟨_, ⟨c, hc, rfl⟩, hs⟩ | hs)
      · obtain ⟨u, hu, hk, rfl⟩ := (ih c hc).1 hs
        exact ⟨u, (subtrees_node i cs u).2 (Or.inr ⟨c, hc, hu⟩), hk, rfl⟩
      · cases cs with
        | nil => cases hs
        | cons c cs => exact ⟨_, subtrees_self _, List.cons_ne_nil _ _, List.mem_singleton.1 hs⟩
    · rintro ⟨u, hu, hk, rfl⟩
      rcases (subtrees_node i cs u).1 hu with rfl | ⟨c, hc, huc⟩
      · right
        cases cs with
        | nil => exact absurd rfl hk
        | cons c cs => exact List.mem_singleton.2 rfl
      · exact Or.inl ⟨_, ⟨c, hc, rfl⟩, (ih c hc).2 ⟨u, huc, hk, rfl⟩⟩

end
section sampling
variable {α : Type} [Field α] (scope : List Nat) (cpt : List (List (List α)))

/-- every division performed by `samplePmf` along the path selected by `x` is by a non-zero marginal -/
def SampleDefined (scope : List Nat) (cpt : List (List (List α))) : RTree → Nat → Ev → (Nat → Nat) → Prop
  | .node i cs, l, e, x =>
    match e (scope.getD i 0) with
    | some o => ∀ c ∈ cs, SampleDefined scope cpt c o e x
    | none => up scope cpt (.node i cs) l e ≠ 0 ∧ ∀ c ∈ cs, SampleDefined scope cpt c (x (scope.getD i 0)) e x

/-- the local conditional is the selected term of the message over the whole message -/
theorem localCond_mul_up (i : Nat) (cs : List RTree) (l k : Nat)
    {e : Ev} (hv : e (scope.getD i 0) = none) (hz : up scope cpt (.node i cs) l e ≠ 0) :
    localCond scope cpt i cs l k e * up scope cpt (.node i cs) l e = cptAt cpt i l k * msgAt scope cpt cs k e := by
  have hU : up scope cpt (.node i cs) l e = sumVar 2 (fun k' => cptAt cpt i l k' * msgAt scope cpt cs k' e) := by
    rw [up]; simp only [hv]; rfl
  rw [localCond, ← hU, div_mul_cancel₀ _ hz]

theorem samplePmf_exact_fill (e : Ev) (x : Nat → Nat)
    (t : RTree) (l : Nat) (hd : SampleDefined scope cpt t l e x) :
    samplePmf scope cpt t l e x * up scope cpt t l e = up scope cpt t l (e.fill x) := by
  induction t using RTree.ind generalizing l with
  | node i cs ih =>
    have hkids : ∀ k, (∀ c ∈ cs, SampleDefined scope cpt c k e x) →
        lprod (cs.map (fun c => samplePmf scope cpt c k e x)) * msgAt scope cpt cs k e
          = lprod (cs.map (fun c => up scope cpt c k (e.fill x))) := by
      intro k hk
      rw [msgAt, ← lprod_map_mul]
      exact congrArg lprod (List.map_congr_left (fun c hc => ih c hc k (hk c hc)))
    rw [SampleDefined] at hd
    rw [samplePmf]
    cases hv : e (scope.getD i 0) with
    | some o =>
      have hf : (e.fill x) (scope.getD i 0) = some o := by simp only [Ev.fill, hv]
      simp only [hv] at hd ⊢
      rw [up_obs scope cpt i cs l hv, up_obs scope cpt i cs l hf, ← hkids o hd, msgAt]
      ring
    | none =>
      have hf : (e.fill x) (scope.getD i 0) = some (x (scope.getD i 0)) := by simp only [Ev.fill, hv]
      simp only [hv] at hd ⊢
      rw [up_obs scope cpt i cs l hf, ← hkids _ hd.2, mul_right_comm, localCond_mul_up scope cpt i cs l _ hv hd.1]
      ring

end sampling

theorem getD_of_forall {β : Type} {P : β → Prop} (l : List β) (i : Nat) {d : β} (hd : P d) (h : ∀ x ∈ l, P x) :
    P (l.getD i d) := by
  rw [List.getD_eq_getElem?_getD]
  cases hx : l[i]? with
  | none => exact hd
  | some x => exact h x (List.mem_of_getElem? hx)

theorem cptAt_nonneg_of_forall {α : Type} [Zero α] [Preorder α] (cpt : List (List (List α)))
    (h : ∀ t ∈ cpt, ∀ r ∈ t, ∀ x ∈ r, 0 ≤ x) (i l k : Nat) : 0 ≤ cptAt cpt i l k := by
  unfold cptAt
  split
  · exact getD_of_forall (P := fun x => 0 ≤ x) _ k (le_refl 0)
      (getD_of_forall (P := fun r => ∀ x ∈ r, (0 : α) ≤ x) _ l (fun _ hx => absurd hx List.not_mem_nil)
        (getD_of_forall (P := fun t => ∀ r ∈ t, ∀ x ∈ r, (0 : α) ≤ x) cpt i (fun _ hr => absurd hr List.not_mem_nil) h))
  · exact le_refl 0

section positivity
variable {α : Type} [Field α] [LinearOrder α] [IsStrictOrderedRing α] (scope : List Nat) (cpt : List (List (List α)))

theorem lprod_nonneg (xs : List α) (h : ∀ x ∈ xs, 0 ≤ x) : 0 ≤ lprod xs := TD.lprod_nonneg xs h

theorem up_pos (e : Ev) (t : RTree) (l : Nat) (hl : l < 2)
    (hc : ∀ i ∈ t.vars, ∀ l < 2, ∀ k < 2, 0 < cptAt cpt i l k)
    (ho : ∀ v ∈ lab scope t, ∀ o, e v = some o → o < 2) : 0 < up scope cpt t l e := by
  induction t using RTree.ind generalizing l with
  | node i cs ih =>
    have hterm : ∀ k < 2, 0 < cptAt cpt i l k * lprod (cs.map (fun c => up scope cpt c k e)) := fun k hk =>
      mul_pos (hc i (root_mem_vars i cs) l hl k hk) (TD.lprod_pos _ (fun y hy => by
        obtain ⟨c, hcm, rfl⟩ := List.mem_map.1 hy
        exact ih c hcm k hk (fun j hj => hc j (vars_child_sub i cs c hcm j hj))
          (fun v hv => ho v (lab_child_sub scope i cs c hcm v hv))))
    cases hv : e (scope.getD i 0) with
    | some o => rw [up_obs scope cpt i cs l hv]; exact hterm o (ho _ (root_mem_lab scope i cs) o hv)
    | none => rw [up_mis scope cpt i cs l hv]; exact add_pos (hterm 0 (by omega)) (hterm 1 (by omega))

theorem sampleDefined_of_pos (e : Ev) (x : Nat → Nat)
    (t : RTree) (l : Nat) (hl : l < 2)
    (hc : ∀ i ∈ t.vars, ∀ l < 2, ∀ k < 2, 0 < cptAt cpt i l k)
    (ho : ∀ v ∈ lab scope t, ∀ o, e v = some o → o < 2) (hx : ∀ v ∈ lab scope t, x v < 2) :
    SampleDefined scope cpt t l e x := by
  induction t using RTree.ind generalizing l with
  | node i cs ih =>
    have hkids : ∀ k < 2, ∀ c ∈ cs, SampleDefined scope cpt c k e x := fun k hk c hcm =>
      ih c hcm k hk (fun j hj => hc j (vars_child_sub i cs c hcm j hj))
        (fun v hv => ho v (lab_child_sub scope i cs c hcm v hv))
        (fun v hv => hx v (lab_child_sub scope i cs c hcm v hv))
    have hmem := root_mem_lab scope i cs
    rw [SampleDefined]
    cases hv : e (scope.getD i 0) with
    | some o => exact hkids o (ho _ hmem o hv)
    | none => exact ⟨ne_of_gt (up_pos scope cpt e _ l hl hc ho), hkids _ (hx _ hmem)⟩

end positivity

end Clt
end Deeprob
