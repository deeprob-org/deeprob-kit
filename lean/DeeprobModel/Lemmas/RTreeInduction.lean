import DeeprobModel.Model.Clt
/-
Induction over `RTree` (a nested inductive type: the children are a `List RTree`) in the form the proofs want it:
the induction hypothesis is available for every member of the list of children.  Obtained from the recursor, so that
a proof by `induction t using RTree.ind` does not go through the compilation of a nested structural recursion.
-/
namespace Deeprob

theorem RTree.ind {P : RTree → Prop} (node : ∀ i cs, (∀ c ∈ cs, P c) → P (.node i cs)) (t : RTree) : P t :=
  RTree.rec (motive_1 := P) (motive_2 := fun cs => ∀ c ∈ cs, P c) node
    (fun _ hc => nomatch hc)
    (fun _ _ hc hcs d hd => (List.mem_cons.1 hd).elim (fun h => h ▸ hc) (hcs d)) t

end Deeprob
