import DeeprobModel.Lemmas.MargNetLemmas
import DeeprobModel.Lemmas.RewriteNetMain
import Mathlib.Data.List.Nodup
set_option linter.unusedSectionVars false
set_option linter.unusedSimpArgs false
set_option linter.unusedVariables false
/-
Structure of the table left by the first pass of the net-level `marginalize` (`margPass`, Model/RewriteNet.lean):
the replacement of a node of `P` is `None` iff no kept variable is in its scope, and otherwise a node of the rewritten
table that is smooth / decomposable w.r.t. the rewritten scopes, has a duplicate-free scope equal (as a set) to
`scope ∩ keep`, and whose children are again replacements of nodes of `P`. This is what the final `prune` needs
(`ShapeOK`, `LocalOK` on the set of replacements), see `Props/C10NetMore.lean`.
-/
namespace Deeprob
open Net
variable {α : Type} [CommSemiring α]

/-- local validity of node `r` of the table rewritten by the first pass of `marginalize` -/
def MGoodAt (t : Net α) (rep : List (Option Nat)) (P : Nat → Prop) (r : Nat) : Prop :=
  ∃ y, t[r]? = some y ∧ y.scope.Nodup ∧ (y.kind = .leaf → y.ch = []) ∧
    (y.kind = .sum → y.ch ≠ [] ∧ y.ws.length = y.ch.length ∧ ∀ c ∈ y.ch, scopeEq (scopeOf t c) y.scope) ∧
    (y.kind = .prod → y.ch ≠ [] ∧ (y.ch.map (scopeOf t)).Pairwise List.Disjoint ∧
      scopeEq (y.ch.map (scopeOf t)).flatten y.scope) ∧
    ∀ c ∈ y.ch, ∃ j, j < r ∧ P j ∧ rep.getD j none = some c

/-- hypotheses on the nodes of `P` for the first pass: shape, scopes, single-variable leaves -/
structure MargOK (net : Net α) (P : Nat → Prop) : Prop where
  closed : ∀ i, P i → ∀ c ∈ chOf net i, P c
  shape : ShapeOK net P
  loc : LocalOK net P
  leaf1 : ∀ (i : Nat) (x : NNode α), P i → net[i]? = some x → x.kind = .leaf → x.scope.length = 1

/-- **structure**: the replacement of a node of `P` is `None` iff no kept variable is in its scope; a surviving
replacement is locally valid and its scope is the kept part of the node's scope -/
theorem msol_struct (keep : List Nat) (net t : Net α) (rep : List (Option Nat)) (S : MSol keep net t rep)
    (hw : WellOrdered net) (P : Nat → Prop) (hm : MargOK net P) :
    ∀ k, k < net.length → P k →
      (rep.getD k none = none ↔ ∀ v ∈ scopeOf net k, v ∉ keep) ∧
      ∀ r, rep.getD k none = some r →
        MGoodAt t rep P r ∧ ∀ v, v ∈ scopeOf t r ↔ (v ∈ scopeOf net k ∧ v ∈ keep) := by
  intro k
  induction k using Nat.strong_induction_on with
  | _ k ih =>
    intro hk hPk
    have hx : net[k]? = some net[k] := List.getElem?_eq_getElem hk
    generalize net[k] = x at hx
    have hchk := hw k x hx
    rw [scopeOf_some net k x hx]
    have hPc : ∀ c ∈ x.ch, P c := fun c hc => hm.closed k hPk c (by rw [chOf_some net k x hx]; exact hc)
    have IH := fun c hc => ih c (hchk c hc) (Nat.lt_trans (hchk c hc) hk) (hPc c hc)
    obtain ⟨hshS, hshP, hshL⟩ := hm.shape k x hPk hx
    obtain ⟨hloS, hloP⟩ := hm.loc k x hPk hx
    by_cases hkl : x.kind = .leaf
    · obtain ⟨v, hv⟩ : ∃ v, x.scope = [v] := by
        match hs : x.scope, hm.leaf1 k x hPk hx hkl with
        | [v], _ => exact ⟨v, rfl⟩
      rcases msol_outcome keep net t rep S k x hx with ⟨_, e1, r⟩ | ⟨h, _⟩ | ⟨h, _⟩ | ⟨h, _⟩
      · rw [hv] at r ⊢
        simp only [List.headD_cons, List.contains_iff_mem] at r
        rw [r]
        split
        · rename_i hvk
          refine ⟨⟨fun h => (nomatch h), fun h => absurd hvk (h v (List.mem_singleton_self v))⟩, fun r' hr' => ?_⟩
          cases hr'
          refine ⟨⟨x, e1, (by rw [hv]; exact List.nodup_singleton v), fun _ => hshL hkl,
            fun h => (by rw [hkl] at h; cases h), fun h => (by rw [hkl] at h; cases h),
            fun c hc => (by rw [hshL hkl] at hc; cases hc)⟩, fun v' => ?_⟩
          rw [scopeOf_some t k x e1, hv, List.mem_singleton]
          exact ⟨fun h => ⟨h, h ▸ hvk⟩, fun h => h.1⟩
        · rename_i hvk
          exact ⟨⟨fun _ w hw' => List.mem_singleton.1 hw' ▸ hvk, fun _ => rfl⟩, fun _ h => (nomatch h)⟩
      all_goals exact absurd hkl h
    · have hcnmem := mem_keptCh rep x
      have hcnlt : ∀ r' ∈ keptCh rep x, r' < k := fun r' hr' => by
        obtain ⟨c, _, hck, _, hle⟩ := S.keptCh_lt hw hx hr'; omega
      have h3k : x.kind = .sum ∨ x.kind = .prod := by
        cases hk : x.kind
        · exact Or.inl rfl
        · exact Or.inr rfl
        · exact absurd hk hkl
      -- a variable of the node's scope lies in the scope of a child, and conversely
      have hdown : ∀ v, v ∈ x.scope → ∃ c ∈ x.ch, v ∈ scopeOf net c := by
        intro v hv
        rcases h3k with hk | hk
        · obtain ⟨c, hc⟩ := List.exists_mem_of_ne_nil _ (hshS hk).1
          exact ⟨c, hc, ((hloS hk c hc) v).2 hv⟩
        · exact (mem_flatten_map_sc _ _ v).1 (((hloP hk).2 v).2 hv)
      have hup : ∀ c ∈ x.ch, ∀ v, v ∈ scopeOf net c → v ∈ x.scope := by
        intro c hc v hv
        rcases h3k with hk | hk
        · exact ((hloS hk c hc) v).1 hv
        · exact ((hloP hk).2 v).1 ((mem_flatten_map_sc _ _ v).2 ⟨c, hc, hv⟩)
      -- (U): kept variables of the node = variables of the surviving children
      have hU : ∀ v, (v ∈ x.scope ∧ v ∈ keep) ↔ ∃ r' ∈ keptCh rep x, v ∈ scopeOf t r' := by
        intro v
        constructor
        · rintro ⟨hv, hvk⟩
          obtain ⟨c, hc, hvc⟩ := hdown v hv
          cases hrc : rep.getD c none with
          | none => exact absurd hvk ((IH c hc).1.1 hrc v hvc)
          | some r' => exact ⟨r', (hcnmem r').2 ⟨c, hc, hrc⟩, (((IH c hc).2 r' hrc).2 v).2 ⟨hvc, hvk⟩⟩
        · rintro ⟨r', hr', hv⟩
          obtain ⟨c, hc, hrc⟩ := (hcnmem r').1 hr'
          obtain ⟨h1, h2⟩ := (((IH c hc).2 r' hrc).2 v).1 hv
          exact ⟨hup c hc v h1, h2⟩
      -- every surviving child has a kept variable
      have hne : ∀ r' ∈ keptCh rep x, ∃ v, v ∈ scopeOf t r' := by
        intro r' hr'
        obtain ⟨c, hc, hrc⟩ := (hcnmem r').1 hr'
        have hex : ∃ v, v ∈ scopeOf net c ∧ v ∈ keep := by
          by_contra hcon
          have := (IH c hc).1.2 (fun v hv hvk => hcon ⟨v, hv, hvk⟩)
          rw [hrc] at this; cases this
        obtain ⟨v, hv1, hv2⟩ := hex
        exact ⟨v, (((IH c hc).2 r' hrc).2 v).2 ⟨hv1, hv2⟩⟩
      have hgoodc : ∀ r' ∈ keptCh rep x, MGoodAt t rep P r' := by
        intro r' hr'
        obtain ⟨c, hc, hrc⟩ := (hcnmem r').1 hr'
        exact ((IH c hc).2 r' hrc).1
      have hsome : ∀ r' ∈ keptCh rep x, ¬ ∀ v ∈ x.scope, v ∉ keep := fun r' hr' h => by
        obtain ⟨v, hv⟩ := hne r' hr'
        obtain ⟨h1, h2⟩ := (hU v).2 ⟨r', hr', hv⟩
        exact h v h1 h2
      rcases msol_outcome keep net t rep S k x hx with ⟨h, _⟩ | ⟨_, hcn, e1, r⟩ | ⟨_, c, hcn, e1, r⟩ |
          ⟨_, c0, c1, rest, hcn, r, e1⟩
      · exact absurd h hkl
      · rw [r]
        refine ⟨⟨fun _ v hv hvk => ?_, fun _ => rfl⟩, fun _ h => (nomatch h)⟩
        obtain ⟨r', hr', _⟩ := (hU v).1 ⟨hv, hvk⟩
        rw [hcn] at hr'; cases hr'
      · rw [r]
        have hc : c ∈ keptCh rep x := by rw [hcn]; exact List.mem_singleton_self c
        refine ⟨⟨fun h => (nomatch h), fun h => absurd h (hsome c hc)⟩, fun r' hr' => ?_⟩
        cases hr'
        refine ⟨hgoodc c hc, fun v => ?_⟩
        rw [hU v, hcn]
        exact ⟨fun h => ⟨c, List.mem_singleton_self c, h⟩, fun ⟨r', hr', h⟩ => List.mem_singleton.1 hr' ▸ h⟩
      · rw [r]
        have hc0 : c0 ∈ keptCh rep x := by rw [hcn]; exact List.mem_cons_self
        refine ⟨⟨fun h => (nomatch h), fun h => absurd h (hsome c0 hc0)⟩, fun r' hr' => ?_⟩
        cases hr'
        have hkids : ∀ c ∈ keptCh rep x, ∃ j, j < k ∧ P j ∧ rep.getD j none = some c := by
          intro c hc
          obtain ⟨j, hj, hjc⟩ := (hcnmem c).1 hc
          exact ⟨j, hchk j hj, hPc j hj, hjc⟩
        have hndc : ∀ c ∈ keptCh rep x, (scopeOf t c).Nodup := by
          intro c hc
          obtain ⟨y, hy, h1, _⟩ := hgoodc c hc
          rw [scopeOf_some t c y hy]; exact h1
        have hne2 : keptCh rep x ≠ [] := by rw [hcn]; exact List.cons_ne_nil _ _
        rcases h3k with hks | hkp
        · -- sum: all children survive and have the scope of the first one
          have hnp : ¬ x.kind = .prod := by rw [hks]; exact Kind.noConfusion
          rw [if_neg hnp] at e1
          -- scope of every surviving child = kept part of the node's scope
          have hall : ∀ c ∈ keptCh rep x, ∀ v, v ∈ scopeOf t c ↔ (v ∈ x.scope ∧ v ∈ keep) := by
            intro c hc v
            obtain ⟨j, hj, hjc⟩ := (hcnmem c).1 hc
            rw [((IH j hj).2 c hjc).2 v]
            exact ⟨fun ⟨h1, h2⟩ => ⟨hup j hj v h1, h2⟩, fun ⟨h1, h2⟩ => ⟨((hloS hks j hj) v).2 h1, h2⟩⟩
          have hlenc : (keptCh rep x).length = x.ch.length := by
            apply length_filterMap_some
            intro c hc
            obtain ⟨v, hv⟩ := hne c0 hc0
            obtain ⟨h1, h2⟩ := (hall c0 hc0 v).1 hv
            exact Option.ne_none_iff_exists'.1 fun hrc =>
              (IH c hc).1.1 hrc v (((hloS hks c hc) v).2 h1) h2
          refine ⟨⟨_, e1, hndc c0 hc0, fun h => (by rw [hks] at h; cases h),
            fun _ => ⟨hne2, (hshS hks).2.trans hlenc.symm, fun c hc v => ?_⟩,
            fun h => (by rw [hks] at h; cases h), hkids⟩, fun v => ?_⟩
          · show v ∈ scopeOf t c ↔ v ∈ scopeAt t c0
            rw [hall c hc v]
            exact (hall c0 hc0 v).symm
          · rw [scopeOf_some t k _ e1]
            exact hall c0 hc0 v
        · rw [if_pos hkp] at e1
          have hpw : ((keptCh rep x).map (scopeOf t)).Pairwise List.Disjoint := by
            unfold keptCh
            rw [List.pairwise_map, List.pairwise_filterMap]
            have h0 := (hloP hkp).1
            rw [List.pairwise_map] at h0
            apply List.Pairwise.imp_of_mem _ h0
            intro a b ha hb hdis r1 hr1 r2 hr2 v hv1 hv2
            exact hdis ((((IH a ha).2 r1 hr1).2 v).1 hv1).1 ((((IH b hb).2 r2 hr2).2 v).1 hv2).1
          refine ⟨⟨_, e1, ?_, fun h => (by rw [hkp] at h; cases h), fun h => (by rw [hkp] at h; cases h),
            fun _ => ⟨hne2, hpw, scopeEq.rfl'⟩, hkids⟩, fun v => ?_⟩
          · show (((keptCh rep x).map (scopeAt t)).flatten).Nodup
            rw [List.nodup_flatten]
            refine ⟨fun l hl => ?_, hpw⟩
            obtain ⟨c, hc, rfl⟩ := List.mem_map.1 hl
            exact hndc c hc
          · rw [scopeOf_some t k _ e1, hU v]
            exact mem_flatten_map_sc _ _ v

/-- the replacements of the nodes of `P` after the first pass -/
def MRepOf (n : Nat) (rep : List (Option Nat)) (P : Nat → Prop) (r : Nat) : Prop :=
  ∃ j, j < n ∧ P j ∧ rep.getD j none = some r

/-- **what the final `prune` of `marginalize` finds**: the table left by the first pass is children-first, and on
the set of replacements (closed under children) it has the shape and the scopes `check_spn` asks for, with
duplicate-free scopes -/
theorem margPass_ready (net : Net α) (keep : List Nat) (P : Nat → Prop) (hw : WellOrdered net) (hm : MargOK net P) :
    WellOrdered (margPass keep net).1 ∧ (margPass keep net).1.length = net.length ∧
    (∀ i, MRepOf net.length (margPass keep net).2 P i →
      ∀ c ∈ chOf (margPass keep net).1 i, MRepOf net.length (margPass keep net).2 P c) ∧
    ShapeOK (margPass keep net).1 (MRepOf net.length (margPass keep net).2 P) ∧
    LocalOK (margPass keep net).1 (MRepOf net.length (margPass keep net).2 P) ∧
    (∀ i, MRepOf net.length (margPass keep net).2 P i → (scopeOf (margPass keep net).1 i).Nodup ∧ i < net.length) := by
  have S := margPass_sol keep net hw
  have I := msol_struct keep net _ _ S hw P hm
  generalize (margPass keep net).1 = t at S I
  generalize (margPass keep net).2 = rep at S I
  have hgood : ∀ i, MRepOf net.length rep P i → MGoodAt t rep P i ∧ i < net.length := by
    rintro i ⟨j, hj, hPj, hji⟩
    exact ⟨((I j hj hPj).2 i hji).1, Nat.lt_of_le_of_lt (S.some_le j i hj hji) hj⟩
  refine ⟨S.wellOrdered hw, S.lt, ?_, ?_, ?_, ?_⟩
  · intro i hi c hc
    obtain ⟨⟨y, hy, _, _, _, _, h5⟩, hlt⟩ := hgood i hi
    rw [chOf_some t i y hy] at hc
    obtain ⟨j, hj, hPj, hjc⟩ := h5 c hc
    exact ⟨j, by omega, hPj, hjc⟩
  · intro i x hi hx
    obtain ⟨⟨y, hy, _, h2, h3, h4, _⟩, _⟩ := hgood i hi
    rw [hx] at hy; cases hy
    exact ⟨fun hk => ⟨(h3 hk).1, (h3 hk).2.1⟩, fun hk => (h4 hk).1, h2⟩
  · intro i x hi hx
    obtain ⟨⟨y, hy, _, _, h3, h4, _⟩, _⟩ := hgood i hi
    rw [hx] at hy; cases hy
    exact ⟨fun hk => (h3 hk).2.2, fun hk => (h4 hk).2⟩
  · intro i hi
    obtain ⟨⟨y, hy, h1, _⟩, hlt⟩ := hgood i hi
    rw [scopeOf_some t i y hy]; exact ⟨h1, hlt⟩

theorem margUnsupported_none (net : Net α) (nodes : List Nat) (h : margUnsupported net nodes = none) :
    ∀ i ∈ nodes, ∀ x, net[i]? = some x → x.kind = .leaf → x.scope.length = 1 := by
  unfold margUnsupported at h
  rw [List.findSome?_eq_none_iff] at h
  intro i hi x hx hk
  have := h i hi
  simp only [hx, hk, if_true] at this
  cases hl : x.leaf <;> rw [hl] at this <;> simp at this <;> exact this

/-- the hypotheses of the first pass, read off `check_spn` and the `unsupported` test -/
theorem margOK_of_accept (net : Net α) (root : Nat) (hw : WellOrdered net)
    (hacc : Net.checkSpn net root true true true = .accept)
    (hleaf : ∀ i ∈ collect net root, ∀ x, net[i]? = some x → x.kind = .leaf → x.ch = [])
    (hun : margUnsupported net (collect net root) = none) :
    MargOK net (fun i => i ∈ collect net root) :=
  { closed := collect_closed_of_wellOrdered net hw root
    shape := shapeOK_of_accept net root true hacc hleaf
    loc := localOK_of_accept net root true hacc
    leaf1 := fun i x hi hx hk => margUnsupported_none net _ hun i hi x hx hk }

end Deeprob
