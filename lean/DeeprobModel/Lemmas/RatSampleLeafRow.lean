import DeeprobModel.Lemmas.RatSampleValid
set_option linter.unusedSimpArgs false
set_option linter.unusedVariables false
set_option linter.unusedSectionVars false
/-
C16 (sampling clause): the base layer at the level of the padded row.  `RegionGraphLayer.sample` draws every
column of every selected leaf — dummy columns included — flattens the draws and lets `unpad_samples` gather
the features; the law of the returned row is the per-variable product used by `basePmf` (the dummy draws
marginalise to one, each feature is read from exactly one non-dummy column).
-/
namespace Deeprob
namespace RatSample
open RatSpn TCirc Tensor

section generic
variable {α : Type} [Field α]

theorem lprod_indicator {β : Type} (P : β → Prop) [DecidablePred P] : ∀ (l : List β),
    lprod (l.map (fun a => if P a then (1 : α) else 0)) = if (∀ a ∈ l, P a) then 1 else 0
  | [] => by rw [List.map_nil, lprod, if_pos (fun _ h => absurd h List.not_mem_nil)]
  | a :: l => by
      rw [List.map_cons, lprod, lprod_indicator P l]
      by_cases h1 : P a
      · rw [if_pos h1, one_mul]
        exact if_congr (List.forall_mem_cons.trans (and_iff_right h1)).symm rfl rfl
      · rw [if_neg h1, zero_mul, if_neg (fun h => h1 (h a List.mem_cons_self))]

/-- one Bernoulli column `[1 - p, p]`: drawing it and asking for the value `v` (or for nothing, at a dummy)
has probability `tb[v]` (resp. one) -/
theorem bern_col (tb : List α) (hlen : tb.length = 2) (hsum : tsum tb = 1) (b : Bool) (v : Nat) (hv : v < 2) :
    sumVar 2 (fun i => tb.getD i 0 * (if b = true ∨ i = v then 1 else 0)) = if b then 1 else tb.getD v 0 := by
  obtain ⟨p0, p1, rfl⟩ := List.length_eq_two.1 hlen
  rw [sumVar_two]
  cases b
  · obtain rfl | rfl : v = 0 ∨ v = 1 := by omega
    · rw [if_pos (Or.inr rfl), if_neg (by simp), mul_one, mul_zero, add_zero]; rfl
    · rw [if_neg (by simp), if_pos (Or.inr rfl), mul_one, mul_zero, zero_add]; rfl
  · rw [if_pos (Or.inl rfl), if_pos (Or.inl rfl), mul_one, mul_one, if_pos rfl, ← hsum, tsum, tsum, tsum, add_zero]
    rfl

/-- the pmf transformer looks at its continuation only on index pairs of equal lengths whose groups are
the `k`-fold expansion of the starting groups -/
theorem pmfDown_congr (law : Nat → Tab α → Nat → Nat → List α) (w : Nat → Nat → Nat → List α) (rgSum : Nat) :
    ∀ (k l : Nat) (V : Tab α) (κ κ' : Idx → α) (io : Idx), io.2.length = io.1.length →
      (∀ io' : Idx, io'.1 = expandG k io.1 → io'.2.length = io'.1.length → κ io' = κ' io') →
      pmfDown law w rgSum k l V κ io = pmfDown law w rgSum k l V κ' io
  | 0, _, V, κ, κ', io, hl, h => h io rfl hl
  | 1, _, V, κ, κ', io, hl, h => h _ rfl (prodDownI_len _ _ hl)
  | k + 2, l, V, κ, κ', io, hl, h => by
      simp only [pmfDown]
      apply pmfDown_congr law w rgSum (k + 1) (l + 1) _ _ _ io hl
      intro io' h1 h2
      unfold sumStep
      apply expect_congr_len
      intro is his
      refine h _ (by rw [expandG, ← h1]; rfl) (prodDownI_len _ (io'.1, is) ?_)
      rw [his, List.length_zipWith, h2, Nat.min_self]

end generic

/-- **the indicator of the returned row, column by column**: `unpad_samples` of the corrected library returns `xrow`
exactly when every non-dummy column holds the entry of `xrow` at its variable -/
theorem Cols.unpad_eq_iff {α : Type} {S : Spec α} {t : Nat} {Z : List (Nat × Bool × Nat)} (h : Cols S t Z)
    (R : LeafRows S.n S.depth S.reps S.regs) (h2 : 2 ^ S.depth ≤ S.n) (ht : t < S.reps)
    (xrow : List Nat) (hx : xrow.length = S.n) :
    unpad S.n S.depth S.regs t (Z.map (fun z => z.2.2)) = xrow ↔ ∀ z ∈ Z, z.2.1 = true ∨ z.2.2 = xrow.getD z.1 0 := by
  obtain ⟨hlen, hreads⟩ := h.reads R ht
  constructor
  · intro heq z hz
    cases hb : z.2.1 with
    | true => exact Or.inl rfl
    | false =>
      have hv := h.var_lt R ht h2 z hz
      obtain ⟨k, hk, hread⟩ := hreads z.1 hv
      have hkk : z.2.2 = k := (h.keysNodup R ht).unique (hb ▸ (hz : (z.1, z.2.1, z.2.2) ∈ Z)) hk
      rw [heq, List.getElem?_eq_getElem (hx ▸ hv)] at hread
      rw [hkk, List.getD_eq_getElem _ _ (hx ▸ hv)]
      exact Or.inr (Option.some.inj hread).symm
  · intro hall
    apply List.ext_getElem?
    intro i
    by_cases hi : i < S.n
    · obtain ⟨k, hk, hread⟩ := hreads i hi
      rcases hall _ hk with hc | hc
      · cases hc
      · have hc' : k = xrow.getD i 0 := hc
        rw [hread, hc', List.getD_eq_getElem _ _ (hx ▸ hi), List.getElem?_eq_getElem (hx ▸ hi)]
    · rw [List.getElem?_eq_none (by omega), List.getElem?_eq_none (by omega)]

section rowlaw
variable {α : Type} [Field α] [LinearOrder α] [IsStrictOrderedRing α]

/-- **the base layer as coded has the per-variable law**: drawing all columns (dummies included) of the
leaves selected for repetition `t`, flattening and un-padding returns the row `xrow` with probability
`∏_v tbl_v[xrow[v]]` (the column that owns variable `v`), i.e. `basePmf` from the all-missing row. -/
theorem baseRowPmf_eq (S : Spec α) (h : S.WF) (t : Nat) (ht : t < S.reps) (os : List Nat)
    (hos : os.length = (leafGroups t S.depth).length) (xrow : List Nat) (hx : xrow.length = S.n)
    (hx2 : ∀ v ∈ xrow, v < 2) :
    baseRowPmf S xrow (leafGroups t S.depth, os)
      = basePmf S (fun _ => none) (Ev.ofList (xrow.map some)) (leafGroups t S.depth, os) := by
  obtain ⟨_, hd, h2n⟩ := (accepted_iff S.n S.depth).1 h.acc
  have R : LeafRows S.n S.depth S.reps S.regs := leafRows S.ρ h.perm S.n S.depth S.reps hd
  have hc := ZofG_cols S (fun g o k => S.tbl g o k) R t ht os hos
  have hmemtbl : ∀ z ∈ ZofG S (fun g o k => S.tbl g o k) (leafGroups t S.depth, os), ∃ g o k, z.2.2 = S.tbl g o k := by
    intro z hz
    obtain ⟨go, _, hz⟩ := List.mem_flatMap.1 hz
    obtain ⟨k, _, rfl⟩ := List.mem_map.1 hz
    exact ⟨go.1, go.2, k, rfl⟩
  have hcol : colTables S (leafGroups t S.depth, os) =
      (ZofG S (fun g o k => S.tbl g o k) (leafGroups t S.depth, os)).map (fun z => z.2.2) :=
    (ZofG_map S (fun g o k => S.tbl g o k) (fun z => z.2.2) _).symm
  have hbase : basePmf S (fun _ => none) (Ev.ofList (xrow.map some)) (leafGroups t S.depth, os) =
      lprod ((ZofG S (fun g o k => S.tbl g o k) (leafGroups t S.depth, os)).map (fun z =>
        if z.2.1 then 1 else catCond z.1 z.2.2 (fun _ => none) (Ev.ofList (xrow.map some)))) := by
    rw [ZofG_map, lprod_flatMap]
    rfl
  unfold baseRowPmf
  rw [hbase, hcol]
  simp only [leafGroups_head]
  generalize ZofG S (fun g o k => S.tbl g o k) (leafGroups t S.depth, os) = Zt at hc hmemtbl
  have hvar := hc.var_lt R ht h2n
  -- the indicator factorises over the columns: pair every column with its drawn value
  have hind : ∀ s : List Nat, s.length = (Zt.map (fun z => z.2.2)).length →
      (if unpad S.n S.depth S.regs t s = xrow then (1 : α) else 0)
        = lprod ((Zt.zip s).map (fun p => if (p.1.2.1 = true ∨ p.2 = xrow.getD p.1.1 0) then (1 : α) else 0)) := by
    intro s hs
    rw [List.length_map] at hs
    have hfst : (Zt.zip s).map Prod.fst = Zt := List.map_fst_zip (by omega)
    have hcs : Cols S t ((Zt.zip s).map (fun p => (p.1.1, p.1.2.1, p.2))) :=
      ⟨by rw [List.map_map, ← hc.var, ← hfst, List.map_map, hfst]; rfl,
       by rw [List.map_map, ← hc.pad, ← hfst, List.map_map, hfst]; rfl⟩
    have hsnd : ((Zt.zip s).map (fun p => (p.1.1, p.1.2.1, p.2))).map (fun z => z.2.2) = s := by
      rw [List.map_map]; exact List.map_snd_zip (by omega)
    have := hcs.unpad_eq_iff R h2n ht xrow hx
    rw [hsnd, List.forall_mem_map] at this
    rw [lprod_indicator (fun p : (Nat × Bool × List α) × Nat => p.1.2.1 = true ∨ p.2 = xrow.getD p.1.1 0)]
    exact if_congr this rfl rfl
  rw [expect_congr_len 2 _ _ _ hind, expect_factorG 2 (fun z : Nat × Bool × List α => z.2.2)
    (fun z i => if (z.2.1 = true ∨ i = xrow.getD z.1 0) then (1 : α) else 0) Zt]
  congr 1
  apply List.map_congr_left
  intro z hz
  obtain ⟨g, o, k, htb⟩ := hmemtbl z hz
  have hv : z.1 < xrow.length := hx ▸ hvar z hz
  rw [bern_col z.2.2 (htb ▸ h.tbl_len g o k) (htb ▸ h.tbl_sum g o k) z.2.1 _
    (hx2 _ (getD_mem hv 0))]
  have hxv : (Ev.ofList (xrow.map some)) z.1 = some (xrow.getD z.1 0) := by
    rw [Ev.ofList, getD_map_of_lt _ _ _ hv none 0]
  simp only [catCond, hxv]

/-- **the row-level law of `RatSpn.sample` is the per-variable law**: with dummy columns drawn and dropped
by `unpad_samples` as coded, the probability of returning the complete in-domain row `xrow` is
`samplePmf` at that row. -/
theorem sampleRowPmf_eq (S : Spec α) (h : S.WF) (y : Nat) (xrow : List Nat) (hx : xrow.length = S.n)
    (hx2 : ∀ v ∈ xrow, v < 2) :
    sampleRowPmf S y xrow = samplePmf S y (Ev.ofList (xrow.map some)) := by
  obtain ⟨_, hd, _⟩ := (accepted_iff S.n S.depth).1 h.acc
  unfold sampleRowPmf samplePmf rootStep
  simp only
  apply sumVar_congr_lt
  intro idx hidx
  congr 1
  have hG : (innerVal S.w S.rgSum S.depth 0 (baseVal S (fun _ => none))).groups = S.reps := topVal_groups S hd _
  have ht : idx / (innerVal S.w S.rgSum S.depth 0 (baseVal S (fun _ => none))).nodes < S.reps :=
    Nat.div_lt_of_lt_mul (by rw [Nat.mul_comm, ← hG]; exact hidx)
  generalize idx / (innerVal S.w S.rgSum S.depth 0 (baseVal S (fun _ => none))).nodes = t at ht
  apply pmfDown_congr _ _ _ _ _ _ _ _ _ rfl
  intro io' h1 h2
  rw [← leafGroups_eq_expandG] at h1
  rw [show io' = (leafGroups t S.depth, io'.2) from Prod.ext h1 rfl]
  exact baseRowPmf_eq S h t ht io'.2 (by rw [h2, h1]) xrow hx hx2

end rowlaw

end RatSample
end Deeprob
