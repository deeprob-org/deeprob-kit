import DeeprobModel.Lemmas.Arborescence
import DeeprobModel.Lemmas.GraphOrderBfs
import Mathlib.Data.List.Count
set_option linter.unusedSimpArgs false
set_option linter.unusedVariables false
/-
C13 for binary Chow-Liu trees, writing: graphs over the ids `0..n-1` (`Gn`), what `add_node` / `add_edge` loops
build, and that `node_link_graph ∘ node_link_data` is the identity on them.  The `nx.DiGraph` that
`binary_clt_to_digraph` builds for a well-formed tree is the canonical graph `canon`: node `i` with its attributes
and the successor list `children(i)` in index order.
-/
namespace Deeprob.GraphIo
open Deeprob Deeprob.Clt Deeprob.CltFit

theorem hasNode_iff (g : DiGraph) (i : Nat) : hasNode g i = true ↔ i ∈ nodeIds g := by
  unfold hasNode nodeIds
  rw [List.any_eq_true, List.mem_map]
  constructor <;> rintro ⟨x, hx, h⟩ <;> exact ⟨x, hx, by simpa using h⟩

/-- graph over the ids `0..n-1` given by attribute and successor functions -/
def Gn (n : Nat) (a : Nat → Option CAttr) (s : Nat → List Nat) : DiGraph :=
  (List.range n).map (fun i => { id := i, attr := a i, succ := s i })

section Gn
variable (n : Nat) (a : Nat → Option CAttr) (s : Nat → List Nat)

theorem Gn_length : (Gn n a s).length = n := by
  unfold Gn; rw [List.length_map, List.length_range]

theorem nodeIds_Gn : nodeIds (Gn n a s) = List.range n := by
  unfold nodeIds Gn
  rw [List.map_map]
  exact List.map_id _

theorem hasNode_Gn (i : Nat) : hasNode (Gn n a s) i = decide (i < n) := by
  rw [Bool.eq_iff_iff, hasNode_iff, nodeIds_Gn, List.mem_range, decide_eq_true_iff]

theorem edgesOf_Gn : edgesOf (Gn n a s) = (List.range n).flatMap (fun p => (s p).map (fun c => (p, c))) := by
  unfold edgesOf Gn
  rw [List.flatMap_map]

theorem mem_edgesOf_Gn {p c : Nat} : (p, c) ∈ edgesOf (Gn n a s) ↔ p < n ∧ c ∈ s p := by
  rw [edgesOf_Gn, List.mem_flatMap]
  constructor
  · rintro ⟨p', hp', hm⟩
    obtain ⟨c', hc', heq⟩ := List.mem_map.1 hm
    cases heq
    exact ⟨List.mem_range.1 hp', hc'⟩
  · rintro ⟨hp, hc⟩
    exact ⟨p, List.mem_range.2 hp, List.mem_map.2 ⟨c, hc, rfl⟩⟩

theorem find_Gn {u : Nat} (hu : u < n) :
    (Gn n a s).find? (fun x => x.id == u) = some { id := u, attr := a u, succ := s u } :=
  find_of_nodup (Gn n a s) (by rw [nodeIds_Gn]; exact List.nodup_range) { id := u, attr := a u, succ := s u }
    (List.mem_map.2 ⟨u, List.mem_range.2 hu, rfl⟩)

theorem find_Gn_none {u : Nat} (hu : n ≤ u) : (Gn n a s).find? (fun x => x.id == u) = none := by
  rw [List.find?_eq_none]
  intro x hx
  have : x.id ∈ nodeIds (Gn n a s) := List.mem_map.2 ⟨x, hx, rfl⟩
  rw [nodeIds_Gn, List.mem_range] at this
  simp only [beq_iff_eq]
  omega

theorem succOf_Gn {u : Nat} (hu : u < n) : succOf (Gn n a s) u = s u := by
  unfold succOf; rw [find_Gn n a s hu]

theorem attrOf_Gn {u : Nat} (hu : u < n) : attrOf (Gn n a s) u = a u := by
  unfold attrOf; rw [find_Gn n a s hu]

end Gn

theorem Gn_congr {n : Nat} {a a' : Nat → Option CAttr} {s s' : Nat → List Nat}
    (ha : ∀ i, i < n → a i = a' i) (hs : ∀ i, i < n → s i = s' i) : Gn n a s = Gn n a' s' := by
  unfold Gn
  apply List.map_congr_left
  intro i hi
  have := List.mem_range.1 hi
  rw [ha i this, hs i this]

/-- the `add_node` loop -/
theorem addNode_loop (a : Nat → Option CAttr) : ∀ n,
    (List.range n).foldl (fun g i => addNode g i (a i)) [] = Gn n a (fun _ => [])
  | 0 => rfl
  | n + 1 => by
    rw [List.range_succ, List.foldl_append, addNode_loop a n]
    simp only [List.foldl_cons, List.foldl_nil]
    unfold addNode
    rw [hasNode_Gn]
    simp [Gn, List.range_succ]

/-- one `add_edge` between existing nodes -/
theorem addEdge_Gn (n : Nat) (a : Nat → Option CAttr) (s : Nat → List Nat) {u v : Nat} (hu : u < n) (hv : v < n)
    (hnew : v ∉ s u) :
    addEdge (Gn n a s) (u, v) = Gn n a (fun i => if i = u then s u ++ [v] else s i) := by
  unfold addEdge
  simp only [hasNode_Gn, hu, hv, decide_true, if_true]
  unfold Gn
  rw [List.map_map]
  apply List.map_congr_left
  intro i _
  simp only [Function.comp]
  by_cases hiu : i = u
  · subst hiu
    have : (s i).contains v = false := by simpa using hnew
    simp [this, hnew]
  · simp [hiu]

/-- a run of `add_edge` calls between existing nodes that never repeats an edge: the targets are appended to the
successor lists of their sources -/
theorem addEdge_fold (n : Nat) (a : Nat → Option CAttr) (es : List (Nat × Nat)) (s : Nat → List Nat)
    (hall : ∀ e ∈ es, e.1 < n ∧ e.2 < n)
    (hnd : ∀ i, i < n → (s i ++ (es.filter (fun e => e.1 == i)).map (·.2)).Nodup) :
    es.foldl addEdge (Gn n a s) = Gn n a (fun i => s i ++ (es.filter (fun e => e.1 == i)).map (·.2)) := by
  induction es generalizing s with
  | nil => simp
  | cons e es ih =>
    obtain ⟨u, v⟩ := e
    obtain ⟨hu, hv⟩ := hall (u, v) List.mem_cons_self
    -- the final successor lists are the same whether `(u, v)` is counted with `s` or with the calls
    have hcomb : ∀ i, (if i = u then s u ++ [v] else s i) ++ (es.filter (fun e => e.1 == i)).map (·.2) =
        s i ++ (((u, v) :: es).filter (fun e => e.1 == i)).map (·.2) := by
      intro i
      by_cases hiu : i = u
      · subst hiu; simp [List.filter_cons]
      · have : (u == i) = false := by simpa using (Ne.symm hiu)
        simp [hiu, List.filter_cons, this]
    have hnew : v ∉ s u := fun hm =>
      (List.nodup_append.1 (hnd u hu)).2.2 v hm v
        (List.mem_map.2 ⟨(u, v), List.mem_filter.2 ⟨List.mem_cons_self, beq_self_eq_true u⟩, rfl⟩) rfl
    rw [List.foldl_cons, addEdge_Gn n a s hu hv hnew,
      ih _ (fun e he => hall e (List.mem_cons_of_mem _ he)) (fun i hi => by rw [hcomb]; exact hnd i hi)]
    exact Gn_congr (fun _ _ => rfl) (fun i _ => hcomb i)

theorem flatMap_ite_range {β : Type} (L : Nat → List β) : ∀ (n j : Nat), j < n →
    (List.range n).flatMap (fun p => if p = j then L p else []) = L j
  | 0, j, hj => by omega
  | n + 1, j, hj => by
    rw [List.range_succ, List.flatMap_append]
    simp only [List.flatMap_cons, List.flatMap_nil, List.append_nil]
    by_cases hjn : j = n
    · subst hjn
      have : (List.range j).flatMap (fun p => if p = j then L p else []) = [] := by
        rw [List.flatMap_eq_nil_iff]
        intro p hp
        have := List.mem_range.1 hp
        rw [if_neg (by omega)]
      rw [this, if_pos rfl, List.nil_append]
    · rw [flatMap_ite_range L n j (by omega), if_neg (Ne.symm hjn), List.append_nil]

/-- the edges out of `j`, in `G.edges()` order, are its successor list -/
theorem edgesOf_Gn_filter (n : Nat) (a : Nat → Option CAttr) (s : Nat → List Nat) {j : Nat} (hj : j < n) :
    ((edgesOf (Gn n a s)).filter (fun e => e.1 == j)).map (·.2) = s j := by
  rw [edgesOf_Gn, List.filter_flatMap, List.map_flatMap]
  have : (fun p => (((s p).map (fun c => (p, c))).filter (fun e => e.1 == j)).map (·.2)) =
      (fun p => if p = j then s p else []) := by
    funext p
    rw [List.filter_map, List.map_map]
    simp only [Function.comp_def]
    by_cases hp : p = j
    · rw [if_pos hp, List.filter_eq_self.2 (fun c _ => beq_iff_eq.2 hp)]; exact List.map_id _
    · rw [if_neg hp, List.filter_eq_nil_iff.2 (fun c _ h => hp (beq_iff_eq.1 h))]; rfl
  rw [this, flatMap_ite_range _ _ _ hj]

theorem edgesOf_Gn_nodup (n : Nat) (a : Nat → Option CAttr) {s : Nat → List Nat} (hs : ∀ i, i < n → (s i).Nodup) :
    (edgesOf (Gn n a s)).Nodup := by
  rw [edgesOf_Gn, List.nodup_flatMap]
  refine ⟨fun p hp => (hs p (List.mem_range.1 hp)).map (fun a b hab => (Prod.mk.inj hab).2), ?_⟩
  apply List.nodup_range.imp
  intro p p' hne e he he'
  obtain ⟨c, _, rfl⟩ := List.mem_map.1 he
  obtain ⟨c', _, hc'⟩ := List.mem_map.1 he'
  exact hne (Prod.mk.inj hc').1.symm

/-- **`node_link_graph ∘ node_link_data` is the identity** on a graph over `0..n-1` whose successor lists are
duplicate-free and stay inside the graph -/
theorem graphOfDoc_docOfGraph_Gn (n : Nat) (a : Nat → Option CAttr) {s : Nat → List Nat}
    (hs : ∀ i, i < n → (s i).Nodup ∧ ∀ c ∈ s i, c < n) : graphOfDoc (docOfGraph (Gn n a s)) = Gn n a s := by
  unfold graphOfDoc docOfGraph
  simp only
  have hnodes : (Gn n a s).map (fun x => (x.id, x.attr)) = (List.range n).map (fun i => (i, a i)) := by
    unfold Gn; rw [List.map_map]; rfl
  rw [hnodes, List.foldl_map, addNode_loop a,
    addEdge_fold _ _ _ _ (fun e he => by
      obtain ⟨h1, h2⟩ := (mem_edgesOf_Gn n a s).1 he
      exact ⟨h1, (hs _ h1).2 _ h2⟩) (fun i hi => by
      rw [List.nil_append, edgesOf_Gn_filter n a s hi]; exact (hs i hi).1)]
  exact Gn_congr (fun _ _ => rfl) (fun i hi => by rw [List.nil_append, edgesOf_Gn_filter n a s hi])

theorem EntriesOK.getD_cases {n : Nat} {t : List Int} (h : EntriesOK n t) {i : Nat} (hi : i < t.length) :
    t.getD i (-1) = -1 ∨ ∃ p, p < n ∧ t.getD i (-1) = (p : Int) := by
  have hmem : t.getD i (-1) ∈ t := by
    rw [List.getD_eq_getElem?_getD, List.getElem?_eq_getElem hi]; exact List.getElem_mem hi
  rcases h _ hmem with he | ⟨h0, h1⟩
  · exact Or.inl he
  · exact Or.inr ⟨_, h1, (Int.toNat_of_nonneg h0).symm⟩

/-- the `add_edge` calls, in order: `(tree[i], i)` for every `i` that has a parent -/
def encEdges (tree : List Int) : List (Nat × Nat) :=
  ((List.range tree.length).filter (fun i => tree.getD i (-1) != -1)).map (fun i => ((tree.getD i (-1)).toNat, i))

theorem zipIdx_eq_map_range (tree : List Int) :
    tree.zipIdx = (List.range tree.length).map (fun i => (tree.getD i (-1), i)) := by
  apply List.ext_getElem
  · simp
  · intro i h1 h2
    have hi : i < tree.length := by simpa using h1
    simp [List.getD_eq_getElem?_getD, hi]

theorem encEdge_fold (tree : List Int) (g : DiGraph) :
    tree.zipIdx.foldl encEdge g = (encEdges tree).foldl addEdge g := by
  unfold encEdges
  rw [zipIdx_eq_map_range, List.foldl_map, List.foldl_map, List.foldl_filter]
  congr 1
  funext g i
  unfold encEdge
  by_cases hi : tree.getD i (-1) = -1
  · rw [if_pos hi, if_neg (by simpa using hi)]
  · rw [if_neg hi, if_pos (by simpa using hi)]

theorem encEdges_lt {tree : List Int} (h : EntriesOK tree.length tree) :
    ∀ e ∈ encEdges tree, e.1 < tree.length ∧ e.2 < tree.length := by
  intro e he
  obtain ⟨i, hi, rfl⟩ := List.mem_map.1 he
  obtain ⟨hil, hne⟩ := List.mem_filter.1 hi
  have hil := List.mem_range.1 hil
  rcases h.getD_cases hil with he | ⟨p, hp, he⟩
  · rw [he] at hne; cases hne
  · simp only [he, Int.toNat_natCast]; exact ⟨hp, hil⟩

/-- the calls with first argument `j` add the children of `j`, in index order -/
theorem encEdges_filter {tree : List Int} (h : EntriesOK tree.length tree) (j : Nat) :
    ((encEdges tree).filter (fun e => e.1 == j)).map (·.2) = Clt.childrenOf tree j := by
  unfold encEdges Clt.childrenOf
  rw [List.filter_map, List.map_map, List.filter_filter]
  refine (List.map_id _).trans (List.filter_congr fun i hi => ?_)
  show (((tree.getD i (-1)).toNat == j) && (tree.getD i (-1) != -1)) = (tree.getD i (-1) == (j : Int))
  rcases h.getD_cases (List.mem_range.1 hi) with he | ⟨p, _, he⟩ <;> rw [he, Bool.eq_iff_iff] <;> simp

/-- node `i` ↦ attributes of variable `i`, successors = children in index order -/
def canon (o : CltObj) : DiGraph :=
  Gn o.tree.length (fun i => some (nodeAttr o i)) (Clt.childrenOf o.tree)

theorem length_canon (o : CltObj) : (canon o).length = o.tree.length := Gn_length _ _ _

theorem nodeIds_canon (o : CltObj) : nodeIds (canon o) = List.range o.tree.length := nodeIds_Gn _ _ _

theorem mem_edgesOf_canon (o : CltObj) {p c : Nat} :
    (p, c) ∈ edgesOf (canon o) ↔ p < o.tree.length ∧ c < o.tree.length ∧ o.tree.getD c (-1) = (p : Int) := by
  unfold canon
  rw [mem_edgesOf_Gn, mem_childrenOf_iff]

theorem cltToDigraph_eq {o : CltObj} (h : EntriesOK o.tree.length o.tree) (hs : o.scope.length = o.tree.length)
    (hp : o.params.length = o.tree.length) : cltToDigraph o = some (canon o) := by
  unfold cltToDigraph
  have hany : o.tree.any (fun p => decide (p < -1)) = false := by
    rw [List.any_eq_false]
    intro x hx
    rcases h x hx with he | ⟨he, _⟩ <;> simp only [decide_eq_true_eq] <;> omega
  rw [hany, hs, hp]
  simp only [Bool.false_or, Nat.lt_irrefl, decide_false, Bool.or_self]
  rw [if_neg Bool.false_ne_true]
  congr 1
  rw [addNode_loop, encEdge_fold, addEdge_fold _ _ _ _ (encEdges_lt h) (fun i _ => by
    rw [List.nil_append, encEdges_filter h i]; exact childrenOf_nodup _ i)]
  exact Gn_congr (fun _ _ => rfl) (fun i _ => by rw [List.nil_append, encEdges_filter h i])

theorem graphOfDoc_canon (o : CltObj) : graphOfDoc (docOfGraph (canon o)) = canon o :=
  graphOfDoc_docOfGraph_Gn _ _ fun i _ => ⟨childrenOf_nodup _ i, fun c hc => (mem_childrenOf_iff.1 hc).1⟩

end Deeprob.GraphIo
