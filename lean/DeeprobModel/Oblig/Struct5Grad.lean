import DeeprobModel.Model.EmBackward
import DeeprobModel.Lemmas.NetLemmas
import DeeprobModel.Generated.Consts
import DeeprobModel.Spec.ExpLog
import Mathlib.Data.Rat.Cast.Defs
/-
Static tie of `Model/EmBackward.lean` (`sendDownC`, `backwardC`: the backward pass of EM as coded, float32 log domain) to
/repo/deeprob/spn/algorithms/gradient.py (`eval_backward`) — C14.

The translator fragment `gradient.eval_backward.rules` (tools/fragments.py, `emit_struct5grad`) extracts the per-node rules from the
current source, over an abstract log-number carrier `L` with operations `add`, `sub`, `log`, `logsumexp`, `lit`: `Gen.S5gradRoot`,
`Gen.S5gradAccum` / `Gen.S5gradNode`, `Gen.S5gradSum`, `Gen.S5gradProd` (with the association of the source, `(g + llNode) - llChild`)
and the dispatch `Gen.S5gradSends` (a Sum zips `children` with `weights`, a Product maps over `children`, a Leaf sends nothing, any
other class raises).  Here the rules are instantiated at the carrier `LogV α` of the model (`add`, `sub`, `ofLin`, the fold of `lse`,
the literal `0.0` = `fin 1`) with a node read as its index in the table, and shown to be the model: rule by rule, and then for the
pass assembled from them the way the code runs them (a table `grads`, a separate cache of lists, the guard at the root, nodes in
topological order), on every children-first table whose root has no parent (what `topological_order` enforces: it returns `None`,
and `eval_backward` raises, when the root has an incoming arc).
-/
set_option linter.unusedSectionVars false
set_option linter.unusedSimpArgs false
set_option linter.unusedVariables false
namespace Deeprob.Oblig.Struct5G
open Deeprob Deeprob.LogV

section defs
variable {α : Type} [Zero α] [One α] [Add α] [Mul α] [Div α] [DecidableEq α]

/-- `scipy.special.logsumexp(list, axis=0)` on the carrier `LogV`: the fold of `np.logaddexp` from `-inf` -/
def lseList (l : List (LogV α)) : LogV α := l.foldl lse bot

/-- a float32 literal as a log-number: `0.0` is `log 1`; the model tracks no other literal -/
def litLogV (q : Rat) : LogV α := if q = 0 then fin 1 else top

/-- `isinstance(node, …)` for the node stored at index `i` -/
def kindAt (net : Net α) (i : Nat) : Option Kind := (net[i]?).map (·.kind)

/-- the generated dispatch `Gen.S5gradSends` read on a node table: a node is its index (`nid = id`), `children` / `weights` are read
from the table, `lls[k]` is the `k`-th entry of the floored table (an index outside it counts as a node of value `0`, as in `sendDownC`) -/
def genSends (net : Net α) (lls : List (LogV α)) (i : Nat) (g : LogV α) : Option (List (Nat × LogV α)) :=
  Gen.S5gradSends LogV.add LogV.sub LogV.ofLin
    (fun n => kindAt net n == some Kind.sum) (fun n => kindAt net n == some Kind.prod) (fun n => kindAt net n == some Kind.leaf)
    (fun n => ((net[n]?).map (·.ch)).getD []) (fun n => ((net[n]?).map (·.ws)).getD []) id
    (fun k => lls.getD k (low 0)) i g

/-- what `backwardC` does with a list of messages: the table entry of every addressee is its running `logsumexp` -/
def applyC (ms : List (Nat × LogV α)) (grads : List (LogV α)) : List (LogV α) :=
  ms.foldl (fun gr m => gr.set m.1 (lse (gr.getD m.1 bot) m.2)) grads

/-- what the code does with them: `cached_grads[key].append(value)` -/
def appendSends (ms : List (Nat × LogV α)) (cached : List (List (LogV α))) : List (List (LogV α)) :=
  ms.foldl (fun ca m => ca.set m.1 (ca.getD m.1 [] ++ [m.2])) cached

/-- one iteration of `for node in nodes:` assembled from the generated rules; the state is (`grads`, `cached_grads`) -/
def genVisit (net : Net α) (lls : List (LogV α)) (root : Nat) (st : List (LogV α) × List (List (LogV α))) (i : Nat) :
    List (LogV α) × List (List (LogV α)) :=
  let g := Gen.S5gradNode lseList i root (st.1.getD i bot) (st.2.getD i [])
  match genSends net lls i g with
  | some ms => (st.1.set i g, appendSends ms st.2)
  | none => (st.1.set i g, st.2)

/-- `eval_backward(root, lls)` assembled from the generated rules, one row: `grads` (entries not yet written shown as `-inf`) with
the generated literal at the root, an empty cache, then the nodes in topological order (the table is children-first: decreasing
index); `grads` is returned -/
def genBackward (net : Net α) (lls : List (LogV α)) (root : Nat) : List (LogV α) :=
  ((List.range net.length).reverse.foldl (genVisit net lls root)
    ((List.replicate net.length bot).set root (Gen.S5gradRoot litLogV), List.replicate net.length [])).1

/-- the root has no incoming arc (`topological_order` returns `None` otherwise and `eval_backward` raises) -/
def NoParent (net : Net α) (root : Nat) : Prop := ∀ (i : Nat) (x : NNode α), net[i]? = some x → root ∉ x.ch

/-- children-first table (the body of `WellOrdered`, `Lemmas/NetLemmas.lean`) -/
def ChildrenFirst (net : Net α) : Prop := ∀ (i : Nat) (x : NNode α), net[i]? = some x → ∀ c ∈ x.ch, c < i

end defs

section rules
variable {α : Type} [Zero α] [One α] [Add α] [Mul α] [Div α] [DecidableEq α]

/-- the generated Sum rule is the expression `sendDownC` sends along a sum edge, the generated dispatch zips
the node's children with its weights, and `sendDownC` applies exactly these messages -/
theorem gradSum_as_coded (net : Net α) (lls : List (LogV α)) (i : Nat) (x : NNode α) (g : LogV α) (grads : List (LogV α))
    (hn : net[i]? = some x) (hk : x.kind = Kind.sum) :
    (∀ w : α, Gen.S5gradSum LogV.add (ofLin w) g = add g (ofLin w)) ∧
    genSends net lls i g = some ((x.ch.zip x.ws).map (fun cw => (cw.1, Gen.S5gradSum LogV.add (ofLin cw.2) g))) ∧
    sendDownC lls x i g grads = applyC ((x.ch.zip x.ws).map (fun cw => (cw.1, Gen.S5gradSum LogV.add (ofLin cw.2) g))) grads := by
  refine ⟨fun _ => rfl, ?_, ?_⟩
  · simp [genSends, Gen.S5gradSends, kindAt, hn, hk]
  · unfold sendDownC applyC
    rw [hk, List.foldl_map]
    rfl

/-- the generated Product rule, `(g + lls[node]) - lls[c]` in this association, is the expression
`sendDownC` sends along a product edge; the dispatch maps over the node's children in order -/
theorem gradProd_as_coded (net : Net α) (lls : List (LogV α)) (i : Nat) (x : NNode α) (g : LogV α) (grads : List (LogV α))
    (hn : net[i]? = some x) (hk : x.kind = Kind.prod) :
    (∀ a b : LogV α, Gen.S5gradProd LogV.add LogV.sub g a b = sub (add g a) b) ∧
    genSends net lls i g = some (x.ch.map (fun c =>
      (c, Gen.S5gradProd LogV.add LogV.sub g (lls.getD i (low 0)) (lls.getD c (low 0))))) ∧
    sendDownC lls x i g grads = applyC (x.ch.map (fun c =>
      (c, Gen.S5gradProd LogV.add LogV.sub g (lls.getD i (low 0)) (lls.getD c (low 0))))) grads := by
  refine ⟨fun _ _ => rfl, ?_, ?_⟩
  · simp [genSends, Gen.S5gradSends, kindAt, hn, hk]
  · unfold sendDownC applyC
    rw [hk, List.foldl_map]
    rfl

/-- leaves send nothing -/
theorem gradLeaf_as_coded (net : Net α) (lls : List (LogV α)) (i : Nat) (x : NNode α) (g : LogV α) (grads : List (LogV α))
    (hn : net[i]? = some x) (hk : x.kind = Kind.leaf) :
    genSends net lls i g = some [] ∧ sendDownC lls x i g grads = applyC [] grads := by
  refine ⟨?_, ?_⟩
  · simp [genSends, Gen.S5gradSends, kindAt, hn, hk]
  · unfold sendDownC applyC
    rw [hk]
    rfl

/-- for every node of the table the generated dispatch answers (the branch that raises is never
taken), `sendDownC` applies exactly its messages, and every message is addressed to a child of the node -/
theorem sendDownC_as_coded (net : Net α) (lls : List (LogV α)) (i : Nat) (x : NNode α) (g : LogV α) (grads : List (LogV α))
    (hn : net[i]? = some x) :
    ∃ ms, genSends net lls i g = some ms ∧ sendDownC lls x i g grads = applyC ms grads ∧ ∀ m ∈ ms, m.1 ∈ x.ch := by
  cases hk : x.kind with
  | sum =>
    obtain ⟨_, h1, h2⟩ := gradSum_as_coded net lls i x g grads hn hk
    refine ⟨_, h1, h2, ?_⟩
    intro m hm
    obtain ⟨cw, hcw, rfl⟩ := List.mem_map.1 hm
    exact (List.of_mem_zip hcw).1
  | prod =>
    obtain ⟨_, h1, h2⟩ := gradProd_as_coded net lls i x g grads hn hk
    refine ⟨_, h1, h2, ?_⟩
    intro m hm
    obtain ⟨c, hc, rfl⟩ := List.mem_map.1 hm
    exact hc
  | leaf =>
    obtain ⟨h1, h2⟩ := gradLeaf_as_coded net lls i x g grads hn hk
    exact ⟨_, h1, h2, fun m hm => by cases hm⟩

/-- the generated accumulation, `logsumexp` of the cached list, is what the running `lse` of `backwardC`
computes: nothing cached is `-inf` (the entry `backwardC` starts from), and appending a contribution is one more `lse` -/
theorem gradAccum_as_coded (cached : List (LogV α)) (m : LogV α) :
    Gen.S5gradAccum lseList ([] : List (LogV α)) = bot ∧
    Gen.S5gradAccum lseList (cached ++ [m]) = lse (Gen.S5gradAccum lseList cached) m := by
  refine ⟨rfl, ?_⟩
  simp [Gen.S5gradAccum, lseList, List.foldl_append]

/-- … and the guard: the root keeps its entry, every other node takes the accumulation -/
theorem gradNode_as_coded (i root : Nat) (cur : LogV α) (cached : List (LogV α)) :
    Gen.S5gradNode lseList i root cur cached = if i = root then cur else lseList cached := by
  by_cases h : i = root <;> simp [Gen.S5gradNode, Gen.S5gradAccum, h]

/-- the table `backwardC` starts from holds the generated literal at the root -/
theorem gradRoot_as_coded (n root : Nat) :
    (Gen.S5gradRoot litLogV : LogV α) = fin 1 ∧
    (List.replicate n (bot : LogV α)).set root (Gen.S5gradRoot litLogV) = (List.replicate n bot).set root (fin 1) := by
  have h : (Gen.S5gradRoot litLogV : LogV α) = fin 1 := by simp [Gen.S5gradRoot, litLogV]
  exact ⟨h, by rw [h]⟩

end rules

section denote
variable {F : Type} [Field F] [LinearOrder F] [DecidableEq F]

/-- the literal `fin 1` is the right reading of the generated constant: in every field with `exp`, the entry `backwardC` starts
from has the exponential `exp (literal)` -/
theorem gradRoot_denotes (E : ExpLog F) :
    expL (Gen.S5gradRoot litLogV : LogV F) = some (E.exp (Gen.S5gradRoot (fun q : Rat => (q : F)))) := by
  simp [Gen.S5gradRoot, litLogV, expL, E.exp_zero]

end denote

section simulation
variable {α : Type} [Zero α] [One α] [Add α] [Mul α] [Div α] [DecidableEq α]

section foldSet
variable {β γ : Type} (key : γ → Nat) (f : List β → γ → β)

theorem foldl_set_length (ms : List γ) (T : List β) :
    (ms.foldl (fun t m => t.set (key m) (f t m)) T).length = T.length := by
  induction ms generalizing T with
  | nil => rfl
  | cons m ms ih => rw [List.foldl_cons, ih, List.length_set]

theorem foldl_set_getD_of_ne (j : Nat) (d : β) (ms : List γ) (T : List β) (h : ∀ m ∈ ms, key m ≠ j) :
    (ms.foldl (fun t m => t.set (key m) (f t m)) T).getD j d = T.getD j d := by
  induction ms generalizing T with
  | nil => rfl
  | cons m ms ih =>
    rw [List.foldl_cons, ih _ (fun m' hm' => h m' (List.mem_cons_of_mem _ hm')), getD_set,
      if_neg (fun hh => h m List.mem_cons_self hh.1.symm)]

end foldSet

/-- at every cache key, `logsumexp` of the cached list and the running `lse` stay equal under the same messages -/
theorem sends_cache_rel (j : Nat) : ∀ (ms : List (Nat × LogV α)) (Ca : List (List (LogV α))) (T : List (LogV α)),
    Ca.length = T.length → lseList (Ca.getD j []) = T.getD j bot →
    lseList ((appendSends ms Ca).getD j []) = (applyC ms T).getD j bot := by
  intro ms
  induction ms with
  | nil => intro Ca T _ h; exact h
  | cons m ms ih =>
    intro Ca T hlen h
    show lseList ((appendSends ms (Ca.set m.1 _)).getD j []) = (applyC ms (T.set m.1 _)).getD j bot
    apply ih
    · rw [List.length_set, List.length_set, hlen]
    · rw [getD_set, getD_set, hlen]
      split
      · next hc =>
        obtain ⟨rfl, _⟩ := hc
        rw [← h]
        simp [lseList, List.foldl_append]
      · exact h

/-- the invariant of the simulation after the nodes of index `≥ k` were visited: `grads` agrees with the model's table at the
visited nodes and at the root (which takes nothing from the cache), the `logsumexp` of the cached list at the others -/
def Inv (n root k : Nat) (st : List (LogV α) × List (List (LogV α))) (T : List (LogV α)) : Prop :=
  st.1.length = n ∧ st.2.length = n ∧ T.length = n ∧
  (∀ j, k ≤ j ∨ j = root → st.1.getD j bot = T.getD j bot) ∧
  (∀ j, j < k → j ≠ root → lseList (st.2.getD j []) = T.getD j bot)

/-- the step of `backwardC` -/
def cStep (net : Net α) (lls : List (LogV α)) (grads : List (LogV α)) (i : Nat) : List (LogV α) :=
  match net[i]? with
  | some x => sendDownC lls x i (grads.getD i bot) grads
  | none => grads

theorem inv_step (net : Net α) (lls : List (LogV α)) (root : Nat) (hw : ChildrenFirst net) (hnp : NoParent net root)
    (k : Nat) (hk : k < net.length) (st : List (LogV α) × List (List (LogV α))) (T : List (LogV α))
    (h : Inv net.length root (k + 1) st T) :
    Inv net.length root k (genVisit net lls root st k) (cStep net lls T k) := by
  obtain ⟨hG, hCa, hT, h1, h2⟩ := h
  have hn : net[k]? = some net[k] := List.getElem?_eq_getElem hk
  have hg : Gen.S5gradNode lseList k root (st.1.getD k bot) (st.2.getD k []) = T.getD k bot := by
    rw [gradNode_as_coded]
    split
    · next hr => exact h1 k (Or.inr hr)
    · next hr => exact h2 k (Nat.lt_succ_self k) hr
  obtain ⟨ms, hgs, hsd, htg⟩ := sendDownC_as_coded net lls k net[k] (T.getD k bot) T hn
  -- the messages go to children: below `k`, and never to the root
  have hlt : ∀ m ∈ ms, m.1 < k := fun m hm => hw k _ hn _ (htg m hm)
  have hnr : ∀ m ∈ ms, m.1 ≠ root := fun m hm hh => hnp k _ hn (hh ▸ htg m hm)
  have hvis : genVisit net lls root st k = (st.1.set k (T.getD k bot), appendSends ms st.2) := by
    unfold genVisit
    simp only [hg, hgs]
  have hcs : cStep net lls T k = applyC ms T := by
    unfold cStep
    rw [hn]
    exact hsd
  rw [hvis, hcs]
  refine ⟨by rw [List.length_set]; exact hG, (foldl_set_length _ _ ms _).trans hCa, (foldl_set_length _ _ ms T).trans hT, ?_, ?_⟩
  · intro j hj
    have hne : ∀ m ∈ ms, m.1 ≠ j := fun m hm hh => by
      rcases hj with hj | hj
      · have := hlt m hm; omega
      · exact hnr m hm (hh.trans hj)
    rw [applyC, foldl_set_getD_of_ne _ _ j bot ms T hne]
    show (st.1.set k (T.getD k bot)).getD j bot = _
    rw [getD_set]
    split
    · next hc => rw [hc.1]
    · next hc =>
      have hjk : j ≠ k := fun hh => hc ⟨hh, by rw [hG]; exact hk⟩
      exact h1 j (hj.imp (fun h => by omega) id)
  · intro j hj hjr
    exact sends_cache_rel j ms st.2 T (by rw [hCa, hT]) (h2 j (by omega) hjr)

theorem inv_run (net : Net α) (lls : List (LogV α)) (root : Nat) (hw : ChildrenFirst net) (hnp : NoParent net root) :
    ∀ (k : Nat), k ≤ net.length → ∀ (st : List (LogV α) × List (List (LogV α))) (T : List (LogV α)),
      Inv net.length root k st T →
      Inv net.length root 0 ((List.range k).reverse.foldl (genVisit net lls root) st)
        ((List.range k).reverse.foldl (cStep net lls) T) := by
  intro k
  induction k with
  | zero => intro _ st T h; exact h
  | succ k ih =>
    intro hk st T h
    rw [List.range_succ, List.reverse_append, List.reverse_singleton, List.singleton_append, List.foldl_cons, List.foldl_cons]
    exact ih (by omega) _ _ (inv_step net lls root hw hnp k (by omega) st T h)

theorem replicate_getD (β : Type) (n j : Nat) (d : β) : (List.replicate n d).getD j d = d := by
  simp only [List.getD_eq_getElem?_getD, List.getElem?_replicate]
  split <;> rfl

/-- `eval_backward` assembled from the generated rules (separate `grads` table and cache of lists, `logsumexp`
of the cached list when a non-root node is visited, the root keeping the generated literal, the generated messages) returns, on
every children-first table whose root has no parent and for every table `lls`, exactly the table of the model `backwardC`. All
theorems of `Props/C14Backward.lean` about `backwardC` / `codedGrads` are therefore theorems about the extracted rules. -/
theorem backwardC_as_coded (net : Net α) (lls : List (LogV α)) (root : Nat) (hw : ChildrenFirst net) (hnp : NoParent net root) :
    genBackward net lls root = backwardC net lls root := by
  have h0 : Inv net.length root net.length
      ((List.replicate net.length (bot : LogV α)).set root (Gen.S5gradRoot litLogV), List.replicate net.length [])
      ((List.replicate net.length bot).set root (fin 1)) := by
    rw [(gradRoot_as_coded net.length root).2]
    refine ⟨by simp, by simp, by simp, fun j _ => rfl, ?_⟩
    intro j hj hjr
    show lseList ((List.replicate net.length ([] : List (LogV α))).getD j []) = _
    rw [replicate_getD, getD_set, if_neg (fun hc => hjr hc.1), replicate_getD]
    rfl
  obtain ⟨hG, _, hT, h1, _⟩ := inv_run net lls root hw hnp net.length (Nat.le_refl _) _ _ h0
  unfold genBackward
  change _ = List.foldl (cStep net lls) _ _
  apply List.ext_getElem (by rw [hG, hT])
  intro j hj1 hj2
  have := h1 j (Or.inl (Nat.zero_le _))
  rwa [List.getD_eq_getElem?_getD, List.getD_eq_getElem?_getD, List.getElem?_eq_getElem hj1, List.getElem?_eq_getElem hj2] at this

/-- in a children-first table the last node has no parent (the root of an exported circuit is the last entry) -/
theorem noParent_last (net : Net α) (hw : ChildrenFirst net) : NoParent net (net.length - 1) := by
  intro i x hn hc
  have h1 := hw i x hn _ hc
  have h2 : i < net.length := (List.getElem?_eq_some_iff.1 hn).1
  omega

end simulation

/-! ### non-vacuity on a small table (the examples on `exZ` / `exW` of `Props/C14Backward.lean` are in `Props/E2EGrad.lean`) -/

section examples

/-- leaf 0 (value `0` on the row), leaf 1, product 2 over both, leaf 3, sum 4 with the weights `[1/4, 3/4]` over the product and leaf 3 -/
def exG : Net ℚ :=
  [⟨0, .leaf, [0], [], [], .cat 0 [1, 0]⟩,
   ⟨1, .leaf, [1], [], [], .cat 1 [1/3, 2/3]⟩,
   ⟨2, .prod, [0, 1], [0, 1], [], .absent⟩,
   ⟨3, .leaf, [0, 1], [], [], .absent⟩,
   ⟨4, .sum, [0, 1], [2, 3], [1/4, 3/4], .absent⟩]

/-- `lls` of a row on which leaf 0 (hence product 2) has value `0`: floored entries at 0 and 2 -/
def exGlls : List (LogV ℚ) := [low 0, fin (1/3), low 0, fin (1/2), fin (3/8)]

/-- the Sum rule: the root sends `0.0 + log w` to each child, children zipped with the weights in order -/
example : genSends exG exGlls 4 (fin 1) = some [(2, fin (1/4)), (3, fin (3/4))] ∧
    sendDownC exGlls exG[4] 4 (fin 1) [bot, bot, bot, bot, fin 1] = [bot, bot, fin (1/4), fin (3/4), fin 1] := by
  decide +kernel

/-- the Product rule with the association of the source: for the zero-valued child 0, `(log(1/4) + F) - F = 0.0` (the finite part
is absorbed); the re-associated `log(1/4) + (F - F)` would be `log(1/4)` — the two differ, the generated text keeps the first -/
example : genSends exG exGlls 2 (fin (1/4)) = some [(0, fin 1), (1, low 0)] ∧
    Gen.S5gradProd LogV.add LogV.sub (fin ((1:ℚ)/4)) (low 0) (low 0) = fin 1 ∧
    LogV.add (fin ((1:ℚ)/4)) (LogV.sub (low 0) (low 0)) = fin (1/4) := by
  decide +kernel

example : genSends exG exGlls 1 (low 0) = some [] := by decide +kernel

/-- accumulation: two cached contributions of a shared node -/
example : Gen.S5gradAccum lseList ([fin ((1:ℚ)/4)] ++ [fin (1/8)]) = lse (Gen.S5gradAccum lseList [fin ((1:ℚ)/4)]) (fin (1/8)) :=
  (gradAccum_as_coded [fin ((1:ℚ)/4)] (fin (1/8))).2

example : Gen.S5gradAccum lseList [fin ((1:ℚ)/4), low 2, fin (1/8), bot] = fin (3/8) := by decide +kernel

example : (List.replicate 5 (bot : LogV ℚ)).set 4 (Gen.S5gradRoot litLogV) = [bot, bot, bot, bot, fin 1] := by
  rw [(gradRoot_as_coded 5 4).2]; rfl

theorem exG_childrenFirst : ChildrenFirst exG := (wellOrderedB_iff exG).1 (by decide)

/-- the assembled pass on `exG`: equal to the model's, and computed (entry 0 is the wrong `0.0`) -/
example : genBackward exG exGlls 4 = backwardC exG exGlls 4 :=
  backwardC_as_coded exG exGlls 4 exG_childrenFirst (noParent_last exG exG_childrenFirst)

example : genBackward exG exGlls 4 = [fin 1, low 0, fin (1/4), fin (3/4), fin 1] := by decide +kernel

end examples

end Deeprob.Oblig.Struct5G
