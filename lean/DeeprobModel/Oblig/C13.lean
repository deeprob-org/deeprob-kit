import DeeprobModel.Generated.Formulas
import DeeprobModel.Generated.Consts
import DeeprobModel.Lemmas.RoundLemmas
import Mathlib.Algebra.Order.Field.Rat
import Mathlib.Tactic.Positivity
set_option linter.unusedSimpArgs false
set_option linter.unusedVariables false
/-
C13 — obligations tying the generated constructor guards to the generated fit / EM clamps through the rounding
of the JSON writer: whatever `fit` / `em_step` can store is accepted by the constructor after `round(·, 8)`.
The Gaussian clamps `max s 1e-5` can store exactly `1e-5`, which the constructor guard `stddev < 1e-5` accepts (a guard
`stddev <= 1e-5` would not: finding F9).
All statements are about exact rationals; that the reload stores sum weights / array parameters as float32 is the
subject of `Model/F32.lean` and `Props/C13Gen.lean`.
-/
namespace Deeprob.Oblig.C13
open Deeprob

/-- the writer keeps 8 decimals everywhere (`round(·, 8)`, `np.around(·, 8)`) -/
theorem json_digits : Gen.jsonDigits = 8 := rfl

theorem round8_is_generated (q : ℚ) : round8 q = roundN Gen.jsonDigits q := rfl

theorem gauss_loadable_of_ge (σ : ℚ) (h : 1 / 100000 ≤ σ) : ¬ Gen.gaussCtorRejects (round8 σ) := by
  have := round8_mono h
  rw [round8_1em5] at this
  unfold Gen.gaussCtorRejects
  exact not_lt.2 this

/-- what `Gaussian.fit` stores can be loaded -/
theorem fit_loadable_gaussian (s : ℚ) : ¬ Gen.gaussCtorRejects (round8 (Gen.gaussFitClamp s)) :=
  gauss_loadable_of_ge _ (by unfold Gen.gaussFitClamp; exact le_max_right _ _)

/-- the clamped re-estimate of `Gaussian.em_step` can be loaded; with
`Oblig.C14.gaussian_em_sigma_pos` so can every standard deviation EM ever stores -/
theorem em_loadable_gaussian (s : ℚ) : ¬ Gen.gaussCtorRejects (round8 (Gen.gaussEmClamp s)) :=
  gauss_loadable_of_ge _ (by unfold Gen.gaussEmClamp; exact le_max_right _ _)

theorem bern_loadable_of_unit (p : ℚ) (h0 : 0 ≤ p) (h1 : p ≤ 1) : ¬ Gen.bernCtorRejects (round8 p) := by
  have a := round8_mono h0
  have b := round8_mono h1
  rw [round8_zero] at a; rw [round8_one] at b
  rintro (h | h)
  exacts [absurd h (not_lt.2 a), absurd h (not_lt.2 b)]

/-- the Laplace estimate of `Bernoulli.fit` (counts `0 ≤ n1 ≤ n`, `α ≥ 0`, not both
zero) can be loaded -/
theorem fit_loadable_bernoulli (n1 n alpha : ℚ) (h0 : 0 ≤ n1) (h1 : n1 ≤ n) (ha : 0 ≤ alpha) (hpos : 0 < n + 2 * alpha) :
    ¬ Gen.bernCtorRejects (round8 (Gen.bernFit n1 n alpha)) := by
  apply bern_loadable_of_unit
  · exact div_nonneg (add_nonneg h0 ha) hpos.le
  · exact (div_le_one hpos).2 (add_le_add h1 (le_mul_of_one_le_left ha one_le_two))

theorem tsum_round8_close (ws : List ℚ) :
    |tsum (ws.map round8) - tsum ws| ≤ (ws.length : ℚ) / (2 * 10 ^ 8) := by
  induction ws with
  | nil => simp [tsum]
  | cons w ws ih =>
    simp only [List.map_cons, tsum, List.length_cons, Nat.cast_succ]
    rw [add_sub_add_comm, add_div, add_comm ((ws.length : ℚ) / _)]
    exact (abs_add_le _ _).trans (add_le_add (round8_err w) ih)

/-- the `np.isclose(total, 1.0)` test of the constructors (`|total − 1| ≤ 10⁻⁸ + 10⁻⁵·|1|`, as generated) passes for
the rounded entries of a list of at most 10³ numbers that sum to one: the total moves by at most 10³·½·10⁻⁸ -/
theorem rounded_total_isclose (ws : List ℚ) (hsum : tsum ws = 1) (hn : ws.length ≤ 1000) :
    max (tsum (ws.map round8) - 1) (-(tsum (ws.map round8) - 1)) ≤ 1 / 100000000 + 1 / 100000 * max (1 : ℚ) (-1) := by
  have h := tsum_round8_close ws
  rw [hsum] at h
  rw [← abs_eq_max_neg, ← abs_eq_max_neg, abs_one]
  calc |tsum (ws.map round8) - 1| ≤ (ws.length : ℚ) / (2 * 10 ^ 8) := h
    _ ≤ 1000 / (2 * 10 ^ 8) := div_le_div_of_nonneg_right (by exact_mod_cast hn) (by positivity)
    _ ≤ _ := by norm_num

/-- the rounded weights of a sum node with at most 10³ children pass `Sum.__init__` -/
theorem weights_loadable (ws : List ℚ) (hsum : tsum ws = 1) (hn : ws.length ≤ 1000) :
    ¬ Gen.sumCtorRejects (tsum (ws.map round8)) :=
  not_not.2 (rounded_total_isclose ws hsum hn)

/-- `Categorical`, constructor side: rounded probabilities pass `Categorical.__init__` -/
theorem probabilities_loadable (ps : List ℚ) (hsum : tsum ps = 1) (hn : ps.length ≤ 1000) :
    ¬ Gen.catCtorRejects (tsum (ps.map round8)) :=
  not_not.2 (rounded_total_isclose ps hsum hn)

/-- `Isotonic`, constructor side: rounded densities pass `Isotonic.__init__` -/
theorem densities_loadable (ds : List ℚ) (hsum : tsum ds = 1) (hn : ds.length ≤ 1000) :
    ¬ Gen.isoCtorRejects (tsum (ds.map round8)) :=
  not_not.2 (rounded_total_isclose ds hsum hn)

/-- `Categorical`, fit side: the Laplace estimates of `Categorical.fit` sum to one when the
per-category counts add up to the number of rows -/
theorem catFit_sum_one (counts : List ℚ) (n alpha : ℚ) (hc : tsum counts = n)
    (hpos : 0 < n + (counts.length : ℚ) * alpha) :
    tsum (counts.map (fun nd => Gen.catFit nd n (counts.length : ℚ) alpha)) = 1 := by
  have : ∀ (l : List ℚ) (D : ℚ), tsum (l.map (fun nd => (nd + alpha) / D)) = (tsum l + (l.length : ℚ) * alpha) / D := by
    intro l D
    induction l with
    | nil => simp [tsum]
    | cons x xs ih => simp only [List.map_cons, tsum, ih, List.length_cons, Nat.cast_succ]; ring
  unfold Gen.catFit
  rw [this, hc, div_self (ne_of_gt hpos)]

end Deeprob.Oblig.C13
