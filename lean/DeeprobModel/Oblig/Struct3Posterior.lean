import DeeprobModel.Oblig.Struct3Inference
import DeeprobModel.Model.Posterior
import DeeprobModel.Spec.Softmax
import DeeprobModel.Props.C20
/-
Static tie of `Model/Posterior.lean` (`posteriorRow`) and `Spec/Softmax.lean` (`classLL`, `logSoftmax`)
to /repo/deeprob/spn/models/sklearn.py (`SPNClassifier.predict_log_proba`, `predict_proba`, `predict`) — C20.

`Gen.S3predictLogProba` is the last two statements of `predict_log_proba` read on one row of `X` (`lls[class_ids].T` has
one row per sample and one column per child of the root, `np.log(self.spn_.weights)` is broadcast along the rows,
`log_softmax(…, axis=1)` normalises inside the row).  The version of the library before the fix of finding F13 (DESIGN.md §7) had no `.T` and `axis=0`: both are
rejected by the row-wise reader.
-/
set_option linter.unusedSectionVars false
namespace Deeprob.Struct3
open Deeprob

variable {F : Type} [Field F] [LinearOrder F] [IsStrictOrderedRing F]

/-- **`predict_log_proba`** is `log_softmax(log w + lls[class_ids].T, axis=1)` — the specification function of `Props/C20` -/
theorem predict_log_proba_as_coded (E : ExpLog F) (w lls : List F) :
    Gen.S3predictLogProba E w lls = logSoftmax E (classLL E w lls) := by
  unfold Gen.S3predictLogProba logSoftmax
  simp only [List.zipWith_map_left, sum_eq_tsum]
  rfl

/-- **`predict_proba`** is `np.exp(predict_log_proba)` — hence, on positive priors and class likelihoods, the posterior row
of the model (`Props/C20.softmax_is_posterior`) -/
theorem predict_proba_as_coded (E : ExpLog F) (w : List F) (L : List (List F)) (r : Nat)
    (hw : ∀ x ∈ w, 0 < x) (hl : ∀ x ∈ colOf L r, 0 < x) :
    Gen.S3predictProba E w ((colOf L r).map E.log) = posteriorRow w L r := by
  unfold Gen.S3predictProba
  rw [predict_log_proba_as_coded]
  exact C20.softmax_is_posterior E w L r hw hl

/-- non-vacuity at ℝ with the usual `exp` / `log`: 2 classes, w = (1/4, 3/4), row 0 of the example of `Props/C20` -/
example : Gen.S3predictProba realExpLog C20.exWR ((colOf C20.exLR 0).map realExpLog.log) = posteriorRow C20.exWR C20.exLR 0 :=
  predict_proba_as_coded realExpLog C20.exWR C20.exLR 0 C20.exWR_pos (C20.exLR_pos 0 (by norm_num))

example : Gen.S3predictLogProba realExpLog C20.exWR [0, 0] = logSoftmax realExpLog (classLL realExpLog C20.exWR [0, 0]) :=
  predict_log_proba_as_coded realExpLog C20.exWR [0, 0]

/-- **`predict`**: label appended last and missing, completed in place by `inference.mpe`, last column returned — the branch
chosen at the root by `sum_mpe` (`Oblig/StructTopDown.sum_mpe_as_coded`), which is `predictBranch` -/
theorem predict_as_coded :
    Gen.S3predictSteps = ["hstack([X, nan])", "inference.mpe(spn, data, inplace=True)", "data[:, -1]"] := rfl

end Deeprob.Struct3
