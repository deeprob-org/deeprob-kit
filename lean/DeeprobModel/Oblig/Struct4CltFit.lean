import DeeprobModel.Generated.Consts
import DeeprobModel.Generated.Formulas
import DeeprobModel.Model.CltFit
import DeeprobModel.Spec.CltFitSpec
import Mathlib.Algebra.Order.Field.Basic
import Mathlib.Algebra.Order.Field.Rat
import Mathlib.Tactic.Ring
import Mathlib.Tactic.FieldSimp
import Mathlib.Tactic.NormNum
/-
Static tie of `Spec/CltFitSpec.lean` (`miTerm`, `mutualInfo`) and `Model/CltFit.lean` (`paIdx`, `rawParam`,
`cpt`) to /repo/deeprob/utils/statistics.py (`compute_mutual_information`) and /repo/deeprob/spn/structure/cltree.py
(`BinaryCLT.compute_clt_parameters`, `BinaryCLT.fit`) — C11.

Arrays are read entry-wise through accessor functions; an index that may be negative (`tree[root] = -1`) is an `Int` and
the instantiation below reads it as NumPy does (`-1` = last row): `wrap`.
-/
set_option linter.unusedSectionVars false
namespace Deeprob.Struct4
open Deeprob Deeprob.CltFit

variable {F : Type} [Field F] [LinearOrder F]

/-- **`np.multiply.outer(priors, priors).transpose([0, 2, 1, 3])`** is `outers[i, j, k, l] = priors[i, k] * priors[j, l]` -/
theorem miOuters_as_coded (priors : Nat → Nat → F) (i j k l : Nat) :
    Gen.S4miOuters priors i j k l = priors i k * priors j l := by
  unfold Gen.S4miOuters
  rfl

/-- **one summand as coded**: `joints * (log joints − log outers)` at `[i, j, k, l]` is the specification's `miTerm` -/
theorem miTerm_as_coded (E : ExpLog F) (X : List (List Nat)) (al : F) (i j a b : Nat) :
    miTerm E X al i j a b = Gen.S4miTerm E (fun i k => prior X al i k) (fun i j k l => joint X al i j k l) i j a b := by
  unfold miTerm Gen.S4miTerm
  simp only [miOuters_as_coded]

/-- **`compute_mutual_information` as coded** (`n_values = 2`): the sum over the two value axes `(2, 3)`, diagonal filled
with `0.0` — the specification's `mutualInfo` (the weights of the maximum spanning tree of C11) -/
theorem mutualInfo_as_coded (E : ExpLog F) (X : List (List Nat)) (al : F) (i j : Nat) :
    mutualInfo E X al i j =
      Gen.S4mutualInfo E 2 (fun i k => prior X al i k) (fun i j k l => joint X al i j k l) i j := by
  unfold mutualInfo Gen.S4mutualInfo
  by_cases h : i = j
  · simp only [h, if_true]
  · simp only [h, if_false, ← miTerm_as_coded]
    simp only [List.range_succ, List.range_zero, List.nil_append, List.cons_append, List.flatMap_cons, List.flatMap_nil,
      List.map_cons, List.map_nil, List.append_nil, Gen.Py4.sum]
    ring

example (E : ExpLog F) :
    mutualInfo E [[1, 0], [1, 1], [0, 1], [1, 1]] (1 / 10 : F) 0 1 =
      Gen.S4mutualInfo E 2 (fun i k => prior [[1, 0], [1, 1], [0, 1], [1, 1]] (1 / 10 : F) i k)
        (fun i j k l => joint [[1, 0], [1, 1], [0, 1], [1, 1]] (1 / 10 : F) i j k l) 0 1 :=
  mutualInfo_as_coded E _ _ 0 1

example : Gen.S4miPerm = [0, 2, 1, 3] ∧
    Gen.S4miOuters (fun i k => ((10 * i + k : Nat) : ℚ)) 1 2 0 1 = 10 * 21 := by
  decide +kernel

/-- NumPy's reading of a row index of an array with `n` rows (`-1` = the last row) -/
def wrap (n : Nat) (p : Int) : Nat := if p < 0 then n - 1 else p.toNat

theorem paIdx_eq_wrap (pred : List Int) (i : Nat) : paIdx pred i = wrap pred.length (pred.getD i (-1)) := rfl

/-- **the einsum `'ikl,il->ilk'` as coded**: `params[i, l, k] = joints[i, tree[i], k, l] * (1 / priors[tree[i], l])`, the rows
of `root_id` overwritten by `priors[root_id]` — the model's `rawParam` (the root's `tree` entry `-1` reads the last row:
`paIdx`) -/
theorem rawParam_as_coded (X : List (List Nat)) (al : F) (pred : List Int) (root i l k : Nat) :
    rawParam X al pred root i l k =
      Gen.S4cltParamRaw (fun p k => prior X al (wrap pred.length p) k)
        (fun a b k l => joint X al a.toNat (wrap pred.length b) k l)
        (fun a => pred.getD a.toNat (-1)) (root : Int) (i : Int) l k := by
  unfold rawParam Gen.S4cltParamRaw
  by_cases h : i = root
  · subst h
    have hn : ¬ ((i : Int) < 0) := by omega
    simp [wrap, hn]
  · have h' : ¬ ((i : Int) = (root : Int)) := by omega
    simp only [h, h', if_false, Int.toNat_natCast, paIdx_eq_wrap]

/-- **the normalisation as coded** (`params /= np.sum(params, axis=2, keepdims=True)`: over the variable's own value `k`) —
the model's `cpt` -/
theorem cpt_as_coded (X : List (List Nat)) (al : F) (pred : List Int) (root i l k : Nat) :
    cpt X al pred root i l k =
      Gen.S4cltParam (fun p k => prior X al (wrap pred.length p) k)
        (fun a b k l => joint X al a.toNat (wrap pred.length b) k l)
        (fun a => pred.getD a.toNat (-1)) (root : Int) (i : Int) l k := by
  unfold cpt Gen.S4cltParam
  simp only [← rawParam_as_coded, List.range_succ, List.range_zero, List.nil_append, List.cons_append, List.map_cons,
    List.map_nil, Gen.Py4.sum, add_zero]

example :
    let X : List (List Nat) := [[1, 0], [1, 1], [0, 1], [1, 1]]
    cpt X (1 / 10 : ℚ) [-1, 0] 0 1 1 1 =
      Gen.S4cltParam (fun p k => prior X (1 / 10 : ℚ) (wrap 2 p) k) (fun a b k l => joint X (1 / 10 : ℚ) a.toNat (wrap 2 b) k l)
        (fun a => [-1, 0].getD a.toNat (-1)) 0 1 1 1 :=
  cpt_as_coded _ _ [-1, 0] 0 1 1 1

/-- **the steps of `fit` as coded**: a root is drawn only when none was given; priors and joints with the caller's
`alpha`; the structure (mutual information, then `maximum_spanning_tree(self.root, ·)`) is learned only when no tree was
given; the parameters are `compute_clt_parameters(self.bfs, self.tree, priors, joints)` stored in log-space -/
theorem fit_steps_as_coded :
    Gen.S4cltFitSteps =
      [("self.root is None", "self.root = random_state.choice(len(self.scope))"),
       ("", "v3, v4 = estimate_priors_joints(data, alpha=alpha)"),
       ("self.tree is None", "v5 = compute_mutual_information(v3, v4)"),
       ("self.tree is None", "self.bfs, self.tree = maximum_spanning_tree(self.root, v5)"),
       ("", "v6 = self.compute_clt_parameters(self.bfs, self.tree, v3, v4)"),
       ("", "self.params = np.log(v6)")] := rfl

end Deeprob.Struct4
