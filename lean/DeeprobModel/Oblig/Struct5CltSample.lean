import DeeprobModel.Oblig.Struct5Prelude
import DeeprobModel.Model.CltLoop
set_option linter.unusedVariables false
set_option linter.unusedSimpArgs false
/-
Chow-Liu trees — the loop of `BinaryCLT.sample` as extracted by tools/listprog.py: `Gen.S5cltSampleLoop`
(fragment `cltree.sample.loop`): `messages = self.message_passing(x, obs_mask, return_lls=False, reduce='mar')`, masked store at the
root, loop over `self.bfs[1:]` writing `x[j]` from `x[self.tree[j]]`, `return x`.

The skeleton is deterministic in its parameters `pre0` / `body` (what is stored); the stores of `sample` are draws
(`ss.bernoulli.rvs(np.exp(log_probs))`).  Its law on one row is obtained by instantiating the same skeleton on weighted rows:
the state is `(row, weight)`, an entry is `(value, probability of that value)`, `setCol` writes the value and multiplies the weight.
Given a target row `target`, `pre0` / `body` store at a missing position `j` the pair
`(target[j], bernoulli.pmf(target[j], p_j))` with `p_j = exp(log_probs[1] - logsumexp(log_probs))`,
`log_probs = self.params[j, x[tree[j]]] + messages[j]` (root: `self.params[root, 0]`), exactly the expressions of the source; observed
positions are kept (`none`).  So `(sampleLawWith … x target).1` is the row the loop returns when every draw comes out as in `target`
and `.2` is the probability of these draws: the product, along `bfs`, of the per-entry probabilities.

Domain: `add` / `sub` / `expo` are the log-domain `+`, `-`, `np.exp` (linear reading: `*`, `/`, `id`), `lse` = `logsumexp`;
the Bernoulli pmf is `Gen.Py3.bernoulliPmf` (SciPy semantics, trusted).
-/
namespace Deeprob.Oblig.Struct5CltSample
open Deeprob Deeprob.Gen Deeprob.CltLoop

variable {α : Type}

/-- the Bernoulli parameter of one draw: `np.exp(log_probs[1] - logsumexp(log_probs))`, `log_probs = prow + msg` -/
def sampleParam [Zero α] (add sub : α → α → α) (expo : α → α) (lse : List α → α) (prow msg : List α) : α :=
  let lp := List.zipWith add prow msg
  expo (sub (Py4.getI lp (1 : Int) 0) (lse lp))

/-- a weighted row: the row and the probability of the draws made so far -/
abbrev WRow (α : Type) := List (Option Nat) × α

/-- `x[:, i]` of a weighted row (the weight of an entry read back is irrelevant: `1`) -/
def getW [One α] (s : WRow α) (i : Int) : Option Nat × α := (Py4.getI s.1 i none, 1)
/-- `x[:, i] = draw`: the value is written, the weight is multiplied by the probability of the draw -/
def setW [Mul α] (s : WRow α) (i : Int) (v : Option Nat × α) : WRow α := (Py4.setI s.1 i.toNat v.1, s.2 * v.2)

/-- the store before the loop of `sample`: the root entry, when missing in the input row `x0`, drawn as `target[root]` -/
def samplePreW [Zero α] [One α] [Sub α] (add sub : α → α → α) (expo : α → α) (lse : List α → α)
    (params : Int → Int → Int → α) (root : Int) (x0 target : List (Option Nat)) (messages : Int → List α) :
    Option (Option Nat × α) :=
  if Py4.getI (x0.map Py3.isnan) root false then
    some (some (Py3.val (Py4.getI target root none)),
      Py3.bernoulliPmf (Py3.val (Py4.getI target root none))
        (sampleParam add sub expo lse (Py4.vec2 (params root (0 : Int))) (messages root)))
  else none

/-- one iteration of the sampling loop at `j`, seen from the entry `xp = x[tree[j]]` it reads -/
def sampleBodyW [Zero α] [One α] [Sub α] (add sub : α → α → α) (expo : α → α) (lse : List α → α)
    (params : Int → Int → Int → α) (x0 target : List (Option Nat)) (messages : Int → List α) (j : Int)
    (xp : Option Nat × α) : Option (Option Nat × α) :=
  if Py4.getI (x0.map Py3.isnan) j false then
    some (some (Py3.val (Py4.getI target j none)),
      Py3.bernoulliPmf (Py3.val (Py4.getI target j none))
        (sampleParam add sub expo lse (Py4.vec2 (params j ((Py3.val xp.1 : Nat) : Int))) (messages j)))
  else none

/-- **the law of `sample` on one row as the generated skeleton renders it**, for any implementation `mp` of
`self.message_passing`: `.1` = the row returned when the draws come out as `target`, `.2` = the probability of these draws -/
def sampleLawWith [Zero α] [One α] [Sub α] [Mul α] (add sub : α → α → α) (expo : α → α) (lse : List α → α)
    (params : Int → Int → Int → α) (root : Int) (bfs tree : List Int)
    (mp : List (Option Nat) → List Bool → Bool → String → Int → List α) (x target : List (Option Nat)) : WRow α :=
  Gen.S5cltSampleLoop (getW (α := α)) (setW (α := α)) root bfs tree
    (fun (s : WRow α) rl rd => mp s.1 ((s.1.map Py3.isnan).map (fun b => !b)) rl rd)
    (samplePreW add sub expo lse params root x target) (sampleBodyW add sub expo lse params x target) (x, 1)

/-- the probability that the loop returns `target` -/
def sampleProbWith [Zero α] [One α] [Sub α] [Mul α] (add sub : α → α → α) (expo : α → α) (lse : List α → α)
    (params : Int → Int → Int → α) (root : Int) (bfs tree : List Int)
    (mp : List (Option Nat) → List Bool → Bool → String → Int → List α) (x target : List (Option Nat)) : α :=
  let r := sampleLawWith add sub expo lse params root bfs tree mp x target
  if r.1 = target then r.2 else 0

/-- the explicit root step: value written, factor multiplied -/
def sampleRoot [Zero α] [One α] [Sub α] [Mul α] (add sub : α → α → α) (expo : α → α) (lse : List α → α)
    (params : Int → Int → Int → α) (root : Int) (x0 target : List (Option Nat)) (messages : Int → List α) : WRow α :=
  if Py4.getI (x0.map Py3.isnan) root false then
    (Py4.setI x0 root.toNat (some (Py3.val (Py4.getI target root none))),
      1 * Py3.bernoulliPmf (Py3.val (Py4.getI target root none))
        (sampleParam add sub expo lse (Py4.vec2 (params root (0 : Int))) (messages root)))
  else (x0, 1)

/-- the explicit step at `j`: the parent's value is read from the row, `target[j]` is written, its probability multiplied -/
def sampleStep [Zero α] [One α] [Sub α] [Mul α] (add sub : α → α → α) (expo : α → α) (lse : List α → α)
    (params : Int → Int → Int → α) (tree : List Int) (x0 target : List (Option Nat)) (messages : Int → List α)
    (s : WRow α) (j : Int) : WRow α :=
  if Py4.getI (x0.map Py3.isnan) j false then
    (Py4.setI s.1 j.toNat (some (Py3.val (Py4.getI target j none))),
      s.2 * Py3.bernoulliPmf (Py3.val (Py4.getI target j none))
        (sampleParam add sub expo lse
          (Py4.vec2 (params j ((Py3.val (Py4.getI s.1 (Py4.getI tree j 0) none) : Nat) : Int))) (messages j)))
  else s

/-- the law obtained by folding the generated loop skeleton of `sample` (messages with
`return_lls=False, reduce='mar'`, masked store at the root, loop over `bfs[1:]` reading `x[tree[j]]` and writing `x[j]`) is the
explicit product along `bfs`: `sampleRoot`, then `sampleStep` at every `j` of `bfs[1:]` — observed entries are kept, a missing entry
`j` receives `target[j]` and multiplies the weight by `bernoulli.pmf(target[j], exp(log_probs[1] - logsumexp(log_probs)))` with
`log_probs = params[j, x[tree[j]]] + messages[j]`. -/
theorem sample_loop_as_coded [Zero α] [One α] [Sub α] [Mul α] (add sub : α → α → α) (expo : α → α) (lse : List α → α)
    (params : Int → Int → Int → α) (root : Int) (bfs tree : List Int)
    (mp : List (Option Nat) → List Bool → Bool → String → Int → List α) (x target : List (Option Nat)) :
    sampleLawWith add sub expo lse params root bfs tree mp x target =
      (Py.drop bfs (1 : Int)).foldl
        (sampleStep add sub expo lse params tree x target (mp x ((x.map Py3.isnan).map (fun b => !b)) false "mar"))
        (sampleRoot add sub expo lse params root x target (mp x ((x.map Py3.isnan).map (fun b => !b)) false "mar")) := by
  unfold sampleLawWith Gen.S5cltSampleLoop samplePreW sampleBodyW sampleRoot sampleStep
  simp only [Py5.storeOpt_ite]
  rfl

/-- non-vacuity (chain `0 → 1 → 2`, entry 2 observed; carrier ℚ-free: ℕ would not divide, so the linear reading is tested in
`Props/E2ECltSample.lean`); here: the skeleton keeps the observed entry and writes the target at the missing ones -/
example :
    (sampleLawWith (α := Int) (· + ·) (· - ·) id (fun v => v.foldr (· + ·) 0) (fun i l k => i + l + k) 0 [0, 1, 2] [-1, 0, 1]
      (fun _ _ _ _ _ => [1, 2]) [none, none, some 1] [some 1, some 0, some 1]).1 = [some 1, some 0, some 1] := by
  decide +kernel

end Deeprob.Oblig.Struct5CltSample
