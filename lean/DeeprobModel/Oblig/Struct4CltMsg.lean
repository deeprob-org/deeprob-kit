import DeeprobModel.Oblig.Struct4Clt
import DeeprobModel.Lemmas.CltLemmas
/-
The upward pass of `BinaryCLT.message_passing` (`Gen.S4cltMessages`, `Gen.S4cltRootValue`: the
loop body and the root value read on one row from the current AST) against the recursions `Clt.up` / `Clt.upMax` /
`Clt.value` of `Model/Clt.lean`, `Model/CltPc.lean` — C02, C06.

Linear-domain reading as in `Struct4Clt.lean`: `+ ↦ *`, `0 ↦ 1` (the `np.zeros` the messages start from), `logsumexp ↦` the
carrier's sum, `np.max ↦` the carrier's max (with the unit 0 of the model's max-times instance), `params[i, l, k] ↦ cptAt`.
-/
set_option linter.unusedSectionVars false
set_option linter.unusedVariables false
namespace Deeprob.Struct4
open Deeprob Deeprob.Clt Deeprob.Oblig.StructPy

section generic
variable {α : Type} [Zero α] [Add α]

/-- one iteration of `for j in reversed(self.bfs[1:])` on one row (the body as extracted) -/
def msgStep (params : Int → Int → Int → α) (tree : List Int) (logsumexp npMax : List α → α) (raised : List (List α))
    (x : List (Option Nat)) (obs_mask : List Bool) (reduce : String) (messages : List (List α)) (j : Int) : List (List α) :=
  let mask := Gen.Py4.getI obs_mask j false
  let obs_values : Int := ((Gen.Py3.val (Gen.Py4.getI x j none) : Nat) : Int)
  let msg := Gen.Py4.getI messages j []
  let tj := Gen.Py4.getI tree j 0
  let messages := if mask then Gen.Py4.updI messages tj (List.zipWith (fun a b => a + b) (Gen.Py4.getI messages tj [])
      ((Gen.Py4.vec2 (fun l => params j l obs_values)).map (fun a => a + Gen.Py4.getI msg obs_values 0))) else messages
  let parent_msg := (Gen.Py4.vec2 (fun l => Gen.Py4.vec2 (fun k => params j l k))).map (fun row => List.zipWith (fun a b => a + b) row msg)
  if reduce == "mar" then
    (if !mask then Gen.Py4.updI messages tj (List.zipWith (fun a b => a + b) (Gen.Py4.getI messages tj []) (parent_msg.map logsumexp))
     else messages)
  else if reduce == "mpe" then
    (if !mask then Gen.Py4.updI messages tj (List.zipWith (fun a b => a + b) (Gen.Py4.getI messages tj []) (parent_msg.map npMax))
     else messages)
  else raised

/-- **the upward pass as coded**: messages start from `np.zeros((n_features, ·, 2))` and the variables are visited in the
reversed order of `self.bfs[1:]` (children before parents), each adding (`+=`) its message into the row of its parent
`self.tree[j]`: an observed variable contributes `params[j, :, o] + messages[j][o]`, a missing one the reduction over its own
value of `params[j] + messages[j]` — `logsumexp` for 'mar', `np.max` for 'mpe', anything else raises -/
theorem messages_as_coded (params : Int → Int → Int → α) (root : Int) (bfs tree : List Int) (lse mx : List α → α)
    (raised : List (List α)) (nRows : Nat) (x : List (Option Nat)) (obs : List Bool) (reduce : String) :
    Gen.S4cltMessages params root bfs tree lse mx raised nRows x obs reduce =
      ((bfs.drop 1).reverse).foldl (msgStep params tree lse mx raised x obs reduce) (List.replicate x.length [0, 0]) := by
  unfold Gen.S4cltMessages
  simp only [drop_one, Int.toNat_natCast]
  rfl

end generic

/-- the defining equation of `up`, for any instances (used with `+ := max`) -/
theorem up_unfold {α : Type} [Zero α] [One α] [Add α] [Mul α] (scope : List Nat) (cpt : List (List (List α))) (i : Nat)
    (cs : List RTree) (l : Nat) (e : Ev) :
    up scope cpt (.node i cs) l e =
      (match e (scope.getD i 0) with
       | some o => cptAt cpt i l o * lprod (cs.map (fun c => up scope cpt c o e))
       | none => sumVar 2 (fun k => cptAt cpt i l k * lprod (cs.map (fun c => up scope cpt c k e)))) := by
  rw [up]
  cases e (scope.getD i 0) <;> rfl

section linear
variable {α : Type} [CommSemiring α]

/-- the carrier's sum / max of a vector: what `logsumexp` / `np.max` along the value axis are in the linear domain -/
def sumL (v : List α) : α := v.foldr (fun a b => a + b) 0
def maxL [Max α] (v : List α) : α := v.foldr max 0

theorem getI_pair_zero (a b d : α) : Gen.Py4.getI [a, b] (0 : Int) d = a := rfl
theorem getI_pair_one (a b d : α) : Gen.Py4.getI [a, b] (1 : Int) d = b := rfl

section reduction
variable (add : Add α) (scope : List Nat) (cpt : List (List (List α))) (e : Ev) (j : Nat) (cs : List RTree)

/-- `up` at an observed binary variable, as the code computes it from the row `[M 0, M 1]` of the variable -/
theorem up_obs_as_coded (o : Nat) (he : e (scope.getD j 0) = some o) (ho : o < 2) (l : Nat) (d : α) :
    cptAt cpt j l o * [lprod (cs.map (fun c => @up α _ _ add _ scope cpt c 0 e)),
        lprod (cs.map (fun c => @up α _ _ add _ scope cpt c 1 e))].getD o d =
      @up α _ _ add _ scope cpt (.node j cs) l e := by
  rw [up, he]
  have ho' : o = 0 ∨ o = 1 := by omega
  rcases ho' with rfl | rfl <;> rfl

theorem up_mis_as_coded (he : e (scope.getD j 0) = none) (l : Nat) :
    [cptAt cpt j l 0 * lprod (cs.map (fun c => @up α _ _ add _ scope cpt c 0 e)),
      cptAt cpt j l 1 * lprod (cs.map (fun c => @up α _ _ add _ scope cpt c 1 e))].foldr add.add 0 =
      @up α _ _ add _ scope cpt (.node j cs) l e := by
  rw [up, he]
  rfl

/-- **one iteration is one factor of the model's upward recursion, for any reduction `add`** over the variable's own value
(`lse` = the fold of `add`; `+` for 'mar', `max` for 'mpe').  When the row of variable `j` already holds the products of its
children's messages, the iteration multiplies the two entries of its parent's row by `up … (node j cs) 0 e` and
`up … (node j cs) 1 e`: the observed case keeps the single term of the observed value, the missing case reduces over the
variable's own value. -/
theorem msgStep_red (tree : List Int) (mx : List α → α) (raised : List (List α)) (x : List (Option Nat)) (obs : List Bool)
    (messages : List (List α)) (p : Nat) (a0 a1 : α)
    (hx : e (scope.getD j 0) = x.getD j none) (hobs : obs.getD j false = (x.getD j none).isSome)
    (hbin : ∀ o, x.getD j none = some o → o < 2)
    (hp : Gen.Py4.getI tree (j : Int) 0 = (p : Int))
    (hj : messages.getD j [] = [lprod (cs.map (fun c => @up α _ _ add _ scope cpt c 0 e)),
        lprod (cs.map (fun c => @up α _ _ add _ scope cpt c 1 e))])
    (hpm : messages.getD p [] = [a0, a1]) :
    @msgStep α ⟨1⟩ ⟨(· * ·)⟩ (fun i l k => cptAt cpt i.toNat l.toNat k.toNat) tree (fun v => v.foldr add.add 0) mx raised x obs
        "mar" messages (j : Int) =
      messages.set p [a0 * @up α _ _ add _ scope cpt (.node j cs) 0 e, a1 * @up α _ _ add _ scope cpt (.node j cs) 1 e] := by
  unfold msgStep
  simp only [hp, getI_natCast, updI_natCast, hj, hpm, hobs, Int.toNat_natCast, beq_self_eq_true, if_true]
  cases hv : x.getD j none with
  | some o =>
    have he : e (scope.getD j 0) = some o := hx.trans hv
    simp only [Option.isSome_some, if_true, Bool.not_true, Bool.false_eq_true, if_false, Gen.Py3.val, Option.getD_some,
      Gen.Py4.vec2, List.map_cons, List.map_nil, List.zipWith_cons_cons, List.zipWith_nil_right, Int.toNat_zero, Int.toNat_one]
    rw [← up_obs_as_coded add scope cpt e j cs o he (hbin o hv) 0 1, ← up_obs_as_coded add scope cpt e j cs o he (hbin o hv) 1 1]
    rfl
  | none =>
    have he : e (scope.getD j 0) = none := hx.trans hv
    simp only [Option.isSome_none, Bool.false_eq_true, if_false, Bool.not_false, if_true, Gen.Py4.vec2, List.map_cons,
      List.map_nil, List.zipWith_cons_cons, List.zipWith_nil_right, hpm, Int.toNat_zero, Int.toNat_one]
    rw [← up_mis_as_coded add scope cpt e j cs he 0, ← up_mis_as_coded add scope cpt e j cs he 1]
    rfl

end reduction

/-- `reduce='mpe'` runs the code of `reduce='mar'` with `np.max` in the place of `logsumexp` -/
theorem msgStep_mpe_eq_mar {β : Type} [Zero β] [Add β] (params : Int → Int → Int → β) (tree : List Int) (lse mx : List β → β)
    (raised : List (List β)) (x : List (Option Nat)) (obs : List Bool) (messages : List (List β)) (j : Int) :
    msgStep params tree lse mx raised x obs "mpe" messages j = msgStep params tree mx mx raised x obs "mar" messages j := by
  have hne : ("mpe" == "mar") = false := by decide
  simp only [msgStep, hne, beq_self_eq_true, Bool.false_eq_true, if_false, if_true]

/-- **one iteration is one factor of the model's upward recursion (sum-product).**  When the row of variable `j` already
holds the products of its children's messages (`msgAt`), the iteration multiplies the two entries of its parent's row by
`up … (node j cs) 0 e` and `up … (node j cs) 1 e`: the observed case keeps the single term of the observed value, the
missing case sums over the variable's own value.  (`o < 2` for an observed value: the data are binary.) -/
theorem msgStep_mar_is_up (scope : List Nat) (cpt : List (List (List α))) (e : Ev) (tree : List Int) (mx : List α → α)
    (raised : List (List α)) (x : List (Option Nat)) (obs : List Bool) (messages : List (List α)) (j p : Nat) (cs : List RTree)
    (a0 a1 : α)
    (hx : e (scope.getD j 0) = x.getD j none) (hobs : obs.getD j false = (x.getD j none).isSome)
    (hbin : ∀ o, x.getD j none = some o → o < 2)
    (hp : Gen.Py4.getI tree (j : Int) 0 = (p : Int))
    (hj : messages.getD j [] = [msgAt scope cpt cs 0 e, msgAt scope cpt cs 1 e])
    (hpm : messages.getD p [] = [a0, a1]) :
    @msgStep α ⟨1⟩ ⟨(· * ·)⟩ (fun i l k => cptAt cpt i.toNat l.toNat k.toNat) tree sumL mx raised x obs "mar" messages (j : Int) =
      messages.set p [a0 * up scope cpt (.node j cs) 0 e, a1 * up scope cpt (.node j cs) 1 e] :=
  msgStep_red inferInstance scope cpt e j cs tree mx raised x obs messages p a0 a1 hx hobs hbin hp hj hpm

/-- **the value returned with `return_lls=True` is the model's message of the root with row 0** (hence `Clt.value`): an
observed root contributes `params[root, 0, o] + messages[root][o]`, a missing one `logsumexp(params[root, 0] + messages[root])`;
every row is written (`np.empty` leaves no entry behind) -/
theorem rootValue_is_up (scope : List Nat) (cpt : List (List (List α))) (e : Ev) (bfs tree : List Int) (mx : List α → α)
    (nRows : Nat) (x : List (Option Nat)) (obs : List Bool) (messages : List (List α)) (r : Nat) (cs : List RTree)
    (hx : e (scope.getD r 0) = x.getD r none) (hobs : obs.getD r false = (x.getD r none).isSome)
    (hbin : ∀ o, x.getD r none = some o → o < 2)
    (hr : messages.getD r [] = [msgAt scope cpt cs 0 e, msgAt scope cpt cs 1 e]) :
    @Gen.S4cltRootValue α ⟨1⟩ ⟨(· * ·)⟩ (fun i l k => cptAt cpt i.toNat l.toNat k.toNat) (r : Int) bfs tree sumL mx nRows x obs messages =
      some (up scope cpt (.node r cs) 0 e) := by
  unfold Gen.S4cltRootValue
  simp only [getI_natCast, hr, hobs, Int.toNat_natCast]
  cases hv : x.getD r none with
  | some o =>
    simp only [Option.isSome_some, if_true, Bool.not_true, Bool.false_eq_true, if_false, Gen.Py3.val, Option.getD_some,
      Int.toNat_zero]
    rw [← up_obs_as_coded inferInstance scope cpt e r cs o (hx.trans hv) (hbin o hv) 0 1]
    rfl
  | none =>
    simp only [Option.isSome_none, Bool.false_eq_true, if_false, Bool.not_false, if_true, Gen.Py4.vec2,
      List.zipWith_cons_cons, List.zipWith_nil_right, Int.toNat_zero, Int.toNat_one]
    rw [← up_mis_as_coded inferInstance scope cpt e r cs (hx.trans hv) 0]
    rfl

end linear

section maxprod
variable {α : Type} [CommSemiring α] [LinearOrder α]

/-- **… and one factor of the max-product recursion** (`reduce='mpe'`: `np.max` along the variable's own value): the model's
`upMax`, with the messages of the children in max-product form (`msgMax`) -/
theorem msgStep_mpe_is_upMax (scope : List Nat) (cpt : List (List (List α))) (e : Ev) (tree : List Int) (lse : List α → α)
    (raised : List (List α)) (x : List (Option Nat)) (obs : List Bool) (messages : List (List α)) (j p : Nat) (cs : List RTree)
    (a0 a1 : α)
    (hx : e (scope.getD j 0) = x.getD j none) (hobs : obs.getD j false = (x.getD j none).isSome)
    (hbin : ∀ o, x.getD j none = some o → o < 2)
    (hp : Gen.Py4.getI tree (j : Int) 0 = (p : Int))
    (hj : messages.getD j [] = [msgMax scope cpt cs 0 e, msgMax scope cpt cs 1 e])
    (hpm : messages.getD p [] = [a0, a1]) :
    @msgStep α ⟨1⟩ ⟨(· * ·)⟩ (fun i l k => cptAt cpt i.toNat l.toNat k.toNat) tree lse maxL raised x obs "mpe" messages (j : Int) =
      messages.set p [a0 * upMax scope cpt (.node j cs) 0 e, a1 * upMax scope cpt (.node j cs) 1 e] :=
  (@msgStep_mpe_eq_mar α ⟨1⟩ ⟨(· * ·)⟩ ..).trans
    (msgStep_red ⟨max⟩ scope cpt e j cs tree maxL raised x obs messages p a0 a1 hx hobs hbin hp hj hpm)

/-- non-vacuity (both reductions, at `ℕ` with un-normalised tables): variable 1 (a leaf, missing) sends its message to its
parent 0 whose row is still `[1, 1]` -/
example :
    let cpt : List (List (List ℕ)) := [[[1, 2], [1, 2]], [[1, 3], [2, 1]]]
    let params : Int → Int → Int → ℕ := fun i l k => cptAt cpt i.toNat l.toNat k.toNat
    @Gen.S4cltMessages ℕ ⟨1⟩ ⟨(· * ·)⟩ params 0 [0, 1] [-1, 0] sumL maxL [] 1 [none, none] [false, false] "mar" = [[4, 3], [1, 1]] ∧
    @Gen.S4cltMessages ℕ ⟨1⟩ ⟨(· * ·)⟩ params 0 [0, 1] [-1, 0] sumL maxL [] 1 [none, none] [false, false] "mpe" = [[3, 2], [1, 1]] ∧
    @Gen.S4cltMessages ℕ ⟨1⟩ ⟨(· * ·)⟩ params 0 [0, 1] [-1, 0] sumL maxL [] 1 [none, some 1] [false, true] "mar" = [[3, 1], [1, 1]] ∧
    @Gen.S4cltRootValue ℕ ⟨1⟩ ⟨(· * ·)⟩ params 0 [0, 1] [-1, 0] sumL maxL 1 [none, none] [false, false] [[4, 3], [1, 1]] = some (1 * 4 + (2 * 3 + 0)) := by
  decide +kernel

end maxprod

end Deeprob.Struct4
