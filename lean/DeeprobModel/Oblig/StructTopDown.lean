import DeeprobModel.Generated.Consts
import DeeprobModel.Generated.Formulas
import DeeprobModel.Model.TopDown
import DeeprobModel.Lemmas.ExpLogLemmas
/-
Static tie of `Model/TopDown.lean` (`mpeBr`, `bernIdx`, `catMode`) to /repo/deeprob/spn/algorithms/inference.py
(`sum_mpe`) and /repo/deeprob/spn/structure/leaf.py (`Bernoulli.mpe`, `Categorical.mpe`) — C06.
-/
set_option linter.unusedSectionVars false
namespace Deeprob.Oblig.StructTopDown
open Deeprob Deeprob.TCirc

variable {F : Type} [Field F] [LinearOrder F] [IsStrictOrderedRing F]

/-- **`sum_mpe` reduces `lls + log(weights)` with `argmax` along the children axis**: the entry of child `i` is the
logarithm of `wᵢ · valueᵢ`, the quantity the model's `mpeBr` maximises (`argmax (zipWith (·*·) ws values)`; that `log` is
increasing is not part of `ExpLog`: where an arg-max is carried across `exp` / `log` it is the field `exp_lt` of
`ExpLogMono`, `Spec/Softmax.lean`, which holds over ℝ) -/
theorem sum_mpe_as_coded (E : ExpLog F) (w v : F) (hw : 0 < w) (hv : 0 < v) :
    Gen.sumMpeSelector = "argmax" ∧ Gen.sumMpeAxis = some 1 ∧
    Gen.sumMpeScore E (E.log v) w = E.log (w * v) := by
  refine ⟨rfl, rfl, ?_⟩
  unfold Gen.sumMpeScore
  rw [E.log_mul hw hv, add_comm]

theorem mpeBr_is_argmax_of_products {α : Type} [Zero α] [One α] [Add α] [Mul α] [LT α] [DecidableLT α]
    (e : Ev) (sc : List Nat) (ws : List α) (cs : List (TCirc α)) :
    mpeBr e sc ws cs = argmax (List.zipWith (· * ·) ws (cs.map (eval e))) := rfl

/-- **`Bernoulli.mpe` writes `0 if p < 0.5 else 1`** — a tie goes to 1: on the model's table `[1 - p, p]` this is `bernIdx` -/
theorem bernIdx_as_coded (p : F) : ((bernIdx [1 - p, p] : Nat) : F) = Gen.bernMpe p := by
  have h : p < 1 - p ↔ p < 1 / 2 := by rw [lt_sub_iff_add_lt, ← two_mul, lt_div_iff₀' two_pos]
  unfold bernIdx Gen.bernMpe
  rw [List.getD_cons_succ, List.getD_cons_zero, List.getD_cons_zero, apply_ite (Nat.cast : Nat → F), Nat.cast_zero,
    Nat.cast_one]
  exact if_congr h rfl rfl

/-- **`Categorical.mpe` writes `categories[probabilities.argmax()]`**: first maximal index of the probability table,
the model's `catMode` (categories are `0..n-1` in the exported tables) -/
theorem catMode_as_coded :
    Gen.catMpeSelector = "argmax" ∧ Gen.catMpeArg = "self.probabilities" ∧ Gen.catMpeTable = "self.categories" ∧
    Gen.catMpeAxis = none := ⟨rfl, rfl, rfl, rfl⟩

theorem catMode_uses_argmax {α : Type} [Zero α] [One α] [Add α] [Mul α] [LT α] [DecidableLT α]
    (v : Nat) (tbl : List α) (x : Ev) (h : x v = none) : catMode v tbl x = x.set v (argmax tbl) := by
  simp [catMode, h]

end Deeprob.Oblig.StructTopDown
