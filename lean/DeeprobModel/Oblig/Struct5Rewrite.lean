import DeeprobModel.Oblig.Struct4Rewrite
set_option linter.unusedVariables false
/-
Rewriting passes — the pass of `structure.marginalize` as extracted by tools/listprog.py:
`Gen.S5margPassLoop` (fragment `structure.marginalize.loop`; `Gen.S5prunePassLoop` for `prune`: `Oblig/Struct5Prune.lean`): `nodes = topological_order(root)`
(`none`: not a DAG), `nodes_map = {n.id: n}`, `for node in reversed(nodes)`, one change of the slot `nodes_map[node.id]` per iteration
(the stores are listed in `Gen.S5margPassLoopWrites`), `prune(assign_ids(nodes_map[root.id]), copy=False)`.

Partial — what is shown here is the shape only: instantiated on a table whose storage order is the reversed order the code walks, the
generated skeleton is the hand-written fold `Struct4.margPassGen` (`net.foldl (genStep keep) ([], [])`: one call of the extracted body
`Gen.S4margStep` per entry, in storage order) that `Props/E2ECirc.lean` (`mgGenMarginalize`) is built on.  In this instance the whole
step `Struct4.genStep` is the skeleton's `apply` and the dictionary is handed to it as a whole, so the statement covers the traversal,
the initial state and the single update per visited node, not the read / write locality the skeleton can express.  Missing for the full
obligation: (1) an instance in which `get st k` is the object stored under key `k` (`st.2.getD k none` together with the current
attributes `st.1[·]`) and `body` is `Gen.S4margStep` itself, which needs the invariant `x.id = position` over the fold; (2) the link
between `topological_order` as generated (`Gen.S5topoStep`, `E2ETopo.e2e_topo_eq`) and the storage order (`prunePass_order_indep` /
`margPass` in an arbitrary children-first order); (3) the same for `prune`, whose loop body is not extracted (only its collapse
tests are: `Gen.pruneSingleChild`, `Gen.pruneMergedSingle`).
-/
namespace Deeprob.Oblig.Struct5Rewrite
open Deeprob Deeprob.Net

variable {α : Type}

/-- the generated pass skeleton of `marginalize`, walked over the table in storage order (i.e.
`topological_order` answers the reversed table), with `Struct4.genStep` as the update of the visited node's slot, is the hand-written
fold `Struct4.margPassGen`.  Partial: see the header (the locality of reads / writes is not part of this instance). -/
theorem margPassLoop_shape_partial (keep : List Nat) (net : Net α) (rootNode : NNode α) :
    Gen.S5margPassLoop (N := NNode α) (V := Net α × List (Option Nat)) (MAP := Net α × List (Option Nat)) (O := NNode α)
        (R := Net α × List (Option Nat))
        (fun x => x.id) (fun st _ => st) (fun st _ x => Struct4.genStep keep st x) (fun _ => some net.reverse)
        (fun _ => ([], [])) id (fun _ x => x) rootNode =
      some (Struct4.margPassGen keep net) := by
  unfold Gen.S5margPassLoop Struct4.margPassGen
  simp only [List.reverse_reverse, id]

/-- … and a table that is not a DAG (`topological_order` returns `None`) makes the pass raise, whatever the other arguments are -/
theorem margPassLoop_not_dag {N V MAP O R : Type} (nid : N → Nat) (get : MAP → Nat → V) (apply : MAP → Nat → O → MAP)
    (mkMap : List N → MAP) (finish : V → R) (body : (Nat → V) → N → O) (root : N) :
    Gen.S5margPassLoop nid get apply (fun _ => none) mkMap finish body root = none := rfl

/-- non-vacuity: the three-leaf product of `Struct4Rewrite`, kept variables 4 and 6 -/
example :
    let net : Net ℚ := [{ id := 0, kind := .leaf, scope := [4], ch := [], ws := [], leaf := .absent },
                        { id := 1, kind := .leaf, scope := [5], ch := [], ws := [], leaf := .absent },
                        { id := 2, kind := .leaf, scope := [6], ch := [], ws := [], leaf := .absent },
                        { id := 3, kind := .prod, scope := [4, 5, 6], ch := [0, 1, 2], ws := [], leaf := .absent }]
    (Gen.S5margPassLoop (N := NNode ℚ) (V := Net ℚ × List (Option Nat)) (MAP := Net ℚ × List (Option Nat)) (O := NNode ℚ)
        (R := List (Option Nat))
        (fun x => x.id) (fun st _ => st) (fun st _ x => Struct4.genStep [4, 6] st x) (fun _ => some net.reverse)
        (fun _ => ([], [])) (fun st => st.2) (fun _ x => x) { id := 3, kind := .prod, scope := [4, 5, 6], ch := [0, 1, 2], ws := [], leaf := .absent }) =
      some [some 0, none, some 2, some 3] := by
  decide +kernel

end Deeprob.Oblig.Struct5Rewrite
