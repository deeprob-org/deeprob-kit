import DeeprobModel.Generated.Formulas
import DeeprobModel.Model.CltFit
import Mathlib.Algebra.Order.Field.Basic
import Mathlib.Tactic.Ring
import Mathlib.Tactic.FieldSimp
/-
Static tie of `Model/CltFit.lean` (`cell`, `prior`, `joint`) to /repo/deeprob/utils/statistics.py
(`estimate_priors_joints`) — C11: the per-entry smoothing formulas are translated from the current AST and the
hand-written model is shown to compute the same rational functions of the same counts.
-/
set_option linter.unusedSectionVars false
namespace Deeprob.Oblig.StructCltFit
open Deeprob Deeprob.CltFit

variable {F : Type} [Field F] [LinearOrder F]

theorem denom_eq (X : List (List Nat)) (al : F) : denom X al = (X.length : F) + 4 * al := by
  unfold denom; norm_num

/-- **`priors[:, 1] = (counts + 2·alpha) / (n + 4·alpha)`, `priors[:, 0] = 1 − priors[:, 1]`** -/
theorem prior_as_coded (X : List (List Nat)) (al : F) (i : Nat) :
    prior X al i 1 = Gen.priorOne (ones X i : F) (X.length : F) al ∧
    prior X al i 0 = Gen.priorZero (ones X i : F) (X.length : F) al := by
  unfold prior Gen.priorOne Gen.priorZero
  simp only [denom_eq]
  constructor <;> norm_num <;> ring

/-- the four inclusion–exclusion cells before smoothing (`counts_cols[i,j] = counts_features[j]`,
`counts_rows[i,j] = counts_features[i]`) -/
theorem cell_as_coded (X : List (List Nat)) (i j : Nat) :
    (cell X i j 0 0 : F) = Gen.jointCell00 (X.length : F) (ones X j) (ones X i) (dot X i j) ∧
    (cell X i j 0 1 : F) = Gen.jointCell01 (X.length : F) (ones X j) (ones X i) (dot X i j) ∧
    (cell X i j 1 0 : F) = Gen.jointCell10 (X.length : F) (ones X j) (ones X i) (dot X i j) ∧
    (cell X i j 1 1 : F) = Gen.jointCell11 (X.length : F) (ones X j) (ones X i) (dot X i j) := by
  refine ⟨?_, ?_, ?_, ?_⟩ <;> simp only [cell, Gen.jointCell00, Gen.jointCell01, Gen.jointCell10, Gen.jointCell11] <;> ring

/-- **off the diagonal `joints = (joints + alpha) / (n + 4·alpha)`** -/
theorem joint_offdiag_as_coded (X : List (List Nat)) (al : F) (i j a b : Nat) (h : i ≠ j) :
    joint X al i j a b = Gen.jointSmooth (cell X i j a b) (X.length : F) al := by
  unfold joint Gen.jointSmooth
  simp only [h, if_false, denom_eq]

/-- on the diagonal the cells are overwritten by `priors[:, 0]`, `0`, `0`, `priors[:, 1]` -/
theorem joint_diag_as_coded (X : List (List Nat)) (al : F) (i : Nat) :
    joint X al i i 0 0 = Gen.jointDiag00 (prior X al i 0) (prior X al i 1) ∧
    joint X al i i 0 1 = Gen.jointDiag01 (prior X al i 0) (prior X al i 1) ∧
    joint X al i i 1 0 = Gen.jointDiag10 (prior X al i 0) (prior X al i 1) ∧
    joint X al i i 1 1 = Gen.jointDiag11 (prior X al i 0) (prior X al i 1) := by
  refine ⟨?_, ?_, ?_, ?_⟩ <;>
    simp [joint, Gen.jointDiag00, Gen.jointDiag01, Gen.jointDiag10, Gen.jointDiag11]

/-- `alpha < 0` is the only rejected smoothing factor -/
theorem guard_as_coded (al : F) : Gen.priorsJointsRejects al ↔ al < 0 := Iff.rfl

end Deeprob.Oblig.StructCltFit
