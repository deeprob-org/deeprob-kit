import DeeprobModel.Oblig.StructPy
import DeeprobModel.Model.Flows
/-
Static tie of `Model/Flows.lean` to /repo/deeprob/flows/layers/autoregressive.py (`build_masks`,
`build_degrees_sequential`), /repo/deeprob/flows/utils.py (`squeeze_depth2d`, `unsqueeze_depth2d`) and
/repo/deeprob/flows/models/realnvp.py (`build_permutation_matrix`) — C15.
-/
namespace Deeprob.Oblig.StructFlows
open Deeprob Deeprob.Flows Deeprob.Oblig.StructPy

/-- **hidden masks compare with `≤`** (`np.less_equal(d1[None, :], d2[:, None])`): the model's `maskLE` has the
generated entry function, rows indexed by the second operand -/
theorem maskLE_as_coded (d1 d2 : List Nat) :
    maskLE d1 d2 = d2.map (fun (b : Nat) => d1.map (fun (a : Nat) => Gen.madeHiddenEntry (a : Int) (b : Int))) := by
  unfold maskLE Gen.madeHiddenEntry
  simp only [Int.ofNat_le]

/-- **the output mask compares with `<`** (`np.less`) -/
theorem maskLT_as_coded (d1 d2 : List Nat) :
    maskLT d1 d2 = d2.map (fun (b : Nat) => d1.map (fun (a : Nat) => Gen.madeOutputEntry (a : Int) (b : Int))) := by
  unfold maskLT Gen.madeOutputEntry
  simp only [Int.ofNat_lt]

/-- the operands: consecutive degree vectors for the hidden masks (`zip(degrees[:-1], degrees[1:])` = the model's
`zipWith maskLE degs degs.tail`), last against first for the output mask (`maskLT degs.getLast degs.head`) -/
theorem buildMasks_operands :
    Gen.madeHiddenOperands = ("degrees[:-1]", "degrees[1:]") ∧ Gen.madeOutputOperands = ("degrees[-1]", "degrees[0]") :=
  ⟨rfl, rfl⟩

theorem buildMasks_as_coded (degs : List (List Nat)) :
    buildMasks degs =
      List.zipWith (fun d1 d2 => d2.map (fun (b : Nat) => d1.map (fun (a : Nat) => Gen.madeHiddenEntry (a : Int) (b : Int)))) degs degs.tail ++
      [(degs.headD []).map (fun (b : Nat) => (degs.getLastD []).map (fun (a : Nat) => Gen.madeOutputEntry (a : Int) (b : Int)))] := by
  unfold buildMasks
  rw [← maskLT_as_coded]
  congr 1
  congr 1
  funext d1 d2; exact maskLE_as_coded d1 d2

/-- **hidden degrees are `np.arange(units) % (in_features − 1)`** -/
theorem hiddenDegreesSeq_as_coded (n units : Nat) (hn : 1 ≤ n) :
    Gen.madeHiddenArange (units : Int) = (0, (units : Int), 1) ∧
    (hiddenDegreesSeq n units).map (fun (d : Nat) => (d : Int)) =
      (List.range units).map (fun (k : Nat) => Gen.madeHiddenDegree (k : Int) (n : Int)) := by
  refine ⟨rfl, ?_⟩
  unfold hiddenDegreesSeq Gen.madeHiddenDegree
  rw [List.map_map]
  apply List.map_congr_left
  intro k _
  have h : (n : Int) - 1 = ((n - 1 : Nat) : Int) := by omega
  simp only [Function.comp, h, fmod_natCast]

/-- **input degrees: `np.arange(n)`, or `np.arange(n − 1, −1, −1)` when `reverse`** -/
theorem inputDegreesSeq_as_coded (n : Nat) :
    ((inputDegreesSeq n false).map (fun (d : Nat) => (d : Int)) =
      Gen.Py.arange (Gen.madeInputArangeFwd n).1 (Gen.madeInputArangeFwd n).2.1 (Gen.madeInputArangeFwd n).2.2) ∧
    ((inputDegreesSeq n true).map (fun (d : Nat) => (d : Int)) =
      Gen.Py.arange (Gen.madeInputArangeRev n).1 (Gen.madeInputArangeRev n).2.1 (Gen.madeInputArangeRev n).2.2) := by
  constructor
  · simp only [Gen.madeInputArangeFwd, arange_range, inputDegreesSeq, Bool.false_eq_true, if_false]
  · simp only [Gen.madeInputArangeRev, inputDegreesSeq, if_true]
    unfold Gen.Py.arange
    have h : Int.fdiv ((n : Int) - 1 - -1 - -1 - 1) (- -1) = (n : Int) := by
      rw [Int.fdiv_eq_ediv_of_nonneg _ (by decide)]; simp
    simp only [show ¬ ((-1 : Int) > 0) by decide, if_false, show (-1 : Int) < 0 by decide, if_true, h,
      Int.toNat_natCast, List.map_map]
    apply List.map_congr_left; intro i hi
    have := List.mem_range.1 hi
    simp only [Function.comp]; omega

/-- shapes `(n, c, h, w)` on which the gather maps are compared entry by entry (even `h`, `w`; channel counts 1–3,
batch 1–2; for unsqueeze the channel count is `4·c`) -/
def shapes : List (Nat × Nat × Nat × Nat) := [(1, 1, 2, 2), (1, 2, 4, 4), (2, 1, 4, 6), (1, 3, 6, 4), (2, 2, 2, 4)]

/-- **`squeeze_depth2d` = `reshape(n, c, h//2, 2, w//2, 2).permute(0, 1, 3, 5, 2, 4).reshape(n, 4c, h//2, w//2)`**: on every
listed shape and every flat index, the element the generated reshape/permute pair reads is the one the model's
`squeezeSrc` reads, and the final shape is `(n, 4c, h/2, w/2)` -/
theorem squeezeSrc_as_coded :
    ∀ s ∈ shapes, match s with
      | (n, c, h, w) =>
        (∀ d < n * c * h * w,
          Gen.Py.permuteSrc ((Gen.squeezeShape n c h w).map Int.toNat) Gen.squeezePerm d = squeezeSrc h w d) ∧
        (Gen.squeezeOutShape n c h w).map Int.toNat = [n, 4 * c, h / 2, w / 2] := by
  decide +kernel

/-- **`unsqueeze_depth2d` = `reshape(n, C//4, 2, 2, H, W).permute(0, 1, 4, 2, 5, 3).reshape(n, C//4, 2H, 2W)`** against
`unsqueezeSrc` (input of size `(n, 4c, h/2, w/2)` for the listed `(n, c, h, w)`) -/
theorem unsqueezeSrc_as_coded :
    ∀ s ∈ shapes, match s with
      | (n, c, h, w) =>
        (∀ d < n * c * h * w,
          Gen.Py.permuteSrc ((Gen.unsqueezeShape n (4 * c) (h / 2 : Nat) (w / 2 : Nat)).map Int.toNat) Gen.unsqueezePerm d =
            unsqueezeSrc (h / 2) (w / 2) d) ∧
        (Gen.unsqueezeOutShape n (4 * c) (h / 2 : Nat) (w / 2 : Nat)).map Int.toNat = [n, c, h / 2 * 2, w / 2 * 2] := by
  decide +kernel

/-- **the four ordering patterns**: `ordering[q, 0, a, b] = 1` exactly where the model's `orderingBit q a b` holds -/
theorem orderingBit_as_coded :
    Gen.rnvpOrdering.length = 4 ∧
    ∀ q < 4, ∀ a < 2, ∀ b < 2,
      orderingBit q a b = ((((Gen.rnvpOrdering.getD q []).getD 0 []).getD a []).getD b 0 == 1) := by
  decide

/-- `weights[4i:4i+4, i:i+1] = ordering`: row `r` of input channel `ci` carries pattern `r − 4·ci` iff it lies in the
block of `i = ci` (checked for up to 4 channels), i.e. the model's `preWeight` -/
theorem preWeight_as_coded :
    ∀ ci : Nat, ci < 4 → Gen.rnvpBlockCols (ci : Int) = ((ci : Int), (ci : Int) + 1) ∧
      ∀ r : Nat, r < 16 → ∀ a < 2, ∀ b < 2,
        preWeight r ci a b =
          (decide ((Gen.rnvpBlockRows (ci : Int)).1 ≤ (r : Int) ∧ (r : Int) < (Gen.rnvpBlockRows (ci : Int)).2) &&
            ((((Gen.rnvpOrdering.getD ((r : Int) - (Gen.rnvpBlockRows (ci : Int)).1).toNat []).getD 0 []).getD a []).getD b 0 == 1)) := by
  decide +kernel

/-- **the channel permutation `[4*i + j for j in [0,1,2,3] for i in range(channels)]`** is the model's `permIndex`
(channels 1…6), and the matrix returned is `weights[permutation]` (`permWeight c o = preWeight (permIndex c o)`) -/
theorem permIndex_as_coded :
    (∀ c ∈ [1, 2, 3, 4, 5, 6],
      (Gen.rnvpPermutation (c : Nat)).map Int.toNat = (List.range (4 * c)).map (permIndex c)) ∧
    Gen.rnvpReturned = "weights[permutation]" ∧
    (∀ c : Nat, (Gen.rnvpWeightsShape c).map Int.toNat = [c * 4, c, 2, 2]) := by
  refine ⟨by decide +kernel, rfl, ?_⟩
  intro c; simp [Gen.rnvpWeightsShape]; omega

theorem permWeight_is_indexed (c o ci a b : Nat) : permWeight c o ci a b = preWeight (permIndex c o) ci a b := rfl

end Deeprob.Oblig.StructFlows
