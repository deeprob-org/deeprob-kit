import DeeprobModel.Generated.Consts
/-
Shared by the obligations about the extracted loops: the Python slices of `Gen.Py5` for a positive count, its masked store under
a test, and the step-by-step simulation of one iterated loop by another.
-/
namespace Deeprob.Gen.Py5

theorem suffix_pos {β : Type} (xs : List β) (k : Nat) (hk : k ≠ 0) : suffix xs k = xs.drop (xs.length - k) := if_neg hk

theorem delSuffix_pos {β : Type} (xs : List β) (k : Nat) (hk : k ≠ 0) : delSuffix xs k = xs.take (xs.length - k) := if_neg hk

/-- a store whose row mask is a test: `A[mask, s] = v` seen from one row -/
theorem storeOpt_ite {M K E : Type} (set : M → K → E → M) (st : M) (k : K) (b : Bool) (v : E) :
    storeOpt set st k (if b then some v else none) = if b then set st k v else st := by
  cases b <;> rfl

end Deeprob.Gen.Py5

namespace Deeprob.Oblig

/-- a loop `runG` whose step is simulated by the step of a loop `runM` (the state of the first is `proj l s` for a state `s` of
the second and some extra data `l` kept in relation `R` with `s`) is simulated by it for any number of iterations; the loops are
given by their two defining equations -/
theorem run_sim {S G L : Type} {R : L → S → Prop} {proj : L → S → G} {stepM : S → S} {stepG : G → G}
    {runM : Nat → S → S} {runG : Nat → G → G}
    (hM0 : ∀ s, runM 0 s = s) (hM : ∀ n s, runM (n + 1) s = runM n (stepM s))
    (hG0 : ∀ g, runG 0 g = g) (hG : ∀ n g, runG (n + 1) g = runG n (stepG g))
    (h : ∀ l s, R l s → ∃ l', R l' (stepM s) ∧ stepG (proj l s) = proj l' (stepM s)) :
    ∀ n l s, R l s → ∃ l', R l' (runM n s) ∧ runG n (proj l s) = proj l' (runM n s) := by
  intro n
  induction n with
  | zero => intro l s hl; exact ⟨l, by rwa [hM0], by rw [hG0, hM0]⟩
  | succ n ih =>
    intro l s hl
    obtain ⟨l1, h1, e1⟩ := h l s hl
    obtain ⟨l2, h2, e2⟩ := ih l1 (stepM s) h1
    exact ⟨l2, by rwa [hM], by rw [hG, hM, e1, e2]⟩

end Deeprob.Oblig
