import DeeprobModel.Oblig.StructPy
import DeeprobModel.Model.Rewrite
import DeeprobModel.Model.RewriteNet
import DeeprobModel.Props.C10
/-
Static tie of `Model/Rewrite.lean` (`margGuard`) and `Model/RewriteNet.lean` (`single?`, `singleKey?`, `pruneStep`) to
/repo/deeprob/spn/algorithms/structure.py (`prune`, `marginalize`) — C09, C10.
-/
namespace Deeprob.Oblig.StructRewrite
open Deeprob Deeprob.Net Deeprob.Oblig.StructPy

/-- `len(children_nodes) == 1 → nodes_map[node.id] = children_nodes[0]` is the model's `single?` -/
theorem single_as_coded (l : List Nat) : single? l = Gen.pruneSingleChild l := by
  unfold Gen.pruneSingleChild
  match l with
  | [] => rfl
  | [c] => rfl
  | a :: b :: r => rfl

theorem singleKey?_eq_single? {α : Type} (acc : List (Nat × α)) : singleKey? acc = single? (acc.map Prod.fst) := by
  match acc with
  | [] => rfl
  | [p] => rfl
  | a :: b :: r => rfl

/-- **the single-child collapse after merging** (`children, weights = zip(*children_weights.items())`,
`if len(children) == 1: nodes_map[node.id] = children[0]; continue`, F7) is the model's `singleKey?` on the merged
dictionary, taken before the node is rewritten; `pruneNet` is the model with that collapse -/
theorem merged_single_as_coded {α : Type} (acc : List (Nat × α)) :
    singleKey? acc = Gen.pruneMergedSingle (acc.map Prod.fst) ∧ Gen.pruneMergedSingleSkipsRewrite = true :=
  ⟨(singleKey?_eq_single? acc).trans (single_as_coded _), rfl⟩

theorem pruneNet_is_repaired {α : Type} [Zero α] [Add α] [Mul α] (net : Net α) (root : Nat) :
    pruneNet net root = pruneNetWith true net root := rfl

/-- the collapse is used by `pruneStep true` exactly where the code has it: a sum whose retrieved children are not a
single node but whose merged children are -/
theorem pruneStep_uses_collapse {α : Type} [Zero α] [Add α] [Mul α] (t : Net α) (rep : List Nat) (i : Nat) (x : NNode α)
    (hk : x.kind = .sum) (h1 : Gen.pruneSingleChild (x.ch.map (fun c => rep.getD c c)) = none) (g : Nat)
    (h2 : Gen.pruneMergedSingle ((sumAcc t rep x).map Prod.fst) = some g) :
    pruneStep true t rep i x = (x, g) := by
  rw [← single_as_coded] at h1
  rw [← (merged_single_as_coded _).1] at h2
  simp only [pruneStep, hk, h1, h2, if_true]

/-- `len(l) != len(set(l))` is the model's duplicate test -/
theorem length_bne_dedup (l : List Nat) : (l.length != (Gen.Py.dedup l).length) = !nodupNatB l :=
  congrArg not (Bool.eq_iff_iff.2 (by rw [beq_iff_eq, eq_comm, StructPy.dedup_length_eq_iff, nodupNatB_iff]))

def margTag : Nat → String
  | 0 => "empty" | 1 => "duplicates" | _ => "subset"

/-- **the three argument guards of `marginalize`, in their order**: empty `keep_scope`, duplicates
(`len(keep_scope) != len(set(keep_scope))`), not a subset of the root scope -/
theorem margGuard_as_coded (keep scope : List Nat) :
    margGuard keep scope = (Gen.margGuardChain keep scope).map margTag := by
  unfold margGuard Gen.margGuardChain
  simp only [natCast_bne, length_bne_dedup, Bool.not_not, apply_ite (Option.map margTag), Option.map_some,
    Option.map_none]
  rfl

end Deeprob.Oblig.StructRewrite
