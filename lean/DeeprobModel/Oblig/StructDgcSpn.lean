import DeeprobModel.Oblig.StructPy
import DeeprobModel.Model.DgcSpn
/-
Static tie of `Model/DgcSpn.lean` (`cfgAt`, `schedule`, `keff`, `pads`, `outSize`, `outChannels`) to
/repo/deeprob/spn/models/dgcspn.py (`DgcSpn.__init__`: layer schedule) and /repo/deeprob/spn/layers/dgcspn.py
(`SpatialProductLayer.__init__`: effective kernel, padding amounts, output size) — C17.
-/
set_option linter.unusedSimpArgs false
namespace Deeprob.Oblig.StructDgcSpn
open Deeprob Deeprob.DgcSpn Deeprob.Oblig.StructPy

/-- **the layer schedule**: level `i < n_pooling` is `valid` / stride 2 / dilation 1; otherwise `final` at `i = depth`,
else `full`, stride 1, dilation `2 ** (i − n_pooling)`; kernel `(2, 2)`; `depthwise[i]` -/
theorem cfgAt_as_coded (D p : Nat) (dw : Nat → Bool) (i : Nat) :
    (cfgAt D p dw i).padding.toString = Gen.dgcPadding (i : Int) (p : Int) (clog2 D : Int) ∧
    [((cfgAt D p dw i).stride : Int), ((cfgAt D p dw i).stride : Int)] = Gen.dgcStride (i : Int) (p : Int) (clog2 D : Int) ∧
    [((cfgAt D p dw i).dilation : Int), ((cfgAt D p dw i).dilation : Int)] =
      Gen.dgcDilation (i : Int) (p : Int) (clog2 D : Int) ∧
    (cfgAt D p dw i).depthwise = dw i ∧ Gen.dgcDepthwiseArg = "self.depthwise[i]" ∧ Gen.dgcKernel = [2, 2] := by
  -- the tests of the code on `int`s are the model's tests on naturals
  have hlt : decide ((i : Int) < (p : Int)) = decide (i < p) := decide_eq_decide.2 Int.ofNat_lt
  have heq : ((i : Int) == (clog2 D : Int)) = decide (i = clog2 D) := by
    rw [Bool.eq_iff_iff, beq_iff_eq, decide_eq_true_iff, Int.natCast_inj]
  have hk : ((i : Int) - (p : Int)).toNat = i - p := by omega
  unfold cfgAt Gen.dgcPadding Gen.dgcStride Gen.dgcDilation
  simp only [hlt, heq, hk]
  by_cases h : i < p
  · simp only [h, decide_true, if_true]
    exact ⟨rfl, rfl, rfl, trivial, rfl, rfl⟩
  · simp only [h, decide_false, Bool.false_eq_true, if_false]
    refine ⟨?_, rfl, by push_cast; rfl, trivial, rfl, rfl⟩
    by_cases hd : i = clog2 D
    · rw [if_pos hd, if_pos (decide_eq_true hd)]; rfl
    · rw [if_neg hd, if_neg (by rw [decide_eq_false hd]; exact Bool.false_ne_true)]; rfl

/-- the levels are `range(depth + 1)`; a sum layer follows every product layer except the last (`i != depth`), product
first — the model's `schedule` / `layerInfos` -/
theorem levels_as_coded (D p : Nat) (dw : Nat → Bool) :
    Gen.dgcLevels (clog2 D : Int) = (0, (clog2 D : Int) + 1, 1) ∧
    (schedule D p dw).length = clog2 D + 1 ∧
    (∀ i : Nat, Gen.dgcSumFollows (i : Int) (clog2 D : Int) = !decide (i = clog2 D)) ∧
    Gen.dgcLayerOrder = ["SpatialProductLayer", "SpatialSumLayer"] := by
  refine ⟨rfl, by simp [schedule], ?_, rfl⟩
  intro i
  unfold Gen.dgcSumFollows
  by_cases h : i = clog2 D
  · simp [h]
  · have : ¬ (i : Int) = (clog2 D : Int) := by omega
    simp [h, this]

/-- effective kernel size `(k − 1)·dilation + 1` with `k = 2` -/
theorem keff_as_coded (cfg : ProdCfg) :
    ((keff cfg : Nat) : Int) = Gen.dgcKeh 2 (cfg.dilation : Int) ∧ Gen.dgcKeh = Gen.dgcKew := by
  refine ⟨?_, rfl⟩
  unfold keff Gen.dgcKeh; omega

/-- **padding amounts per mode**: on a square input with equal dilations, `self.pad = [before, after, before, after]` with
`(before, after) = pads cfg inSize`: `valid` → `(0, 0)`, `full` → `(ke − 1, ke − 1)`, `final` → `(0, 2(ke − 1) − in)` -/
theorem pads_as_coded (cfg : ProdCfg) (s : Nat) :
    Gen.dgcPad cfg.padding.toString (keff cfg : Int) (keff cfg : Int) (s : Int) (s : Int) =
      some [((pads cfg s).1 : Int), (pads cfg s).2, ((pads cfg s).1 : Int), (pads cfg s).2] := by
  have hk : ((keff cfg - 1 : Nat) : Int) = (keff cfg : Int) - 1 := Int.ofNat_sub (by unfold keff; omega)
  unfold pads
  cases cfg.padding
  · rfl
  · simp only [hk]; rfl
  · simp only [Nat.cast_mul, hk]; rfl

/-- any other padding string makes the constructor raise -/
theorem pad_unknown_mode : Gen.dgcPad "same" 3 3 8 8 = none := by decide +kernel

/-- Python's `ceil(n / stride)`, computed as `-((-n) // stride)` and clamped at 0, for the strides 1 and 2 -/
theorem ceil_div_as_coded (n : Int) (st : Nat) (hs : st = 1 ∨ st = 2) :
    ((((n + (st : Int) - 1) / (st : Int)).toNat : Nat) : Int) = max 0 (-(Int.fdiv (-n) (st : Int))) := by
  rw [Int.toNat_eq_max, Int.max_comm, Int.fdiv_eq_ediv_of_nonneg _ (Int.natCast_nonneg st)]
  congr 1
  rcases hs with rfl | rfl <;> omega

/-- **output size** `ceil((before + after + in − ke + 1) / stride)` (height from `pad[2], pad[3]`, width from `pad[0], pad[1]`)
for the two strides of the schedule; a negative numerator cannot occur on accepted configurations, the model clamps at 0 -/
theorem outSize_as_coded (cfg : ProdCfg) (s : Nat) (hs : cfg.stride = 1 ∨ cfg.stride = 2) :
    ((outSize cfg s : Nat) : Int) =
      max 0 (Gen.dgcOutH [((pads cfg s).1 : Int), (pads cfg s).2, ((pads cfg s).1 : Int), (pads cfg s).2]
        (s : Int) (keff cfg : Int) (cfg.stride : Int)) ∧
    ((outSize cfg s : Nat) : Int) =
      max 0 (Gen.dgcOutW [((pads cfg s).1 : Int), (pads cfg s).2, ((pads cfg s).1 : Int), (pads cfg s).2]
        (s : Int) (keff cfg : Int) (cfg.stride : Int)) :=
  ⟨ceil_div_as_coded _ _ hs, ceil_div_as_coded _ _ hs⟩

/-- **output channels** `in_c if depthwise else in_c ** (kh·kw)` with the `(2, 2)` kernel -/
theorem outChannels_as_coded (cfg : ProdCfg) (inC : Nat) :
    ((outChannels cfg inC : Nat) : Int) = Gen.dgcOutC cfg.depthwise (inC : Int) 2 2 := by
  unfold outChannels Gen.dgcOutC
  cases cfg.depthwise
  · simp only [Bool.false_eq_true, if_false, Nat.cast_pow]; rfl
  · rfl

end Deeprob.Oblig.StructDgcSpn
