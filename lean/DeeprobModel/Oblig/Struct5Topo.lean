import DeeprobModel.Oblig.Struct5Prelude
import DeeprobModel.Model.TopoLoop
import DeeprobModel.Lemmas.KahnLemmas
set_option linter.unusedSimpArgs false
set_option linter.unusedVariables false
set_option linter.unusedSectionVars false
/-
Obligations about the loops of `topological_order`, `topological_order_layered`, `bfs` and `dfs_post_order` (structure/node.py) as
extracted from the source (`Gen.S5topoInit / RootGuard / Step / Result`, `Gen.S5layeredInit / RootGuard / Step / Result`,
`Gen.S5bfsStep`, `Gen.S5dfsStep`, written by tools/listprog.py on every run).

The code counts in Python integers (`num_outgoings[c] -= 1`, test `== 0` after the decrement), the model `Net.kahnLoop` in truncated
naturals (test `== 1` before it): the simulation of `while queue:` by the modelled Kahn machine carries the relation `Rel`
(`model = max(code, 0)`) and needs no hypothesis on the table.  The layered variant — prologue, root test, `while True:` loop, cycle
test — is the model `Sched.layers` as it stands, on every table.
-/
namespace Deeprob.Oblig.Struct5T
open Deeprob Deeprob.Net Deeprob.Sched List

variable {α : Type}

/-- a loop of `num_outgoings[c] += k` over a list of nodes adds `k` once for every occurrence of the node -/
theorem foldl_addC (k : Int) (es : List Nat) (d : Cnt) (v : Nat) :
    (es.foldl (fun d c => setF d c (getC d c + k)) d) v = d v + (count v es : Nat) * k := by
  induction es generalizing d with
  | nil => simp
  | cons c es ih =>
    rw [foldl_cons, ih, count_cons]
    unfold setF getC
    by_cases h : v = c
    · subst h
      rw [if_pos rfl, beq_self_eq_true, if_pos rfl]
      push_cast
      rw [Int.add_mul, Int.one_mul, Int.add_assoc, Int.add_comm k]
    · rw [if_neg h, beq_false_of_ne (Ne.symm h), if_neg Bool.false_ne_true, Nat.add_zero]

/-- the counters computed by the extracted prologue of `topological_order` are the in-degrees the model uses
(`Sched.indeg`: number of edges, with multiplicity, from the nodes of `bfs(root)`). -/
theorem topoInit_as_coded (t : Net α) (root : Nat) : genTopoCounts t root = indeg t root := by
  funext v
  unfold genTopoCounts Gen.S5topoInit
  rw [← List.foldl_flatMap (f := chOf t) (g := fun (d : Cnt) c => setF d c (getC d c + 1)), foldl_addC 1, Int.mul_one]
  have h0 : setF emptyC root 0 v = 0 := by unfold setF emptyC; split <;> rfl
  rw [h0, Int.zero_add]
  rfl

/-- the same for the prologue of `topological_order_layered` (the same text). -/
theorem layeredInit_as_coded (t : Net α) (root : Nat) : genLayeredCounts t root = indeg t root :=
  topoInit_as_coded t root

/-- the body of `for c in node.children:` in the extracted step: state = (queue, counters) -/
def genEdge (st : List Nat × Cnt) (c : Nat) : List Nat × Cnt :=
  (if getC (setF st.2 c (getC st.2 c - 1)) c == 0 then st.1 ++ [c] else st.1, setF st.2 c (getC st.2 c - 1))

theorem genTopoStep_nil (t : Net α) (cnt : Cnt) (ord : List Nat) : genTopoStep t ([], cnt, ord) = ([], cnt, ord) := rfl

theorem genTopoStep_cons (t : Net α) (q : Nat) (qs : List Nat) (cnt : Cnt) (ord : List Nat) :
    genTopoStep t (q :: qs, cnt, ord) =
      (((chOf t q).foldl genEdge (qs, cnt)).1, ((chOf t q).foldl genEdge (qs, cnt)).2, ord ++ [q]) := rfl

/-- the node joins the queue when its counter, read back after the decrement, is 0 -/
theorem genEdge_fst (q : List Nat) (cI : Cnt) (c : Nat) : (genEdge (q, cI) c).1 = if cI c = 1 then q ++ [c] else q := by
  unfold genEdge getC setF
  by_cases h : cI c = 1
  · simp [h]
  · have h' : ¬ cI c - 1 = 0 := by omega
    simp [h, h']

theorem genEdge_fold_snd (es : List Nat) (Q : List Nat) (cI : Cnt) (v : Nat) :
    (es.foldl genEdge (Q, cI)).2 v = cI v - (count v es : Nat) := by
  have h := foldl_hom (l := es) (init := (Q, cI)) Prod.snd (g₁ := genEdge) (g₂ := fun d c => setF d c (getC d c + -1))
    (fun _ _ => rfl)
  rw [← h, foldl_addC, Int.mul_neg_one]
  rfl

/-- the relation between the code's integer counters and the model's natural counters (`k - 1` truncated at 0, test `k == 1`
before the decrement instead of `== 0` after it): the model holds the positive part of the code's counter -/
def Rel (cI : Cnt) (cN : List Nat) : Prop := ∀ v, cN.getD v 0 = (cI v).toNat

theorem rel_init (t : Net α) (root : Nat) (h : InRange t) : Rel (genTopoCounts t root) (kahnCounts t root) := by
  intro v
  rw [(kahnCounts_spec t root h).2 v, topoInit_as_coded]
  unfold indeg edgesOf
  simp

theorem edge_sim (Q : List Nat) (st : List Nat × Cnt) (km : List Nat × List Nat) (h : st.1 = Q ++ km.2 ∧ Rel st.2 km.1) (c : Nat) :
    (genEdge st c).1 = Q ++ (kstep km c).2 ∧ Rel (genEdge st c).2 (kstep km c).1 := by
  obtain ⟨q, cI⟩ := st
  obtain ⟨cN, A⟩ := km
  obtain ⟨hq, h⟩ := h
  dsimp only at hq h
  subst hq
  constructor
  · rw [genEdge_fst, kstep_snd, h c]
    by_cases h1 : cI c = 1
    · rw [if_pos h1, if_pos (by rw [h1]; rfl), append_assoc]
    · rw [if_neg h1, if_neg (by omega)]
  · intro v
    rw [kstep_fst, h v]
    show _ = (setF cI c (cI c - 1) v).toNat
    unfold setF
    by_cases hv : v = c
    · rw [if_pos hv, if_pos hv, hv]; omega
    · rw [if_neg hv, if_neg hv]; rfl

/-- one iteration of the extracted loop of `topological_order` is one step of the modelled Kahn machine
(`kahnStepM`, the body of `Net.kahnLoop`): the same queue and the same ordering, counters still related. No hypothesis on the table. -/
theorem topoStep_as_coded (t : Net α) (q : List Nat) (cI : Cnt) (cN ord : List Nat) (h : Rel cI cN) :
    ∃ cI', genTopoStep t (q, cI, ord) = ((kahnStepM t (q, cN, ord)).1, cI', (kahnStepM t (q, cN, ord)).2.2) ∧
      Rel cI' (kahnStepM t (q, cN, ord)).2.1 := by
  cases q with
  | nil => exact ⟨cI, rfl, h⟩
  | cons a qs =>
    obtain ⟨h1, h2⟩ := foldl_rel (l := chOf t a) (f := genEdge) (g := kstep) (a := (qs, cI)) (b := (cN, []))
      (r := fun st km => st.1 = qs ++ km.2 ∧ Rel st.2 km.1) ⟨(append_nil qs).symm, h⟩ (fun c _ st km hr => edge_sim qs st km hr c)
    exact ⟨((chOf t a).foldl genEdge (qs, cI)).2, by rw [genTopoStep_cons, h1]; rfl, h2⟩

theorem topoRun_sim (t : Net α) (n : Nat) : ∀ (q : List Nat) (cI : Cnt) (cN ord : List Nat), Rel cI cN →
    ∃ cI', genTopoRun t n (q, cI, ord) = ((kahnRunM t n (q, cN, ord)).1, cI', (kahnRunM t n (q, cN, ord)).2.2) ∧
      Rel cI' (kahnRunM t n (q, cN, ord)).2.1 := by
  intro q cI cN ord h
  obtain ⟨c, r, e⟩ := run_sim (R := fun cI s => Rel cI s.2.1) (proj := fun cI s => (s.1, cI, s.2.2))
    (runM := kahnRunM t) (runG := genTopoRun t) (fun _ => rfl) (fun _ _ => rfl) (fun _ => rfl) (fun _ _ => rfl)
    (fun cI s h => let ⟨c, e, r⟩ := topoStep_as_coded t s.1 cI s.2.1 s.2.2 h; ⟨c, r, e⟩) n cI (q, cN, ord) h
  exact ⟨c, e, r⟩

theorem kahnRunM_nil (t : Net α) (n : Nat) (cnt ord : List Nat) : kahnRunM t n ([], cnt, ord) = ([], cnt, ord) := by
  induction n with
  | zero => rfl
  | succ n ih => simp only [kahnRunM, kahnStepM]; exact ih

/-- the modelled machine iterated is `Net.kahnLoop` -/
theorem kahnLoop_eq_run (t : Net α) (fuel : Nat) : ∀ (q cnt ord : List Nat),
    kahnLoop t fuel q cnt ord = ((kahnRunM t fuel (q, cnt, ord)).2.1, (kahnRunM t fuel (q, cnt, ord)).2.2) := by
  induction fuel with
  | zero => intro q cnt ord; simp [kahnLoop, kahnRunM]
  | succ f ih =>
    intro q cnt ord
    cases q with
    | nil => rw [kahnRunM_nil]; simp [kahnLoop]
    | cons a qs =>
      simp only [kahnLoop, kahnRunM, kahnStepM]
      exact ih _ _ _

/-- the queue of the modelled machine is empty once `|R|` nodes fit into the fuel (same argument as `kahnLoop_inv`) -/
theorem kahnRunM_queue_nil (t : Net α) (root : Nat) (R : List Nat) (hcl : ∀ p ∈ R, ∀ c ∈ chOf t p, c ∈ R) :
    ∀ (fuel : Nat) (q cnt ord : List Nat), KInv t root R q cnt ord → R.length ≤ ord.length + fuel →
      (kahnRunM t fuel (q, cnt, ord)).1 = [] := by
  intro fuel
  induction fuel with
  | zero =>
    intro q cnt ord h hf
    have hl := h.toCountInv.length_le
    exact length_eq_zero_iff.1 (by omega : q.length = 0)
  | succ f ih =>
    intro q cnt ord h hf
    cases q with
    | nil => rw [kahnRunM_nil]
    | cons a qs =>
      exact ih _ _ _ (kinv_step t root R hcl a qs cnt ord h) (by rw [length_append, length_singleton]; omega)

/-- after any number of iterations of the extracted loop, every counter is its value before minus the number
of edges into that node from the nodes appended to `ordering` in between. -/
theorem topoRun_counts (t : Net α) (n : Nat) : ∀ (q : List Nat) (cI : Cnt) (ord : List Nat) (v : Nat),
    (genTopoRun t n (q, cI, ord)).2.1 v + (count v (edgesOf t (genTopoRun t n (q, cI, ord)).2.2) : Nat) =
      cI v + (count v (edgesOf t ord) : Nat) := by
  induction n with
  | zero => intro q cI ord v; rfl
  | succ n ih =>
    intro q cI ord v
    cases q with
    | nil => simp only [genTopoRun, genTopoStep_nil]; exact ih _ _ _ _
    | cons a qs =>
      simp only [genTopoRun, genTopoStep_cons]
      rw [ih, genEdge_fold_snd]
      have : edgesOf t (ord ++ [a]) = edgesOf t ord ++ chOf t a := by simp [edgesOf]
      rw [this, count_append]
      push_cast
      omega

theorem procEdge_as_coded :
    (fun (st2 : Cnt × List Nat) x2 => ((setF st2.1 x2 ((getC st2.1 x2) - 1)),
      (if ((getC (setF st2.1 x2 ((getC st2.1 x2) - 1)) x2) == 0) then (st2.2 ++ [x2]) else st2.2))) = procEdge := by
  funext st c
  unfold procEdge getC
  simp only []
  by_cases h : setF st.1 c (st.1 c - 1) c = 0 <;> simp [h]

/-- one iteration of the extracted `while True:` loop of `topological_order_layered`, on a state whose
`ordering` is `acc ++ [last]`, is the body of the model's `Sched.layersGo`: the new layer and counters are `procLayer`, the `break`
test is "the new layer is empty", and the layer is appended otherwise. -/
theorem layeredStep_as_coded (t : Net α) (cnt : Cnt) (acc : List (List Nat)) (last : List Nat) :
    genLayeredStep t (cnt, acc ++ [last]) =
      ((procLayer t cnt last).2.isEmpty, (procLayer t cnt last).1,
        if (procLayer t cnt last).2.isEmpty then acc ++ [last] else acc ++ [last] ++ [(procLayer t cnt last).2]) := by
  have hl : (acc ++ [last]).getLast? = some last := by simp
  have hp : last.foldl (fun (st1 : Cnt × List Nat) x1 => (chOf t x1).foldl procEdge st1) (cnt, []) = procLayer t cnt last := by
    unfold procLayer
    exact List.foldl_flatMap.symm
  unfold genLayeredStep Gen.S5layeredStep
  simp only [hl, procEdge_as_coded, hp]

theorem genLayersGo_eq (t : Net α) (fuel : Nat) : ∀ (cnt : Cnt) (acc : List (List Nat)) (last : List Nat),
    genLayersGo t fuel (cnt, acc ++ [last]) = layersGo t fuel cnt acc last := by
  induction fuel with
  | zero => intro cnt acc last; rfl
  | succ f ih =>
    intro cnt acc last
    unfold genLayersGo layersGo
    rw [layeredStep_as_coded]
    simp only []
    by_cases he : (procLayer t cnt last).2.isEmpty = true
    · simp [he]
    · simp only [he, if_false, Bool.false_eq_true]
      exact ih _ _ _

/-- `topological_order_layered` as extracted — counting prologue, root test, `while True:` loop, cycle test — is
the model `Sched.layers`, on every table and every root (cyclic tables included: the same verdict `none`). -/
theorem genLayers_eq (t : Net α) (root : Nat) : genLayers t root = layers t root := by
  unfold genLayers layers Gen.S5layeredRootGuard Gen.S5layeredResult
  rw [layeredInit_as_coded]
  have h0 : genLayersGo t ((collect t root).length + 1) (indeg t root, [[root]]) =
      layersGo t ((collect t root).length + 1) (indeg t root) [] [root] := genLayersGo_eq t _ _ [] [root]
  simp only [h0, getC, sumC, bne_iff_ne]
  cases layersGo t ((collect t root).length + 1) (indeg t root) [] [root] with
  | none => rfl
  | some s => obtain ⟨c, L⟩ := s; rfl

/-- the body of `for c in node.children: if c not in seen: seen.add(c); <queue / stack>.append(c)`: state = (queue, seen) -/
def walkEdge (st : List Nat × List Nat) (c : Nat) : List Nat × List Nat :=
  ((if (!(isInL c st.2)) then (st.1 ++ [c]) else st.1), (if (!(isInL c st.2)) then (st.2 ++ [c]) else st.2))

theorem genBfsStep_nil (t : Net α) (seen out : List Nat) : genBfsStep t ([], seen, out) = ([], seen, out) := rfl

theorem genBfsStep_cons (t : Net α) (a : Nat) (qs seen out : List Nat) :
    genBfsStep t (a :: qs, seen, out) =
      (((chOf t a).foldl walkEdge (qs, seen)).1, ((chOf t a).foldl walkEdge (qs, seen)).2, out ++ [a]) := rfl

/-- the loop over the children keeps queue and set in step: both grow by the unseen children, first occurrence only -/
theorem walkFold_sim (S Q es : List Nat) :
    es.foldl walkEdge (Q, S) = (Q ++ bfsNew S es [], S ++ bfsNew S es []) := by
  refine foldl_rel (r := fun st acc => st = (Q ++ acc, S ++ acc)) (by rw [append_nil, append_nil]) fun c _ st acc h => ?_
  subst h
  unfold walkEdge isInL
  cases (S ++ acc).contains c <;> simp

/-- one iteration of the extracted loop of `bfs` is the step of the model's `Net.bfsAux` (`bfsAux_step`): the
unseen children of the dequeued node, first occurrence only, go to the end of the queue and into the set; the node is yielded. -/
theorem bfsStep_as_coded (t : Net α) (a : Nat) (qs seen out : List Nat) :
    genBfsStep t (a :: qs, seen, out) =
      (qs ++ bfsNew seen (chOf t a) [], seen ++ bfsNew seen (chOf t a) [], out ++ [a]) := by
  rw [genBfsStep_cons, walkFold_sim]

theorem genBfsRun_nil (t : Net α) (n : Nat) (seen out : List Nat) : genBfsRun t n ([], seen, out) = ([], seen, out) := by
  induction n with
  | zero => rfl
  | succ n ih => simp only [genBfsRun, genBfsStep_nil]; exact ih

theorem bfsRun_seen (t : Net α) (fuel : Nat) : ∀ (q seen out : List Nat),
    (genBfsRun t fuel (q, seen, out)).2.1 = bfsAux t fuel q seen := by
  induction fuel with
  | zero => intro q seen out; simp [genBfsRun, bfsAux]
  | succ f ih =>
    intro q seen out
    cases q with
    | nil => rw [genBfsRun_nil]; simp [bfsAux]
    | cons a qs =>
      simp only [genBfsRun]
      rw [bfsStep_as_coded, bfsAux_step]
      exact ih _ _ _

theorem bfsAux_lt (t : Net α) (h : InRange t) (fuel : Nat) : ∀ (q seen : List Nat), (∀ v ∈ seen, v < t.length) →
    ∀ v ∈ bfsAux t fuel q seen, v < t.length := by
  induction fuel with
  | zero => intro q seen h3; exact h3
  | succ f ih =>
    intro q seen h3
    cases q with
    | nil => exact h3
    | cons a qs =>
      rw [bfsAux_step]
      refine ih _ _ fun v hv => (mem_append.1 hv).elim (h3 v) fun hv => ?_
      rcases (mem_bfsNew seen (chOf t a) [] v).1 hv with hh | ⟨hh, _⟩
      · cases hh
      · exact h a v hh

/-- loop invariant of `bfs`: the seen nodes, in discovery order, are the yielded nodes followed by the queue; they are pairwise
distinct table rows; and as long as the queue is non-empty every iteration yields one more node -/
theorem bfsRun_inv (t : Net α) (h : InRange t) (fuel : Nat) : ∀ (q seen out : List Nat),
    seen = out ++ q → seen.Nodup → (∀ v ∈ seen, v < t.length) →
    (genBfsRun t fuel (q, seen, out)).2.1 = (genBfsRun t fuel (q, seen, out)).2.2 ++ (genBfsRun t fuel (q, seen, out)).1 ∧
    ((genBfsRun t fuel (q, seen, out)).1 = [] ∨ out.length + fuel ≤ (genBfsRun t fuel (q, seen, out)).2.2.length) ∧
    (genBfsRun t fuel (q, seen, out)).2.1.Nodup ∧ (∀ v ∈ (genBfsRun t fuel (q, seen, out)).2.1, v < t.length) := by
  intro q seen out h1 h2 h3
  suffices h12 : _ ∧ _ from
    ⟨h12.1, h12.2, by rw [bfsRun_seen]; exact bfsAux_nodup t _ _ _ h2, by rw [bfsRun_seen]; exact bfsAux_lt t h _ _ _ h3⟩
  clear h2 h3
  induction fuel generalizing q seen out with
  | zero => exact ⟨h1, Or.inr (Nat.le_refl _)⟩
  | succ f ih =>
    cases q with
    | nil => rw [genBfsRun_nil]; exact ⟨h1, Or.inl rfl⟩
    | cons a qs =>
      rw [genBfsRun, bfsStep_as_coded]
      refine (ih _ _ (out ++ [a]) ?_).imp id (Or.imp id fun i2 => ?_)
      · rw [h1]; simp
      · rw [length_append, length_singleton] at i2
        omega

/-- one iteration of the extracted loop of `dfs_post_order` is one step of the hand-written machine `dfsStepM`. -/
theorem dfsStep_as_coded (t : Net α) (s : List Nat × List Nat × List Nat) : genDfsStep t s = dfsStepM t s := by
  obtain ⟨stack, seen, out⟩ := s
  unfold genDfsStep Gen.S5dfsStep dfsStepM isInL
  dsimp only
  cases stack.getLast? with
  | none => rfl
  | some v =>
    have hw := walkFold_sim seen stack (chOf t v)
    unfold walkEdge isInL bfsNew at hw
    dsimp only
    rw [hw]
    cases (chOf t v).all (fun c => seen.contains c) <;> rfl

/-! non-vacuity: the table 3 → [0, 2], 2 → [0, 1] (leaf 0 is a child of the root at depth 1 and of node 2 at depth 2): the Kahn
order `3, 2, 0, 1` differs from the BFS order `3, 0, 2, 1`, the layers `[[3], [2], [0, 1]]` from the depth layering `[[3], [0, 2], [1]]` -/

def exT : Net Nat :=
  [⟨0, .leaf, [0], [], [], .absent⟩, ⟨1, .leaf, [1], [], [], .absent⟩, ⟨2, .prod, [0, 1], [0, 1], [], .absent⟩,
    ⟨3, .prod, [0, 1], [0, 2], [], .absent⟩]

theorem exT_inRange : InRange exT := by
  exact inRange_of_chLt exT (chLt_of_wellOrdered exT ((wellOrderedB_iff exT).1 (by decide)))

/-- the simulation on the first iteration of the witness (root 3 leaves the queue, node 2 enters it, leaf 0 does not yet) -/
example : ∃ cI', genTopoStep exT ([3], genTopoCounts exT 3, []) =
      ((kahnStepM exT ([3], kahnCounts exT 3, [])).1, cI', (kahnStepM exT ([3], kahnCounts exT 3, [])).2.2) ∧
    Rel cI' (kahnStepM exT ([3], kahnCounts exT 3, [])).2.1 :=
  topoStep_as_coded exT [3] _ _ [] (rel_init exT 3 exT_inRange)

example : (genTopoStep exT ([3], genTopoCounts exT 3, [])).1 = [2] ∧
    (genTopoRun exT 5 ([3], genTopoCounts exT 3, [])).2.2 = [3, 2, 0, 1] ∧ collect exT 3 = [3, 0, 2, 1] ∧
    (genTopoRun exT 5 ([3], genTopoCounts exT 3, [])).1 = [] := by decide +kernel

example : (List.range 4).map (genTopoCounts exT 3) = [2, 1, 1, 0] ∧ (List.range 4).map (indeg exT 3) = [2, 1, 1, 0] := by
  decide +kernel

example : genLayers exT 3 = some [[3], [2], [0, 1]] ∧ layers exT 3 = some [[3], [2], [0, 1]] :=
  ⟨by rw [genLayers_eq]; decide +kernel, by decide +kernel⟩

example : (genLayeredStep exT (genLayeredCounts exT 3, [[3]])).1 = false ∧
    (genLayeredStep exT (genLayeredCounts exT 3, [[3]])).2.2 = [[3], [2]] := by decide +kernel

/-- the generators on the witness: `bfs` yields the discovery order; `dfs_post_order` yields node 2 before its child 0 (the child was
pushed, hence marked seen, by the root): on a DAG with sharing the order it produces is not children-first -/
example : genBfs exT 3 = [3, 0, 2, 1] ∧ collect exT 3 = [3, 0, 2, 1] ∧ genDfs exT 3 = [1, 2, 0, 3] ∧
    (genDfsState exT 3).1 = [] ∧ 0 ∈ chOf exT 2 ∧ [1, 2, 0, 3].idxOf 2 < [1, 2, 0, 3].idxOf 0 := by decide +kernel

example : genDfsStep exT ([3], [3], []) = dfsStepM exT ([3], [3], []) := dfsStep_as_coded exT _

end Deeprob.Oblig.Struct5T
