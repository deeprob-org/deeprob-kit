import DeeprobModel.Generated.Consts
import DeeprobModel.Model.RatSpn
import DeeprobModel.Model.RatSample
import DeeprobModel.Oblig.StructPy
import DeeprobModel.Oblig.StructRatSpn
import Mathlib.Algebra.Order.Ring.Defs
import Mathlib.Algebra.Order.Field.Rat
import Mathlib.Tactic.Ring
import Mathlib.Tactic.Linarith
/-
Static tie of `Model/RatSample.lean` (`prodDownI`, `sumMpe`, `rootMpe`, `mpeRow`, `mpeDown`, `sampleDown`,
`modes`) and `Model/RatSpn.lean` (`prodDown`, `unpad`, `completeRow`) to /repo/deeprob/spn/layers/ratspn.py
(`ProductLayer.sample / mpe`, `SumLayer.mpe / sample`, `RootLayer.mpe / sample`, `RegionGraphLayer.unpad_samples / mpe`) and
/repo/deeprob/spn/models/ratspn.py (`RatSpn.mpe`, `RatSpn.sample`) — C16.

The torch code is read on one row of the batch.  The model works in the linear domain: the generated definitions are
generic in the carrier and are instantiated with `+ ↦ *` and `log_softmax(weight[g, o]) ↦ w g o` (the model's `Spec.w` is the
soft-max row), so arg-max positions are compared exactly.
-/
set_option linter.unusedSectionVars false
set_option linter.unusedSimpArgs false
set_option linter.unusedVariables false
namespace Deeprob.Struct4
open Deeprob Deeprob.RatSpn Deeprob.RatSample Deeprob.Oblig.StructPy

def castL (l : List Nat) : List Int := l.map (fun (a : Nat) => (a : Int))

theorem interleave_map {β γ : Type} (f h : β → γ) (l : List β) :
    Gen.Py4.interleave (l.map f) (l.map h) = l.flatMap (fun a => [f a, h a]) := by
  induction l with
  | nil => rfl
  | cons x xs ih => simp only [List.map_cons, Gen.Py4.interleave, ih, List.flatMap_cons, List.cons_append, List.nil_append]

/-! ### `ProductLayer.sample` (= `ProductLayer.mpe`) -/

/-- **the index doubling as coded**: `idx_group ↦ [2g, 2g+1]`, `idx_offset ↦ [o // in_nodes, o % in_nodes]`, pairs kept
adjacent (stack along the last axis, then flatten) — the model's `prodDown` -/
theorem prodSample_as_coded (inNodes : Nat) (g o : List Nat) :
    Gen.S4ratProdSample (inNodes : Int) (castL g) (castL o) =
      (castL (prodDown inNodes g o).1, castL (prodDown inNodes g o).2) := by
  unfold Gen.S4ratProdSample prodDown castL
  simp only [List.map_map, interleave_map, List.map_flatMap, Function.comp_def, List.map_cons, List.map_nil,
    fdiv_natCast, fmod_natCast]
  have h : (fun a : Nat => [(a : Int) * 2, (a : Int) * 2 + 1]) = fun a : Nat => [((2 * a : Nat) : Int), ((2 * a + 1 : Nat) : Int)] := by
    funext a
    have e1 : ((2 * a : Nat) : Int) = (a : Int) * 2 := by push_cast; ring
    have e2 : ((2 * a + 1 : Nat) : Int) = (a : Int) * 2 + 1 := by push_cast; ring
    rw [e1, e2]
  rw [h]

example : Gen.S4ratProdSample 3 [1, 0] [5, 7] = ([2, 3, 0, 1], [1, 2, 2, 1]) ∧ prodDown 3 [1, 0] [5, 7] = ([2, 3, 0, 1], [1, 2, 2, 1]) := by
  decide +kernel

/-! ### `SumLayer.mpe`, `RootLayer.mpe` -/

section argmax
variable {α : Type} [LT α] [DecidableLT α]

theorem argmaxAux_eq (xs : List α) (i bi : Nat) (bv : α) : Gen.Py4.argmaxAux xs i bi bv = argmaxAux xs i bi bv := by
  induction xs generalizing i bi bv with
  | nil => rfl
  | cons x xs ih => simp only [Gen.Py4.argmaxAux, argmaxAux, ih]

/-- the translator's reading of `argmax` (first maximiser) is the model's -/
theorem argmax_eq (l : List α) : Gen.Py4.argmax l = argmax l := by
  cases l with
  | nil => rfl
  | cons x xs => exact argmaxAux_eq xs 1 0 x

end argmax

section mpe
variable {α : Type} [CommSemiring α] [LT α] [DecidableLT α]

/-- `a + b` of the linear-domain reading is `a * b` -/
theorem hadd_mul (a b : α) : @HAdd.hAdd α α α (@instHAdd α ⟨(· * ·)⟩) a b = a * b := rfl

theorem zipWith_hadd (u v : List α) :
    List.zipWith (fun a b => @HAdd.hAdd α α α (@instHAdd α ⟨(· * ·)⟩) a b) u v = List.zipWith (· * ·) v u := by
  induction u generalizing v with
  | nil => cases v <;> rfl
  | cons a as ih =>
    cases v with
    | nil => rfl
    | cons b bs =>
      show (a * b) :: List.zipWith _ as bs = (b * a) :: List.zipWith _ bs as
      rw [ih bs, mul_comm]

/-- **`SumLayer.mpe` as coded** (linear-domain reading): the values are gathered by group (`x[arange, idx_group]`), the
weights by (group, offset) (`self.weight[idx_group, idx_offset]`), the new offset is the first arg-max over the input nodes
of `x + log_softmax(w)` ↦ `w · x`, and `idx_group` is returned unchanged — the model's `sumMpe` -/
theorem sumMpe_as_coded (w : Nat → Nat → List α) (V : Tab α) (io : Idx) :
    @Gen.S4ratSumMpe α ⟨(· * ·)⟩ _ _ (fun v => v) (fun g => (List.range V.nodes).map (fun t => V.at_ g.toNat t))
        (fun g o => w g.toNat o.toNat) (castL io.1) (castL io.2) =
      (castL (sumMpe w V io).1, castL (sumMpe w V io).2) := by
  unfold Gen.S4ratSumMpe sumMpe castL
  refine Prod.ext rfl ?_
  simp only [List.map_id']
  generalize io.1 = G
  generalize io.2 = O
  induction G generalizing O with
  | nil => rfl
  | cons g gs ih =>
    cases O with
    | nil => rfl
    | cons o os =>
      simp only [List.map_cons, List.zipWith_cons_cons, Int.toNat_natCast]
      rw [ih os, zipWith_hadd, argmax_eq]

example :
    let V : Tab ℕ := { groups := 2, nodes := 2, at_ := fun g t => ([[6, 4], [3, 5]].getD g []).getD t 0 }
    let w : Nat → Nat → List ℕ := fun g o => ([[[1, 3], [2, 2]], [[9, 1], [1, 2]]].getD g []).getD o []
    sumMpe w V ([1, 0], [0, 1]) = ([1, 0], [0, 0]) ∧
    @Gen.S4ratSumMpe ℕ ⟨(· * ·)⟩ _ _ (fun v => v) (fun g => (List.range V.nodes).map (fun t => V.at_ g.toNat t))
      (fun g o => w g.toNat o.toNat) [1, 0] [0, 1] = ([1, 0], [0, 0]) := by
  decide +kernel

/-- **`RootLayer.mpe` as coded** (linear-domain reading): the input is flattened partition-major, the first arg-max of
`x + log_softmax(weight)[y]` ↦ `wroot · x` is split into `(idx // in_nodes, idx % in_nodes)` — the model's `rootMpe` -/
theorem rootMpe_as_coded (wroot : List α) (V : Tab α) (y : Int) :
    @Gen.S4ratRootMpe α ⟨(· * ·)⟩ _ _ (fun v => v)
        ((List.range V.groups).map (fun g => (List.range V.nodes).map (fun t => V.at_ g t))) (fun _ => wroot) (V.nodes : Int) y =
      (castL (rootMpe wroot V).1, castL (rootMpe wroot V).2) := by
  unfold Gen.S4ratRootMpe rootMpe castL flat
  have hf : ((List.range V.groups).map (fun g => (List.range V.nodes).map (fun t => V.at_ g t))).flatten =
      (List.range V.groups).flatMap (fun g => (List.range V.nodes).map (fun t => V.at_ g t)) := by
    rw [List.flatMap_def]
  simp only [hf, zipWith_hadd, argmax_eq, List.map_cons, List.map_nil, fdiv_natCast, fmod_natCast]

/-- `RootLayer.sample` splits the drawn flat index in the same way (`rootStep` of the model: `[idx / nodes], [idx % nodes]`) -/
theorem rootSample_as_coded (nodes idx : Nat) :
    Gen.S4ratRootSample (nodes : Int) [(idx : Int)] = ([((idx / nodes : Nat) : Int)], [((idx % nodes : Nat) : Int)]) := by
  unfold Gen.S4ratRootSample
  simp only [List.map_cons, List.map_nil, fdiv_natCast, fmod_natCast]

example :
    let V : Tab ℕ := { groups := 2, nodes := 2, at_ := fun g t => ([[6, 4], [3, 5]].getD g []).getD t 0 }
    rootMpe [1, 2, 3, 1] V = ([1], [0]) ∧
    @Gen.S4ratRootMpe ℕ ⟨(· * ·)⟩ _ _ (fun v => v) [[6, 4], [3, 5]] (fun _ => [1, 2, 3, 1]) 2 0 = ([1], [0]) ∧
    Gen.S4ratRootSample 2 [3] = ([1], [1]) := by
  decide +kernel

end mpe

/-! ### `SumLayer.sample` -/

/-- **`SumLayer.sample` as coded**: every new offset is an independent draw from `Categorical(logits =
log_softmax(weight[idx_group[j], idx_offset[j]]))`, i.e. (linear reading) from the soft-max row `w g o` — the law
`lawSample` / the rows `List.zipWith law io.1 io.2` of the model's `sumStep`; `idx_group` is unchanged (`sumPick`) -/
theorem sumSample_as_coded {α : Type} (w : Nat → Nat → List α) (V : Tab α) (io : Idx) :
    Gen.S4ratSumSampleLogits (fun v => v) (fun g o => w g.toNat o.toNat) (castL io.1) (castL io.2) =
      List.zipWith (lawSample w V) io.1 io.2 ∧
    Gen.S4ratSumSampleLaw = "distributions.Categorical(logits=w).sample()" := by
  refine ⟨?_, rfl⟩
  unfold Gen.S4ratSumSampleLogits lawSample castL
  simp only [List.map_id', List.zipWith_map_left, List.zipWith_map_right, Int.toNat_natCast]

/-! ### `RegionGraphLayer.unpad_samples`, `RegionGraphLayer.mpe` -/

theorem getI_nat {β : Type} [Inhabited β] (x : List β) (p : Nat) (hp : p < x.length) :
    Gen.Py4.getI x (p : Int) default = x[p] := by
  unfold Gen.Py4.getI
  have hn : ¬ ((p : Int) < 0) := by omega
  simp [hn, List.getD_eq_getElem?_getD, hp]

theorem gather_as_gatherRow {β : Type} [Inhabited β] (x : List β) (idx : List Nat) (h : ∀ p ∈ idx, p < x.length) :
    Gen.Py4.gather x (castL idx) = gatherRow x idx := by
  unfold Gen.Py4.gather gatherRow castL
  induction idx with
  | nil => rfl
  | cons p ps ih =>
    have hp : p < x.length := h p (by simp)
    rw [List.map_cons, List.map_cons, List.filterMap_cons, List.getElem?_eq_getElem hp, getI_nat x p hp,
      ih (fun q hq => h q (by simp [hq]))]

/-- **`unpad_samples` as coded, the whole function**: the repetition is `idx_group[:, 0] // 2 ** rg_depth` (first entry of the
row of region indices, floor division), the samples are gathered with `inv_mask[repetition]`, and — when `pad > 0` — the
positions where `inv_pad_mask[repetition]` is false are kept: the model's `unpad … (g₀ / 2 ^ d)`.  (`x` covers the padded
row: every index of `inv_mask` is in range.) -/
theorem unpadSamples_as_coded {β : Type} [Inhabited β] (n d : Nat) (regions : List (List Nat)) (x : List β) (g : List Nat)
    (nRows : Nat) (hx : ∀ p ∈ invMask n d regions (g.headD 0 / 2 ^ d), p < x.length) :
    Gen.S4ratUnpad (d : Int) ((padOf n d : Nat) : Int) (n : Int) (fun t => castL (invMask n d regions t.toNat))
        (fun t => invPadMask n d regions t.toNat) nRows x (castL g) =
      unpad n d regions (g.headD 0 / 2 ^ d) x := by
  unfold Gen.S4ratUnpad unpad
  have hg : Gen.Py4.getI (castL g) 0 0 = ((g.headD 0 : Nat) : Int) := by
    cases g <;> simp [Gen.Py4.getI, castL]
  have hpow : ((2 : Int) ^ d) = ((2 ^ d : Nat) : Int) := by push_cast; rfl
  have hrep : Int.fdiv (Gen.Py4.getI (castL g) (0 : Int) 0) ((2 : Int) ^ d) = ((g.headD 0 / 2 ^ d : Nat) : Int) := by
    rw [hg, hpow, fdiv_natCast]
  simp only [Int.toNat_natCast]
  simp only [hrep, Int.toNat_natCast, gather_as_gatherRow x _ hx, gt_iff_lt, Int.natCast_pos, decide_eq_true_eq]
  by_cases hp : 0 < padOf n d
  · simp only [hp, if_true]; rfl
  · simp only [hp, if_false]

theorem where_as_completeRow (x : List (Option Nat)) (samples : List Nat) :
    Gen.Py4.zipWith3 (fun c a b => if c then a else (Gen.Py3.val b)) (x.map Gen.Py3.isnan) samples x = completeRow x samples := by
  unfold completeRow
  induction x generalizing samples with
  | nil => cases samples <;> rfl
  | cons a as ih =>
    cases samples with
    | nil => rfl
    | cons s ss =>
      simp only [List.map_cons, Gen.Py4.zipWith3, List.zip_cons_cons, ih]
      cases a <;> simp [Gen.Py3.isnan, Gen.Py3.val]

/-- **`RegionGraphLayer.mpe` as coded**: the modes of the selected leaves `mode[idx_group, idx_offset]` are flattened in
selection order, reordered and unpadded by `unpad_samples(samples, idx_group)`, and `torch.where(isnan(x), samples, x)`
keeps every observed entry — the model's `completeRow row (unpad … (modes S io))` of `mpeRow` -/
theorem baseMpe_as_coded {α : Type} [Zero α] [One α] [Add α] [Mul α] [LT α] [DecidableLT α] (S : Spec α) (io : Idx) (row : List (Option Nat))
    (unpadS : List Nat → List Int → List Nat)
    (hu : unpadS (modes S io) (castL io.1) = unpad S.n S.depth S.regs (io.1.headD 0 / 2 ^ S.depth) (modes S io)) :
    Gen.S4ratBaseMpe (fun g o => (List.range (S.mrow g.toNat).length).map (fun k => TCirc.bernIdx (S.tbl g.toNat o.toNat k)))
        unpadS row (castL io.1) (castL io.2) =
      completeRow row (unpad S.n S.depth S.regs (io.1.headD 0 / 2 ^ S.depth) (modes S io)) := by
  unfold Gen.S4ratBaseMpe
  have hm : (List.zipWith (fun (g o : Int) => (List.range (S.mrow g.toNat).length).map (fun k => TCirc.bernIdx (S.tbl g.toNat o.toNat k)))
      (castL io.1) (castL io.2)).flatten = modes S io := by
    unfold modes castL
    rw [List.flatMap_def, List.zipWith_map_left, List.zipWith_map_right, List.zip_eq_zipWith, List.map_zipWith]
    simp only [Int.toNat_natCast]
  simp only [hm, hu, where_as_completeRow]

example : Gen.S4ratSumSampleLogits (fun v => v) (fun g o => [(g : Int), o]) [1, 0] [0, 1] = [[1, 0], [0, 1]] := by decide +kernel

/-- non-vacuity of `unpadSamples_as_coded`: 3 features, depth 1 (one dummy), regions `{0, 2}`, `{1}` -/
example : Gen.S4ratUnpad (1 : Int) ((padOf 3 1 : Nat) : Int) 3 (fun t => castL (invMask 3 1 [[0, 2], [1]] t.toNat))
      (fun t => invPadMask 3 1 [[0, 2], [1]] t.toNat) 1 [5, 6, 7, 8] (castL [0, 1]) = unpad 3 1 [[0, 2], [1]] (0 / 2 ^ 1) [5, 6, 7, 8] :=
  unpadSamples_as_coded 3 1 [[0, 2], [1]] [5, 6, 7, 8] [0, 1] 1 (by decide)

/-- non-vacuity of `where_as_completeRow` / the last step of `RegionGraphLayer.mpe` -/
example : Gen.S4ratBaseMpe (fun g o => [(g.toNat + 10), (o.toNat + 20)]) (fun s _ => s) [none, some 7, none, some 9] [1, 2] [3, 4]
    = [11, 7, 12, 9] := by decide +kernel

/-! ### `RatSpn.mpe`, `RatSpn.sample`: the order of the calls -/

/-- **`RatSpn.mpe` as coded**: the forward pass stores the input of every inner layer (`lls.append(x)` before `x = layer(x)`),
the class is 0 for a single class and otherwise the arg-max of the root outputs when none is given, the root indices come
from `root_layer.mpe(x, y)`, the inner layers are visited from the last to the first, each on the input it received in the
forward pass (`lls[i]`), and the base layer completes the original inputs — the composition `mpeRow` / `mpeIdx` / `mpeDown` /
`mpeClass` of the model -/
theorem modelMpe_as_coded :
    Gen.S4ratModelMpe =
      [("", "v0 = []"), ("", "v1 = x"), ("", "v2 = x.shape[0]"), ("", "x = self.base_layer(x)"),
       ("for v3 in self.layers", "v0.append(x)"), ("for v3 in self.layers", "x = v3(x)"),
       ("self.out_classes == 1", "y = torch.zeros(v2, dtype=torch.long)"),
       ("not (self.out_classes == 1) and y is None", "y = torch.argmax(self.root_layer(x), dim=1)"),
       ("", "v4, v5 = self.root_layer.mpe(x, y)"),
       ("for v6 in range(len(self.layers) - 1, -1, -1)", "v4, v5 = self.layers[v6].mpe(v0[v6], v4, v5)"),
       ("", "v7 = self.base_layer.mpe(v1, v4, v5)"), ("", "return v7")] := rfl

/-- **`RatSpn.sample` as coded**: class 0 / uniform class / given class, `root_layer.sample(y)`, the inner layers from the
last to the first (`sampleDown`), then `base_layer.sample` (`sampleRow`) -/
theorem modelSample_as_coded :
    Gen.S4ratModelSample =
      [("self.out_classes == 1", "y = torch.zeros(n_samples).long()"),
       ("not (self.out_classes == 1) and y is None", "y = torch.randint(self.out_classes, [n_samples])"),
       ("", "v0, v1 = self.root_layer.sample(y)"),
       ("for v2 in range(len(self.layers) - 1, -1, -1)", "v0, v1 = self.layers[v2].sample(v0, v1)"),
       ("", "v3 = self.base_layer.sample(v0, v1)"), ("", "return v3")] := rfl

/-- the model's top-down loop visits a sum layer with the input that layer received (`prodVal V`) after the layers above
it, and ends every level with the product layer — one unfolding of `mpeDown` in the order of the code's loop -/
theorem mpeDown_order {α : Type} [Zero α] [One α] [Add α] [Mul α] [LT α] [DecidableLT α]
    (w : Nat → Nat → Nat → List α) (rgSum k l : Nat) (V : Tab α) (io : Idx) :
    mpeDown w rgSum (k + 2) l V io =
      prodDownI V.nodes (sumMpe (w l) (prodVal V) (mpeDown w rgSum (k + 1) (l + 1) (sumVal (w l) rgSum (prodVal V)) io)) := rfl

end Deeprob.Struct4
