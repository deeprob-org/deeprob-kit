import DeeprobModel.Generated.Formulas
import DeeprobModel.Model.Em
import DeeprobModel.Lemmas.ListSums
import Mathlib.Algebra.Order.Field.Basic
import Mathlib.Algebra.Order.BigOperators.Group.List
import Mathlib.Tactic.Ring
import Mathlib.Tactic.NormNum
set_option linter.unusedSimpArgs false
set_option linter.unusedVariables false
set_option linter.unusedSectionVars false
set_option linter.unnecessarySeqFocus false
/-
C14 — obligations about the generated per-entry EM updates (`Sum/Bernoulli/Categorical/Gaussian/BinaryCLT.em_step`),
over any linearly ordered field. Statistics are the batch sums the code takes (`np.sum(stats…)`); the only facts
used about them are the ones derived below from their definitions as weighted sums (weights ≥ 0, data in {0,1}
or in the category range).
-/
namespace Deeprob.Oblig.C14
open Deeprob
variable {F : Type} [Field F] [LinearOrder F] [IsStrictOrderedRing F]

/-- the batch-EM update rule: `(1 − η)·old + η·reestimate` -/
def emMix (eta old new : F) : F := (1 - eta) * old + eta * new

theorem sum_is_convex_update (eta w s Z : F) :
    Gen.sumEmNew eta w s Z = emMix eta w (Gen.sumEmUnnorm w s / Z) := rfl

theorem bernoulli_is_convex_update (eta p S1 T : F) :
    Gen.bernEmNew eta p S1 T = emMix eta p (Gen.bernEmReest S1 T) := rfl

theorem categorical_is_convex_update (eta p Sd T K : F) :
    Gen.catEmNew eta p Sd T K = emMix eta p (Gen.catEmReest Sd T K) := rfl

theorem gaussian_mean_is_convex_update (eta mu Sx T : F) :
    Gen.gaussEmMeanNew eta mu Sx T = emMix eta mu (Gen.gaussEmMeanReest Sx T) := rfl

theorem gaussian_std_is_convex_update (E : ExpLog F) (eta sigma V T : F) :
    Gen.gaussEmStdNew E eta sigma V T = emMix eta sigma (Gen.gaussEmClamp (E.sqrt (Gen.gaussEmStdArg V T))) := rfl

/-- the sqrt-free halves used by the driver compose to the coded formula -/
theorem gaussian_std_split (E : ExpLog F) (eta sigma V T : F) :
    Gen.gaussEmStdNew E eta sigma V T = Gen.gaussEmStdOf eta sigma (E.sqrt (Gen.gaussEmStdArg V T)) := rfl

/-- CLT: convex combination, then division by the row sum -/
theorem clt_is_convex_update (eta old q Z : F) : Gen.cltEmNew eta old q Z = emMix eta old q / Z := rfl

/-- the re-estimates are the smoothed expected-statistics ratios (smoothing constants: float16 eps = 2⁻¹⁰ for the
leaves, float32 eps = 2⁻²³ for sum weights and the Gaussian total) -/
theorem reestimates (w s S1 Sd T K Sx P C Pp : F) :
    Gen.sumEmUnnorm w s = w * s + 1 / 2 ^ 23 ∧
    Gen.bernEmReest S1 T = (S1 + 1 / 2 ^ 10) / (T + 2 * (1 / 2 ^ 10)) ∧
    Gen.catEmReest Sd T K = (Sd + 1 / 2 ^ 10) / (T + K * (1 / 2 ^ 10)) ∧
    Gen.gaussEmMeanReest Sx T = Sx / (T + 1 / 2 ^ 23) ∧
    Gen.cltEmPrior1 P T = (P + 2 * (1 / 2 ^ 10)) / (T + 4 * (1 / 2 ^ 10)) ∧
    Gen.cltEmPrior0 P T = 1 - Gen.cltEmPrior1 P T ∧
    Gen.cltEmCell1 C T Pp = (C + 1 / 2 ^ 10) / (T * Pp + 4 * (1 / 2 ^ 10)) ∧
    Gen.cltEmCell0 C T Pp = 1 - Gen.cltEmCell1 C T Pp := by
  have h23 : (2 : F) ^ 23 = 8388608 := by norm_num
  have h10 : (2 : F) ^ 10 = 1024 := by norm_num
  rw [h23, h10]
  exact ⟨rfl, rfl, rfl, rfl, rfl, rfl, rfl, rfl⟩

/-! ### convex combinations stay in range: `emMix η` is monotone in both arguments and fixes the diagonal -/

theorem emMix_self (eta a : F) : emMix eta a a = a := by unfold emMix; ring

theorem emMix_le_emMix {eta o o' n n' : F} (h0 : 0 ≤ eta) (h1 : eta ≤ 1) (ho : o ≤ o') (hn : n ≤ n') :
    emMix eta o n ≤ emMix eta o' n' :=
  add_le_add (mul_le_mul_of_nonneg_left ho (sub_nonneg.2 h1)) (mul_le_mul_of_nonneg_left hn h0)

theorem emMix_lt_emMix {eta o o' n n' : F} (h0 : 0 < eta) (h1 : eta ≤ 1) (ho : o ≤ o') (hn : n < n') :
    emMix eta o n < emMix eta o' n' :=
  add_lt_add_of_le_of_lt (mul_le_mul_of_nonneg_left ho (sub_nonneg.2 h1)) (mul_lt_mul_of_pos_left hn h0)

theorem emMix_ge {eta old new a : F} (h0 : 0 ≤ eta) (h1 : eta ≤ 1) (ho : a ≤ old) (hn : a ≤ new) :
    a ≤ emMix eta old new :=
  (emMix_self eta a).symm.trans_le (emMix_le_emMix h0 h1 ho hn)

theorem emMix_le {eta old new a : F} (h0 : 0 ≤ eta) (h1 : eta ≤ 1) (ho : old ≤ a) (hn : new ≤ a) :
    emMix eta old new ≤ a :=
  (emMix_le_emMix h0 h1 ho hn).trans_eq (emMix_self eta a)

theorem emMix_gt {eta old new a : F} (h0 : 0 < eta) (h1 : eta ≤ 1) (ho : a ≤ old) (hn : a < new) :
    a < emMix eta old new :=
  (emMix_self eta a).symm.trans_lt (emMix_lt_emMix h0 h1 ho hn)

theorem emMix_lt {eta old new a : F} (h0 : 0 < eta) (h1 : eta ≤ 1) (ho : old ≤ a) (hn : new < a) :
    emMix eta old new < a :=
  (emMix_lt_emMix h0 h1 ho hn).trans_eq (emMix_self eta a)

/-- strict version that does not need `η > 0`: both ends strictly inside -/
theorem emMix_gt' {eta old new a : F} (h0 : 0 ≤ eta) (h1 : eta ≤ 1) (ho : a < old) (hn : a < new) :
    a < emMix eta old new := by
  rcases h0.eq_or_lt with rfl | h
  · simpa [emMix] using ho
  · exact emMix_gt h h1 ho.le hn

theorem emMix_lt' (eta old new a : F) (h0 : 0 ≤ eta) (h1 : eta ≤ 1) (ho : old < a) (hn : new < a) :
    emMix eta old new < a := by
  rcases h0.eq_or_lt with rfl | h
  · simpa [emMix] using ho
  · exact emMix_lt h h1 ho.le hn

theorem eps16_pos : (0 : F) < 1 / 1024 := by norm_num

theorem eps32_pos : (0 : F) < 1 / 8388608 := by norm_num

theorem smoothed_ratio_in_unit {S T a b : F} (hS : 0 ≤ S) (hST : S ≤ T) (ha : 0 < a) (hab : a < b) :
    0 < (S + a) / (T + b) ∧ (S + a) / (T + b) < 1 :=
  have hd : 0 < T + b := add_pos_of_nonneg_of_pos (hS.trans hST) (ha.trans hab)
  ⟨div_pos (add_pos_of_nonneg_of_pos hS ha) hd, (div_lt_one hd).2 (add_lt_add_of_le_of_lt hST hab)⟩

theorem one_sub_in_unit {x : F} (h : 0 < x ∧ x < 1) : 0 < 1 - x ∧ 1 - x < 1 :=
  ⟨sub_pos.2 h.2, sub_lt_self 1 h.1⟩

theorem tsum_nonneg (xs : List F) (h : ∀ x ∈ xs, 0 ≤ x) : 0 ≤ tsum xs :=
  tsum_eq_sum xs ▸ List.sum_nonneg h

theorem tsum_zipWith_emMix {β : Type} (eta : F) (g : F → β → F) (ws : List F) (ss : List β)
    (hlen : ws.length = ss.length) :
    tsum (List.zipWith (fun w s => emMix eta w (g w s)) ws ss)
      = emMix eta (tsum ws) (tsum (List.zipWith g ws ss)) := by
  induction ws generalizing ss with
  | nil => simp [tsum, emMix]
  | cons w ws ih =>
    cases ss with
    | nil => simp at hlen
    | cons s ss =>
      simp only [List.zipWith_cons_cons, tsum]
      rw [ih ss (by simpa using hlen)]
      unfold emMix
      ring

theorem emMix_simplex {β : Type} (eta : F) (g : F → β → F) (ws : List F) (ss : List β)
    (hlen : ws.length = ss.length) (h0 : 0 ≤ eta) (h1 : eta ≤ 1) (hw : ∀ w ∈ ws, 0 ≤ w) (hsum : tsum ws = 1)
    (hg : ∀ w ∈ ws, ∀ s ∈ ss, 0 < g w s) (hgs : tsum (List.zipWith g ws ss) = 1) :
    (List.zipWith (fun w s => emMix eta w (g w s)) ws ss).length = ws.length ∧
    (∀ w ∈ List.zipWith (fun w s => emMix eta w (g w s)) ws ss, 0 ≤ w) ∧
    (0 < eta → ∀ w ∈ List.zipWith (fun w s => emMix eta w (g w s)) ws ss, 0 < w) ∧
    tsum (List.zipWith (fun w s => emMix eta w (g w s)) ws ss) = 1 :=
  ⟨by rw [List.length_zipWith, ← hlen, Nat.min_self],
    forall_zipWith fun w hw' s hs' => emMix_ge h0 h1 (hw w hw') (hg w hw' s hs').le,
    fun hpos => forall_zipWith fun w hw' s hs' => emMix_gt hpos h1 (hw w hw') (hg w hw' s hs'),
    by rw [tsum_zipWith_emMix eta g ws ss hlen, hsum, hgs, emMix_self]⟩

/-- `Sum.em_step`: old weights on the simplex, statistics ≥ 0, 0 ≤ η ≤ 1 ⇒ same number of weights, all
≥ 0 (> 0 as soon as η > 0), and they sum to one. -/
theorem sum_em_simplex (eta : F) (ws ss : List F) (hlen : ws.length = ss.length) (hne : ws ≠ [])
    (hw : ∀ w ∈ ws, 0 ≤ w) (hsum : tsum ws = 1) (hs : ∀ s ∈ ss, 0 ≤ s) (h0 : 0 ≤ eta) (h1 : eta ≤ 1) :
    (sumStepWith Gen.sumEmUnnorm Gen.sumEmNew eta ws ss).length = ws.length ∧
    (∀ w ∈ sumStepWith Gen.sumEmUnnorm Gen.sumEmNew eta ws ss, 0 ≤ w) ∧
    (0 < eta → ∀ w ∈ sumStepWith Gen.sumEmUnnorm Gen.sumEmNew eta ws ss, 0 < w) ∧
    tsum (sumStepWith Gen.sumEmUnnorm Gen.sumEmNew eta ws ss) = 1 := by
  have hus : ∀ w ∈ ws, ∀ s ∈ ss, 0 < Gen.sumEmUnnorm w s :=
    fun w hw' s hs' => add_pos_of_nonneg_of_pos (mul_nonneg (hw w hw') (hs s hs')) eps32_pos
  have hune : List.zipWith Gen.sumEmUnnorm ws ss ≠ [] :=
    List.ne_nil_of_length_pos (by
      rw [List.length_zipWith, ← hlen, Nat.min_self]; exact List.length_pos_iff.2 hne)
  have hZ : 0 < tsum (List.zipWith Gen.sumEmUnnorm ws ss) := by
    rw [tsum_eq_sum]
    exact List.sum_pos _ (forall_zipWith hus) hune
  -- the re-estimates `unnorm / Z` are positive and sum to `Z / Z`
  refine emMix_simplex eta (fun w s => Gen.sumEmUnnorm w s / tsum (List.zipWith Gen.sumEmUnnorm ws ss)) ws ss hlen
    h0 h1 hw hsum (fun w hw' s hs' => div_pos (hus w hw' s hs') hZ) ?_
  rw [← List.map_zipWith (f := fun u => u / tsum (List.zipWith Gen.sumEmUnnorm ws ss)), tsum_map_div_const, List.map_id',
    div_self hZ.ne']

/-! ### statistics as weighted sums of the batch: `Σ_r stats[r]·g(data[r])` for a function `g` of the row -/

theorem wsum_map_mono {β : Type} (stats : List F) (data : List β) (g h : β → F) (hs : ∀ s ∈ stats, 0 ≤ s)
    (hgh : ∀ r ∈ data, g r ≤ h r) : wsum stats (data.map g) ≤ wsum stats (data.map h) := by
  induction stats generalizing data with
  | nil => exact le_refl _
  | cons s stats ih =>
    cases data with
    | nil => exact le_refl _
    | cons r data =>
      exact add_le_add (mul_le_mul_of_nonneg_left (hgh r List.mem_cons_self) (hs s List.mem_cons_self))
        (ih data (fun t ht => hs t (List.mem_cons_of_mem _ ht)) (fun t ht => hgh t (List.mem_cons_of_mem _ ht)))

theorem wsum_map_one_le {β : Type} (stats : List F) (data : List β) (hs : ∀ s ∈ stats, 0 ≤ s) :
    wsum stats (data.map fun _ => (1 : F)) ≤ tsum stats := by
  induction stats generalizing data with
  | nil => exact le_refl _
  | cons s stats ih =>
    have hs' : ∀ t ∈ stats, 0 ≤ t := fun t ht => hs t (List.mem_cons_of_mem _ ht)
    cases data with
    | nil => exact tsum_nonneg _ hs
    | cons r data =>
      simp only [List.map_cons, wsum, tsum, mul_one]
      exact add_le_add (le_refl s) (ih data hs')

theorem wsum_map_nonneg {β : Type} (stats : List F) (data : List β) (g : β → F) (hs : ∀ s ∈ stats, 0 ≤ s)
    (hg : ∀ r ∈ data, 0 ≤ g r) : 0 ≤ wsum stats (data.map g) :=
  (wsum_map_zero stats data).symm.trans_le (wsum_map_mono stats data _ g hs hg)

theorem wsum_map_le_tsum {β : Type} (stats : List F) (data : List β) (g : β → F) (hs : ∀ s ∈ stats, 0 ≤ s)
    (hg : ∀ r ∈ data, g r ≤ 1) : wsum stats (data.map g) ≤ tsum stats :=
  (wsum_map_mono stats data g _ hs hg).trans (wsum_map_one_le stats data hs)

theorem zero_or_one_in_unit {x : F} (h : x = 0 ∨ x = 1) : 0 ≤ x ∧ x ≤ 1 := by
  rcases h with rfl | rfl
  · exact ⟨le_refl _, zero_le_one⟩
  · exact ⟨zero_le_one, le_refl _⟩

/-- statistics of two row functions `a`, `b` with values in `[0,1]`: with `A = Σ s·a`, `B = Σ s·b`, `C = Σ s·a·b`
and `T = Σ s`: `0 ≤ C ≤ B ≤ T` and `0 ≤ A − C ≤ T − B` -/
theorem unit_stats_bounds {β : Type} (stats : List F) (data : List β) (a b : β → F) (hs : ∀ s ∈ stats, 0 ≤ s)
    (ha : ∀ r ∈ data, 0 ≤ a r ∧ a r ≤ 1) (hb : ∀ r ∈ data, 0 ≤ b r ∧ b r ≤ 1) :
    0 ≤ wsum stats (data.map fun r => a r * b r) ∧
    wsum stats (data.map fun r => a r * b r) ≤ wsum stats (data.map b) ∧
    0 ≤ wsum stats (data.map b) ∧
    wsum stats (data.map b) ≤ tsum stats ∧
    0 ≤ wsum stats (data.map a) - wsum stats (data.map fun r => a r * b r) ∧
    wsum stats (data.map a) - wsum stats (data.map fun r => a r * b r) ≤ tsum stats - wsum stats (data.map b) := by
  refine ⟨wsum_map_nonneg _ _ _ hs fun r hr => mul_nonneg (ha r hr).1 (hb r hr).1,
    wsum_map_mono _ _ _ _ hs fun r hr => mul_le_of_le_one_left (hb r hr).1 (ha r hr).2,
    wsum_map_nonneg _ _ _ hs fun r hr => (hb r hr).1,
    wsum_map_le_tsum _ _ _ hs fun r hr => (hb r hr).2,
    sub_nonneg.2 (wsum_map_mono _ _ _ _ hs fun r hr => mul_le_of_le_one_right (ha r hr).1 (hb r hr).2), ?_⟩
  -- `A + B ≤ T + C`, summing `a + b ≤ 1 + a·b`, which is `0 ≤ (1 − a)·(1 − b)`
  have h : wsum stats (data.map fun r => a r + b r) ≤ wsum stats (data.map fun r => 1 + a r * b r) := by
    refine wsum_map_mono _ _ _ _ hs fun r hr => sub_nonneg.1 ?_
    rw [show 1 + a r * b r - (a r + b r) = (1 - a r) * (1 - b r) by ring]
    exact mul_nonneg (sub_nonneg.2 (ha r hr).2) (sub_nonneg.2 (hb r hr).2)
  rw [wsum_map_add, wsum_map_add] at h
  exact sub_le_sub_iff.2 (h.trans (add_le_add (wsum_map_one_le stats data hs) le_rfl))

/-- all entries of the data matrix that are read are 0 or 1 -/
def Binary (data : List (List F)) : Prop := ∀ row ∈ data, ∀ i, row.getD i 0 = 0 ∨ row.getD i 0 = 1

/-- it is enough that every entry of the matrix is 0 or 1 (an index past the end of a row reads the default `0`) -/
theorem Binary.of_mem {data : List (List F)} (h : ∀ row ∈ data, ∀ x ∈ row, x = 0 ∨ x = 1) : Binary data := by
  intro row hrow i
  rw [List.getD_eq_getElem?_getD]
  cases hi : row[i]? with
  | none => exact Or.inl rfl
  | some x => exact h row hrow x (List.mem_of_getElem? hi)

theorem cltC1_eq (pred : List Int) (stats : List F) (data : List (List F)) (i : Nat) :
    cltC1 pred stats data i = wsum stats (data.map fun row => row.getD i 0 * row.getD (cltPaIdx pred i) 0) := by
  unfold cltC1 dataCol
  rw [List.zipWith_map, List.zipWith_self]

/-- the inequalities between the CLT statistics, from their definitions as weighted sums of 0/1 data:
`0 ≤ C11 ≤ P_pa ≤ T` and `0 ≤ P_i − C11 ≤ T − P_pa`. -/
theorem clt_stats_bounds (pred : List Int) (stats : List F) (data : List (List F)) (i : Nat)
    (hs : ∀ s ∈ stats, 0 ≤ s) (hb : Binary data) :
    0 ≤ cltC1 pred stats data i ∧
    cltC1 pred stats data i ≤ cltP stats data (cltPaIdx pred i) ∧
    0 ≤ cltP stats data (cltPaIdx pred i) ∧
    cltP stats data (cltPaIdx pred i) ≤ tsum stats ∧
    0 ≤ cltP stats data i - cltC1 pred stats data i ∧
    cltP stats data i - cltC1 pred stats data i ≤ tsum stats - cltP stats data (cltPaIdx pred i) := by
  rw [cltC1_eq]
  exact unit_stats_bounds stats data _ _ hs (fun row hrow => zero_or_one_in_unit (hb row hrow i))
    (fun row hrow => zero_or_one_in_unit (hb row hrow _))

theorem bernEmReest_in_unit (S1 T : F) (h0 : 0 ≤ S1) (h1 : S1 ≤ T) :
    0 < Gen.bernEmReest S1 T ∧ Gen.bernEmReest S1 T < 1 :=
  smoothed_ratio_in_unit h0 h1 eps16_pos (lt_two_mul_self eps16_pos)

/-- `Bernoulli.em_step`: `p ∈ [0,1]`, responsibilities ≥ 0, data in {0,1}, `0 ≤ η ≤ 1` ⇒ `p' ∈ [0,1]`,
and `p' ∈ (0,1)` as soon as `η > 0`. -/
theorem bernoulli_em_range (eta p : F) (stats data : List F) (hs : ∀ s ∈ stats, 0 ≤ s)
    (hd : ∀ x ∈ data, x = 0 ∨ x = 1) (hp0 : 0 ≤ p) (hp1 : p ≤ 1) (h0 : 0 ≤ eta) (h1 : eta ≤ 1) :
    0 ≤ bernStepWith Gen.bernEmNew eta p stats data ∧ bernStepWith Gen.bernEmNew eta p stats data ≤ 1 ∧
    (0 < eta → 0 < bernStepWith Gen.bernEmNew eta p stats data ∧ bernStepWith Gen.bernEmNew eta p stats data < 1) := by
  have hS0 : 0 ≤ wsum stats (data.map id) := wsum_map_nonneg _ _ _ hs fun x hx => (zero_or_one_in_unit (hd x hx)).1
  have hS1 : wsum stats (data.map id) ≤ tsum stats :=
    wsum_map_le_tsum _ _ _ hs fun x hx => (zero_or_one_in_unit (hd x hx)).2
  rw [List.map_id] at hS0 hS1
  obtain ⟨r0, r1⟩ := bernEmReest_in_unit _ _ hS0 hS1
  exact ⟨emMix_ge h0 h1 hp0 r0.le, emMix_le h0 h1 hp1 r1.le,
    fun hpos => ⟨emMix_gt hpos h1 hp0 r0, emMix_lt hpos h1 hp1 r1⟩⟩

theorem zipWith_right_only {β : Type} (g : F → β) (ps Sds : List F) (hlen : Sds.length = ps.length) :
    List.zipWith (fun _ Sd => g Sd) ps Sds = Sds.map g := by
  induction ps generalizing Sds with
  | nil => cases Sds with
    | nil => rfl
    | cons _ _ => simp at hlen
  | cons p ps ih => cases Sds with
    | nil => simp at hlen
    | cons S Sds => simp only [List.zipWith_cons_cons, List.map_cons]; rw [ih Sds (by simpa using hlen)]

/-- `Categorical.em_step` on the statistics: probabilities on the simplex, one statistic `S_d ≥ 0` per
category with `Σ_d S_d = T`, `0 ≤ η ≤ 1` ⇒ same number of probabilities, all ≥ 0 (> 0 if η > 0), summing to one. -/
theorem categorical_em_simplex_stats (eta T : F) (ps Sds : List F) (hlen : Sds.length = ps.length) (hne : ps ≠ [])
    (hp : ∀ p ∈ ps, 0 ≤ p) (hsum : tsum ps = 1) (hS : ∀ s ∈ Sds, 0 ≤ s) (hT : tsum Sds = T)
    (h0 : 0 ≤ eta) (h1 : eta ≤ 1) :
    let ps' := List.zipWith (fun p Sd => Gen.catEmNew eta p Sd T (ps.length : F)) ps Sds
    ps'.length = ps.length ∧ (∀ p ∈ ps', 0 ≤ p) ∧ (0 < eta → ∀ p ∈ ps', 0 < p) ∧ tsum ps' = 1 := by
  have hD : 0 < T + (ps.length : F) * (1 / 1024) :=
    add_pos_of_nonneg_of_pos (hT ▸ tsum_nonneg Sds hS)
      (mul_pos (Nat.cast_pos.2 (List.length_pos_iff.2 hne)) eps16_pos)
  refine emMix_simplex eta (fun _ Sd => Gen.catEmReest Sd T (ps.length : F)) ps Sds hlen.symm h0 h1 hp hsum
    (fun _ _ s hs => div_pos (add_pos_of_nonneg_of_pos (hS s hs) eps16_pos) hD) ?_
  -- `Σ_d (S_d + ε)/(T + K·ε) = (T + K·ε)/(T + K·ε)`
  rw [zipWith_right_only _ ps Sds hlen]
  unfold Gen.catEmReest
  rw [tsum_map_div_const, div_eq_one_iff_eq hD.ne', tsum_eq_sum, List.sum_map_add, List.map_id', List.map_const',
    List.sum_replicate, nsmul_eq_mul, ← tsum_eq_sum, hT, hlen]

theorem tsum_indicator (K x : Nat) (s : F) (hx : x < K) :
    tsum ((List.range K).map (fun d => if x = d then s else 0)) = s := by
  rw [tsum_eq_sum, List.sum_map_eq_nsmul_single x (fun d => if x = d then s else 0)
    (fun d hd _ => if_neg (Ne.symm hd)), List.count_range, if_pos hx, one_nsmul, if_pos rfl]

theorem catStats_facts (K : Nat) (stats : List F) (data : List Nat) (hlen : stats.length = data.length)
    (hs : ∀ s ∈ stats, 0 ≤ s) (hd : ∀ x ∈ data, x < K) :
    (catStats K stats data).length = K ∧ (∀ S ∈ catStats K stats data, 0 ≤ S) ∧ tsum (catStats K stats data) = tsum stats := by
  refine ⟨by simp [catStats], ?_, ?_⟩
  · intro S hS
    simp only [catStats, List.mem_map] at hS
    obtain ⟨d, _, rfl⟩ := hS
    refine tsum_nonneg _ (forall_zipWith fun s hs' x _ => ?_)
    split
    · exact hs s hs'
    · exact le_refl _
  · unfold catStats
    induction stats generalizing data with
    | nil =>
      have hcz : ∀ d ∈ List.range K, catStat ([] : List F) data d = 0 := by intro d _; simp [catStat, tsum]
      rw [List.map_congr_left hcz, tsum_eq_sum, List.sum_map_zero]; rfl
    | cons s stats ih =>
      cases data with
      | nil => simp at hlen
      | cons x data =>
        have : (List.range K).map (catStat (s :: stats) (x :: data))
            = (List.range K).map (fun d => (if x = d then s else 0) + catStat stats data d) := by
          apply List.map_congr_left; intro d _; simp [catStat, tsum]
        rw [this, tsum_eq_sum, List.sum_map_add, ← tsum_eq_sum, ← tsum_eq_sum,
          tsum_indicator K x s (hd x List.mem_cons_self),
          ih data (by simpa using hlen) (fun t ht => hs t (List.mem_cons_of_mem _ ht))
            (fun t ht => hd t (List.mem_cons_of_mem _ ht))]
        rfl

/-- `Categorical.em_step` on a batch whose values lie in the categories -/
theorem categorical_em_simplex (eta : F) (ps stats : List F) (data : List Nat) (hne : ps ≠ [])
    (hlen : stats.length = data.length) (hs : ∀ s ∈ stats, 0 ≤ s) (hd : ∀ x ∈ data, x < ps.length)
    (hp : ∀ p ∈ ps, 0 ≤ p) (hsum : tsum ps = 1) (h0 : 0 ≤ eta) (h1 : eta ≤ 1) :
    (catStepWith Gen.catEmNew eta ps stats data).length = ps.length ∧
    (∀ p ∈ catStepWith Gen.catEmNew eta ps stats data, 0 ≤ p) ∧
    (0 < eta → ∀ p ∈ catStepWith Gen.catEmNew eta ps stats data, 0 < p) ∧
    tsum (catStepWith Gen.catEmNew eta ps stats data) = 1 := by
  obtain ⟨c1, c2, c3⟩ := catStats_facts ps.length stats data hlen hs hd
  have := categorical_em_simplex_stats eta (tsum stats) ps (catStats ps.length stats data) c1 hne hp hsum c2 c3 h0 h1
  unfold catStepWith
  rw [natC_eq_cast]
  exact this

/-- `Gaussian.em_step`: `σ ≥ 10⁻⁵` stays `≥ 10⁻⁵` (a convex combination of two values ≥ 10⁻⁵), whatever
the statistics and whatever `sqrt` returns. -/
theorem gaussian_em_sigma_pos (E : ExpLog F) (eta sigma V T : F) (hσ : 1 / 100000 ≤ sigma) (h0 : 0 ≤ eta) (h1 : eta ≤ 1) :
    1 / 100000 ≤ Gen.gaussEmStdNew E eta sigma V T :=
  emMix_ge h0 h1 hσ (le_max_right _ _)

/-- the Gaussian total is positive, so the mean re-estimate is a genuine quotient -/
theorem gaussEmTotal_pos (T : F) (h : 0 ≤ T) : 0 < Gen.gaussEmTotal T :=
  add_pos_of_nonneg_of_pos h eps32_pos

theorem clt_prior_in_unit (P T : F) (h0 : 0 ≤ P) (h1 : P ≤ T) :
    0 < Gen.cltEmPrior1 P T ∧ Gen.cltEmPrior1 P T < 1 ∧ 0 < Gen.cltEmPrior0 P T ∧ Gen.cltEmPrior0 P T < 1 :=
  have p : 0 < Gen.cltEmPrior1 P T ∧ Gen.cltEmPrior1 P T < 1 :=
    smoothed_ratio_in_unit h0 h1 (mul_pos two_pos eps16_pos) (mul_lt_mul_of_pos_right (by norm_num) eps16_pos)
  ⟨p.1, p.2, one_sub_in_unit p⟩

/-- the prior of parent value 0 is the smoothed ratio of the complementary statistic -/
theorem cltEmPrior0_eq (Q T : F) (hT : 0 ≤ T) : Gen.cltEmPrior0 Q T = Gen.cltEmPrior1 (T - Q) T := by
  have hD : T + 4 * (1 / 1024 : F) ≠ 0 := (add_pos_of_nonneg_of_pos hT (mul_pos four_pos eps16_pos)).ne'
  unfold Gen.cltEmPrior0 Gen.cltEmPrior1
  rw [eq_div_iff hD, sub_mul, one_mul, div_mul_cancel₀ _ hD]
  ring

/-- the cell `(C + a)/(T·p + 4a)` for the smoothed prior `p = (Q + 2a)/(T + 4a)` and `0 ≤ C ≤ Q ≤ T`: since
`T·p + 4a = (Q + 2a) + 4a·(1 − p)`, it is again a smoothed ratio, of `C ≤ Q` -/
theorem smoothed_cell_in_unit {a C Q T : F} (ha : 0 < a) (hC : 0 ≤ C) (hCQ : C ≤ Q) (hQT : Q ≤ T) :
    0 < (C + a) / (T * ((Q + 2 * a) / (T + 4 * a)) + 4 * a) ∧
    (C + a) / (T * ((Q + 2 * a) / (T + 4 * a)) + 4 * a) < 1 := by
  obtain ⟨_, p1⟩ := smoothed_ratio_in_unit (hC.trans hCQ) hQT (mul_pos two_pos ha)
    (mul_lt_mul_of_pos_right (by norm_num : (2 : F) < 4) ha)
  have hD : T + 4 * a ≠ 0 := (add_pos_of_nonneg_of_pos ((hC.trans hCQ).trans hQT) (mul_pos four_pos ha)).ne'
  have h : (T + 4 * a) * ((Q + 2 * a) / (T + 4 * a)) = Q + 2 * a := mul_div_cancel₀ _ hD
  generalize (Q + 2 * a) / (T + 4 * a) = p at p1 h ⊢
  have hrel : T * p + 4 * a = Q + (2 * a + 4 * a * (1 - p)) := by
    rw [← add_assoc, ← h]
    ring
  rw [hrel]
  exact smoothed_ratio_in_unit hC hCQ ha
    (lt_add_of_lt_of_pos (lt_two_mul_self ha) (mul_pos (mul_pos four_pos ha) (sub_pos.2 p1)))

/-- `BinaryCLT.em_step`, parent value 1: with `0 ≤ C ≤ Q ≤ T` (`C` = statistic of `x_i = 1 ∧ x_pa = 1`,
`Q` = statistic of `x_pa = 1`, `T` = total) the re-estimated cell `(C+α)/(T·prior₁(Q)+4α)` lies in (0,1) —
this is the inequality `C + α < T·prior + 4α`. -/
theorem clt_em_cell_in_unit_pa1 (C Q T : F) (hC : 0 ≤ C) (hCQ : C ≤ Q) (hQT : Q ≤ T) :
    0 < Gen.cltEmCell1 C T (Gen.cltEmPrior1 Q T) ∧ Gen.cltEmCell1 C T (Gen.cltEmPrior1 Q T) < 1 ∧
    0 < Gen.cltEmCell0 C T (Gen.cltEmPrior1 Q T) ∧ Gen.cltEmCell0 C T (Gen.cltEmPrior1 Q T) < 1 :=
  have c : 0 < Gen.cltEmCell1 C T (Gen.cltEmPrior1 Q T) ∧ Gen.cltEmCell1 C T (Gen.cltEmPrior1 Q T) < 1 :=
    smoothed_cell_in_unit eps16_pos hC hCQ hQT
  ⟨c.1, c.2, one_sub_in_unit c⟩

/-- `BinaryCLT.em_step`, parent value 0: with `0 ≤ C ≤ T − Q`, `0 ≤ Q ≤ T` (`C` = statistic of
`x_i = 1 ∧ x_pa = 0`) the cell `(C+α)/(T·prior₀(Q)+4α)` lies in (0,1). -/
theorem clt_em_cell_in_unit_pa0 (C Q T : F) (hC : 0 ≤ C) (hCQ : C ≤ T - Q) (hQ : 0 ≤ Q) (hQT : Q ≤ T) :
    0 < Gen.cltEmCell1 C T (Gen.cltEmPrior0 Q T) ∧ Gen.cltEmCell1 C T (Gen.cltEmPrior0 Q T) < 1 ∧
    0 < Gen.cltEmCell0 C T (Gen.cltEmPrior0 Q T) ∧ Gen.cltEmCell0 C T (Gen.cltEmPrior0 Q T) < 1 := by
  rw [cltEmPrior0_eq Q T (hQ.trans hQT)]
  exact clt_em_cell_in_unit_pa1 C (T - Q) T hC hCQ (sub_le_self T hQ)

/-- the generated CLT formulas, bundled for the assembler `cltStepWith` -/
def genCltFns : CltEmFns F where
  prior1 := Gen.cltEmPrior1
  prior0 := Gen.cltEmPrior0
  cond1 := Gen.cltEmCond1
  cond0 := Gen.cltEmCond0
  cell1 := Gen.cltEmCell1
  cell0 := Gen.cltEmCell0
  new := Gen.cltEmNew

/-- a CPT row: two entries in (0,1) that sum to one -/
def RowOK (row : List F) : Prop := ∃ x0 x1, row = [x0, x1] ∧ 0 < x0 ∧ 0 < x1 ∧ x0 + x1 = 1

theorem rowOK_iff (row : List F) :
    RowOK row ↔ row.length = 2 ∧ 0 < row.getD 0 0 ∧ 0 < row.getD 1 0 ∧ row.getD 0 0 + row.getD 1 0 = 1 := by
  constructor
  · rintro ⟨x0, x1, rfl, h⟩
    exact ⟨rfl, h⟩
  · rintro ⟨hl, h⟩
    match row, hl with
    | [x0, x1], _ => exact ⟨x0, x1, rfl, h⟩

/-- after mixing old and re-estimated entries in (0,1) and the explicit division by
the row sum, the row sums to one with both entries in (0,1). (The re-estimated pair need not itself be passed
as summing to one: the division repairs it — that is why the code re-normalises.) -/
theorem clt_em_rows_normalised (eta o0 o1 q0 q1 : F) (h0 : 0 ≤ eta) (h1 : eta ≤ 1)
    (ho0 : 0 < o0) (ho1 : 0 < o1) (hq0 : 0 < q0) (hq1 : 0 < q1) :
    RowOK (cltNewRow genCltFns eta o0 o1 q0 q1) := by
  unfold cltNewRow genCltFns
  simp only [clt_is_convex_update, div_one]
  have m0 : 0 < emMix eta o0 q0 := emMix_gt' h0 h1 ho0 hq0
  have m1 : 0 < emMix eta o1 q1 := emMix_gt' h0 h1 ho1 hq1
  have hZ : 0 < emMix eta o0 q0 + emMix eta o1 q1 := add_pos m0 m1
  exact ⟨_, _, rfl, div_pos m0 hZ, div_pos m1 hZ, by rw [← add_div, div_self hZ.ne']⟩

theorem cltQ_in_unit (pred : List Int) (stats : List F) (data : List (List F)) (i b j : Nat)
    (hs : ∀ s ∈ stats, 0 ≤ s) (hb : Binary data) :
    0 < cltQ genCltFns pred stats data i b j ∧ cltQ genCltFns pred stats data i b j < 1 := by
  have pri : ∀ i' b', 0 < cltPrior genCltFns stats data i' b' ∧ cltPrior genCltFns stats data i' b' < 1 := by
    intro i' b'
    obtain ⟨a1, a2, a3, a4⟩ := clt_prior_in_unit (cltP stats data i') (tsum stats)
      (wsum_map_nonneg _ _ _ hs fun row hrow => (zero_or_one_in_unit (hb row hrow i')).1)
      (wsum_map_le_tsum _ _ _ hs fun row hrow => (zero_or_one_in_unit (hb row hrow i')).2)
    unfold cltPrior genCltFns; split
    · exact ⟨a3, a4⟩
    · exact ⟨a1, a2⟩
  obtain ⟨s1, s2, s3, s4, s5, s6⟩ := clt_stats_bounds pred stats data i hs hb
  unfold cltQ
  split
  · exact pri i j
  · -- the two cells of row `b`, built from the statistics conditioned on the parent's value `b`
    unfold cltCond cltPrior genCltFns
    by_cases hb0 : b = 0
    · simp only [hb0, if_true]
      obtain ⟨c1, c2, c3, c4⟩ := clt_em_cell_in_unit_pa0 _ _ _ s5 s6 s3 s4
      split
      · exact ⟨c3, c4⟩
      · exact ⟨c1, c2⟩
    · simp only [hb0, if_false]
      obtain ⟨c1, c2, c3, c4⟩ := clt_em_cell_in_unit_pa1 _ _ _ s1 s2 s4
      split
      · exact ⟨c3, c4⟩
      · exact ⟨c1, c2⟩

/-- `BinaryCLT.em_step` keeps the table a table: old entries positive, responsibilities ≥ 0, 0/1 data,
`0 ≤ η ≤ 1` ⇒ same shape (one 2×2 block per variable) and every row of the new table has two entries in (0,1)
summing to one. -/
theorem clt_em_table_ok (eta : F) (pred : List Int) (old : List (List (List F))) (stats : List F)
    (data : List (List F)) (h0 : 0 ≤ eta) (h1 : eta ≤ 1) (hs : ∀ s ∈ stats, 0 ≤ s) (hb : Binary data)
    (hold : ∀ i < pred.length, ∀ b < 2, ∀ j < 2, 0 < ((old.getD i []).getD b []).getD j 0) :
    (cltStepWith genCltFns eta pred old stats data).length = pred.length ∧
    ∀ blk ∈ cltStepWith genCltFns eta pred old stats data, blk.length = 2 ∧ ∀ row ∈ blk, RowOK row := by
  unfold cltStepWith
  refine ⟨by simp, ?_⟩
  intro blk hblk
  simp only [List.mem_map, List.mem_range] at hblk
  obtain ⟨i, hi, rfl⟩ := hblk
  refine ⟨by simp, ?_⟩
  intro row hrow
  simp only [List.mem_map, List.mem_range] at hrow
  obtain ⟨b, hb2, rfl⟩ := hrow
  exact clt_em_rows_normalised eta _ _ _ _ h0 h1 (hold i hi b hb2 0 (by omega)) (hold i hi b hb2 1 (by omega))
    (cltQ_in_unit pred stats data i b 0 hs hb).1 (cltQ_in_unit pred stats data i b 1 hs hb).1

/-- `expectation_maximization` accepts exactly `num_iter > 0`, `batch_perc ∈ (0,1)`, `step_size ∈ (0,1)` -/
theorem em_guard (numIter batchPerc eta : F) :
    ¬ Gen.emRejects numIter batchPerc eta ↔ (0 < numIter ∧ 0 < batchPerc ∧ batchPerc < 1 ∧ 0 < eta ∧ eta < 1) := by
  unfold Gen.emRejects
  simp only [not_or, not_le, ge_iff_le]
  tauto

end Deeprob.Oblig.C14
