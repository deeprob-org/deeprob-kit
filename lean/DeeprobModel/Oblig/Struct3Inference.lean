import DeeprobModel.Generated.Consts
import DeeprobModel.Generated.Formulas
import DeeprobModel.Model.Net
import DeeprobModel.Lemmas.SumLemmas
import DeeprobModel.Lemmas.ExpLogLemmas
import Mathlib.Algebra.Order.Field.Rat
import Mathlib.Tactic.Ring
import Mathlib.Tactic.Linarith
import Mathlib.Tactic.NormNum
/-
Static tie of `Model/Circ.lean` (`Circ.eval`, `catLeafFn`) and `Model/Net.lean` (`evalNode`) to
/repo/deeprob/spn/structure/node.py (`Sum.likelihood`, `Sum.log_likelihood`, `Product.likelihood`,
`Product.log_likelihood`), /repo/deeprob/spn/algorithms/inference.py (`node_likelihood`, `node_log_likelihood`),
/repo/deeprob/spn/algorithms/evaluation.py (`eval_forward`) and /repo/deeprob/spn/structure/leaf.py (`Bernoulli` /
`Categorical` `likelihood` / `log_likelihood` with the NaN mask) — C01, C02.

The `Gen.S3…` definitions are translated from the current AST on every run (row-wise reading of the array code, see
`tools/py2lean.py` class `TrA`); the theorems say that the hand-written semantics is what that code computes.
Trusted: the NumPy / SciPy primitives as stated in the prelude `Gen.Py3` (`np.dot`, `np.prod`, `np.sum`, `logsumexp` =
`log Σ b·exp`, `bernoulli.pmf`, `rv_discrete.pmf`, `logpmf = log ∘ pmf`).
-/
set_option linter.unusedSectionVars false
namespace Deeprob.Struct3
open Deeprob

variable {F : Type} [Field F] [LinearOrder F] [IsStrictOrderedRing F]

/-- `np.dot(x, self.weights)` on one row is the model's `wsum ws xs` (Σ wᵢ·xᵢ) -/
theorem dot_eq_wsum (ws xs : List F) : Gen.Py3.dot xs ws = wsum ws xs := by
  induction ws generalizing xs with
  | nil => cases xs <;> rfl
  | cons w ws ih =>
    cases xs with
    | nil => rfl
    | cons x xs => simp only [Gen.Py3.dot, wsum, ih, mul_comm]

theorem prod_eq_lprod (xs : List F) : Gen.Py3.prod xs = lprod xs := by
  induction xs with
  | nil => rfl
  | cons x xs ih => simp only [Gen.Py3.prod, lprod, ih]

theorem sum_eq_tsum (xs : List F) : Gen.Py3.sum xs = tsum xs := by
  induction xs with
  | nil => rfl
  | cons x xs ih => simp only [Gen.Py3.sum, tsum, ih]

/-- **`Sum.likelihood`** (`np.expand_dims(np.dot(x, self.weights), axis=1)`) is `wsum` -/
theorem sum_likelihood_as_coded (ws xs : List F) : Gen.S3sumLikelihood ws xs = wsum ws xs := by
  unfold Gen.S3sumLikelihood; exact dot_eq_wsum ws xs

example : Gen.S3sumLikelihood [(1:ℚ)/4, 3/4] [1/2, 1/3] = wsum [(1:ℚ)/4, 3/4] [1/2, 1/3] ∧
    Gen.S3sumLikelihood [(1:ℚ)/4, 3/4] [1/2, 1/3] = 3/8 := by
  decide +kernel

/-- **`Product.likelihood`** (`np.prod(x, axis=1, keepdims=True)`) is `lprod` -/
theorem product_likelihood_as_coded (xs : List F) : Gen.S3productLikelihood xs = lprod xs := by
  unfold Gen.S3productLikelihood; exact prod_eq_lprod xs

example : Gen.S3productLikelihood [(1:ℚ)/2, 1/3, 3] = lprod [(1:ℚ)/2, 1/3, 3] ∧ Gen.S3productLikelihood [(1:ℚ)/2, 1/3, 3] = 1/2 := by
  decide +kernel

/-- **`node_likelihood`** returns the node's own `likelihood` of the children values, squeezed — nothing else -/
theorem node_likelihood_as_coded (f : List F → F) (xs : List F) : Gen.S3nodeLikelihood f xs = f xs := rfl

example : Gen.S3nodeLikelihood (Gen.S3sumLikelihood [(1:ℚ)/4, 3/4]) [1/2, 1/3] = 3/8 := by
  decide +kernel

/-- **the tree semantics is the coded recursion**: at a sum / product the model's `Circ.eval` is `node_likelihood` with
the node's `likelihood`, applied to the values of the children in child order -/
theorem eval_sum_as_coded (e : Ev) (s : List Nat) (ws : List F) (cs : List (Circ F)) :
    Circ.eval e (.sum s ws cs) = Gen.S3nodeLikelihood (Gen.S3sumLikelihood ws) (cs.map (Circ.eval e)) := by
  rw [node_likelihood_as_coded, sum_likelihood_as_coded]; simp only [Circ.eval]

theorem eval_prod_as_coded (e : Ev) (s : List Nat) (cs : List (Circ F)) :
    Circ.eval e (.prod s cs) = Gen.S3nodeLikelihood Gen.S3productLikelihood (cs.map (Circ.eval e)) := by
  rw [node_likelihood_as_coded, product_likelihood_as_coded]; simp only [Circ.eval]

example : Circ.eval (Ev.ofList [some 1, none]) (.sum [0, 1] [(1:ℚ)/4, 3/4]
      [.prod [0, 1] [Circ.catLeaf 0 [1/2, 1/2], Circ.catLeaf 1 [1/3, 2/3]], .prod [0, 1] [Circ.catLeaf 0 [1/5, 4/5], Circ.catLeaf 1 [1, 0]]])
    = Gen.S3nodeLikelihood (Gen.S3sumLikelihood [(1:ℚ)/4, 3/4]) [1/2, 4/5] := by
  rw [eval_sum_as_coded]
  simp [Circ.eval, Circ.catLeaf, Circ.catLeafFn, Ev.ofList, lprod]

/-- the node-table evaluation (`eval_bottom_up` with `node_func = node_likelihood`): the value stored for an inner node is
`eval_forward`'s `node_func(n, np.stack([ls[c.id] for c in n.children], axis=1))` — nodes are their table indices
(`nid = id`), `ls` = the values stored so far -/
theorem evalNode_inner_as_coded (e : Ev) (dens vals : List F) (x : NNode F) :
    evalNode e dens vals x = match x.kind with
      | .leaf => x.leaf.fn x.scope (dens.getD vals.length 0) e
      | .sum => Gen.S3evalForwardInner (N := Nat) id (fun _ => x.ch)
          (fun _ => Gen.S3nodeLikelihood (Gen.S3sumLikelihood x.ws)) (fun c => vals.getD c 0) 0
      | .prod => Gen.S3evalForwardInner (N := Nat) id (fun _ => x.ch)
          (fun _ => Gen.S3nodeLikelihood Gen.S3productLikelihood) (fun c => vals.getD c 0) 0 := by
  unfold Gen.S3evalForwardInner evalNode
  cases hx : x.kind <;> simp only [node_likelihood_as_coded, sum_likelihood_as_coded, product_likelihood_as_coded, id]

example : evalNode (Ev.ofList []) [] [(1:ℚ)/2, 1/3] { id := 2, kind := .sum, scope := [0], ch := [0, 1], ws := [1/4, 3/4], leaf := .absent }
    = 3/8 := by
  decide +kernel

/-- the children values handed to the node function are read from `ls` by child id, in child order (`axis=1` of the
stack = position of the child) — the model's `x.ch.map (fun c => vals.getD c 0)` -/
theorem evalForward_children_as_coded {N : Type} (nid : N → Nat) (children : N → List N) (g : N → List F → F)
    (ls : Nat → F) (n : N) :
    Gen.S3evalForwardInner nid children g ls n = g n (((children n).map nid).map ls) := by
  unfold Gen.S3evalForwardInner; simp only [List.map_map, Function.comp_def]

example : Gen.S3evalForwardInner (N := Nat) id (fun n => if n = 2 then [0, 1] else [])
    (fun _ xs => Gen.S3nodeLikelihood (Gen.S3sumLikelihood [(1:ℚ)/4, 3/4]) xs) (fun i => [(1:ℚ)/2, 1/3].getD i 0) 2 = 3/8 := by
  decide +kernel

/-- **`Sum.log_likelihood`** (`logsumexp(x, b=self.weights, axis=1, keepdims=True)`) on the logarithms of positive
children values is the logarithm of the model's mixture value -/
theorem sum_log_likelihood_as_coded (E : ExpLog F) (ws vs : List F) (h : ∀ v ∈ vs, 0 < v) :
    Gen.S3sumLogLikelihood E ws (vs.map E.log) = E.log (wsum ws vs) := by
  unfold Gen.S3sumLogLikelihood
  rw [E.map_exp_log vs h, dot_eq_wsum]

/-- **`Product.log_likelihood`** (`np.sum(x, axis=1, keepdims=True)`) on the logarithms of positive children values is the
logarithm of the model's product value -/
theorem product_log_likelihood_as_coded (E : ExpLog F) (vs : List F) (h : ∀ v ∈ vs, 0 < v) :
    Gen.S3productLogLikelihood (vs.map E.log) = E.log (lprod vs) := by
  unfold Gen.S3productLogLikelihood
  induction vs with
  | nil => exact E.log_one.symm
  | cons v vs ih =>
    have hv := h v List.mem_cons_self
    have hr : ∀ w ∈ vs, 0 < w := fun w hw => h w (List.mem_cons_of_mem _ hw)
    simp only [List.map_cons, Gen.Py3.sum, lprod]
    rw [ih hr, E.log_mul hv (TD.lprod_pos vs hr)]

/-- **`node_log_likelihood`** is the node's own `log_likelihood`, floored at the constant of the source (`-1e31`), squeezed -/
theorem node_log_likelihood_as_coded (f : List F → F) (xs : List F) :
    Gen.S3nodeLogLikelihood f xs = max (f xs) (-10000000000000000000000000000000) := rfl

/-- log-domain recursion = logarithm of the linear one whenever the floor is inactive (the value's logarithm is above
`-1e31`; `Oblig.floor_inactive`) -/
theorem node_log_likelihood_sum (E : ExpLog F) (ws vs : List F) (h : ∀ v ∈ vs, 0 < v)
    (hfl : (-10000000000000000000000000000000 : F) ≤ E.log (wsum ws vs)) :
    Gen.S3nodeLogLikelihood (Gen.S3sumLogLikelihood E ws) (vs.map E.log)
      = E.log (Gen.S3nodeLikelihood (Gen.S3sumLikelihood ws) vs) := by
  rw [node_log_likelihood_as_coded, node_likelihood_as_coded, sum_log_likelihood_as_coded E ws vs h, sum_likelihood_as_coded]
  exact max_eq_left hfl

theorem node_log_likelihood_prod (E : ExpLog F) (vs : List F) (h : ∀ v ∈ vs, 0 < v)
    (hfl : (-10000000000000000000000000000000 : F) ≤ E.log (lprod vs)) :
    Gen.S3nodeLogLikelihood Gen.S3productLogLikelihood (vs.map E.log)
      = E.log (Gen.S3nodeLikelihood Gen.S3productLikelihood vs) := by
  rw [node_log_likelihood_as_coded, node_likelihood_as_coded, product_log_likelihood_as_coded E vs h, product_likelihood_as_coded]
  exact max_eq_left hfl

theorem bernoulliPmf_eq_getD (k : Nat) (p : F) : Gen.Py3.bernoulliPmf k p = [1 - p, p].getD k 0 := by
  match k with
  | 0 => rfl
  | 1 => rfl
  | k + 2 => rfl

/-- **`Bernoulli.likelihood`**: `ls = ones; ls[~isnan(x)] = bernoulli.pmf(x[~isnan(x)], p)` is the model's table leaf
`[1 - p, p]` (missing ⇒ 1, observed `k` ⇒ entry `k`, 0 outside `{0, 1}`) -/
theorem bernoulli_likelihood_as_coded (p : F) (v : Nat) (e : Ev) :
    Gen.S3bernoulliLikelihood p (e v) = Circ.catLeafFn v [1 - p, p] e := by
  unfold Gen.S3bernoulliLikelihood Circ.catLeafFn
  cases e v with
  | none => rfl
  | some k => exact bernoulliPmf_eq_getD k p

example : Gen.S3bernoulliLikelihood ((1:ℚ)/3) ((Ev.ofList [some 1, none]) 0) = 1/3 ∧
    Gen.S3bernoulliLikelihood ((1:ℚ)/3) ((Ev.ofList [some 1, none]) 1) = 1 := by
  decide +kernel

/-- the masses listed under the keys `s, s+1, …`: the one at position `k - s`, nothing below `s` -/
theorem rvDiscretePmf_range_aux (tbl : List F) (s k : Nat) :
    Gen.Py3.sum ((((List.range' s tbl.length).zip tbl).filter (fun c => c.1 == k)).map (fun c => c.2))
      = if s ≤ k then tbl.getD (k - s) 0 else 0 := by
  induction tbl generalizing s with
  | nil => exact (ite_self 0).symm
  | cons t ts ih =>
    rw [List.length_cons, List.range'_succ, List.zip_cons_cons, List.filter_cons]
    by_cases hsk : s = k
    · subst hsk
      rw [beq_self_eq_true, if_pos rfl, List.map_cons, Gen.Py3.sum, ih, if_neg (Nat.not_succ_le_self s), if_pos (Nat.le_refl s),
        Nat.sub_self, List.getD_cons_zero, add_zero]
    · rw [beq_false_of_ne hsk, if_neg Bool.false_ne_true, ih]
      by_cases hle : s ≤ k
      · obtain ⟨d, rfl⟩ := Nat.exists_eq_add_of_le (Nat.lt_of_le_of_ne hle hsk)
        rw [if_pos hle, if_pos (Nat.le_add_right _ d), Nat.add_sub_cancel_left, Nat.succ_add_eq_add_succ,
          Nat.add_sub_cancel_left, List.getD_cons_succ]
      · rw [if_neg hle, if_neg (fun h => hle (Nat.le_of_succ_le h))]
/-- `rv_discrete(values=(range(n), tbl)).pmf(k)` is entry `k` of the table (0 outside) -/
theorem rvDiscretePmf_range (tbl : List F) (k : Nat) :
    Gen.Py3.rvDiscretePmf (List.range tbl.length) tbl k = tbl.getD k 0 := by
  unfold Gen.Py3.rvDiscretePmf
  have h := rvDiscretePmf_range_aux tbl 0 k
  simp only [Nat.zero_le, if_true, Nat.sub_zero] at h
  rw [← h, List.range_eq_range']

/-- **`Categorical.likelihood`**: `ls = ones; ls[~isnan(x)] = self.distribution.pmf(x[~isnan(x)].astype(int64))` with
`self.distribution = rv_discrete(values=(categories, probabilities))` is the model's table leaf when the categories are
`0 .. n-1` (as in every exported table) -/
theorem categorical_likelihood_as_coded (tbl : List F) (v : Nat) (e : Ev) :
    Gen.S3categoricalLikelihood (List.range tbl.length) tbl (e v) = Circ.catLeafFn v tbl e := by
  unfold Gen.S3categoricalLikelihood Circ.catLeafFn
  cases e v with
  | none => rfl
  | some k => exact rvDiscretePmf_range tbl k

example : Gen.S3categoricalLikelihood (List.range 3) [(1:ℚ)/2, 1/3, 1/6] ((Ev.ofList [some 2]) 0) = 1/6 ∧
    Gen.S3categoricalLikelihood (List.range 3) [(1:ℚ)/2, 1/3, 1/6] ((Ev.ofList [none]) 0) = 1 := by
  decide +kernel

/-- **`Bernoulli.log_likelihood`** / **`Categorical.log_likelihood`**: `lls = zeros; lls[~isnan(x)] = logpmf(…)` — the
exponential of the coded value is the coded linear value wherever that is positive (missing ⇒ `exp 0 = 1`) -/
theorem bernoulli_log_likelihood_as_coded (E : ExpLog F) (p : F) (v : Nat) (e : Ev)
    (hpos : 0 < Circ.catLeafFn v [1 - p, p] e) :
    E.exp (Gen.S3bernoulliLogLikelihood E p (e v)) = Circ.catLeafFn v [1 - p, p] e := by
  rw [← bernoulli_likelihood_as_coded] at hpos ⊢
  exact E.exp_ite_log _ _ hpos

theorem categorical_log_likelihood_as_coded (E : ExpLog F) (tbl : List F) (v : Nat) (e : Ev)
    (hpos : 0 < Circ.catLeafFn v tbl e) :
    E.exp (Gen.S3categoricalLogLikelihood E (List.range tbl.length) tbl (e v)) = Circ.catLeafFn v tbl e := by
  rw [← categorical_likelihood_as_coded] at hpos ⊢
  exact E.exp_ite_log _ _ hpos

end Deeprob.Struct3
