import DeeprobModel.Props.E2ECirc
import DeeprobModel.Model.TopDownNet
import DeeprobModel.Props.C06Net
/-
The loops of the serial evaluation passes, as extracted (`Gen.S5evalUp…`, `Gen.S5evalDown…`,
`Gen.S5momentLoop`: fragments `evaluation.eval_bottom_up.loop`, `evaluation.eval_top_down.loop`, `moments.moment.loop`), are
the loops that `Props/E2ECirc.lean` (`genTable`, `llTable`, `moGenTable`) and `Model/TopDownNet.lean` (`mpeNetOrd`) write
out by hand.

Reading of the generated definitions.  Nodes are their positions in the stored table (`N = Nat`, `nid = id`, `children =
Net.chOf net`, as in `genEntry`), the table `ls` is a list indexed by node id (`getRow t k = t.getD k 0`, `setRow = List.set`),
`ordering` is any list whose reverse is `0, 1, …, n-1` (the table is stored in the order in which the serial loop visits the
nodes: children first).  The generated loop starts from `np.empty`: any table `t0` of the right length — on a children-first
table (`WellOrdered`) the unspecified content is overwritten before it is read (`fill_set_eq_append`).
-/
set_option linter.unusedSectionVars false
set_option linter.unusedSimpArgs false
set_option linter.unusedVariables false
namespace Deeprob.Struct5E
open Deeprob Deeprob.E2E

section fill
variable {V : Type}

/-- a table of length `n` whose entry `i` is written at step `i` with a value that depends only on the entries below `i`
ends up, whatever it contained at the start, as the table built by appending these values one by one -/
theorem fill_set_eq_append (g : List V → Nat → V) (t0 : List V)
    (hloc : ∀ i, i < t0.length → ∀ t t' : List V, (∀ c, c < i → t[c]? = t'[c]?) → g t i = g t' i) :
    ∀ k, k ≤ t0.length → (List.range k).foldl (fun ls i => ls.set i (g ls i)) t0 = llFold g k ++ t0.drop k := by
  intro k
  induction k with
  | zero => intro _; rfl
  | succ k ih =>
    intro hk
    have hg : g (llFold g k ++ t0.drop k) k = g (llFold g k) k :=
      hloc k hk _ _ fun c hc => List.getElem?_append_left (by rw [llFold_length]; exact hc)
    rw [List.range_succ, List.foldl_append, ih (Nat.le_of_succ_le hk), llFold_succ]
    simp only [List.foldl_cons, List.foldl_nil]
    rw [hg, List.drop_eq_getElem_cons hk, List.set_append_right _ _ (by rw [llFold_length]), llFold_length, Nat.sub_self,
      List.set_cons_zero, List.append_assoc, List.singleton_append]

end fill

section up
variable {F : Type} [Field F] [LinearOrder F] [IsStrictOrderedRing F]

/-- `isinstance(n, Leaf)` for the node stored at index `i` -/
def isLeafAt (net : Net F) (i : Nat) : Bool :=
  match net[i]? with
  | some x => decide (x.kind = .leaf)
  | none => false

/-- the generated task `eval_forward` (`Gen.S5evalUpTask`) on a list table indexed by node id: nodes are table positions,
`leafVal i` = `leaf_func` at the leaf stored at `i`, `nodeF i` = `node_func` at the inner node stored at `i` -/
def upTask (net : Net F) (leafVal : Nat → F) (nodeF : Nat → List F → F) : List F → Nat → List F :=
  Gen.S5evalUpTask (N := Nat) (T := List F) (V := F) id (Net.chOf net) (isLeafAt net) (fun t k => t.getD k 0)
    (fun t k v => t.set k v) leafVal nodeF

/-- the generated serial loop of `eval_bottom_up` (`Gen.S5evalUpLoop` around the generated task) -/
def upLoop (net : Net F) (leafVal : Nat → F) (nodeF : Nat → List F → F) (ordering : List Nat) (t0 : List F) : List F :=
  Gen.S5evalUpLoop (upTask net leafVal nodeF) ordering t0

/-- what one call of the task stores (the value of the hand-written `genEntry` / `llEntry` / `moGenEntry`) -/
def upEntry (net : Net F) (leafVal : Nat → F) (nodeF : Nat → List F → F) (vals : List F) (i : Nat) : F :=
  match net[i]? with
  | none => 0
  | some x =>
    if x.kind = .leaf then leafVal i
    else Gen.S3evalForwardInner (N := Nat) id (Net.chOf net) nodeF (fun c => vals.getD c 0) i

/-- **the generated task writes the row of the visited node, and what it writes in the inner-node branch is the extracted
body** (`Gen.S3evalForwardInner`, fragment `evaluation.eval_forward`) -/
theorem upTask_as_coded (net : Net F) (leafVal : Nat → F) (nodeF : Nat → List F → F) (ls : List F) (i : Nat)
    (x : NNode F) (hx : net[i]? = some x) :
    upTask net leafVal nodeF ls i = ls.set i (upEntry net leafVal nodeF ls i) := by
  unfold upTask Gen.S5evalUpTask upEntry isLeafAt Gen.S3evalForwardInner
  simp only [hx, id]
  by_cases hk : x.kind = .leaf
  · simp [hk]
  · simp [hk]

theorem upEntry_congr (net : Net F) (hw : WellOrdered net) (leafVal : Nat → F) (nodeF : Nat → List F → F) {i : Nat}
    (hi : i < net.length) {t t' : List F} (h : ∀ c, c < i → t[c]? = t'[c]?) :
    upEntry net leafVal nodeF t i = upEntry net leafVal nodeF t' i := by
  have hn : net[i]? = some net[i] := List.getElem?_eq_getElem hi
  have hch : Net.chOf net i = net[i].ch := by rw [Net.chOf, hn]
  unfold upEntry Gen.S3evalForwardInner
  rw [hn]
  dsimp only
  split
  · rfl
  · congr 1
    apply List.map_congr_left
    intro c hc
    rw [id, List.getD_eq_getElem?_getD, List.getD_eq_getElem?_getD, h c (hw i _ hn c (hch ▸ hc))]

/-- **the generated loop of `eval_bottom_up` is the hand-written loop**: run on a children-first table, in an order whose
reverse is the storage order, from any initial table of the right length (`np.empty`), it returns the table built by
appending `upEntry` index by index -/
theorem upLoop_as_coded (net : Net F) (hw : WellOrdered net) (leafVal : Nat → F) (nodeF : Nat → List F → F)
    (ordering : List Nat) (hord : ordering.reverse = List.range net.length) (t0 : List F) (ht : t0.length = net.length) :
    upLoop net leafVal nodeF ordering t0
      = (List.range net.length).foldl (fun vals i => vals ++ [upEntry net leafVal nodeF vals i]) [] := by
  unfold upLoop Gen.S5evalUpLoop
  rw [hord, List.foldl_ext _ (fun ls i => ls.set i (upEntry net leafVal nodeF ls i)) t0 fun t i hi =>
    upTask_as_coded net leafVal nodeF t i _ (List.getElem?_eq_getElem (List.mem_range.1 hi))]
  have h := fill_set_eq_append (upEntry net leafVal nodeF) t0
    (fun i hi t t' h => upEntry_congr net hw leafVal nodeF (ht ▸ hi) h) t0.length (le_refl _)
  rwa [List.drop_length, List.append_nil, ht] at h

/-- `leaf_func = node.likelihood` on the stored leaves -/
def likLeaf (e : Ev) (leaves : Nat → SrcLeaf F) : Nat → F := fun i => (leaves i).genValue e

/-- **`genTable` is the generated loop** with `leaf_func` = the generated leaf likelihoods, `node_func` = the generated
`node_likelihood` (`genNodeFunc`) -/
theorem genTable_as_coded (e : Ev) (net : Net F) (leaves : Nat → SrcLeaf F) (hw : WellOrdered net)
    (ordering : List Nat) (hord : ordering.reverse = List.range net.length) (t0 : List F) (ht : t0.length = net.length) :
    upLoop net (likLeaf e leaves) (genNodeFunc net) ordering t0 = genTable e net leaves := by
  rw [upLoop_as_coded net hw _ _ ordering hord t0 ht]
  rfl

/-- `leaf_func = node.log_likelihood` (floored) on the stored leaves -/
def llLeaf (E : ExpLog F) (e : Ev) (leaves : Nat → SrcLeaf F) : Nat → F := fun i => llLeafValue E e (leaves i)

/-- **`llTable` is the generated loop** with the generated log-domain leaf / node functions -/
theorem llTable_as_coded (E : ExpLog F) (e : Ev) (net : Net F) (leaves : Nat → SrcLeaf F) (hw : WellOrdered net)
    (ordering : List Nat) (hord : ordering.reverse = List.range net.length) (t0 : List F) (ht : t0.length = net.length) :
    upLoop net (llLeaf E e leaves) (llNodeFunc E net) ordering t0 = llTable E e net leaves := by
  rw [upLoop_as_coded net hw _ _ ordering hord t0 ht]
  rfl

/-- `leaf_func = leaf_moment` (generated `Gen.S3leafMoment`), row `v` of the matrix, on the stored leaves -/
def momLeaf (k v : Nat) (net : Net F) (moms : List F) : Nat → F := fun i =>
  match net[i]? with
  | some x => Gen.S3leafMoment x.scope (fun _ => x.leaf.rawMoment k (moms.getD i 0)) v
  | none => 0

theorem moGenEntry_eq_upEntry (k v : Nat) (net : Net F) (moms : List F) :
    moGenEntry k v net moms = upEntry net (momLeaf k v net moms) (genNodeFunc net) := by
  funext vals i
  unfold upEntry moGenEntry momLeaf
  cases net[i]? <;> rfl

/-- **`moGenTable` is the generated loop** with `leaf_func = leaf_moment`, `node_func = node_likelihood` -/
theorem moGenTable_as_coded (k v : Nat) (net : Net F) (moms : List F) (hw : WellOrdered net)
    (ordering : List Nat) (hord : ordering.reverse = List.range net.length) (t0 : List F) (ht : t0.length = net.length) :
    upLoop net (momLeaf k v net moms) (genNodeFunc net) ordering t0 = moGenTable k v net moms := by
  rw [upLoop_as_coded net hw _ _ ordering hord t0 ht, ← moGenEntry_eq_upEntry]
  rfl

/-- `eval_bottom_up(root, x, leaf_func, node_func)` on one row, serial path, as generated: `topo` = `topological_order`
(`none` = not a DAG: `ValueError`), `empty` = `np.empty` -/
def genEvalUp (net : Net F) (leafVal : Nat → F) (nodeF : Nat → List F → F) (topo : Nat → Option (List Nat))
    (empty : Nat → List F) (root : Nat) : Option (F × List F) :=
  Gen.S5evalUp (N := Nat) id (fun t k => t.getD k 0) (upTask net leafVal nodeF) topo empty root

/-- **the generated serial path returns the root's entry of the hand-written table** -/
theorem evalUp_as_coded (net : Net F) (hw : WellOrdered net) (leafVal : Nat → F) (nodeF : Nat → List F → F)
    (topo : Nat → Option (List Nat)) (empty : Nat → List F) (hempty : ∀ k, (empty k).length = k) (root : Nat)
    (ordering : List Nat) (ho : topo root = some ordering) (hord : ordering.reverse = List.range net.length) :
    genEvalUp net leafVal nodeF topo empty root
      = some (((List.range net.length).foldl (fun vals i => vals ++ [upEntry net leafVal nodeF vals i]) []).getD root 0,
              (List.range net.length).foldl (fun vals i => vals ++ [upEntry net leafVal nodeF vals i]) []) := by
  have hlen : ordering.length = net.length := by rw [← List.length_reverse, hord, List.length_range]
  have h := upLoop_as_coded net hw leafVal nodeF ordering hord (empty ordering.length) (by rw [hempty, hlen])
  unfold upLoop at h
  unfold genEvalUp Gen.S5evalUp
  simp only [ho, id, h]

/-- a cyclic structure (`topological_order` returns `None`) makes the generated path raise -/
theorem evalUp_raises (net : Net F) (leafVal : Nat → F) (nodeF : Nat → List F → F)
    (topo : Nat → Option (List Nat)) (empty : Nat → List F) (root : Nat) (ho : topo root = none) :
    genEvalUp net leafVal nodeF topo empty root = none := by
  unfold genEvalUp Gen.S5evalUp
  simp only [ho]

/-- `moments.moment(root, order)[v]` after the guards, as generated (`Gen.S5momentLoop`): the generated serial path of
`eval_bottom_up` with `leaf_func = leaf_moment(order)`, `node_func = node_likelihood` -/
def genMoment (v : Nat) (net : Net F) (moms : Nat → List F) (topo : Nat → Option (List Nat)) (empty : Nat → List F)
    (root : Nat) (order : Int) : Option (F × List F) :=
  Gen.S5momentLoop (N := Nat) (V := F) (fun r lf nf => genEvalUp net lf nf topo empty r)
    (fun o => momLeaf o.toNat v net (moms o.toNat)) (genNodeFunc net) root order

/-- **the generated moment pass returns the root's entry of `moGenTable`** -/
theorem moment_as_coded (v : Nat) (net : Net F) (hw : WellOrdered net) (moms : Nat → List F)
    (topo : Nat → Option (List Nat)) (empty : Nat → List F) (hempty : ∀ k, (empty k).length = k) (root : Nat) (order : Int)
    (ordering : List Nat) (ho : topo root = some ordering) (hord : ordering.reverse = List.range net.length) :
    genMoment v net moms topo empty root order
      = some ((moGenTable order.toNat v net (moms order.toNat)).getD root 0, moGenTable order.toNat v net (moms order.toNat)) := by
  refine (evalUp_as_coded net hw _ _ topo empty hempty root ordering ho hord).trans ?_
  rw [← moGenEntry_eq_upEntry]
  rfl

/-! non-vacuity: the shared-leaf DAG `exNet` of `Props/E2ECirc.lean`, visited in the order `5, 4, 3, 2, 1, 0`, starting from a
table full of `7`s (the content of `np.empty` is never read) -/
example : upLoop E2E.exNet (likLeaf (Ev.ofList [some 1, none]) E2E.exLeaves) (genNodeFunc E2E.exNet) [5, 4, 3, 2, 1, 0] [7, 7, 7, 7, 7, 7]
    = genTable (Ev.ofList [some 1, none]) E2E.exNet E2E.exLeaves :=
  genTable_as_coded _ E2E.exNet E2E.exLeaves E2E.exNet_wellOrdered _ (by decide) _ rfl

example : (upLoop E2E.exNet (likLeaf (Ev.ofList [some 1, none]) E2E.exLeaves) (genNodeFunc E2E.exNet) [5, 4, 3, 2, 1, 0]
    [7, 7, 7, 7, 7, 7]).getD 5 0 = 3/4 := by decide +kernel

/-- the order matters: visiting the nodes parents first (the mutation `for node in ordering`) leaves the unspecified
content of `np.empty` in the result -/
example : (Gen.S5evalUpLoop (upTask E2E.exNet (likLeaf (Ev.ofList [some 1, none]) E2E.exLeaves) (genNodeFunc E2E.exNet))
    [0, 1, 2, 3, 4, 5] [7, 7, 7, 7, 7, 7]).getD 5 0 ≠ 3/4 := by decide +kernel

example : genMoment 1 C19.exNet (fun _ => []) (fun _ => some [5, 4, 3, 2, 1, 0]) (fun k => List.replicate k 7) 5 2
    = some (29/10, moGenTable 2 1 C19.exNet []) := by
  rw [moment_as_coded 1 C19.exNet C19.exNet_wellOrdered _ _ _ (by simp) 5 2 [5, 4, 3, 2, 1, 0] rfl (by decide)]
  have : (moGenTable (2 : Int).toNat 1 C19.exNet []).getD 5 0 = 29/10 := by decide +kernel
  rw [this]; rfl

end up

/-! The serial path of `eval_top_down` (`Gen.S5evalDown…`) is the fold `mpeNetOrd` of `Model/TopDownNet.lean`.

Masks are read as functions of the node id (`getMask m k = m k`, `setMask = setM`, `np.zeros` = constantly `False`), `x` is the
row (`Ev`), `leaf_func = leaf_mpe` (`LeafP.mode`, written into the leaf's scope), `sum_func = sum_mpe` (first arg-max of
`wᵢ · lls[childᵢ]`).  No hypothesis on the table or on the visiting order is needed: the equality is step by step. -/
section down
variable {α : Type} [Zero α] [One α] [Add α] [Mul α] [LT α] [DecidableLT α]

/-- `masks[k] = b` on masks read as a function of the node id -/
def setM (m : Nat → Bool) (k : Nat) (b : Bool) : Nat → Bool := fun j => if j = k then b else m j

/-- `isinstance(n, <class>)` for the node stored at index `i` -/
def isKindAt (net : Net α) (k : Kind) (i : Nat) : Bool :=
  match net[i]? with
  | some x => decide (x.kind = k)
  | none => false

/-- the generated task `eval_backward` (`Gen.S5evalDownTask`) for one row, with `leaf_func = leaf_mpe`, `sum_func = sum_mpe`
(the readings of `Model/TopDownNet.lean`), `lls` = `vals`; the branch that raises leaves the state unchanged -/
def downTask (net : Net α) (vals : List α) (isBern : Nat → Bool) (st : (Nat → Bool) × Ev) (i : Nat) : (Nat → Bool) × Ev :=
  Gen.S5evalDownTask (N := Nat) (M := Nat → Bool) (X := Ev) (L := α) id (Net.chOf net)
    (isKindAt net .leaf) (isKindAt net .prod) (isKindAt net .sum) (fun m k => m k) setM
    (fun i b x => if b then (match net[i]? with
        | some y => writeScope y.scope (y.leaf.mode (isBern i) x) x
        | none => x) else x)
    (fun i ls => argmax (List.zipWith (· * ·) (match net[i]? with | some y => y.ws | none => []) ls))
    (fun c => vals.getD c 0) st st.1 st.2 i

theorem setM_self (m : Nat → Bool) (k : Nat) (b : Bool) : setM m k b k = b := if_pos rfl

theorem setM_ne (m : Nat → Bool) (k : Nat) (b : Bool) {j : Nat} (h : j ≠ k) : setM m k b j = m j := if_neg h

/-- a fold of writes `masks[key p] |= masks[i] & g p`: every mask ends up or-ed with `masks[i]` exactly when some element
with its key passes `g` -/
theorem foldl_setM_or {β : Type} (i : Nat) (key : β → Nat) (g : β → Bool) : ∀ (l : List β) (m : Nat → Bool),
    l.foldl (fun m p => setM m (key p) (m (key p) || (m i && g p))) m
      = fun j => m j || (m i && l.any (fun p => j == key p && g p)) := by
  intro l
  induction l with
  | nil => intro m; funext j; simp
  | cons p l ih =>
    intro m
    -- the mask that is read is not changed by the write
    have hi : setM m (key p) (m (key p) || (m i && g p)) i = m i := by
      by_cases h : i = key p
      · rw [h, setM_self]; cases m (key p) <;> rfl
      · exact setM_ne _ _ _ h
    rw [List.foldl_cons, ih]
    funext j
    rw [hi, List.any_cons]
    by_cases hj : j = key p
    · rw [hj, setM_self, beq_self_eq_true, Bool.true_and, Bool.and_or_distrib_left, Bool.or_assoc]
    · rw [setM_ne _ _ _ hj, beq_false_of_ne hj, Bool.false_and, Bool.false_or]

theorem fold_prod (i : Nat) : ∀ (cs : List Nat) (m : Nat → Bool),
    cs.foldl (fun st1 x1 => setM st1 (id x1) ((st1 (id x1)) || (st1 (id i)))) m
      = fun j => m j || (cs.contains j && m i) := by
  intro cs m
  have h := foldl_setM_or i id (fun _ => true) cs m
  simp only [Bool.and_true, id] at h ⊢
  rw [h]
  funext j
  rw [List.contains_eq_any_beq, Bool.and_comm]

/-- position `b` of `cs` (numbered from `k`) holds `j` -/
theorem any_zipIdx_eq (cs : List Nat) (k b j : Nat) :
    (cs.zipIdx k).any (fun p => j == p.1 && b == p.2) = (decide (k ≤ b) && (cs[b - k]? == some j)) := by
  rw [Bool.eq_iff_iff]
  simp only [List.any_eq_true, List.mem_zipIdx_iff_le_and_getElem?_sub, Bool.and_eq_true, beq_iff_eq, decide_eq_true_eq]
  constructor
  · rintro ⟨p, ⟨h1, h2⟩, rfl, rfl⟩
    exact ⟨h1, h2⟩
  · rintro ⟨h1, h2⟩
    exact ⟨(j, b), ⟨h1, h2⟩, rfl, rfl⟩

theorem fold_sum (i b : Nat) : ∀ (cs : List Nat) (k : Nat) (m : Nat → Bool),
    (cs.zipIdx k).foldl (fun st1 x1 => setM st1 (id x1.1) ((st1 (id x1.1)) || ((st1 (id i)) && (b == x1.2)))) m
      = fun j => m j || (m i && (decide (k ≤ b) && (cs[b - k]? == some j))) := by
  intro cs k m
  simp only [id]
  rw [foldl_setM_or i (fun p : Nat × Nat => p.1) (fun p => b == p.2) (cs.zipIdx k) m]
  funext j
  rw [any_zipIdx_eq]

/-- **one call of the generated task = one `tdStep`** of `Model/TopDownNet.lean` (masks read as the function `reach`) -/
theorem downTask_as_coded (net : Net α) (vals : List α) (isBern : Nat → Bool) (st : TDState) (i : Nat) :
    downTask net vals isBern (st.reach, st.row) i
      = ((tdStep net vals isBern st i).reach, (tdStep net vals isBern st i).row) := by
  unfold downTask Gen.S5evalDownTask tdStep isKindAt
  cases hn : net[i]? with
  | none => rfl
  | some x =>
    have hch : Net.chOf net i = x.ch := by rw [Net.chOf, hn]
    simp only [hn, hch]
    cases hk : x.kind with
    | leaf =>
      rw [if_pos (by decide), id]
      cases st.reach i <;> rfl
    | prod =>
      rw [if_neg (by decide), if_pos (by decide), fold_prod]
      cases st.reach i
      · simp only [Bool.and_false, Bool.or_false, Bool.false_eq_true, if_false]
      · simp only [Bool.and_true, if_true, Bool.or_comm]
    | sum =>
      rw [if_neg (by decide), if_neg (by decide), if_pos (by decide), fold_sum]
      cases st.reach i
      · simp only [Bool.false_and, Bool.or_false, Bool.false_eq_true, if_false]
      · simp only [Bool.true_and, Nat.zero_le, decide_true, Nat.sub_zero, if_true, Bool.or_comm, sumMpeNet, id]

/-- the generated serial loop of `eval_top_down` (`Gen.S5evalDownLoop` around the generated task) -/
def downLoop (net : Net α) (vals : List α) (isBern : Nat → Bool) (ordering : List Nat) (masks : Nat → Bool) (x : Ev) :
    (Nat → Bool) × Ev :=
  Gen.S5evalDownLoop (downTask net vals isBern) ordering masks x

/-- **the generated loop of `eval_top_down` is the fold of `tdStep`** over the same visiting order, from the same state -/
theorem downLoop_as_coded (net : Net α) (vals : List α) (isBern : Nat → Bool) (ordering : List Nat) (st : TDState) :
    downLoop net vals isBern ordering st.reach st.row
      = ((ordering.foldl (tdStep net vals isBern) st).reach, (ordering.foldl (tdStep net vals isBern) st).row) := by
  exact List.foldl_hom (fun st : TDState => (st.reach, st.row)) fun st i => downTask_as_coded net vals isBern st i

/-- `eval_top_down(root, x, lls, leaf_mpe, sum_mpe)` on one row, serial path, as generated (`Gen.S5evalDown`): `topo` =
`topological_order`, masks as functions of the node id (`np.zeros` = constantly `False`), `lls` = the model's `evalNet` -/
def genEvalDown (e : Ev) (dens : List α) (net : Net α) (isBern : Nat → Bool) (topo : Nat → Option (List Nat)) (root : Nat) :
    Option Ev :=
  Gen.S5evalDown (N := Nat) (M := Nat → Bool) (X := Ev) id setM (downTask net (evalNet e dens net) isBern) topo
    (fun _ _ => false) root e

/-- **the generated serial path of `eval_top_down` returns the row of the hand-written `mpeNetOrd`** (same visiting order) -/
theorem evalDown_as_coded (e : Ev) (dens : List α) (net : Net α) (isBern : Nat → Bool) (topo : Nat → Option (List Nat))
    (root : Nat) (ordering : List Nat) (ho : topo root = some ordering) :
    genEvalDown e dens net isBern topo root = some (mpeNetOrd ordering e dens net root isBern).row := by
  unfold genEvalDown Gen.S5evalDown mpeNetOrd
  simp only [ho, id]
  have h0 : setM (fun _ => false) root true = fun j => j == root := by
    funext j; unfold setM; by_cases h : j = root <;> simp [h]
  rw [h0]
  have h := downLoop_as_coded net (evalNet e dens net) isBern ordering ⟨fun j => j == root, e⟩
  unfold downLoop at h
  rw [h]

/-- without a topological order the generated path raises -/
theorem evalDown_raises (e : Ev) (dens : List α) (net : Net α) (isBern : Nat → Bool) (topo : Nat → Option (List Nat))
    (root : Nat) (ho : topo root = none) : genEvalDown e dens net isBern topo root = none := by
  unfold genEvalDown Gen.S5evalDown
  simp only [ho]

end down

/-! non-vacuity: the 9-node DAG of `Props/C06Net.lean` (node 4 shared by two products), visited root first; the root mask is
needed (the mutation that forgets `masks[root.id] = True` completes nothing) -/
example : (genEvalDown (Ev.ofList [none, some 2, none]) [] C06.exNet C06.exBern (fun _ => some [8, 7, 6, 5, 4, 3, 2, 1, 0]) 8).map
      (fun x => (List.range 3).map x)
    = some ((List.range 3).map (mpeNetOrd [8, 7, 6, 5, 4, 3, 2, 1, 0] (Ev.ofList [none, some 2, none]) [] C06.exNet 8 C06.exBern).row) := by
  rw [evalDown_as_coded _ _ _ _ _ 8 [8, 7, 6, 5, 4, 3, 2, 1, 0] rfl]; rfl

example : ((Gen.S5evalDownLoop (downTask C06.exNet (evalNet (Ev.ofList [none, some 2, none]) [] C06.exNet) C06.exBern)
      [8, 7, 6, 5, 4, 3, 2, 1, 0] (setM (fun _ => false) 8 true) (Ev.ofList [none, some 2, none])).2 0).isSome = true ∧
    ((Gen.S5evalDownLoop (downTask C06.exNet (evalNet (Ev.ofList [none, some 2, none]) [] C06.exNet) C06.exBern)
      [8, 7, 6, 5, 4, 3, 2, 1, 0] (fun _ => false) (Ev.ofList [none, some 2, none])).2 0) = none := by
  constructor <;> decide +kernel

end Deeprob.Struct5E
