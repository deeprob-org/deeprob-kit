import DeeprobModel.Generated.Consts
import DeeprobModel.Model.Sched
import DeeprobModel.Props.C08
/-
Static tie of `Model/Sched.lean` to /repo/deeprob/spn/algorithms/evaluation.py (C08).  The translator lists every
store into a subscripted array made by the two task functions (`eval_backward` of `eval_top_down`, `eval_forward` of
`eval_bottom_up`) with its operator, the lock held, the enclosing loop and the rows read on the right-hand side.
The obligations say that these are exactly the accesses of the model's actions:
* top-down: a Product / Sum task performs `masks[c.id] |= masks[n.id] (& sel)` for `c in n.children`, as an OR-update
  under the one shared `threading.Lock` (`Act.orFrom` with `locked := true`), a Leaf task only stores into `x`;
* bottom-up: a task stores only into its own row `ls[n.id]` and reads the rows `ls[c.id]` of its children
  (`Act.evalRow i (chOf n i) f`, `buTask`).
-/
namespace Deeprob.Oblig.StructSched
open Deeprob Deeprob.Sched

/-- the access recorded for a store site (row numbers abstracted to the given cell) -/
def siteWrite (cell : Nat × Nat) (s : Gen.StoreSite) : Access :=
  { kind := if s.op = "|=" then .or else .write, array := s.array, cells := [cell],
    locked := s.locks.contains "masks_lock" }

/-- the stores of `eval_backward`, per node class -/
theorem topdown_stores_shape :
    Gen.topDownStores.map (fun s => (s.cls, s.array, s.op)) =
      [("Leaf", "x", "="), ("Product", "masks", "|="), ("Sum", "masks", "|=")] := rfl

/-- **both mask updates are `|=` updates of a child row, reading the task's own row, inside `with masks_lock:`**, and the
write access they perform is the write access of the model action `orFrom dst src sel` of a locked task -/
theorem topdown_mask_updates_locked_or (dst src : Nat) (sel : Option Mask) :
    ∀ s ∈ Gen.topDownStores, s.array = "masks" →
      s.op = "|=" ∧ s.locks = ["masks_lock"] ∧ s.index = "c.id" ∧ s.reads = [("masks", "n.id")] ∧
      (s.loop = "c in n.children" ∨ s.loop = "(i, c) in enumerate(n.children)") ∧
      [siteWrite (dst, 0) s] = (Act.accesses true (.orFrom dst src sel)).filter Access.isWrite := by
  intro s hs
  have : s ∈ Gen.topDownStores → s.array = "masks" →
      s.op = "|=" ∧ s.locks = ["masks_lock"] ∧ s.index = "c.id" ∧ s.reads = [("masks", "n.id")] ∧
      (s.loop = "c in n.children" ∨ s.loop = "(i, c) in enumerate(n.children)") ∧
      siteWrite (0, 0) s = { kind := .or, array := "masks", cells := [(0, 0)], locked := true } := by
    revert s; decide +kernel
  intro ha
  obtain ⟨h1, h2, h3, h4, h5, h6⟩ := this hs ha
  refine ⟨h1, h2, h3, h4, h5, ?_⟩
  have e2 : (AKind.or != AKind.read) = true := rfl
  simp [siteWrite, Act.accesses, List.filter, Access.isWrite, h1, ha, h2, e2]

/-- the product update has no selector, the sum update is `&`-ed with `branch == i` (`sel = none` / `some _`) -/
theorem topdown_selectors :
    (Gen.topDownStores.filter (fun s => s.array == "masks")).map (fun s => (s.cls, s.sel)) =
      [("Product", ""), ("Sum", "branch == i")] := rfl

/-- the leaf task stores into `x` only (no lock needed: `C06.topdown_one_leaf_per_var`), which is what `Act.setCell` records -/
theorem topdown_leaf_store (r c : Nat) (v : Int) :
    ∀ s ∈ Gen.topDownStores, s.cls = "Leaf" →
      [siteWrite (r, c) s] = Act.accesses false (.setCell r c v) := by
  intro s hs hc
  have : s ∈ Gen.topDownStores → s.cls = "Leaf" → s.op = "=" ∧ s.array = "x" ∧ s.locks = [] := by revert s; decide +kernel
  obtain ⟨h1, h2, h3⟩ := this hs hc
  simp [siteWrite, Act.accesses, h1, h2, h3]

/-- one lock per call of `eval_top_down`, shared by all tasks -/
theorem topdown_lock_shared : Gen.topDownLockKind = "threading.Lock" ∧ Gen.topDownLockShared = true := ⟨rfl, rfl⟩

/-- **the bottom-up task writes only `ls[n.id]`** (its own row) and reads only rows `ls[c.id]`, `c in n.children`:
the write / read accesses of `buTask n f i = evalRow i (chOf n i) (f i)` -/
theorem bottomup_writes_own_row {α : Type} (n : Net α) (f : Nat → List (List Int) → List Int) (i : Nat) :
    (∀ s ∈ Gen.bottomUpStores, s.array = "ls" ∧ s.index = "n.id" ∧ s.op = "=" ∧
      [siteWrite (i, 0) s] = (Act.accesses false (buTask n f i)).filter Access.isWrite) ∧
    Gen.bottomUpStores ≠ [] ∧
    Gen.bottomUpReads = [("ls", "c.id")] ∧ Gen.bottomUpReadLoops = ["c in n.children"] ∧
    ((Act.accesses false (buTask n f i)).filter (fun a => !a.isWrite)).map (·.cells) =
      [(Net.chOf n i).map (fun c => (c, 0))] := by
  refine ⟨?_, by decide, rfl, rfl, ?_⟩
  · intro s hs
    have : s ∈ Gen.bottomUpStores → s.array = "ls" ∧ s.index = "n.id" ∧ s.op = "=" ∧ s.locks = [] := by
      revert s; decide +kernel
    obtain ⟨h1, h2, h3, h4⟩ := this hs
    refine ⟨h1, h2, h3, ?_⟩
    have e2 : (AKind.write != AKind.read) = true := rfl
    simp [siteWrite, buTask, Act.accesses, Access.isWrite, List.filter, h1, h3, h4, e2]
  · have e2 : (AKind.write != AKind.read) = true := rfl
    simp [buTask, Act.accesses, Access.isWrite, List.filter, e2]

end Deeprob.Oblig.StructSched
