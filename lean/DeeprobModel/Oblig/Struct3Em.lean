import DeeprobModel.Oblig.Struct3Inference
import DeeprobModel.Model.Em
import DeeprobModel.Spec.RealExpLog
/-
Static tie of `Model/Em.lean` (`respSum`, `respLeaf`) to
/repo/deeprob/spn/learning/em.py (`expectation_maximization`: the `stats` handed to `Sum.em_step` / `Leaf.em_step`) — C14.
(`Sum.em_step` itself is the fragment `Sum.em_step`, obligations in `Oblig/C14.lean`.)
-/
set_option linter.unusedSectionVars false
namespace Deeprob.Struct3
open Deeprob

variable {F : Type} [Field F] [LinearOrder F] [IsStrictOrderedRing F]

/-- **`stats = np.exp(children_ll - root_ll + grads[node.id])`** is, in the linear domain, `value(child) · grad(node) /
value(root)` — the model's `respSum` entry (values and gradient positive, so that they have logarithms) -/
theorem resp_entry_as_coded (E : ExpLog F) (vc vr g : F) (hc : 0 < vc) (hr : 0 < vr) (hg : 0 < g) :
    Gen.S3emRespSum E (E.log vc) (E.log vr) (E.log g) = vc * g / vr ∧
    Gen.S3emRespLeaf E (E.log vc) (E.log vr) (E.log g) = vc * g / vr := by
  unfold Gen.S3emRespSum Gen.S3emRespLeaf
  rw [E.exp_add, E.exp_sub, E.exp_log vc hc, E.exp_log vr hr, E.exp_log g hg, div_mul_eq_mul_div]
  exact ⟨rfl, rfl⟩

/-- the children rows are `lls[ids of node.children, in order]`: `respSum` maps over `x.ch` in order -/
theorem respSum_as_coded (E : ExpLog F) (vals grads : List F) (root i : Nat) (x : NNode F)
    (hpos : ∀ c ∈ x.ch, 0 < vals.getD c 0) (hr : 0 < vals.getD root 0) (hg : 0 < grads.getD i 0) :
    respSum vals grads root i x =
      x.ch.map (fun c => Gen.S3emRespSum E (E.log (vals.getD c 0)) (E.log (vals.getD root 0)) (E.log (grads.getD i 0))) := by
  unfold respSum
  apply List.map_congr_left
  intro c hc
  exact ((resp_entry_as_coded E _ _ _ (hpos c hc) hr hg).1).symm

theorem respLeaf_as_coded (E : ExpLog F) (vals grads : List F) (root i : Nat)
    (hv : 0 < vals.getD i 0) (hr : 0 < vals.getD root 0) (hg : 0 < grads.getD i 0) :
    respLeaf vals grads root i =
      Gen.S3emRespLeaf E (E.log (vals.getD i 0)) (E.log (vals.getD root 0)) (E.log (grads.getD i 0)) :=
  ((resp_entry_as_coded E _ _ _ hv hr hg).2).symm

/-- non-vacuity at ℝ: child value 1/2, root value 3/8, gradient 1/4 -/
example : Gen.S3emRespSum realExpLog (realExpLog.log (1/2)) (realExpLog.log (3/8)) (realExpLog.log (1/4)) = (1/2) * (1/4) / (3/8) :=
  (resp_entry_as_coded realExpLog (1/2) (3/8) (1/4) (by norm_num) (by norm_num) (by norm_num)).1

example : respSum [(1:ℝ)/2, 1/3, 3/8] [0, 0, 1] 2 2 { id := 2, kind := .sum, scope := [0], ch := [0, 1], ws := [1/4, 3/4], leaf := .absent }
    = [0, 1].map (fun c => Gen.S3emRespSum realExpLog (realExpLog.log ([(1:ℝ)/2, 1/3, 3/8].getD c 0))
        (realExpLog.log ([(1:ℝ)/2, 1/3, 3/8].getD 2 0)) (realExpLog.log ([(0:ℝ), 0, 1].getD 2 0))) := by
  refine respSum_as_coded realExpLog _ _ 2 2 _ (List.forall_mem_cons.2 ⟨?_, List.forall_mem_cons.2 ⟨?_, fun _ h => nomatch h⟩⟩)
    ?_ ?_
  · exact (by norm_num : (0 : ℝ) < 1 / 2)
  · exact (by norm_num : (0 : ℝ) < 1 / 3)
  · exact (by norm_num : (0 : ℝ) < 3 / 8)
  · exact one_pos

/-! non-vacuity at ℝ of the log-domain statements of `Struct3Inference` -/

example : Gen.S3sumLogLikelihood realExpLog [(1:ℝ)/4, 3/4] ([(1:ℝ)/2, 1/3].map realExpLog.log)
    = realExpLog.log (wsum [(1:ℝ)/4, 3/4] [1/2, 1/3]) :=
  sum_log_likelihood_as_coded realExpLog _ _ (forall_mem_pair.2 ⟨by norm_num, by norm_num⟩)

example : Gen.S3productLogLikelihood ([(1:ℝ)/2, 1/3].map realExpLog.log) = realExpLog.log (lprod [(1:ℝ)/2, 1/3]) :=
  product_log_likelihood_as_coded realExpLog _ (forall_mem_pair.2 ⟨by norm_num, by norm_num⟩)

example : Gen.S3nodeLogLikelihood (Gen.S3productLogLikelihood) [(-1:ℝ), -2] = max (-1 + (-2 + 0)) (-10000000000000000000000000000000) := by
  rw [node_log_likelihood_as_coded]; rfl

/-- the floor is inactive on ordinary values: `log (3/8) ≥ −(8/3 − 1) ≥ −1e31` -/
theorem log_three_eighths_above_floor : (-10000000000000000000000000000000 : ℝ) ≤ Real.log (3/8) := by
  exact le_trans (by norm_num) (Real.one_sub_inv_le_log_of_pos (by norm_num))

example : Gen.S3nodeLogLikelihood (Gen.S3sumLogLikelihood realExpLog [(1:ℝ)/4, 3/4]) ([(1:ℝ)/2, 1/3].map realExpLog.log)
    = realExpLog.log (Gen.S3nodeLikelihood (Gen.S3sumLikelihood [(1:ℝ)/4, 3/4]) [1/2, 1/3]) := by
  refine node_log_likelihood_sum realExpLog _ _ (forall_mem_pair.2 ⟨by norm_num, by norm_num⟩) ?_
  rw [show wsum [(1:ℝ)/4, 3/4] [1/2, 1/3] = 3/8 by norm_num [wsum]]
  exact log_three_eighths_above_floor

example : Gen.S3nodeLogLikelihood Gen.S3productLogLikelihood ([(3:ℝ)/4, 1/2].map realExpLog.log)
    = realExpLog.log (Gen.S3nodeLikelihood Gen.S3productLikelihood [(3:ℝ)/4, 1/2]) := by
  refine node_log_likelihood_prod realExpLog _ (forall_mem_pair.2 ⟨by norm_num, by norm_num⟩) ?_
  rw [show lprod [(3:ℝ)/4, 1/2] = 3/8 by norm_num [lprod]]
  exact log_three_eighths_above_floor

example : realExpLog.exp (Gen.S3bernoulliLogLikelihood realExpLog ((1:ℝ)/3) ((Ev.ofList [some 1]) 0))
    = Circ.catLeafFn 0 [1 - (1:ℝ)/3, 1/3] (Ev.ofList [some 1]) :=
  bernoulli_log_likelihood_as_coded realExpLog _ 0 _ (by show (0 : ℝ) < 1 / 3; norm_num)

example : realExpLog.exp (Gen.S3categoricalLogLikelihood realExpLog (List.range 3) [(1:ℝ)/2, 1/3, 1/6] ((Ev.ofList [some 2]) 0))
    = Circ.catLeafFn 0 [(1:ℝ)/2, 1/3, 1/6] (Ev.ofList [some 2]) :=
  categorical_log_likelihood_as_coded realExpLog [(1:ℝ)/2, 1/3, 1/6] 0 _ (by show (0 : ℝ) < 1 / 6; norm_num)

end Deeprob.Struct3
