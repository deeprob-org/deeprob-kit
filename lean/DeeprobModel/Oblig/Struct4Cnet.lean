import DeeprobModel.Model.CnetLearn
import DeeprobModel.Oblig.Struct3Cnet
import Mathlib.Algebra.Order.Field.Basic
import Mathlib.Algebra.Order.Field.Rat
import Mathlib.Tactic.Ring
import Mathlib.Tactic.Linarith
import Mathlib.Tactic.NormNum
import Mathlib.Tactic.FieldSimp
/-
Static tie of `Model/CnetLearn.lean` (`step`, `consults`, `candCrash`, `leftWeight`, `childPar`, `side`) to the
bodies of the `while node_stack:` loops of /repo/deeprob/spn/structure/cnet.py (`BinaryCNet.fit`) and
/repo/deeprob/spn/learning/cnet_bayesian.py (`learn_cnet_bd`, `learn_cnet_bic`, `select_cand_cuts`) — C18.

`Gen.S4cnetFitStep` / `Gen.S4cnetBdStep` / `Gen.S4cnetBicStep` are the loop bodies executed symbolically on the current
AST (pop side, stop rules, the two row sides, `np.delete` of the cut column, `del new_scope[idx]`, the weights formula, the
order of the two `append`s, the attributes set on the node).  Scores are oracles on both sides: the answer of
`__select_variable_entropy`, resp. the values left by the candidate search, are parameters of the generated definitions
and the model's script entry (`Dec.stop` / `Dec.cut v`) is their outcome.
-/
set_option linter.unusedSectionVars false
set_option linter.unusedSimpArgs false
set_option linter.unusedVariables false
namespace Deeprob.Struct4
open Deeprob Deeprob.CnetLearn

variable {α : Type} [Field α] [LinearOrder α]

/-- a node of the model's table as the `BinaryCNet` object of the code: over the variables `0 … n-1` the column indices
are the scope (`col_indices = scope` at the root, and both lose the same position at every cut) -/
def toS4 (nd : Node α) : Gen.S4CNode Unit := { scope := nd.scope, rows := nd.rows, cols := nd.scope }

/-- the model's table cell for a freshly created child object, queued with the parameter `p` -/
def ofS4 (p : α) (c : Gen.S4CNode Unit) : Node α := { rows := c.rows, scope := c.scope, par := p }

/-- column `k` of the partition of node `nd` when `col_indices[k]` is the variable `v` -/
def cutcolOf (data : List (List Nat)) (nd : Node α) (v : Nat) : List Int :=
  nd.rows.map (fun r => ((cellOf data r v : Nat) : Int))

theorem side_as_coded (data : List (List Nat)) (nd : Node α) (v b : Nat) :
    Gen.Py3.rowsWhere nd.rows ((cutcolOf data nd v).map (fun a => a == ((b : Nat) : Int))) = side data v b nd.rows := by
  unfold cutcolOf side
  rw [Struct3.rowsWhere_map]
  simp only [Oblig.StructPy.natCast_beq]

/-- the two row sides as the loops write them, `partition[:, i] == 0` and `== 1` -/
theorem side0_as_coded (data : List (List Nat)) (nd : Node α) (v : Nat) :
    Gen.Py3.rowsWhere nd.rows ((cutcolOf data nd v).map (fun a => a == (0 : Int))) = side data v 0 nd.rows :=
  side_as_coded data nd v 0

theorem side1_as_coded (data : List (List Nat)) (nd : Node α) (v : Nat) :
    Gen.Py3.rowsWhere nd.rows ((cutcolOf data nd v).map (fun a => a == (1 : Int))) = side data v 1 nd.rows :=
  side_as_coded data nd v 1

theorem getI_idxOf (scope : List Nat) (v : Nat) (hv : v ∈ scope) :
    Gen.Py4.getI scope ((scope.idxOf v : Nat) : Int) 0 = v := by
  rw [Oblig.StructPy.getI_natCast, getD_idxOf hv 0]

/-- the two children and the weights a cut on `v` produces, as the model's `step` computes them -/
def cutOf (k : CnetLearn.Kind) (data : List (List Nat)) (nd : Node α) (v : Nat) : Gen.S4CNode Unit × Gen.S4CNode Unit × α :=
  ({ scope := nd.scope.erase v, rows := side data v 0 nd.rows, cols := nd.scope.erase v },
   { scope := nd.scope.erase v, rows := side data v 1 nd.rows, cols := nd.scope.erase v },
   leftWeight k nd.par (side data v 0 nd.rows).length nd.rows.length)

/-- two successive stop tests with the same outcome are one test -/
theorem ite_ite_same {β : Type} (p q : Bool) (x y : β) :
    (if p = true then x else if q = true then x else y) = if (p || q) = true then x else y := by
  cases p <;> cases q <;> rfl

/-- **one iteration of `fit` as coded.**  With `alpha` = the node's parameter and the answer
`(selIdx, meanEntropy, maxGain)` of `__select_variable_entropy`:
* the node becomes a leaf (`fit_clt(partition, alpha)`, nothing pushed) iff the model does not consult the oracle
  (`n_samples <= min_n_samples or n_features <= min_n_features`) or the oracle's answer is a stop
  (`mean_entropy < min_mean_entropy or max_info_gain <= 0`);
* otherwise the cut variable is `node.scope[best_or_idx]`, the children get the rows with value 0 / 1 in that column, the
  scope and the column indices without that position, the weights are `leftWeight .fit` and its complement, and the left
  child is pushed before the right one at the back of the stack (`node.children = [left, right]`) -/
theorem fitStep_as_coded (cfg : Cfg) (hk : cfg.kind = .fit) (data : List (List Nat)) (nd : Node α)
    (stack : List (Gen.S4CNode Unit)) (v : Nat) (hv : v ∈ nd.scope) (mme me mg : α)
    (f : Int → List Int := fun _ => cutcolOf data nd v)
    (hf : f ((nd.scope.idxOf v : Nat) : Int) = cutcolOf data nd v := by rfl) :
    Gen.S4cnetFitStep (toS4 nd) stack f nd.par mme (cfg.minSamples : Int) (cfg.minFeatures : Int)
        ((nd.scope.idxOf v : Nat) : Int) me mg =
      (if !consults cfg nd.rows.length nd.scope.length || (decide (me < mme) || decide (mg ≤ 0)) then
         (stack, [], [], none, "fit_clt(partition, alpha)")
       else
         let c := cutOf CnetLearn.Kind.fit data nd v
         (stack ++ [c.1, c.2.1], [c.1, c.2.1], [c.2.2, 1 - c.2.2], some v, "unchanged")) := by
  unfold Gen.S4cnetFitStep consults
  simp only [hk, Bool.not_not, toS4, Nat.cast_le, Int.cast_zero, ite_ite_same, hf, side0_as_coded, side1_as_coded,
    Struct3.delete_idxOf, getI_idxOf nd.scope v hv, Int.toNat_natCast, cutOf, leftWeight, Int.cast_natCast,
    Int.cast_ofNat, Int.cast_one, Nat.cast_ofNat, List.append_assoc, List.cons_append, List.nil_append]

/-- **the model's `step` at a cut is the generated iteration** (`fit`): the cell of the node receives the split with the
coded weights, the two coded child objects are appended to the table in the coded order and queued at the back -/
theorem step_fit_cut_as_coded (cfg : Cfg) (hk : cfg.kind = .fit) (data : List (List Nat)) (s : St α) (i : Nat) (q : List Nat)
    (sc : List Dec) (v : Nat) (nd : Node α) (hnd : getN s.nodes i = nd) (hq : s.queue = i :: q) (hs : s.script = .cut v :: sc)
    (hc : consults cfg nd.rows.length nd.scope.length = true) (hv : v ∈ nd.scope)
    (mme me mg : α) (hgo : (decide (me < mme) || decide (mg ≤ 0)) = false) :
    step cfg data s = .ok
      (let G := Gen.S4cnetFitStep (toS4 nd) ([] : List (Gen.S4CNode Unit)) (fun _ => cutcolOf data nd v) nd.par mme
        (cfg.minSamples : Int) (cfg.minFeatures : Int) ((nd.scope.idxOf v : Nat) : Int) me mg
       { nodes := s.nodes.set i { nd with split := some { v := (G.2.2.2.1).getD 0, w0 := G.2.2.1.getD 0 0, w1 := G.2.2.1.getD 1 0,
                                                            l := s.nodes.length, r := s.nodes.length + 1 } }
                    ++ G.2.1.map (ofS4 (childPar cfg.kind nd.par)),
         queue := q ++ [s.nodes.length, s.nodes.length + 1], script := sc }) := by
  have hG := fitStep_as_coded cfg hk data nd [] v hv mme me mg
  simp only [hc, hgo, Bool.not_true, Bool.or_false, Bool.false_eq_true, if_false] at hG
  simp only [hG]
  unfold step
  have hcand : candCrash cfg nd.scope.length = false := by unfold candCrash; rw [hk]; rfl
  have hcont : nd.scope.contains v = true := List.contains_iff_mem.2 hv
  have hkind : (cfg.kind != CnetLearn.Kind.fit) = false := by rw [hk]; rfl
  have hself : (CnetLearn.Kind.fit != CnetLearn.Kind.fit) = false := rfl
  simp only [hself, hq, hs, hnd, hc, Bool.not_true, Bool.false_eq_true, if_false, hcand, hcont, hkind, Bool.false_and, cutOf, List.map_cons,
    List.map_nil, ofS4, List.getD_cons_zero, List.getD_cons_succ, Option.getD_some, hk, childPar]

/-- the start of `fit` and its end: the stack starts as the single temporary root over all rows and all columns (scope =
columns = `0 … n-1`), nodes are taken from the front (`pop(0)`), and `or_id`, `children`, `weights`, `clt` are copied from
the temporary root to `self` (`clt`: the F11 repair, the model's `keepRootClt = true`) -/
theorem fit_frame_as_coded (nRows nCols : Nat) (p : α) (script : List Dec) :
    (Gen.S4cnetFitInit (nRows : Int) (nCols : Int)).map (ofS4 p) = (init nRows nCols p script).nodes ∧
    Gen.S4cnetFitPop = "pop(0)" ∧ Gen.S4cnetFitCopies = ["or_id", "children", "weights", "clt"] := by
  refine ⟨?_, rfl, rfl⟩
  simp only [Gen.S4cnetFitInit, init, ofS4, Int.toNat_natCast, List.map_cons, List.map_nil]

/-- the outcome of a score-based iteration: `none` = the node is left as it is, `some v` = cut on `v` -/
def scoreOutcome (k : CnetLearn.Kind) (data : List (List Nat)) (nd : Node α) (v : Nat) (better : Bool) :
    List (Gen.S4CNode Unit) × List α × Option Nat × String :=
  if nd.scope.length = 1 ∨ better = false then ([], [], none, "unchanged")
  else
    let c := cutOf k data nd v
    ([{ c.1 with clt := some () }, { c.2.1 with clt := some () }], [c.2.2, 1 - c.2.2], some v, "None")

/-- the first test of the score-based loops, `len(node.scope) == 1` -/
theorem scopeLen_beq_one (nd : Node α) : ((((toS4 nd).scope.length : Nat) : Int) == 1) = decide (nd.scope.length = 1) :=
  (Oblig.StructPy.natCast_beq_one _).trans (Bool.eq_iff_iff.2 (by rw [beq_iff_eq, decide_eq_true_iff]; rfl))

/-- **one iteration of `learn_cnet_bd` as coded**: nothing happens at a single-variable node or when the best candidate
does not beat the node's own score (`best_cnet_score > node_clt_score`); otherwise the cut is on
`node.scope[best_or_idx]`, `node.clt = None`, weights `leftWeight .bd` (`(n₀ + ess/2) / (n + ess)`) and complement, the
children carry the best trees and are queued left then right with half the node's equivalent sample size and their scores -/
theorem bdStep_as_coded (data : List (List Nat)) (nd : Node α) (score ess : α) (stack : List (Gen.S4CNode Unit × α × α))
    (v : Nat) (hv : v ∈ nd.scope) (ncand : Int) (best sl sr : α)
    (f : Int → List Int := fun _ => cutcolOf data nd v)
    (hf : f ((nd.scope.idxOf v : Nat) : Int) = cutcolOf data nd v := by rfl) :
    Gen.S4cnetBdStep (toS4 nd) nd.par score ess stack f ncand best ((nd.scope.idxOf v : Nat) : Int)
        () () sl sr =
      (let o := scoreOutcome CnetLearn.Kind.bd data nd v (decide (score < best))
       (stack ++ (o.1.zip [sl, sr]).map (fun cs => (cs.1, childPar CnetLearn.Kind.bd nd.par, cs.2)), o.1, o.2.1, o.2.2.1, o.2.2.2)) := by
  unfold Gen.S4cnetBdStep scoreOutcome
  rw [scopeLen_beq_one]
  by_cases h1 : nd.scope.length = 1
  · simp only [h1, decide_true, true_or, ↓reduceIte, List.zip_nil_left, List.map_nil, List.append_nil]
  · cases decide (score < best)
    · simp only [h1, decide_false, or_true, Bool.false_eq_true, ↓reduceIte, List.zip_nil_left, List.map_nil,
        List.append_nil]
    · simp only [h1, decide_false, or_self, Bool.true_eq_false, Bool.false_eq_true, ↓reduceIte, toS4, hf, side0_as_coded,
        side1_as_coded, Struct3.delete_idxOf, getI_idxOf nd.scope v hv, Int.toNat_natCast, cutOf, leftWeight, childPar,
        Int.cast_natCast, Int.cast_ofNat, Int.cast_one, Nat.cast_ofNat, List.zip_cons_cons, List.zip_nil_right,
        List.map_cons, List.map_nil, List.append_assoc, List.cons_append, List.nil_append]

/-- **one iteration of `learn_cnet_bic` as coded**: as for BDeu, with the weights of `fit`
(`(n₀ + alpha) / (n + 2·alpha)`, the same `alpha` at every depth) and entries `[child, score]` -/
theorem bicStep_as_coded (data : List (List Nat)) (nd : Node α) (score : α) (stack : List (Gen.S4CNode Unit × α))
    (v : Nat) (hv : v ∈ nd.scope) (ncand : Int) (best sl sr : α)
    (f : Int → List Int := fun _ => cutcolOf data nd v)
    (hf : f ((nd.scope.idxOf v : Nat) : Int) = cutcolOf data nd v := by rfl) :
    Gen.S4cnetBicStep (toS4 nd) score nd.par stack f ncand best ((nd.scope.idxOf v : Nat) : Int)
        () () sl sr =
      (let o := scoreOutcome CnetLearn.Kind.bic data nd v (decide (score < best))
       (stack ++ (o.1.zip [sl, sr]), o.1, o.2.1, o.2.2.1, o.2.2.2)) := by
  unfold Gen.S4cnetBicStep scoreOutcome
  rw [scopeLen_beq_one]
  by_cases h1 : nd.scope.length = 1
  · simp only [h1, decide_true, true_or, ↓reduceIte, List.zip_nil_left, List.append_nil]
  · cases decide (score < best)
    · simp only [h1, decide_false, or_true, Bool.false_eq_true, ↓reduceIte, List.zip_nil_left, List.append_nil]
    · simp only [h1, decide_false, or_self, Bool.true_eq_false, Bool.false_eq_true, ↓reduceIte, toS4, hf, side0_as_coded,
        side1_as_coded, Struct3.delete_idxOf, getI_idxOf nd.scope v hv, Int.toNat_natCast, cutOf, leftWeight,
        Int.cast_natCast, Int.cast_ofNat, Int.cast_one, Nat.cast_ofNat, List.zip_cons_cons, List.zip_nil_right,
        List.append_assoc, List.cons_append, List.nil_append]

/-- **the model's `step` at a cut is the generated iteration** (BDeu): when the best candidate beats the node's score the
two coded child objects, queued with the coded (halved) equivalent sample size, are the new table cells, and the node's
cell receives the coded cut variable and weights.  (The candidate search never returns a variable with an empty side, and
`n_cand_cuts` does not make `select_cand_cuts` return a scalar: the two `error` exits of the model.) -/
theorem step_bd_cut_as_coded (cfg : Cfg) (hk : cfg.kind = .bd) (data : List (List Nat)) (s : St α) (i : Nat) (q : List Nat)
    (sc : List Dec) (v : Nat) (nd : Node α) (hnd : getN s.nodes i = nd) (hq : s.queue = i :: q) (hs : s.script = .cut v :: sc)
    (hsc : nd.scope.length ≠ 1) (hcr : candCrash cfg nd.scope.length = false) (hv : v ∈ nd.scope)
    (hl : (side data v 0 nd.rows).isEmpty = false) (hr : (side data v 1 nd.rows).isEmpty = false)
    (score ess best sl sr : α) (hbest : score < best) :
    step cfg data s = .ok
      (let G := Gen.S4cnetBdStep (toS4 nd) nd.par score ess ([] : List (Gen.S4CNode Unit × α × α)) (fun _ => cutcolOf data nd v)
        (cfg.nCand : Int) best ((nd.scope.idxOf v : Nat) : Int) () () sl sr
       { nodes := s.nodes.set i { nd with split := some { v := (G.2.2.2.1).getD 0, w0 := G.2.2.1.getD 0 0, w1 := G.2.2.1.getD 1 0,
                                                            l := s.nodes.length, r := s.nodes.length + 1 } }
                    ++ G.1.map (fun c => ofS4 c.2.1 { c.1 with clt := none }),
         queue := q ++ [s.nodes.length, s.nodes.length + 1], script := sc }) := by
  have hG := bdStep_as_coded data nd score ess [] v hv (cfg.nCand : Int) best sl sr
  simp only [hG, scoreOutcome, hsc, hbest, decide_true, false_or, Bool.true_eq_false, if_false, cutOf, List.zip_cons_cons,
    List.zip_nil_right, List.map_cons, List.map_nil, List.nil_append, ofS4, List.getD_cons_zero, List.getD_cons_succ,
    Option.getD_some]
  unfold step
  have hcons : consults cfg nd.rows.length nd.scope.length = true := by
    unfold consults; simp [hk, hsc]
  have hcont : nd.scope.contains v = true := List.contains_iff_mem.2 hv
  have hself : (CnetLearn.Kind.bd != CnetLearn.Kind.fit) = true := rfl
  simp only [hq, hs, hnd, hcons, Bool.not_true, Bool.false_eq_true, if_false, hcr, hcont, hk, hself, Bool.true_and, hl, hr,
    Bool.or_false]

/-- the same for the BIC learner (`alpha` unchanged at every depth) -/
theorem step_bic_cut_as_coded (cfg : Cfg) (hk : cfg.kind = .bic) (data : List (List Nat)) (s : St α) (i : Nat) (q : List Nat)
    (sc : List Dec) (v : Nat) (nd : Node α) (hnd : getN s.nodes i = nd) (hq : s.queue = i :: q) (hs : s.script = .cut v :: sc)
    (hsc : nd.scope.length ≠ 1) (hcr : candCrash cfg nd.scope.length = false) (hv : v ∈ nd.scope)
    (hl : (side data v 0 nd.rows).isEmpty = false) (hr : (side data v 1 nd.rows).isEmpty = false)
    (score best sl sr : α) (hbest : score < best) :
    step cfg data s = .ok
      (let G := Gen.S4cnetBicStep (toS4 nd) score nd.par ([] : List (Gen.S4CNode Unit × α)) (fun _ => cutcolOf data nd v)
        (cfg.nCand : Int) best ((nd.scope.idxOf v : Nat) : Int) () () sl sr
       { nodes := s.nodes.set i { nd with split := some { v := (G.2.2.2.1).getD 0, w0 := G.2.2.1.getD 0 0, w1 := G.2.2.1.getD 1 0,
                                                            l := s.nodes.length, r := s.nodes.length + 1 } }
                    ++ G.1.map (fun c => ofS4 nd.par { c.1 with clt := none }),
         queue := q ++ [s.nodes.length, s.nodes.length + 1], script := sc }) := by
  have hG := bicStep_as_coded data nd score [] v hv (cfg.nCand : Int) best sl sr
  simp only [hG, scoreOutcome, hsc, hbest, decide_true, false_or, Bool.true_eq_false, if_false, cutOf, List.zip_cons_cons,
    List.zip_nil_right, List.map_cons, List.map_nil, List.nil_append, ofS4, List.getD_cons_zero, List.getD_cons_succ,
    Option.getD_some]
  unfold step
  have hcons : consults cfg nd.rows.length nd.scope.length = true := by
    unfold consults; simp [hk, hsc]
  have hcont : nd.scope.contains v = true := List.contains_iff_mem.2 hv
  have hself : (CnetLearn.Kind.bic != CnetLearn.Kind.fit) = true := rfl
  simp only [hq, hs, hnd, hcons, Bool.not_true, Bool.false_eq_true, if_false, hcr, hcont, hk, hself, Bool.true_and, hl, hr,
    Bool.or_false, childPar]

/-- **when the score-based learners consult the oracle, and when they crash**: scores are computed iff
`len(node.scope) != 1` (the model's `consults`), the candidate loop runs over `select_cand_cuts(…, n_cand_cuts=k)` with
`k = min(n_cand_cuts, len(node.scope))`, and that function returns a scalar (so the `for` raises `TypeError`: the
model's `candCrash`) iff `k == 1` -/
theorem candidates_as_coded (cfg : Cfg) (hk : cfg.kind ≠ .fit) (nd : Node α) :
    consults cfg nd.rows.length nd.scope.length = !(((nd.scope.length : Nat) : Int) == 1) ∧
    candCrash cfg nd.scope.length = Gen.S4selectCandScalar (Gen.S4cnetBdK (toS4 nd) (cfg.nCand : Int)) ∧
    Gen.S4cnetBdK (toS4 nd) (cfg.nCand : Int) = Gen.S4cnetBicK (toS4 nd) (cfg.nCand : Int) ∧
    Gen.S4cnetBdPop = "pop(0)" ∧ Gen.S4cnetBicPop = "pop(0)" := by
  have hne : (cfg.kind != Kind.fit) = true := by
    cases hkk : cfg.kind with
    | fit => exact absurd hkk hk
    | bd => rfl
    | bic => rfl
  refine ⟨?_, ?_, rfl, rfl, rfl⟩
  · unfold consults
    rw [Oblig.StructPy.natCast_beq_one]
    cases hkk : cfg.kind with
    | fit => exact absurd hkk hk
    | bd => rfl
    | bic => rfl
  · unfold candCrash Gen.S4selectCandScalar Gen.S4cnetBdK toS4
    rw [hne, Bool.true_and, ← Nat.cast_min, Oblig.StructPy.natCast_beq_one]

deriving instance DecidableEq for Gen.S4CNode

/-- non-vacuity: six rows over the variables `[0, 1, 2]`, cut on variable 1 with `alpha = 1/10` -/
example :
    let data : List (List Nat) := [[0, 1, 0], [1, 0, 0], [1, 1, 1], [0, 0, 1], [1, 1, 0], [0, 1, 1]]
    let nd : Node ℚ := { rows := [0, 1, 2, 3, 4, 5], scope := [0, 1, 2], par := 1 / 10 }
    Gen.S4cnetFitStep (toS4 nd) [] (fun _ => cutcolOf data nd 1) (1 / 10 : ℚ) (1 / 100) 2 1 1 (1 / 2) (1 / 5)
      = ([{ scope := [0, 2], rows := [1, 3], cols := [0, 2] }, { scope := [0, 2], rows := [0, 2, 4, 5], cols := [0, 2] }],
         [{ scope := [0, 2], rows := [1, 3], cols := [0, 2] }, { scope := [0, 2], rows := [0, 2, 4, 5], cols := [0, 2] }],
         [21 / 62, 41 / 62], some 1, "unchanged") := by
  decide +kernel

/-- non-vacuity (BDeu, BIC, candidates): the same node, best candidate score 3 against the node's own score 2 -/
example :
    let data : List (List Nat) := [[0, 1, 0], [1, 0, 0], [1, 1, 1], [0, 0, 1], [1, 1, 0], [0, 1, 1]]
    let nd : Node ℚ := { rows := [0, 1, 2, 3, 4, 5], scope := [0, 1, 2], par := 1 / 10 }
    (Gen.S4cnetBdStep (toS4 nd) nd.par 2 (1 / 10) [] (fun _ => cutcolOf data nd 1) 10 3 (([0, 1, 2].idxOf 1 : Nat) : Int) () () 5 6).2.2.1
      = [leftWeight CnetLearn.Kind.bd (1 / 10 : ℚ) 2 6, 1 - leftWeight CnetLearn.Kind.bd (1 / 10 : ℚ) 2 6] ∧
    (Gen.S4cnetBicStep (toS4 nd) 2 nd.par [] (fun _ => cutcolOf data nd 1) 10 3 (([0, 1, 2].idxOf 1 : Nat) : Int) () () 5 6).2.2.2.1 = some 1 := by
  decide +kernel

example : candCrash { kind := .bd, nCand := 1 } 3 = true ∧
    Gen.S4selectCandScalar (Gen.S4cnetBdK (toS4 ({ rows := [], scope := [0, 1, 2], par := 0 } : Node ℚ)) 1) = true := by
  refine ⟨by decide, ?_⟩
  have h := (candidates_as_coded { kind := .bd, nCand := 1 } (by decide) ({ rows := [], scope := [0, 1, 2], par := 0 } : Node ℚ)).2.1
  rw [show candCrash { kind := .bd, nCand := 1 } ({ rows := [], scope := [0, 1, 2], par := 0 } : Node ℚ).scope.length = true from by decide] at h
  exact h.symm

/-- non-vacuity of `step_fit_cut_as_coded`: the machine's step on a one-node table -/
example :
    let data : List (List Nat) := [[0, 1, 0], [1, 0, 0], [1, 1, 1], [0, 0, 1], [1, 1, 0], [0, 1, 1]]
    let nd : Node ℚ := { rows := [0, 1, 2, 3, 4, 5], scope := [0, 1, 2], par := 1 / 10 }
    ∃ s', step { kind := .fit, minSamples := 2, minFeatures := 1 } data { nodes := [nd], queue := [0], script := [.cut 1] } = .ok s' ∧
      s'.queue = [1, 2] :=
  ⟨_, step_fit_cut_as_coded { kind := .fit, minSamples := 2, minFeatures := 1 } rfl _ _ 0 [] [] 1 _ rfl rfl rfl (by decide) (by decide)
      (1 / 100) (1 / 2) (1 / 5) (by norm_num), rfl⟩

/-- non-vacuity of `step_bd_cut_as_coded` / `step_bic_cut_as_coded` -/
example :
    let data : List (List Nat) := [[0, 1, 0], [1, 0, 0], [1, 1, 1], [0, 0, 1], [1, 1, 0], [0, 1, 1]]
    let nd : Node ℚ := { rows := [0, 1, 2, 3, 4, 5], scope := [0, 1, 2], par := 1 / 10 }
    (∃ s', step { kind := .bd, nCand := 3 } data { nodes := [nd], queue := [0], script := [.cut 1] } = .ok s' ∧ s'.queue = [1, 2]) ∧
    (∃ s', step { kind := .bic, nCand := 3 } data { nodes := [nd], queue := [0], script := [.cut 1] } = .ok s' ∧ s'.queue = [1, 2]) :=
  ⟨⟨_, step_bd_cut_as_coded { kind := .bd, nCand := 3 } rfl _ _ 0 [] [] 1 _ rfl rfl rfl (by decide) (by decide) (by decide)
      (by decide) (by decide) 2 (1 / 10) 3 5 6 (by norm_num), rfl⟩,
   ⟨_, step_bic_cut_as_coded { kind := .bic, nCand := 3 } rfl _ _ 0 [] [] 1 _ rfl rfl rfl (by decide) (by decide) (by decide)
      (by decide) (by decide) 2 3 5 6 (by norm_num), rfl⟩⟩

end Deeprob.Struct4
