import DeeprobModel.Oblig.StructPy
import DeeprobModel.Model.RatSpn
/-
Static tie of `Model/RatSpn.lean` to /repo/deeprob/utils/region.py (`random_layers`) and
/repo/deeprob/spn/layers/ratspn.py (`RegionGraphLayer.__init__`, `unpad_samples`) — C16.
-/
namespace Deeprob.Oblig.StructRatSpn
open Deeprob Deeprob.RatSpn Deeprob.Oblig.StructPy

/-- **`mid = len(r) // 2`, the first half `permutation[:mid]` is `p0`** (so the second region gets the extra element):
the regions appended by `random_layers` for one parent region, and the pair appended to `partitions`, are the two
components of the model's `splitRegion`, in this order -/
theorem splitRegion_as_coded (ρ : List Nat → List Nat) (r : List Nat) :
    Gen.regionSplitRegions isort r (ρ r) = [(splitRegion ρ r).1, (splitRegion ρ r).2] ∧
    Gen.regionSplitPartition isort r (ρ r) = [(splitRegion ρ r).1, (splitRegion ρ r).2] := by
  unfold Gen.regionSplitRegions Gen.regionSplitPartition splitRegion
  have h2 : ((2 : Int)) = ((2 : Nat) : Int) := rfl
  simp only [h2, fdiv_natCast, take_natCast, drop_natCast, and_self]

/-- `nextRegions` appends `p0, p1` per parent exactly as the generated region list -/
theorem nextRegions_as_coded (ρ : List Nat → List Nat) (rs : List (List Nat)) :
    nextRegions ρ rs = rs.flatMap (fun r => Gen.regionSplitRegions isort r (ρ r)) := by
  unfold nextRegions
  congr 1; funext r; exact (splitRegion_as_coded ρ r).1.symm

/-- **`self.pad = -in_features % 2 ** depth`** (Python floor modulo) is the model's `padOf` -/
theorem padOf_as_coded (n d : Nat) : Gen.ratPad (n : Int) (d : Int) = ((padOf n d : Nat) : Int) := by
  have hc : (2 : Int) ^ d = ((2 ^ d : Nat) : Int) := by push_cast; rfl
  have hle : n % 2 ^ d ≤ 2 ^ d := Nat.le_of_lt (Nat.mod_lt _ (Nat.two_pow_pos d))
  unfold Gen.ratPad padOf
  rw [Int.toNat_natCast, hc, Int.fmod_eq_emod_of_nonneg _ (Int.natCast_nonneg _), Int.natCast_emod, Int.ofNat_sub hle,
    Int.natCast_emod, Int.sub_emod_emod, Int.neg_emod_eq_sub_emod]

/-- `self.dimension = (in_features + pad) // 2 ** depth` is the model's `dimOf` -/
theorem dimOf_as_coded (n d : Nat) : Gen.ratDim (n : Int) (d : Int) ((padOf n d : Nat) : Int) = ((dimOf n d : Nat) : Int) := by
  unfold Gen.ratDim dimOf
  have h : ((2 : Int) ^ (d : Int).toNat) = ((2 ^ d : Nat) : Int) := by rw [Int.toNat_natCast]; push_cast; rfl
  rw [h, ← Nat.cast_add, fdiv_natCast]

/-- the translator's boolean-mask selection is the model's `selectRow` -/
theorem select_eq {β : Type} (x : List β) (m : List Bool) : Gen.Py.select x m = selectRow x m := rfl

/-- **`unpad_samples` keeps the positions where `inv_pad_mask` is false** (`samples[~inv_pad_mask[…]]`), only when
`pad > 0`: the model's `unpad` (which mirrors the library after the fix of finding F10, DESIGN.md §7) is the generated row function applied to the gathered row -/
theorem unpad_as_coded {β : Type} (n d : Nat) (regions : List (List Nat)) (t : Nat) (x : List β) :
    unpad n d regions t x =
      Gen.ratUnpadRow ((padOf n d : Nat) : Int) (gatherRow x (invMask n d regions t)) (invPadMask n d regions t) := by
  unfold unpad Gen.ratUnpadRow
  simp only [select_eq, gt_iff_lt, Int.natCast_pos, decide_eq_true_eq]

/-- … and is not the selection of the library before that fix whenever the two differ: the generated selector negates the mask -/
theorem unpad_negates (samples : List Nat) (m : List Bool) :
    Gen.ratUnpadRow 1 samples m = selectRow samples (m.map (fun b => !b)) := by
  unfold Gen.ratUnpadRow; simp [select_eq]

end Deeprob.Oblig.StructRatSpn
