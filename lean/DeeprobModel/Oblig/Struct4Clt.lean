import DeeprobModel.Oblig.StructPy
import DeeprobModel.Model.Clt
import DeeprobModel.Model.CltPc
import DeeprobModel.Lemmas.CltLemmas
import DeeprobModel.Lemmas.CltMpe
import DeeprobModel.Lemmas.CltExample
import Mathlib.Tactic.Linarith
import Mathlib.Algebra.Order.Field.Rat
/-
Static tie of `Model/Clt.lean` / `Model/CltPc.lean` (`bfsOrder`, `joint`, `value`, `upMax`, `msgMax`,
`argmax2`, `decodeList`) to /repo/deeprob/utils/graph.py (`compute_bfs_ordering`) and
/repo/deeprob/spn/structure/cltree.py (`BinaryCLT.log_likelihood`, `BinaryCLT.mpe`) — C02, C06, C12.

The generated definitions read the NumPy code on one row of the batch; they are generic in the carrier, so the log-domain
code (`+` of log-values, `np.sum`) is compared with the linear-domain model by instantiating `+ ↦ *`, `0 ↦ 1`
(`exp` is a monoid isomorphism of `(F, +, 0)` onto `(F_{>0}, *, 1)`, and strictly monotone: arg-max positions are kept).
-/
set_option linter.unusedSectionVars false
set_option linter.unusedSimpArgs false
set_option linter.unusedVariables false
namespace Deeprob.Struct4
open Deeprob Deeprob.Clt Deeprob.Oblig.StructPy

/-- **one iteration as coded**: the node taken from the left end is appended to the ordering and its children are
appended to the queue (the guard `if not node.is_leaf()` only skips an empty `extend`) -/
theorem bfsStep_as_coded {N : Type} (getId : N → Nat) (isLeaf : N → Bool) (kids : N → List N)
    (hleaf : ∀ n, isLeaf n = (kids n).isEmpty) (node : N) (queue : List N) (ordering : List Nat) :
    Gen.S4bfsStep getId isLeaf kids node queue ordering = (queue ++ kids node, ordering ++ [getId node]) := by
  unfold Gen.S4bfsStep
  cases h : kids node with
  | nil => simp [hleaf, h]
  | cons a b => simp [hleaf, h]

/-- the loop `while nodes_queue:` driven by the generated step, on the tree nodes `0 … n-1` of a predecessor vector
(`TreeNode` ids = positions when no scope is given; `get_children` = `childrenOf`: `build_tree_structure` appends the
children while enumerating the vector) -/
def bfsRun (pred : List Int) : Nat → List Nat → List Nat → List Nat
  | 0, _, ord => ord
  | _, [], ord => ord
  | f + 1, q :: qs, ord =>
    let st := Gen.S4bfsStep (fun j => j) (fun j => (childrenOf pred j).isEmpty) (childrenOf pred) q qs ord
    bfsRun pred f st.1 st.2

/-- **`compute_bfs_ordering` as coded is the model's `bfsOrder`** (queue discipline: `popleft`, children appended at the
right end, ids appended to the ordering in visiting order) -/
theorem bfs_as_coded (pred : List Int) : ∀ (fuel : Nat) (queue ord : List Nat),
    bfsRun pred fuel queue ord = ord ++ bfsOrder pred fuel queue := by
  intro fuel
  induction fuel with
  | zero => intro queue ord; cases queue <;> simp [bfsRun, bfsOrder]
  | succ f ih =>
    intro queue ord
    cases queue with
    | nil => simp [bfsRun, bfsOrder]
    | cons q qs =>
      rw [bfsRun, bfsStep_as_coded _ _ _ (fun _ => rfl)]
      simp only [ih, bfsOrder, List.append_assoc, List.singleton_append]

theorem bfsPop_as_coded : Gen.S4bfsPop = "popleft()" := rfl

example : bfsRun [2, 2, -1, 0, 0] 5 [2] [] = [2, 0, 1, 3, 4] ∧ bfsOrder [2, 2, -1, 0, 0] 5 [2] = [2, 0, 1, 3, 4] := by
  decide +kernel

section loglik
variable {α : Type} [Zero α] [Add α]

/-- the vectorised complete-evidence formula `np.sum(params[vs, x[:, tree], x[:, vs]], axis=1)` on one row -/
def eviSum (params : Int → Int → Int → α) (tree : List Int) (x : List (Option Nat)) : α :=
  Gen.Py4.sum (Gen.Py4.zipWith3 params (Gen.Py.arange 0 ((x.length : Nat) : Int) 1)
    ((tree.map (fun j => Gen.Py4.getI x j none)).map (fun v => ((Gen.Py3.val v : Nat) : Int)))
    (((Gen.Py.arange 0 ((x.length : Nat) : Int) 1).map (fun j => Gen.Py4.getI x j none)).map
      (fun v => ((Gen.Py3.val v : Nat) : Int))))

/-- **the NaN mask split as coded**: a row with a missing value goes through `message_passing(…, return_lls=True,
reduce='mar')` with the mask of its observed entries; every other row through the vectorised formula — the same formula
in the masked branch (`z = x[evi_mask]`) and in the branch taken when no row of the batch has a missing value; no entry
of `np.empty` is left unwritten.  (`batchAny` = "some row of the batch has a missing value", hence true when this row has
one.) -/
theorem logLikelihood_as_coded (params : Int → Int → Int → α) (tree : List Int)
    (mp : List (Option Nat) → List Bool → Bool → String → α) (batchAny : Bool) (nRows : Nat) (x : List (Option Nat))
    (hb : x.any Option.isNone = true → batchAny = true) :
    Gen.S4cltLogLikelihood params tree mp batchAny nRows x =
      some (if x.any Option.isNone then mp x (x.map (fun o => !o.isNone)) true "mar" else eviSum params tree x) := by
  unfold Gen.S4cltLogLikelihood eviSum
  simp only [isnan_eq_isNone, List.any_map, List.map_map, Function.comp_def]
  cases hm : x.any Option.isNone
  · cases batchAny <;> simp
  · obtain rfl := hb hm
    simp

/-- non-vacuity: a row with a missing entry goes through the messages, a complete one through the vectorised formula
(here at `ℤ` with `params i l k = 100 i + 10 l + k`: tree `[-1, 0, 0]`, the root reads the row given by the last column) -/
example :
    Gen.S4cltLogLikelihood (fun i l k => 100 * i + 10 * l + k) [-1, 0, 0] (fun _ _ _ _ => (-7 : Int)) true 2 [some 1, none, some 0] = some (-7) ∧
    Gen.S4cltLogLikelihood (fun i l k => 100 * i + 10 * l + k) [-1, 0, 0] (fun _ _ _ _ => (-7 : Int)) true 2 [some 1, some 0, some 1]
      = some ((0 + 10 + 1) + (100 + 10 + 0) + (200 + 10 + 1)) ∧
    Gen.S4cltLogLikelihood (fun i l k => 100 * i + 10 * l + k) [-1, 0, 0] (fun _ _ _ _ => (-7 : Int)) false 1 [some 1, some 0, some 1]
      = some ((0 + 10 + 1) + (100 + 10 + 0) + (200 + 10 + 1)) := by
  refine ⟨?_, ?_, ?_⟩ <;> rw [logLikelihood_as_coded _ _ _ _ _ _ (by decide)] <;> decide

end loglik

section joint
variable {α : Type} [CommSemiring α]

theorem zipWith3_map {β γ δ ε ι : Type} (f : β → γ → δ → ε) (a : ι → β) (b : ι → γ) (c : ι → δ) (l : List ι) :
    Gen.Py4.zipWith3 f (l.map a) (l.map b) (l.map c) = l.map (fun i => f (a i) (b i) (c i)) := by
  induction l with
  | nil => rfl
  | cons x xs ih => simp only [List.map_cons, Gen.Py4.zipWith3, ih]

/-- a log-domain sum read in the linear domain is the model's product -/
theorem sum_mul_eq_lprod (l : List α) : @Gen.Py4.sum α ⟨1⟩ ⟨(· * ·)⟩ l = lprod l := by
  induction l with
  | nil => rfl
  | cons x xs ih => simp only [Gen.Py4.sum, lprod, ih]; rfl

/-- the complete row of the assignment `xv` (variable `scope[i]` at position `i`) -/
def rowOf (scope : List Nat) (n : Nat) (xv : Nat → Nat) : List (Option Nat) :=
  (List.range n).map (fun i => some (xv (scope.getD i 0)))

theorem rowOf_length (scope : List Nat) (n : Nat) (xv : Nat → Nat) : (rowOf scope n xv).length = n := by
  unfold rowOf; rw [List.length_map, List.length_range]

theorem rowOf_getD (scope : List Nat) (n : Nat) (xv : Nat → Nat) (i : Nat) (h : i < n) :
    (rowOf scope n xv).getD i none = some (xv (scope.getD i 0)) := by
  unfold rowOf
  rw [List.getD_eq_getElem?_getD, List.getElem?_map, List.getElem?_range h]
  rfl

/-- reading the complete row at a predecessor entry: `-1` (the root's) is NumPy's last column -/
theorem getI_rowOf (scope : List Nat) (n : Nat) (xv : Nat → Nat) (p : Int) (h1 : -1 ≤ p) (h2 : p < (n : Int)) (hn : 0 < n) :
    Gen.Py4.getI (rowOf scope n xv) p none = some (xv (scope.getD (if p < 0 then n - 1 else p.toNat) 0)) := by
  by_cases hneg : p < 0
  · obtain rfl : p = -1 := by omega
    rw [getI_neg_one, rowOf_length, rowOf_getD scope n xv (n - 1) (by omega), if_pos hneg]
  · obtain ⟨k, rfl⟩ := Int.eq_ofNat_of_zero_le (by omega : 0 ≤ p)
    rw [getI_natCast, rowOf_getD scope n xv k (by omega), if_neg hneg, Int.toNat_natCast]

/-- **the vectorised complete-evidence path as coded is the model's `joint`** (linear-domain reading of the generated
formula, `params[i, l, k] ↦ cptAt cpt i l k`): variable `i` reads the row `x[tree[i]]` of its table, and the root, whose
entry of `tree` is `-1`, reads the row given by the last column (NumPy's negative index) — exactly the `pa` of
`Clt.joint`.  Hypothesis: the predecessor vector has entries in `-1 … n-1`. -/
theorem joint_as_coded (scope : List Nat) (pred : List Int) (cpt : List (List (List α))) (xv : Nat → Nat)
    (hpred : ∀ i < pred.length, -1 ≤ pred.getD i (-1) ∧ pred.getD i (-1) < (pred.length : Int)) :
    joint scope pred cpt xv =
      @eviSum α ⟨1⟩ ⟨(· * ·)⟩ (fun i l k => cptAt cpt i.toNat l.toNat k.toNat) pred (rowOf scope pred.length xv) := by
  unfold eviSum
  rw [rowOf_length, arange_range, sum_mul_eq_lprod, joint_eq_lprod]
  conv_rhs => rw [← map_getD_range pred (-1)]
  simp only [List.map_map, List.length_map, List.length_range]
  rw [zipWith3_map]
  congr 1
  apply List.map_congr_left
  intro i hi
  have hi' : i < pred.length := List.mem_range.1 hi
  obtain ⟨h1, h2⟩ := hpred i hi'
  simp only [Function.comp, jointFactor, Int.toNat_natCast]
  rw [getI_natCast, rowOf_getD scope _ xv i hi', getI_rowOf scope _ xv _ h1 h2 (by omega)]
  rfl

example :
    joint [0, 1, 2] [-1, 0, 0] [[[(1:ℚ)/2, 1/2], [1/2, 1/2]], [[1/4, 3/4], [2/3, 1/3]], [[1/5, 4/5], [1/2, 1/2]]] (fun v => [1, 0, 1].getD v 0)
      = 1 / 6 ∧
    @eviSum ℚ ⟨1⟩ ⟨(· * ·)⟩ (fun i l k => cptAt [[[(1:ℚ)/2, 1/2], [1/2, 1/2]], [[1/4, 3/4], [2/3, 1/3]], [[1/5, 4/5], [1/2, 1/2]]] i.toNat l.toNat k.toNat)
      [-1, 0, 0] [some 1, some 0, some 1] = 1 / 6 := by
  constructor
  · decide +kernel
  · decide +kernel

end joint

section mpe
variable {α : Type} [Add α] [LT α] [DecidableLT α]

/-- the decision of the decoding pass for variable `j` whose parent has the value `l`:
`np.argmax(self.params[j, l] + messages[j, row], axis=1)` -/
def pickOf (params : Int → Int → Int → α) (msgs : Int → List α) (j l : Int) : Nat :=
  Gen.Py4.argmax (List.zipWith (fun a b => a + b) (Gen.Py4.vec2 (params j l)) (msgs j))

/-- one iteration of `for j in self.bfs[1:]` on one row: a missing entry (missing in the input row: the mask is computed
before the loop) receives the decision for the value currently stored for its parent `tree[j]` -/
def mpeStep (params : Int → Int → Int → α) (tree : List Int) (msgs : Int → List α) (mis : List Bool)
    (x : List (Option Nat)) (j : Int) : List (Option Nat) :=
  if Gen.Py4.getI mis j false then
    Gen.Py4.setI x j.toNat
      (some (pickOf params msgs j ((Gen.Py3.val (Gen.Py4.getI x (Gen.Py4.getI tree j 0) none) : Nat) : Int)))
  else x

/-- **`BinaryCLT.mpe` as coded, one row**: messages from `message_passing(x, ~isnan(x), return_lls=False,
reduce='mpe')`; the root reads row 0 of its table; then the variables in the order `self.bfs[1:]` -/
theorem mpe_as_coded (params : Int → Int → Int → α) (root : Int) (bfs tree : List Int)
    (mp : List (Option Nat) → List Bool → Bool → String → Int → List α) (x : List (Option Nat)) :
    Gen.S4cltMpe params root bfs tree mp x =
      (let mis := x.map Option.isNone
       let msgs := mp x (x.map (fun o => !o.isNone)) false "mpe"
       (bfs.drop 1).foldl (mpeStep params tree msgs mis)
         (if Gen.Py4.getI mis root false then Gen.Py4.setI x root.toNat (some (pickOf params msgs root 0)) else x)) := by
  unfold Gen.S4cltMpe
  simp only [isnan_eq_isNone, List.map_map, Function.comp_def, drop_one]
  rfl

/-- an observed entry is never overwritten (the mask is that of the input row) -/
theorem mpeStep_observed (params : Int → Int → Int → α) (tree : List Int) (msgs : Int → List α)
    (x0 x : List (Option Nat)) (j : Nat) (h : (x0.getD j none).isSome) :
    mpeStep params tree msgs (x0.map Option.isNone) x (j : Int) = x := by
  have hj : j < x0.length := by
    by_contra hj
    rw [List.getD_eq_getElem?_getD, List.getElem?_eq_none (Nat.le_of_not_lt hj)] at h
    exact Bool.false_ne_true h
  unfold mpeStep
  rw [getI_map_isNone x0 j hj, Option.isNone_eq_false_iff.2 h]
  rfl

example : mpeStep (fun _ _ _ => (0 : Nat)) [-1, 0] (fun _ => [1, 2]) ([some 1, some 0].map Option.isNone) [some 1, some 0] ((1 : Nat) : Int)
    = [some 1, some 0] := mpeStep_observed _ _ _ [some 1, some 0] _ 1 (by decide)

end mpe

section mpeLinear
variable {α : Type} [CommSemiring α] [LinearOrder α] [IsStrictOrderedRing α]

/-- `np.argmax` over the two values of a binary variable is the model's `argmax2` (first index on ties) -/
theorem argmax_pair (a b : α) : Gen.Py4.argmax [a, b] = argmax2 a b := by
  simp [Gen.Py4.argmax, Gen.Py4.argmaxAux, argmax2]

/-- **the decision as coded is the model's** (linear-domain reading `+ ↦ *`, `params[i, l, k] ↦ cptAt cpt i l k`,
`messages[j, row, k] ↦ msgMax … k`): for a variable that is missing in the evidence, `pickOf` is the value `chosen` by
`decodeList` — the table row is selected by the parent's value, the message entry by the variable's own value, ties go to 0 -/
theorem pickOf_is_chosen (scope : List Nat) (cpt : List (List (List α))) (j : Nat) (cs : List RTree) (l : Nat) (e : Ev)
    (msgs : Int → List α) (hm : msgs (j : Int) = [msgMax scope cpt cs 0 e, msgMax scope cpt cs 1 e])
    (he : e (scope.getD j 0) = none) :
    @pickOf α ⟨(· * ·)⟩ _ _ (fun i l k => cptAt cpt i.toNat l.toNat k.toNat) msgs (j : Int) (l : Int) =
      chosen scope cpt j cs l e := by
  unfold pickOf chosen Gen.Py4.vec2
  rw [hm, he]
  simp only [List.zipWith_cons_cons, List.zipWith_nil_right, Int.toNat_natCast]
  exact argmax_pair _ _

/-- non-vacuity: variable 4 (local index 3, a leaf of the example tree of `Lemmas/CltExample.lean`, missing), parent value 1 -/
example :
    @pickOf ℚ ⟨(· * ·)⟩ _ _ (fun i l k => cptAt Ex.cpt i.toNat l.toNat k.toNat)
      (fun _ => [msgMax Ex.scope Ex.cpt [] 0 Ex.ev, msgMax Ex.scope Ex.cpt [] 1 Ex.ev]) ((3 : Nat) : Int) ((1 : Nat) : Int)
      = chosen Ex.scope Ex.cpt 3 [] 1 Ex.ev :=
  pickOf_is_chosen Ex.scope Ex.cpt 3 [] 1 Ex.ev _ rfl (by simp [Ex.ev, Ex.scope])

/-- non-vacuity of `mpe_as_coded`: a chain 0 → 1 → 2 with un-normalised integer tables and given max-product messages;
variable 1 is observed (kept), variable 2 reads the value decoded for … its parent 1 (value 0, observed) -/
example :
    let params : Int → Int → Int → ℕ := fun i l k =>
      cptAt [[[1, 2], [1, 2]], [[1, 3], [2, 1]], [[1, 4], [5, 1]]] i.toNat l.toNat k.toNat
    @Gen.S4cltMpe ℕ ⟨(· * ·)⟩ _ _ params 0 [0, 1, 2] [-1, 0, 1]
      (fun _ _ _ _ i => [[3, 1], [1, 1], [1, 1]].getD i.toNat []) [none, some 0, none] = [some 0, some 0, some 1] := by
  decide +kernel

end mpeLinear

end Deeprob.Struct4
