import DeeprobModel.Oblig.Struct5Rewrite
import DeeprobModel.Oblig.StructRewrite
set_option linter.unusedVariables false
set_option linter.unusedSectionVars false
/-
Rewriting passes — the pass of `structure.prune` as extracted by tools/listprog.py:
`Gen.S5prunePassLoop` (fragment `structure.prune.loop`): `nodes = topological_order(root)` (`none`: not a DAG),
`nodes_map = {n.id: n}`, `for node in reversed(nodes)`, one change of the slot `nodes_map[node.id]` per iteration (the stores are listed
in `Gen.S5prunePassLoopWrites`), `assign_ids(nodes_map[root.id])` (`Gen.S5prunePassLoopFinish`).

The per-node rule handed to the skeleton is `pruneStepGen`: the model's `pruneStep true` with its two collapse tests replaced by the
generated ones (`Gen.pruneSingleChild`, `Gen.pruneMergedSingle`); `pruneStepGen_eq` says the two agree.

Partial — what is shown here is the shape only: instantiated on a table whose storage order is the reversed order the code walks, the
generated skeleton is the fold `prunePassGen` (`net.foldl genStep ([], [])`: one call of the per-node rule per entry, in storage order),
which is the model's `prunePass true` (`prunePassGen_eq`).  In this instance the whole step `genStep` is the skeleton's `apply` and the
dictionary is handed to it as a whole, so the statement covers the traversal, the initial state and the single update per visited node,
not the read / write locality the skeleton can express.  Missing for the full obligation: (1) the loop body of `prune` is not extracted
(only its collapse tests are), so the rebuilt children / weights (`prodItems`, `sumAcc`) are the model's, with no simulation theorem;
(2) an instance in which `get st k` is the object stored under key `k` and `body` reads only through it; (3) the link between
`topological_order` as generated (`Gen.S5topoStep`, `E2ETopo.e2e_topo_eq`) and the storage order (`prunePass_order_indep`).
-/
namespace Deeprob.Oblig.Struct5Prune
open Deeprob Deeprob.Net

section
variable {α : Type} [Zero α] [Add α] [Mul α]

/-- one iteration of `for node in reversed(nodes)` in `prune`: the model's rule (`Net.pruneStep true`) with the two collapse tests
taken from the generated fragments -/
def pruneStepGen (t : Net α) (rep : List Nat) (i : Nat) (x : NNode α) : NNode α × Nat :=
  match x.kind with
  | .leaf => (x, i)
  | .prod =>
    match Gen.pruneSingleChild (x.ch.map (fun c => rep.getD c c)) with
    | some c => (x, c)
    | none => ({ x with ch := prodItems t rep (x.ch.map (fun c => rep.getD c c)) }, i)
  | .sum =>
    match Gen.pruneSingleChild (x.ch.map (fun c => rep.getD c c)) with
    | some c => (x, c)
    | none =>
      match Gen.pruneMergedSingle ((sumAcc t rep x).map Prod.fst) with
      | some g => (x, g)
      | none => ({ x with ch := (sumAcc t rep x).map Prod.fst, ws := (sumAcc t rep x).map Prod.snd }, i)

theorem pruneStepGen_eq (t : Net α) (rep : List Nat) (i : Nat) (x : NNode α) :
    pruneStepGen t rep i x = pruneStep true t rep i x := by
  unfold pruneStepGen pruneStep
  simp only [StructRewrite.single_as_coded, (StructRewrite.merged_single_as_coded _).1, if_true]
  rfl

/-- the update of the visited node's slot (the node object is appended to the rebuilt table, its replacement to `nodes_map`) -/
def genStep (st : Net α × List Nat) (x : NNode α) : Net α × List Nat :=
  let r := pruneStepGen st.1 st.2 st.1.length x
  (st.1 ++ [r.1], st.2 ++ [r.2])

/-- the pass over the table in storage order with the generated collapse tests -/
def prunePassGen (net : Net α) : Net α × List Nat := net.foldl genStep ([], [])

theorem prunePassGen_eq (net : Net α) : prunePassGen net = prunePass true net := by
  unfold prunePassGen prunePass
  congr 1
  funext st x
  simp only [genStep, pruneStepGen_eq]

/-- the generated pass skeleton of `prune`, walked over the table in storage order (i.e.
`topological_order` answers the reversed table), with `genStep` as the update of the visited node's slot, is the fold `prunePassGen`,
i.e. the model's `prunePass true`.  Partial: see the header (the locality of reads / writes is not part of this instance; the rebuilt
children / weights are the model's). -/
theorem prunePassLoop_shape_partial (net : Net α) (rootNode : NNode α) :
    Gen.S5prunePassLoop (N := NNode α) (V := Net α × List Nat) (MAP := Net α × List Nat) (O := NNode α)
        (R := Net α × List Nat)
        (fun x => x.id) (fun st _ => st) (fun st _ x => genStep st x) (fun _ => some net.reverse)
        (fun _ => ([], [])) id (fun _ x => x) rootNode =
      some (prunePass true net) := by
  rw [← prunePassGen_eq]
  unfold Gen.S5prunePassLoop prunePassGen
  simp only [List.reverse_reverse, id]

end

/-- … and a table that is not a DAG (`topological_order` returns `None`) makes the pass raise, whatever the other arguments are -/
theorem prunePassLoop_not_dag {N V MAP O R : Type} (nid : N → Nat) (get : MAP → Nat → V) (apply : MAP → Nat → O → MAP)
    (mkMap : List N → MAP) (finish : V → R) (body : (Nat → V) → N → O) (root : N) :
    Gen.S5prunePassLoop nid get apply (fun _ => none) mkMap finish body root = none := rfl

/-- non-vacuity: a sum over a sum (`S{½,½}( S{½,½}(A, B), B )`): the inner sum is merged into the root, and the shared leaf `B` gets
the weight `½·½ + ½` -/
example :
    let net : Net ℚ := [{ id := 3, kind := .leaf, scope := [0], ch := [], ws := [], leaf := .absent },
                        { id := 2, kind := .leaf, scope := [0], ch := [], ws := [], leaf := .absent },
                        { id := 1, kind := .sum, scope := [0], ch := [0, 1], ws := [1/2, 1/2], leaf := .absent },
                        { id := 0, kind := .sum, scope := [0], ch := [2, 1], ws := [1/2, 1/2], leaf := .absent }]
    (Gen.S5prunePassLoop (N := NNode ℚ) (V := Net ℚ × List Nat) (MAP := Net ℚ × List Nat) (O := NNode ℚ)
        (R := List (List Nat × List ℚ) × List Nat)
        (fun x => x.id) (fun st _ => st) (fun st _ x => genStep st x) (fun _ => some net.reverse)
        (fun _ => ([], [])) (fun st => (st.1.map (fun x => (x.ch, x.ws)), st.2)) (fun _ x => x)
        { id := 0, kind := .sum, scope := [0], ch := [2, 1], ws := [1/2, 1/2], leaf := .absent }) =
      some ([([], []), ([], []), ([0, 1], [1/2, 1/2]), ([0, 1], [1/4, 3/4])], [0, 1, 2, 3]) := by
  decide +kernel

end Deeprob.Oblig.Struct5Prune
