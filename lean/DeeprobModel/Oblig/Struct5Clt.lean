import DeeprobModel.Oblig.Struct5Prelude
import DeeprobModel.Model.CltLoop
set_option linter.unusedVariables false
set_option linter.unusedSimpArgs false
/-
Chow-Liu trees — the loops of `BinaryCLT.message_passing` and `BinaryCLT.mpe` as extracted by
tools/listprog.py: `Gen.S5cltMessagePassing`, `Gen.S5cltMpeLoop` (fragments `cltree.message_passing.loop`,
`cltree.mpe.loop`; the loop of `sample`, `Gen.S5cltSampleLoop`: `Oblig/Struct5CltSample.lean`).  The skeletons say which list is walked and in which direction, which slot of
the state an iteration writes and which slots it may read; the numerical content is a parameter.  Obligations:

* the skeleton of `message_passing` instantiated with the row bodies of
  `Model/CltLoop.lean` is the definition `Gen.S4cltMessages` (resp. `Gen.S4cltRootValue` of it), whose loop body was
  extracted from the source: so (i) the bodies of `Model/CltLoop.lean` are the source's, and (ii) an iteration of the extracted
  body reads `messages` only at `j` and `tree[j]` and writes only `tree[j]` (what the skeleton's type enforces);
* the same for `mpe` (`Gen.S4cltMpe`), for every implementation of `self.message_passing`;
* `mpe` with the generated `message_passing` composed in.
Hypothesis kept explicit: `reduce` is 'mar' or 'mpe' (any other value raises in the source; `Gen.S4cltMessages` returns its
`raised` argument there, the skeleton has no such branch).
-/
namespace Deeprob.Oblig.Struct5Clt
open Deeprob Deeprob.Gen Deeprob.CltLoop

variable {α : Type}

/-- one iteration of the extracted body of the upward loop is a write of slot `tree[j]` with a value computed from the slots
`tree[j]` and `j` -/
theorem msg_step_local [Zero α] [Add α] (params : Int → Int → Int → α) (lse mx : List α → α) (x : List (Option Nat))
    (obs : List Bool) (reduce : String) (hred : reduce = "mar" ∨ reduce = "mpe") (tree : List Int) (raised : List (List α))
    (messages : List (List α)) (j : Int) :
    (let mask := (Py4.getI obs j false);
     let mis_mask := (!mask);
     let obs_values := ((Py3.val (Py4.getI x j none) : Nat) : Int);
     let msg := (Py4.getI messages j []);
     let messages := if mask then Py4.updI messages (Py4.getI tree j 0) (List.zipWith (fun a b => a + b) (Py4.getI messages (Py4.getI tree j 0) []) ((Py4.vec2 (fun l => params j l obs_values)).map (fun a => a + (Py4.getI msg obs_values 0)))) else messages;
     let parent_msg := ((Py4.vec2 (fun l => Py4.vec2 (fun k => params j l k))).map (fun row => List.zipWith (fun a b => a + b) row msg));
     let messages := if (reduce == "mar") then (if mis_mask then Py4.updI messages (Py4.getI tree j 0) (List.zipWith (fun a b => a + b) (Py4.getI messages (Py4.getI tree j 0) []) (parent_msg.map lse)) else messages) else (if (reduce == "mpe") then (if mis_mask then Py4.updI messages (Py4.getI tree j 0) (List.zipWith (fun a b => a + b) (Py4.getI messages (Py4.getI tree j 0) []) (parent_msg.map mx)) else messages) else (raised));
     messages) =
    Py4.updI messages (Py4.getI tree j 0)
      (msgRowBody params lse mx x obs reduce j (Py4.getI messages (Py4.getI tree j 0) []) (Py4.getI messages j [])) := by
  unfold msgRowBody
  cases hm : Py4.getI obs j false
  · rcases hred with h | h <;> subst h <;> simp [hm]
  · rcases hred with h | h <;> subst h <;> simp [hm]

/-- `message_passing(…, return_lls=False, reduce)` — the generated loop skeleton with the row bodies — returns
the `messages` of `Gen.S4cltMessages` -/
theorem msg_loop_as_coded [Zero α] [Add α] (params : Int → Int → Int → α) (root : Int) (bfs tree : List Int) (lse mx : List α → α)
    (raised : List (List α)) (nRows : Nat) (x : List (Option Nat)) (obs : List Bool) (reduce : String)
    (hred : reduce = "mar" ∨ reduce = "mpe") :
    messagePassing params root bfs tree lse mx x obs false reduce =
      .inl (Gen.S4cltMessages params root bfs tree lse mx raised nRows x obs reduce) := by
  unfold messagePassing Gen.S5cltMessagePassing Gen.S4cltMessages
  simp only [Bool.not_false, if_true]
  congr 1
  congr 1
  funext messages j
  exact (msg_step_local params lse mx x obs reduce hred tree raised messages j).symm

/-- with `return_lls=True` the skeleton returns `Gen.S4cltRootValue` of these messages -/
theorem msg_value_as_coded [Zero α] [Add α] (params : Int → Int → Int → α) (root : Int) (bfs tree : List Int) (lse mx : List α → α)
    (raised : List (List α)) (nRows : Nat) (x : List (Option Nat)) (obs : List Bool) (reduce : String)
    (hred : reduce = "mar" ∨ reduce = "mpe") :
    messagePassing params root bfs tree lse mx x obs true reduce =
      .inr (Gen.S4cltRootValue params root bfs tree lse mx nRows x obs
        (Gen.S4cltMessages params root bfs tree lse mx raised nRows x obs reduce)) := by
  have h := msg_loop_as_coded params root bfs tree lse mx raised nRows x obs reduce hred
  unfold messagePassing Gen.S5cltMessagePassing at h ⊢
  simp only [Bool.not_false, if_true, Bool.not_true, Bool.false_eq_true, if_false] at h ⊢
  rw [Sum.inl.injEq] at h
  rw [h]
  unfold Gen.S4cltRootValue rootRowValue
  cases hm : Py4.getI obs root false <;> simp [hm]

/-- non-vacuity (two variables, root 0, everything missing; carrier ℕ with `+ := *`, `0 := 1`): the skeleton computes the same
messages and the same value as `Gen.S4cltMessages` / `Gen.S4cltRootValue`, and they are not trivial -/
example :
    let params : Int → Int → Int → Nat := fun i l k => if i = 0 then (if k = 0 then 1 else 2) else (if l = 0 then (if k = 0 then 1 else 3) else (if k = 0 then 2 else 1))
    let sumL : List Nat → Nat := fun v => v.foldr (fun a b => a + b) 0
    let maxL : List Nat → Nat := fun v => v.foldr max 0
    @messagePassing Nat ⟨1⟩ ⟨(· * ·)⟩ params 0 [0, 1] [-1, 0] sumL maxL [none, none] [false, false] false "mar" = .inl [[4, 3], [1, 1]] ∧
    @messagePassing Nat ⟨1⟩ ⟨(· * ·)⟩ params 0 [0, 1] [-1, 0] sumL maxL [none, none] [false, false] true "mar" = .inr (some 10) ∧
    @messagePassing Nat ⟨1⟩ ⟨(· * ·)⟩ params 0 [0, 1] [-1, 0] sumL maxL [none, some 1] [false, true] false "mpe" = .inl [[3, 1], [1, 1]] := by
  decide +kernel

/-- one step of the extracted body of the decoding loop is a masked write of slot `j` with a value computed from slot `tree[j]` -/
theorem mpe_loop_as_coded [Add α] [LT α] [DecidableLT α] (params : Int → Int → Int → α) (root : Int) (bfs tree : List Int)
    (mp : List (Option Nat) → List Bool → Bool → String → Int → List α) (x : List (Option Nat)) :
    mpeWith params root bfs tree mp x = Gen.S4cltMpe params root bfs tree mp x := by
  unfold mpeWith Gen.S5cltMpeLoop Gen.S4cltMpe mpePre mpeBody
  simp only [Py5.storeOpt_ite]

/-- `mpe` with the generated `message_passing` composed in (`CltLoop.mpe`: two generated loop skeletons)
is `Gen.S4cltMpe` fed with the messages of `Gen.S4cltMessages` -/
theorem mpe_composed_as_coded [Zero α] [Add α] [LT α] [DecidableLT α] (params : Int → Int → Int → α) (root : Int) (bfs tree : List Int)
    (lse mx : List α → α) (raised : List (List α)) (nRows : Nat) (x : List (Option Nat)) :
    CltLoop.mpe params root bfs tree lse mx x =
      Gen.S4cltMpe params root bfs tree
        (fun x obs _ reduce i => Py4.getI (Gen.S4cltMessages params root bfs tree lse mx raised nRows x obs reduce) i []) x := by
  unfold CltLoop.mpe
  rw [mpe_loop_as_coded]
  unfold Gen.S4cltMpe
  simp only
  rw [msg_loop_as_coded params root bfs tree lse mx raised nRows x _ "mpe" (Or.inr rfl)]
  rfl

example :
    let params : Int → Int → Int → Nat := fun i l k => if i = 0 then (if k = 0 then 1 else 2) else (if l = 0 then (if k = 0 then 1 else 3) else (if k = 0 then 2 else 1))
    let sumL : List Nat → Nat := fun v => v.foldr (fun a b => a + b) 0
    let maxL : List Nat → Nat := fun v => v.foldr max 0
    @CltLoop.mpe Nat ⟨1⟩ ⟨(· * ·)⟩ _ _ params 0 [0, 1, 2] [-1, 0, 1] sumL maxL [none, none, some 0] = [some 0, some 1, some 0] ∧
    @CltLoop.mpe Nat ⟨1⟩ ⟨(· * ·)⟩ _ _ params 0 [0, 1, 2] [-1, 0, 1] sumL maxL [none, none, some 1] = [some 1, some 0, some 1] := by
  decide +kernel

end Deeprob.Oblig.Struct5Clt
