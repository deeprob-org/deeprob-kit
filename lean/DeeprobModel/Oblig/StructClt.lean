import DeeprobModel.Generated.Consts
import DeeprobModel.Generated.Formulas
import DeeprobModel.Model.Clt
import DeeprobModel.Model.CltPc
import DeeprobModel.Lemmas.ExpLogLemmas
/-
Static tie of `Model/Clt.lean` / `Model/CltPc.lean` (`up`, `upMax`, `localCond`, `toPc`) to
/repo/deeprob/spn/structure/cltree.py (`message_passing`, `sample`, `to_pc`) — C02, C06, C07, C12.
-/
set_option linter.unusedSectionVars false
namespace Deeprob.Oblig.StructClt
open Deeprob Deeprob.Clt

/-- the semiring operation a log-domain reduction stands for: `logsumexp` = `+`, `max` = `max` (of the linear values) -/
inductive Red where | add | max
deriving DecidableEq, Repr

def redOf : String → Option Red
  | "logsumexp" => some .add | "max" => some .max | _ => none

/-- **`message_passing` reduces a missing variable with `logsumexp` for 'mar' and `np.max` for 'mpe'** (axis 2 = the
variable's own value), adds (`+=`) into the parent's row, treats observed values without reduction, and finishes the
root with `logsumexp` whatever `reduce` is -/
theorem message_passing_as_coded :
    Gen.cltMessageStores =
      [("", "messages", "(self.tree[j], mask)", "+=", "", none),
       ("reduce == 'mar'", "messages", "(self.tree[j], mis_mask)", "+=", "logsumexp", some 2),
       ("reduce == 'mpe'", "messages", "(self.tree[j], mis_mask)", "+=", "max", some 2),
       ("", "lls", "mask", "=", "", none),
       ("", "lls", "mis_mask", "=", "logsumexp", some 1)] ∧
    (Gen.cltMessageStores.filterMap (fun s => if s.1 == "reduce == 'mar'" then redOf s.2.2.2.2.1 else none)) = [Red.add] ∧
    (Gen.cltMessageStores.filterMap (fun s => if s.1 == "reduce == 'mpe'" then redOf s.2.2.2.2.1 else none)) = [Red.max] := by
  exact ⟨rfl, rfl, rfl⟩

/-- the model side of the two reductions: `up` sums over the two values with the carrier's `+`, `upMax` is literally
the same recursion with `max` as the additive operation -/
theorem up_missing_is_sum {α : Type} [Zero α] [One α] [Add α] [Mul α] (scope : List Nat) (cpt : List (List (List α)))
    (i : Nat) (cs : List RTree) (l : Nat) (e : Ev) (h : e (scope.getD i 0) = none) :
    up scope cpt (.node i cs) l e =
      sumVar 2 (fun k => cptAt cpt i l k * lprod (cs.map (fun c => up scope cpt c k e))) := by
  rw [up]; simp only [h]

theorem upMax_is_up_with_max {α : Type} [Zero α] [One α] [Mul α] [Max α] [LT α] [DecidableLT α]
    (scope : List Nat) (cpt : List (List (List α))) (t : RTree) (l : Nat) (e : Ev) :
    upMax scope cpt t l e = @up α _ _ ⟨max⟩ _ scope cpt t l e := rfl

variable {F : Type} [Field F] [LinearOrder F] [IsStrictOrderedRing F]

/-- **`sample` normalises with `logsumexp(log_probs, axis=1)` and takes column 1** (root and every other variable), on
messages computed with `reduce='mar'`, reading the value just drawn for the parent: with `a_k = cpt[j,p,k]·msg_j[k]`
(linear domain) the Bernoulli parameter is `a₁ / (a₀ + a₁)` -/
theorem sample_as_coded (E : ExpLog F) (a0 a1 : F) (h0 : 0 < a0) (h1 : 0 < a1) :
    Gen.cltSampleNorm = [(1, "logsumexp", some 1), (1, "logsumexp", some 1)] ∧
    Gen.cltSampleLogits = ["self.params[self.root, 0] + messages[self.root, mask]",
                           "self.params[j, obs_parent_values] + messages[j, mask]"] ∧
    Gen.cltSampleStores = ["(mask, self.root)", "(mask, j)"] ∧
    Gen.cltSampleParentValues = "x[mask, self.tree[j]]" ∧ Gen.cltSampleReduce = "'mar'" ∧
    Gen.cltSampleBernParam E (Gen.cltSampleLogProb (E.log a1) (E.log (a0 + a1))) = a1 / (a0 + a1) := by
  refine ⟨rfl, rfl, rfl, rfl, rfl, ?_⟩
  unfold Gen.cltSampleBernParam Gen.cltSampleLogProb
  rw [E.exp_sub, E.exp_log a1 h1, E.exp_log (a0 + a1) (add_pos h0 h1)]

/-- … which is the model's `localCond … 1` (the probability of drawing 1) -/
theorem localCond_one {α : Type} [Zero α] [One α] [Add α] [Mul α] [Div α] (scope : List Nat)
    (cpt : List (List (List α))) (j : Nat) (cs : List RTree) (p : Nat) (e : Ev) :
    localCond scope cpt j cs p 1 e =
      cptAt cpt j p 1 * msgAt scope cpt cs 1 e /
        (cptAt cpt j p 0 * msgAt scope cpt cs 0 e + (cptAt cpt j p 1 * msgAt scope cpt cs 1 e + 0)) := rfl

/-- **`to_pc` returns `pos_buffer[0]`**, whose sums carry row 1 of each table (`weights[1]`); the positive products pair
`leaves[1]` (`p = 1`) with the positive buffer, the negative ones `leaves[0]` (`p = 0`) with the negative buffer; the sum's
children are `[neg_prod, pos_prod]` (or the two leaves) — the shape of `Clt.pc` -/
theorem to_pc_as_coded :
    Gen.toPcReturnBuffer = "pos_buffer" ∧ Gen.toPcReturnIndex = 0 ∧
    (Gen.toPcBufferRows.filter (fun r => r.1 == Gen.toPcReturnBuffer)).map (fun r => r.2.2.2) = [1] ∧
    Gen.toPcBufferRows = [("neg_buffer", "sum_children", "weights", 0), ("pos_buffer", "sum_children", "weights", 1)] ∧
    Gen.toPcProducts = [("neg_prod", 0, "neg_buffer"), ("pos_prod", 1, "pos_buffer")] ∧
    Gen.toPcSumChildren = ["[neg_prod, pos_prod]", "leaves"] ∧ Gen.toPcLeafP = [0, 1] :=
  ⟨rfl, rfl, by decide, rfl, rfl, rfl, rfl⟩

/-- the model's `toPc` reads the row selected by the returned buffer -/
theorem toPc_row {α : Type} [Zero α] [One α] [Add α] [Mul α] (scope : List Nat) (pred : List Int)
    (cpt : List (List (List α))) (r : Nat) (h : rootOf pred = some r) :
    ((Gen.toPcBufferRows.filter (fun r => r.1 == Gen.toPcReturnBuffer)).map (fun r => r.2.2.2.toNat)).map
        (fun row => pc scope cpt (build pred pred.length r) row) = [toPc scope pred cpt] := by
  have e : (Gen.toPcBufferRows.filter (fun r => r.1 == Gen.toPcReturnBuffer)).map (fun r => r.2.2.2.toNat) = [1] := by
    decide
  rw [e]; simp [toPc, h]

end Deeprob.Oblig.StructClt
