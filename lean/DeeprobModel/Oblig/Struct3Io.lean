import DeeprobModel.Generated.Consts
import DeeprobModel.Model.Io
import Mathlib.Data.List.Basic
import Mathlib.Tactic.SplitIfs
import Mathlib.Tactic.Linarith
/-
Static tie of `Model/Io.lean` (`encodeNode`, `nodeEdges`, `place`, `decode`) to
/repo/deeprob/spn/structure/io.py (`spn_to_digraph`, `digraph_to_spn`) — C13.

Extracted from the AST: the attribute dictionaries written per node class, the rounding of the sum weights and of
the leaf parameters (digits, which conversion for which kind of value), the `add_edge(child id, parent id, idx=position)`
calls of one node, and on the reading side the per-edge update of `parent.children` (padding with `None`, store at
`idx`), the constructor used per class and the returned node.
-/
set_option linter.unusedSectionVars false
set_option linter.unusedSimpArgs false
set_option linter.unusedVariables false
namespace Deeprob.Struct3
open Deeprob

/-- **what is written for a node**: class, scope and — for a sum — the weights through `round(float(w), 8)`; for a leaf
the `params_dict()` entries, float arrays through `np.around(·, 8).tolist()`, NumPy / Python float scalars through
`round(·, 8)`, other arrays (the integer categories) through `tolist()`; nothing else.  `encodeNode` keeps exactly these
fields and rounds the two float fields with `round8 = roundN 8`. -/
theorem encodeNode_as_coded (n : MNode) :
    (encodeNode n).weights = Gen.S3ioSumWeights roundN n.weights ∧
    (encodeNode n).id = n.id ∧ (encodeNode n).cls = n.cls ∧ (encodeNode n).scope = n.scope ∧
    (encodeNode n).params = n.params.map (roundN 8) ∧
    Gen.S3ioSumAttr = [("class", "Sum.__name__"), ("scope", "node.scope"), ("weights", "<rounded weights>")] ∧
    Gen.S3ioProductAttr = [("class", "Product.__name__"), ("scope", "node.scope")] ∧
    Gen.S3ioLeafAttr = [("class", "node.__class__.__name__"), ("scope", "node.scope"), ("params", "<converted params>")] ∧
    Gen.S3ioLeafParamConv.map Prod.snd = ["around8.tolist", "tolist", "round8", "round8"] :=
  ⟨rfl, rfl, rfl, rfl, rfl, rfl, rfl, rfl, rfl⟩

example : (encodeNode { id := 3, cls := "Sum", scope := [0], weights := [1/3, 2/3], params := [], ch := [1, 2] }).weights
    = Gen.S3ioSumWeights roundN [1/3, 2/3] := (encodeNode_as_coded _).1

/-- **the edges of one node**: `graph.add_edge(c.id, node.id, idx=i)` for `i, c in enumerate(node.children)` — child id
first, parent id second, position as the attribute `idx` — the model's `nodeEdges` -/
theorem nodeEdges_as_coded (n : MNode) :
    (nodeEdges n).map (fun e => (e.child, e.parent, (e.idx : Int))) = Gen.S3ioEdges (N := Nat) id (fun _ => n.ch) n.id := by
  unfold nodeEdges Gen.S3ioEdges
  simp only [List.map_map, Function.comp_def, id]

example : Gen.S3ioEdges (N := Nat) id (fun _ => [7, 5, 7]) 2 = [(7, 2, 0), (5, 2, 1), (7, 2, 2)] := by decide

/-- **reading one edge**: `n_children = len(parent.children)`; `if idx >= n_children: extend([None] * (idx - n_children + 1))`;
`parent.children[idx] = nodes[child_id]` — the model's `place` -/
theorem place_as_coded (l : List (Option Nat)) (idx child : Nat) :
    place l idx child = Gen.S3ioPlace l (idx : Int) child := by
  unfold place Gen.S3ioPlace
  simp only [Int.toNat_natCast]
  by_cases h : l.length ≤ idx
  · have h1 : ((idx : Int) ≥ (l.length : Int)) := by omega
    have h2 : ((idx : Int) - (l.length : Int) + 1).toNat = idx + 1 - l.length := by omega
    simp only [h1, decide_true, if_true, h2]
  · have h1 : ¬ ((idx : Int) ≥ (l.length : Int)) := by omega
    have h2 : idx + 1 - l.length = 0 := by omega
    simp only [h1, decide_false, Bool.false_eq_true, if_false, h2, List.replicate_zero, List.append_nil]

example : Gen.S3ioPlace [some 4] 2 9 = [some 4, none, some 9] ∧ place [some 4] 2 9 = [some 4, none, some 9] := by
  rw [place_as_coded]; exact ⟨by decide, by decide⟩

/-- the two ends of an edge are read in the roles they were written in (child, parent); the constructors receive the
scope, the weights (`Sum`) / the parameters (`leaf_map[name]`) of the document; the node with id 0 is returned -/
theorem decode_roles_as_coded :
    Gen.S3ioEdgeEnds = ("child", "parent") ∧ Gen.S3ioReturned = "nodes[0]" ∧
    Gen.S3ioCtors = [("name == Sum.__name__", "Sum(scope, weights=attr['weights'])"), ("name == Product.__name__", "Product(scope)"),
      ("name in leaf_map", "leaf_map[name](scope, **attr['params'])")] := ⟨rfl, rfl, rfl⟩

end Deeprob.Struct3
