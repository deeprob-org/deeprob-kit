import DeeprobModel.Oblig.Struct3Inference
import DeeprobModel.Model.Moments
/-
Static tie of `Model/Moments.lean` (`MCirc.moment`, `MCirc.momentApi`, `momNode`) to
/repo/deeprob/spn/algorithms/moments.py (`moment`, `leaf_moment`) — C19.

`moment` runs the evaluation recursion (`eval_bottom_up` with `node_func = node_likelihood`, tied to the model in
`Struct3Inference`) on a matrix with one row per variable; `leaf_moment` answers, in row `v`, the leaf's raw moment when
`v` is in the leaf's scope and 1 otherwise.  Leaf closed forms (`node.moment`) stay opaque.
-/
set_option linter.unusedSectionVars false
namespace Deeprob.Struct3
open Deeprob

variable {F : Type} [Field F] [LinearOrder F] [IsStrictOrderedRing F]

/-- **`leaf_moment`**: `m = ones(len(x)); m[node.scope] = node.moment(k=order)` read at entry `v` -/
theorem leaf_moment_as_coded (s : List Nat) (f : Ev → F) (mom : Nat → Nat → F) (k v : Nat) :
    MCirc.moment k v (.leaf s f mom) = Gen.S3leafMoment s (mom k) v := by
  simp only [MCirc.moment, Gen.S3leafMoment]

example : Gen.S3leafMoment [2, 5] (fun _ => (7:ℚ)/3) 5 = 7/3 ∧ Gen.S3leafMoment [2, 5] (fun _ => (7:ℚ)/3) 4 = 1 := by
  decide +kernel

/-- **the moment recursion is the evaluation recursion** (`node_func = node_likelihood` of inference.py): at a sum the
`np.dot` of the children's moments with the weights, at a product their product — over all children (a child whose scope
does not contain `v` contributes the `1` of its leaves) -/
theorem moment_inner_as_coded (k v : Nat) (s : List Nat) (ws : List F) (cs : List (MCirc F)) :
    Gen.S3momentNodeFunc = "inference.node_likelihood" ∧
    MCirc.moment k v (.sum s ws cs) = Gen.S3nodeLikelihood (Gen.S3sumLikelihood ws) (cs.map (MCirc.moment k v)) ∧
    MCirc.moment k v (.prod s cs) = Gen.S3nodeLikelihood Gen.S3productLikelihood (cs.map (MCirc.moment k v)) := by
  refine ⟨rfl, ?_, ?_⟩
  · rw [node_likelihood_as_coded, sum_likelihood_as_coded]; simp only [MCirc.moment]
  · rw [node_likelihood_as_coded, product_likelihood_as_coded]; simp only [MCirc.moment]

example : MCirc.moment 1 0 (.sum [0] [(1:ℚ)/4, 3/4] [MCirc.cat 0 [1/2, 1/2], MCirc.cat 0 [0, 1]])
    = Gen.S3nodeLikelihood (Gen.S3sumLikelihood [(1:ℚ)/4, 3/4]) [1/2, 1] := by
  rw [(moment_inner_as_coded 1 0 _ _ _).2.1]
  simp [MCirc.moment, MCirc.cat, tblMoment, sumVar, powN, natC, List.range, List.range.loop]

/-- the node-table version (`momNode`) stores `node_likelihood` of the children's stored values at inner nodes and the
`leaf_moment` entry at leaves -/
theorem momNode_as_coded (k v : Nat) (moms vals : List F) (x : NNode F) :
    momNode k v moms vals x = match x.kind with
      | .leaf => Gen.S3leafMoment x.scope (fun _ => x.leaf.rawMoment k (moms.getD vals.length 0)) v
      | .sum => Gen.S3evalForwardInner (N := Nat) id (fun _ => x.ch)
          (fun _ => Gen.S3nodeLikelihood (Gen.S3sumLikelihood x.ws)) (fun c => vals.getD c 0) 0
      | .prod => Gen.S3evalForwardInner (N := Nat) id (fun _ => x.ch)
          (fun _ => Gen.S3nodeLikelihood Gen.S3productLikelihood) (fun c => vals.getD c 0) 0 := by
  unfold Gen.S3evalForwardInner momNode
  cases hx : x.kind <;>
    simp only [node_likelihood_as_coded, sum_likelihood_as_coded, product_likelihood_as_coded, id, Gen.S3leafMoment]

/-- **the exits of `moment`**: negative order raises, order 0 returns ones without a pass, otherwise the bottom-up pass -/
theorem momentApi_as_coded (c : MCirc F) (order : Int) :
    Gen.S3momentExits = ["raise", "ones", "bottom_up"] ∧
    MCirc.momentApi c order = match Gen.S3momentCase order with
      | 0 => none
      | 1 => some ((List.range c.scope.length).map (fun _ => 1))
      | _ => some ((List.range c.scope.length).map (fun v => MCirc.moment order.toNat v c)) := by
  refine ⟨rfl, ?_⟩
  unfold MCirc.momentApi Gen.S3momentCase
  by_cases h1 : order < 0
  · rw [if_pos h1, if_pos (decide_eq_true h1)]
    rfl
  · rw [if_neg h1, if_neg (fun h => h1 (of_decide_eq_true h))]
    by_cases h2 : order = 0
    · rw [if_pos h2, if_pos (beq_iff_eq.2 h2)]
      rfl
    · rw [if_neg h2, if_neg (fun h => h2 (beq_iff_eq.1 h))]
      rfl

example : MCirc.momentApi (MCirc.cat 0 [(1:ℚ)/2, 1/2]) (-1) = none ∧ Gen.S3momentCase (-1) = 0 ∧ Gen.S3momentCase 0 = 1 ∧
    Gen.S3momentCase 3 = 2 := by
  exact ⟨rfl, rfl, rfl, rfl⟩

end Deeprob.Struct3
