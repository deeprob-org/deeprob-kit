import DeeprobModel.Generated.Consts
import DeeprobModel.Generated.Formulas
import DeeprobModel.Model.TopDown
import DeeprobModel.Lemmas.ExpLogLemmas
import Mathlib.Algebra.Order.Field.Rat
import Mathlib.Tactic.Ring
import Mathlib.Tactic.NormNum
/-
Static tie of the sampler branch law of `Model/TopDown.lean` (`branchPmf`, the weights `wᵢ · Lᵢ / L` of
`topDownPmf`) to /repo/deeprob/spn/algorithms/sampling.py (`sum_sample`, `leaf_sample`, `sample`) — C07.

The Gumbel-max identity (proved over ℝ: `SamplingFacts.gumbelMaxIdentity_real`, `Props/SamplingFacts.lean`; over a general
field a named hypothesis of the sampling theorems of `Props/E2ECirc.lean`) says: `argmax_i (s_i + G_i)` with i.i.d. standard
right-skewed Gumbel `G_i` is a draw from `Categorical(exp s_i / Σ_j exp s_j)`.  What is proved here is that the scores `s_i` the code feeds to that
identity are `log(wᵢ · Lᵢ)`, i.e. that `exp s_i / Σ_j exp s_j` is the model's `branchPmf`; that the noise enters
additively, one independent entry per (row, child); that the branch is the arg-max along the children axis; and that
leaves delegate to their own `sample`.  (The law, location and scale of the noise: `Oblig/C07.lean`.)
-/
set_option linter.unusedSectionVars false
namespace Deeprob.Struct4
open Deeprob Deeprob.TCirc

variable {F : Type} [Field F] [LinearOrder F] [IsStrictOrderedRing F]

/-- **the scores of `sum_sample` as coded**: `lls + np.log(node.weights) + gumbel` per (row, child): the noise is added to
`s = log Lᵢ + log wᵢ`, and `exp s = wᵢ · Lᵢ` — the numerator of the model's branch law -/
theorem sumSampleEntry_as_coded (E : ExpLog F) (w l g : F) (hw : 0 < w) (hl : 0 < l) :
    Gen.S4sumSampleEntry E (E.log l) w g = Gen.S4sumSampleEntry E (E.log l) w 0 + g ∧
    E.exp (Gen.S4sumSampleEntry E (E.log l) w 0) = w * l := by
  unfold Gen.S4sumSampleEntry
  refine ⟨by ring, ?_⟩
  rw [add_zero, E.exp_log_add hl hw, mul_comm]

/- NOTE: no `ExpLog ℚ` exists (`SamplingFacts.expLog_rat_empty`), so this example is satisfied vacuously; the witness
over the reals is in `Props/RealWitnesses.lean`. -/
example (E : ExpLog ℚ) : E.exp (Gen.S4sumSampleEntry E (E.log (1 / 2)) (1 / 4) 0) = 1 / 4 * (1 / 2) :=
  (sumSampleEntry_as_coded E (1 / 4) (1 / 2) 0 (by norm_num) (by norm_num)).2

/-- **the branch law**: normalising the exponentiated noise-free scores by the value `L` of the sum node gives exactly the
model's `branchPmf L ws ls` (whose entries the Gumbel-max identity turns into the law of the arg-max) -/
theorem branchPmf_as_coded (E : ExpLog F) (L : F) (ws ls : List F) (hw : ∀ w ∈ ws, 0 < w) (hl : ∀ l ∈ ls, 0 < l) :
    branchPmf L ws ls = List.zipWith (fun w l => E.exp (Gen.S4sumSampleEntry E (E.log l) w 0) / L) ws ls := by
  unfold branchPmf
  induction ws generalizing ls with
  | nil => rfl
  | cons w ws ih =>
    cases ls with
    | nil => rfl
    | cons l ls =>
      simp only [List.zipWith_cons_cons]
      rw [(sumSampleEntry_as_coded E w l 0 (hw w List.mem_cons_self) (hl l List.mem_cons_self)).2,
        ih ls (fun a ha => hw a (List.mem_cons_of_mem _ ha)) (fun a ha => hl a (List.mem_cons_of_mem _ ha))]

/- NOTE: no `ExpLog ℚ` exists (`SamplingFacts.expLog_rat_empty`), so this example is satisfied vacuously; the witness
over the reals is in `Props/RealWitnesses.lean`. -/
example (E : ExpLog ℚ) :
    branchPmf (1 / 4 : ℚ) [1 / 4, 3 / 4] [1 / 2, 1 / 6] =
      List.zipWith (fun w l => E.exp (Gen.S4sumSampleEntry E (E.log l) w 0) / (1 / 4)) [1 / 4, 3 / 4] [1 / 2, 1 / 6] :=
  branchPmf_as_coded E _ _ _ (List.forall_mem_cons.2 ⟨by norm_num, List.forall_mem_cons.2 ⟨by norm_num, fun _ h => nomatch h⟩⟩)
    (List.forall_mem_cons.2 ⟨by norm_num, List.forall_mem_cons.2 ⟨by norm_num, fun _ h => nomatch h⟩⟩)

/-- **selector, axis, leaves, the pass**: the branch is `np.argmax(scores, axis=1)` (over the children of the sum node, per
row); `leaf_sample` returns `node.sample(x)`; `sample` evaluates the circuit bottom-up once and runs `eval_top_down` with
these two functions on the stored log-values of the input rows (the `e` of `topDownPmf e x`) -/
theorem sumSample_frame_as_coded :
    Gen.S4sumSampleSelector = "argmax" ∧ Gen.S4sumSampleAxis = some 1 ∧ Gen.S4leafSample = "node.sample(x)" ∧
    Gen.S4sampleTopDown = ["log_likelihood(root, x, return_results=True)",
      "eval_top_down(root, x, lls, leaf_func=leaf_sample, sum_func=sum_sample)"] := ⟨rfl, rfl, rfl, rfl⟩

/-- non-vacuity of `branchPmf_as_coded`'s right-hand side shape: at a sum node with weights `1/4, 3/4` over children of value
`1/2, 1/6` the branch law is `1/2, 1/2` -/
example : branchPmf (1 / 4 : ℚ) [1 / 4, 3 / 4] [1 / 2, 1 / 6] = [1 / 2, 1 / 2] := by
  decide +kernel

end Deeprob.Struct4
