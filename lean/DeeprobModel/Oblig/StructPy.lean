import DeeprobModel.Generated.Consts
import Mathlib.Tactic.SplitIfs
import Mathlib.Tactic.Linarith
/-
Facts about the Python primitives of the translator's prelude (`Gen.Py`, `Gen.Py3`, `Gen.Py4`): what `len(set(l))`, floor
division, comparisons, slices and subscripts coded on `int` are when the integers are casts of naturals.
-/
set_option linter.unusedSimpArgs false
namespace Deeprob.Oblig.StructPy
open Deeprob

theorem dedup_length_le (l : List Nat) : (Gen.Py.dedup l).length ≤ l.length := by
  induction l with
  | nil => simp [Gen.Py.dedup]
  | cons x xs ih => unfold Gen.Py.dedup; split <;> simp <;> omega

/-- `len(set(l)) == len(l)` iff `l` has no repeated element -/
theorem dedup_length_eq_iff (l : List Nat) : (Gen.Py.dedup l).length = l.length ↔ l.Nodup := by
  induction l with
  | nil => simp [Gen.Py.dedup]
  | cons x xs ih =>
    have hle := dedup_length_le xs
    unfold Gen.Py.dedup
    by_cases hx : x ∈ xs
    · simp only [List.contains_eq_mem, hx, decide_true, if_true, List.length_cons, List.nodup_cons, not_true_eq_false,
        false_and, iff_false]
      omega
    · simp only [List.contains_eq_mem, hx, decide_false, Bool.false_eq_true, if_false, List.length_cons,
        List.nodup_cons, not_false_eq_true, true_and, Nat.add_right_cancel_iff]
      exact ih

theorem fdiv_natCast (a b : Nat) : Int.fdiv (a : Int) (b : Int) = ((a / b : Nat) : Int) :=
  (Int.ofNat_fdiv a b).symm

theorem fmod_natCast (a b : Nat) : Int.fmod (a : Int) (b : Int) = ((a % b : Nat) : Int) := by
  rw [Int.fmod_eq_emod_of_nonneg _ (Int.natCast_nonneg b)]; rfl

/-- comparisons of lengths and indices are coded on `int`; on casts of naturals they are the comparisons of the naturals -/
theorem natCast_beq (a b : Nat) : ((a : Int) == (b : Int)) = (a == b) :=
  Bool.eq_iff_iff.2 (by rw [beq_iff_eq, beq_iff_eq, Int.natCast_inj])

theorem natCast_bne (a b : Nat) : ((a : Int) != (b : Int)) = (a != b) :=
  congrArg not (natCast_beq a b)

theorem natCast_beq_zero (a : Nat) : ((a : Int) == 0) = (a == 0) := natCast_beq a 0

theorem natCast_bne_zero (a : Nat) : ((a : Int) != 0) = (a != 0) := natCast_bne a 0

theorem natCast_beq_one (a : Nat) : ((a : Int) == 1) = (a == 1) := natCast_beq a 1

theorem natCast_bne_pred (a b : Nat) (h : 0 < b) : ((a : Int) != (b : Int) - 1) = (a != b - 1) := by
  rw [← natCast_bne, Int.natCast_sub h]
  rfl

theorem take_natCast {β : Type} (l : List β) (k : Nat) : Gen.Py.take l (k : Int) = l.take k := by
  unfold Gen.Py.take
  rw [if_neg (Int.not_lt.2 (Int.natCast_nonneg k)), Int.toNat_natCast]

theorem drop_natCast {β : Type} (l : List β) (k : Nat) : Gen.Py.drop l (k : Int) = l.drop k := by
  unfold Gen.Py.drop
  rw [if_neg (Int.not_lt.2 (Int.natCast_nonneg k)), Int.toNat_natCast]

/-- `a[j]` and `a[j] = v` at an index that is a natural number -/
theorem getI_natCast {β : Type} (a : List β) (j : Nat) (d : β) : Gen.Py4.getI a (j : Int) d = a.getD j d := by
  unfold Gen.Py4.getI
  rw [if_neg (Int.not_lt.2 (Int.natCast_nonneg j)), Int.toNat_natCast]

theorem updI_natCast {β : Type} (a : List β) (j : Nat) (v : β) : Gen.Py4.updI a (j : Int) v = a.set j v := by
  unfold Gen.Py4.updI
  rw [if_neg (Int.not_lt.2 (Int.natCast_nonneg j)), Int.toNat_natCast]

theorem getI_neg_one {β : Type} (a : List β) (d : β) : Gen.Py4.getI a (-1 : Int) d = a.getD (a.length - 1) d := rfl

theorem drop_one {β : Type} (l : List β) : Gen.Py.drop l (1 : Int) = l.drop 1 := drop_natCast l 1

theorem arange_range (n : Nat) : Gen.Py.arange 0 (n : Int) 1 = (List.range n).map (fun (i : Nat) => (i : Int)) := by
  unfold Gen.Py.arange
  have h : Int.fdiv ((n : Int) - 0 + 1 - 1) 1 = (n : Int) := by
    rw [Int.fdiv_eq_ediv_of_nonneg _ (by decide)]; simp
  simp only [show (1 : Int) > 0 by decide, if_true, h, Int.toNat_natCast]
  apply List.map_congr_left; intro i _; omega

theorem isnan_eq_isNone : Gen.Py3.isnan = Option.isNone := rfl

/-- the mask `np.isnan(x)` read at a position of the row -/
theorem getI_map_isNone (x : List (Option Nat)) (j : Nat) (h : j < x.length) :
    Gen.Py4.getI (x.map Option.isNone) (j : Int) false = (x.getD j none).isNone := by
  rw [getI_natCast, List.getD_eq_getElem?_getD, List.getD_eq_getElem?_getD, List.getElem?_map, List.getElem?_eq_getElem h]
  rfl

/-- closing tactic of the `…_as_coded` theorems about guard chains: the tests are reduced to (in)equalities of naturals /
integers and Boolean atoms, every branch combination is closed by `rfl`, `omega` or `simp` — so that reordered operands,
swapped sides of a comparison or `not`-pushed forms of the same tests keep proving -/
macro "close_chain" tag:ident : tactic => `(tactic|
  (simp only [Bool.false_eq_true, if_false, Bool.not_true, Bool.not_false, if_true, bne_iff_ne, beq_iff_eq, ne_eq,
      decide_eq_true_eq, Bool.or_eq_true, Bool.and_eq_true, Bool.not_eq_true', Bool.not_eq_eq_eq_not,
      Int.natCast_eq_zero, List.length_eq_zero_iff]
   (try split_ifs) <;> first | rfl | (exfalso; omega) | (simp_all [$tag:ident]; done) | (exfalso; simp_all; omega)))

end Deeprob.Oblig.StructPy
