import DeeprobModel.Oblig.StructPy
import DeeprobModel.Model.Rewrite
import DeeprobModel.Model.RewriteNet
import DeeprobModel.Model.RewriteNetClt
import Mathlib.Data.List.GetD
import Mathlib.Tactic.SplitIfs
import Mathlib.Tactic.Linarith
/-
Static tie of `Model/RewriteNet.lean` (`margStepNet`, `margNode`, `marginalizeNetWith`) and
`Model/Rewrite.lean` (`margStep`, `margProd`, `margSum`) to the body of the pass of
/repo/deeprob/spn/algorithms/structure.py `marginalize` (its argument guards: `Oblig/StructRewrite.lean`) — C10.

`Gen.S4margStep` is the loop body read from the current AST: per node kind, what `nodes_map[node.id]` becomes
(`Gen.S4MargOut`).  Nodes are table indices (`N := Nat`, `nid := id`), as in the net-level model.
-/
set_option linter.unusedSectionVars false
set_option linter.unusedVariables false
namespace Deeprob.Struct4
open Deeprob Deeprob.Net Deeprob.Oblig.StructPy

variable {α : Type}

/-- the model's reading of an outcome of the generated step for the node object `x` stored at index `i`:
(the node object after the iteration, `nodes_map[node.id]`) -/
def outOf (x : NNode α) (i : Nat) : Gen.S4MargOut Nat → Option (NNode α × Option Nat)
  | .drop => some (x, none)
  | .replace n => some (x, some n)
  | .rewrite sc ch => some ({ x with scope := sc, ch := ch }, some i)
  | .viaPc _ => none
  | .raises _ => none

/-- the attribute readings of the objects during the pass: the node being processed is `x` (index `i`), every other index
reads the already processed (possibly mutated) object of the table `t` -/
def scopeNow (t : Net α) (i : Nat) (x : NNode α) (j : Nat) : List Nat := if j = i then x.scope else scopeAt t j

/-- **one iteration of the pass as coded (single-variable leaves and inner nodes)**: on a node that is not a Chow-Liu leaf
and, if a leaf, has exactly one variable, the body extracted from the source does to `nodes_map[node.id]` and to the node
object exactly what the model's `margStepNet` does: a leaf is kept iff `node.scope[0] in keep_scope`; an inner node whose
children were all dropped is dropped, with one surviving child it is replaced by that child, otherwise its `.children`
become the surviving children and its `.scope` their concatenated scopes (Product) or the first child's scope (Sum);
weights are untouched.  `rep` = `nodes_map` by index, the replacements never point at the node itself. -/
theorem margStep_as_coded (keep : List Nat) (t : Net α) (rep : List (Option Nat)) (i : Nat) (x : NNode α)
    (hleaf : x.kind = .leaf → x.scope.length = 1)
    (hrep : ∀ c ∈ x.ch, rep.getD c none ≠ some i) :
    outOf x i (Gen.S4margStep (fun _ => decide (x.kind = .leaf)) (fun _ => false) (fun _ => decide (x.kind = .prod))
        (fun _ => decide (x.kind = .sum)) (fun j => j) (scopeNow t i x) (fun _ => x.ch) (fun c => rep.getD c none) keep i)
      = some (margStepNet keep t rep i x) := by
  unfold Gen.S4margStep margStepNet
  by_cases hk : x.kind = .leaf
  · have hhd : x.scope.getD 0 0 = x.scope.headD 0 := by cases x.scope <;> rfl
    simp only [hk, decide_true, if_true, Bool.false_eq_true, if_false, scopeNow, natCast_beq_one, hleaf hk, hhd,
      beq_self_eq_true]
    cases keep.contains (x.scope.headD 0) <;> rfl
  · simp only [hk, decide_false, Bool.false_eq_true, if_false]
    generalize hcn : x.ch.filterMap (fun c => rep.getD c none) = cn
    have hne : ∀ c ∈ cn, c ≠ i := by
      intro c hc heq
      rw [← hcn] at hc
      obtain ⟨d, hd, he⟩ := List.mem_filterMap.1 hc
      exact hrep d hd (by rw [he, heq])
    have hsc : ∀ c ∈ cn, scopeNow t i x c = scopeAt t c := fun c hc => if_neg (hne c hc)
    match cn, hsc with
    | [], _ => rfl
    | [c], _ => rfl
    | c0 :: c1 :: r, hsc =>
      have hmap : (c0 :: c1 :: r).map (scopeNow t i x) = (c0 :: c1 :: r).map (scopeAt t) := List.map_congr_left hsc
      have h0 : scopeNow t i x c0 = scopeAt t c0 := hsc c0 List.mem_cons_self
      have hlen : ((c0 :: c1 :: r).length == 1) = false := rfl
      cases hkind : x.kind with
      | leaf => exact absurd hkind hk
      | prod =>
        simp only [margNode, hkind, decide_true, if_true, List.isEmpty_cons, Bool.not_false, Bool.not_true,
          Bool.false_eq_true, if_false, natCast_beq_one, hlen, outOf, hmap]
      | sum =>
        simp only [margNode, hkind, decide_true, decide_false, if_true, List.isEmpty_cons, Bool.not_false, Bool.not_true,
          Bool.false_eq_true, if_false, natCast_beq_one, hlen, outOf, reduceCtorEq, Int.toNat_zero, List.getD_cons_zero, h0]
/-- non-vacuity: a product over three children of which the middle one was dropped and the first one replaced -/
example :
    let t : Net ℚ := [{ id := 0, kind := .leaf, scope := [4], ch := [], ws := [], leaf := .absent },
                      { id := 1, kind := .leaf, scope := [5], ch := [], ws := [], leaf := .absent },
                      { id := 2, kind := .leaf, scope := [6], ch := [], ws := [], leaf := .absent }]
    let x : NNode ℚ := { id := 3, kind := .prod, scope := [4, 5, 6], ch := [0, 1, 2], ws := [], leaf := .absent }
    (margStepNet [4, 6] t [some 0, none, some 2] 3 x).2 = some 3 ∧
    (margStepNet [4, 6] t [some 0, none, some 2] 3 x).1.scope = [4, 6] ∧
    (margStepNet [4, 6] t [some 0, none, some 2] 3 x).1.ch = [0, 2] := by
  exact ⟨rfl, rfl, rfl⟩

/-- … and the same node through the theorem: the generated body yields the model's step -/
example :
    let t : Net ℚ := [{ id := 0, kind := .leaf, scope := [4], ch := [], ws := [], leaf := .absent },
                      { id := 1, kind := .leaf, scope := [5], ch := [], ws := [], leaf := .absent },
                      { id := 2, kind := .leaf, scope := [6], ch := [], ws := [], leaf := .absent }]
    let x : NNode ℚ := { id := 3, kind := .prod, scope := [4, 5, 6], ch := [0, 1, 2], ws := [], leaf := .absent }
    outOf x 3 (Gen.S4margStep (fun _ => decide (x.kind = .leaf)) (fun _ => false) (fun _ => decide (x.kind = .prod))
        (fun _ => decide (x.kind = .sum)) (fun j => j) (scopeNow t 3 x) (fun _ => x.ch) (fun c => [some 0, none, some 2].getD c none) [4, 6] 3)
      = some (margStepNet [4, 6] t [some 0, none, some 2] 3 x) :=
  margStep_as_coded [4, 6] _ [some 0, none, some 2] 3 _ (by decide) (by decide)

/-- **multivariate leaves as coded**: a Chow-Liu leaf is handed to `marginalize(node.to_pc(), clt_scope, copy=False)` with
`clt_scope` = the kept variables that occur in its scope (as a set), or dropped when there is none; any other leaf over
several variables raises `NotImplementedError` (the model's `margUnsupported … = some "multivariate"`) -/
theorem margStep_leaves_as_coded {N : Type} [Inhabited N] (isProduct isSum : N → Bool) (nid : N → Nat) (scope : N → List Nat)
    (children : N → List N) (nodesMap : Nat → Option N) (keep : List Nat) (node : N) (clt : Bool) :
    Gen.S4margStep (fun _ => true) (fun _ => clt) isProduct isSum nid scope children nodesMap keep node =
      (if clt then
         (if (keep.filter (fun v => (scope node).contains v)).isEmpty then .drop
          else .viaPc (keep.filter (fun v => (scope node).contains v)))
       else if (scope node).length = 1 then (if keep.contains ((scope node).getD 0 0) then .replace node else .drop)
       else .raises "NotImplementedError") := by
  unfold Gen.S4margStep
  cases clt
  · simp only [if_true, Bool.false_eq_true, if_false, natCast_beq_one, beq_iff_eq]
  · simp only [if_true]
    cases (keep.filter (fun v => (scope node).contains v)).isEmpty <;> rfl

example :
    Gen.S4margStep (N := Nat) (fun _ => true) (fun _ => true) (fun _ => false) (fun _ => false) (fun j => j) (fun _ => [3, 5, 8])
      (fun _ => []) (fun _ => none) [8, 1, 3] 0 = .viaPc [8, 3] := by
  decide +kernel

/-- one iteration of the pass driven by the generated body (an outcome the net-level model does not cover — Chow-Liu leaf,
`raise` — leaves the node and drops it) -/
def genStep (keep : List Nat) (st : Net α × List (Option Nat)) (x : NNode α) : Net α × List (Option Nat) :=
  let i := st.1.length
  match outOf x i (Gen.S4margStep (fun _ => decide (x.kind = .leaf)) (fun _ => false) (fun _ => decide (x.kind = .prod))
      (fun _ => decide (x.kind = .sum)) (fun j => j) (scopeNow st.1 i x) (fun _ => x.ch) (fun c => st.2.getD c none) keep i) with
  | some r => (st.1 ++ [r.1], st.2 ++ [r.2])
  | none => (st.1 ++ [x], st.2 ++ [none])

/-- the pass over the table in storage order with the generated body -/
def margPassGen (keep : List Nat) (net : Net α) : Net α × List (Option Nat) := net.foldl (genStep keep) ([], [])

/-- what `nodes_map[node.id]` can become at an inner node: the node itself or one of the surviving children -/
theorem margNode_snd (t : Net α) (i : Nat) (x : NNode α) (cn : List Nat) (r : Nat) (h : (margNode t i x cn).2 = some r) :
    r = i ∨ r ∈ cn := by
  match cn, h with
  | [], h => exact nomatch h
  | [c], h => exact Or.inr (List.mem_singleton.2 (Option.some.inj h).symm)
  | c0 :: c1 :: rest, h => exact Or.inl (Option.some.inj h).symm

theorem margStepNet_bound (keep : List Nat) (t : Net α) (rep : List (Option Nat)) (i : Nat) (x : NNode α)
    (hrep : ∀ c r, rep.getD c none = some r → r < i) :
    ∀ r, (margStepNet keep t rep i x).2 = some r → r < i + 1 := by
  intro r hr
  unfold margStepNet at hr
  split at hr
  · split at hr
    · exact Nat.lt_succ_of_le (Nat.le_of_eq (Option.some.inj hr).symm)
    · exact nomatch hr
  · rcases margNode_snd t i x _ r hr with rfl | hm
    · exact Nat.lt_succ_self _
    · obtain ⟨d, _, he⟩ := List.mem_filterMap.1 hm
      exact Nat.lt_succ_of_lt (hrep d r he)
/-- **the whole first pass of `marginalize` as coded** (tables stored children-first, single-variable leaves, no Chow-Liu
leaf — the domain of `marginalizeNet`): folding the table with the body extracted from the source gives the model's
`margPass`: the same mutated node objects and the same `nodes_map` -/
theorem margPass_as_coded (keep : List Nat) (net : Net α)
    (hwo : ∀ (i : Nat) (x : NNode α), net[i]? = some x → (∀ c ∈ x.ch, c < i) ∧ (x.kind = Kind.leaf → x.scope.length = 1)) :
    margPassGen keep net = margPass keep net := by
  unfold margPassGen margPass
  suffices h : ∀ (suf pre : List (NNode α)) (st : Net α × List (Option Nat)), net = pre ++ suf → st.1.length = pre.length →
      (∀ c r, st.2.getD c none = some r → r < st.1.length) →
      List.foldl (genStep keep) st suf =
        List.foldl (fun (st : Net α × List (Option Nat)) x =>
          let r := margStepNet keep st.1 st.2 st.1.length x
          (st.1 ++ [r.1], st.2 ++ [r.2])) st suf from
    h net [] ([], []) rfl rfl (by intro c r hr; simp at hr)
  intro suf
  induction suf with
  | nil => intro pre st _ _ _; rfl
  | cons x xs ih =>
    intro pre st hnet hlen hb
    have hx : net[pre.length]? = some x := by
      rw [hnet, List.getElem?_append_right (Nat.le_refl _), Nat.sub_self]
      rfl
    obtain ⟨hch, hleaf⟩ := hwo pre.length x hx
    have hrep : ∀ c ∈ x.ch, st.2.getD c none ≠ some st.1.length := fun c _ heq => Nat.lt_irrefl _ (hb c _ heq)
    have hstep : genStep keep st x =
        (st.1 ++ [(margStepNet keep st.1 st.2 st.1.length x).1], st.2 ++ [(margStepNet keep st.1 st.2 st.1.length x).2]) := by
      unfold genStep
      simp only [margStep_as_coded keep st.1 st.2 st.1.length x hleaf hrep]
    rw [List.foldl_cons, List.foldl_cons, hstep]
    refine ih (pre ++ [x]) _ (by rw [hnet, List.append_assoc]; rfl)
      (by rw [List.length_append, List.length_append, hlen]; rfl) (fun c r hr => ?_)
    rw [List.length_append, List.length_singleton]
    by_cases hc : c < st.2.length
    · rw [List.getD_append _ _ _ _ hc] at hr
      exact Nat.lt_succ_of_lt (hb c r hr)
    · rw [List.getD_append_right _ _ _ _ (Nat.le_of_not_lt hc)] at hr
      cases hk : c - st.2.length with
      | zero =>
        rw [hk] at hr
        exact margStepNet_bound keep st.1 st.2 st.1.length x hb r hr
      | succ k =>
        rw [hk] at hr
        exact nomatch hr

/-- non-vacuity: the table of the example above (three leaves and a product) -/
example :
    let net : Net ℚ := [{ id := 0, kind := .leaf, scope := [4], ch := [], ws := [], leaf := .absent },
                        { id := 1, kind := .leaf, scope := [5], ch := [], ws := [], leaf := .absent },
                        { id := 2, kind := .leaf, scope := [6], ch := [], ws := [], leaf := .absent },
                        { id := 3, kind := .prod, scope := [4, 5, 6], ch := [0, 1, 2], ws := [], leaf := .absent }]
    (margPassGen [4, 6] net).2 = [some 0, none, some 2, some 3] ∧ (margPass [4, 6] net).2 = [some 0, none, some 2, some 3] := by
  exact ⟨rfl, rfl⟩

/-- the steps around the loop: optional deep copy, `check_spn(labeled, smooth, decomposable)`, `topological_order`, the
DAG test, the identity `nodes_map`, the pass over `reversed(nodes)`, `assign_ids(nodes_map[root.id])`, then
`prune(root, copy=False)` — the order in which `marginalizeNetWith` composes `margPass` and `pruneNetWith` -/
theorem margSteps_as_coded :
    Gen.S4margSteps = ["copy", "check", "order", "dag", "map", "loop", "assign_ids", "prune"] := rfl

/-- the tree-level model makes the same three-way decision on the surviving children (`margProd` / `margSum`) -/
theorem margTree_shape (ws : List α) (cs : List (Circ α)) :
    (cs = [] → Circ.margProd cs = none ∧ Circ.margSum ws cs = none) ∧
    (∀ c, cs = [c] → Circ.margProd cs = some c ∧ Circ.margSum ws cs = some c) ∧
    (∀ c d r, cs = c :: d :: r → Circ.margProd cs = some (.prod (cs.map Circ.scope).flatten cs) ∧
        Circ.margSum ws cs = some (.sum (Circ.scope c) ws cs)) := by
  refine ⟨?_, ?_, ?_⟩
  · rintro rfl; exact ⟨rfl, rfl⟩
  · rintro c rfl; exact ⟨rfl, rfl⟩
  · rintro c d r rfl; exact ⟨rfl, rfl⟩

end Deeprob.Struct4
