import DeeprobModel.Generated.Formulas
import Mathlib.Tactic.Ring
import Mathlib.Tactic.FieldSimp
import Mathlib.Tactic.Linarith
/-
C19 — obligations about the generated derived statistics of `moments.py`
(`variance`, `skewness`, `kurtosis` as functions of the raw moments m1..m4).
`skewness_is_central3` holds for the numerator `m3 − 3·m1·m2 + 2·m1³` of the current source; for the numerator
`m3 − m1·(3·m2 + 2·m1²)` of finding F12 it is false (witness `C19.old_skewness_wrong`, `Props/C19.lean`).
-/
set_option linter.unusedSectionVars false
namespace Deeprob.Oblig.C19
variable {F : Type} [Field F] [LinearOrder F]

/-- `variance` is the second central moment -/
theorem variance_is_central2 (m1 m2 m3 m4 : F) : Gen.variance m1 m2 m3 m4 = m2 - m1 ^ 2 := by
  unfold Gen.variance; ring

/-- `skewness` is the third central moment over σ³ (σ² to the power 3/2) -/
theorem skewness_is_central3 (E : ExpLog F) (m1 m2 m3 m4 : F) :
    Gen.skewness E m1 m2 m3 m4 = (m3 - 3 * m1 * m2 + 2 * m1 ^ 3) / E.rpow (m2 - m1 ^ 2) 3 2 := by
  unfold Gen.skewness; ring

/-- the numerator / denominator-base split used by the driver is the coded quotient -/
theorem skewness_parts (E : ExpLog F) (m1 m2 m3 m4 : F) :
    Gen.skewness E m1 m2 m3 m4 = Gen.skewnessNum m1 m2 m3 m4 / E.rpow (Gen.skewnessDenBase m1 m2 m3 m4) 3 2 := rfl

/-- with `σ² ≥ 0`: skewness = μ₃ / (σ² · σ) -/
theorem skewness_sigma (E : ExpLog F) (m1 m2 m3 m4 : F) (h : 0 ≤ m2 - m1 ^ 2) :
    Gen.skewness E m1 m2 m3 m4 = (m3 - 3 * m1 * m2 + 2 * m1 ^ 3) / ((m2 - m1 ^ 2) * E.sqrt (m2 - m1 ^ 2)) := by
  rw [skewness_is_central3, E.rpow_three_halves _ h]

/-- `kurtosis` is the excess kurtosis: fourth central moment over σ⁴, minus 3 -/
theorem kurtosis_is_excess (m1 m2 m3 m4 : F) (h : m2 - m1 ^ 2 ≠ 0) :
    Gen.kurtosis m1 m2 m3 m4 = (m4 - 4 * m1 * m3 + 6 * m1 ^ 2 * m2 - 3 * m1 ^ 4) / (m2 - m1 ^ 2) ^ 2 - 3 := by
  unfold Gen.kurtosis; field_simp; ring

/-- the three polynomials really are the central moments: for any linear functional `Ex` with `Ex 1 = 1`
    (written on the monomials: `Ex[X^j] = m j`), `Ex[(X − m1)^j]` expands as stated -/
theorem central_expansions (m1 m2 m3 m4 : F) :
    (m2 - 2 * m1 * m1 + m1 ^ 2 * 1 = m2 - m1 ^ 2) ∧
    (m3 - 3 * m1 * m2 + 3 * m1 ^ 2 * m1 - m1 ^ 3 * 1 = m3 - 3 * m1 * m2 + 2 * m1 ^ 3) ∧
    (m4 - 4 * m1 * m3 + 6 * m1 ^ 2 * m2 - 4 * m1 ^ 3 * m1 + m1 ^ 4 * 1
        = m4 - 4 * m1 * m3 + 6 * m1 ^ 2 * m2 - 3 * m1 ^ 4) := by
  refine ⟨by ring, by ring, by ring⟩

/-- `moment` rejects exactly the negative orders -/
theorem moment_guard (order : F) : Gen.momentRejects order ↔ order < 0 := Iff.rfl

end Deeprob.Oblig.C19
