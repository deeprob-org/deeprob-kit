import DeeprobModel.Oblig.StructPy
import DeeprobModel.Lemmas.CheckLemmas
/-
Static tie of `Model/Net.lean` (`isLabeled`, `isSmooth`, `isDecomposable`, `checkSpn`) to
/repo/deeprob/spn/utils/validity.py (C03): the guard chains of `is_labeled`, `is_smooth`, `is_decomposable` are
translated from the current AST (`Gen.isLabeledChain`, `Gen.isSmoothNode`, `Gen.isDecomposableNode`: index of the
first test that returns a reason) and the hand-written model is shown to make the same decisions, for every net.
-/
namespace Deeprob.Oblig.StructValidity
open Deeprob Deeprob.Net Deeprob.Oblig.StructPy

variable {α : Type}

/-- `set(a) == set(b)` of the translator's prelude is the model's `scopeEqB` -/
theorem setEqB_eq : Gen.Py.setEqB = Net.scopeEqB := rfl

/-- `len(set(l)) != len(l)` is the model's duplicate test -/
theorem dedup_length_bne (l : List Nat) : ((Gen.Py.dedup l).length != l.length) = !nodupB l :=
  congrArg not (Bool.eq_iff_iff.2 (by rw [beq_iff_eq, StructPy.dedup_length_eq_iff, nodupB_iff]))

def wsOf (n : Net α) (i : Nat) : List α := match n[i]? with | some x => x.ws | none => []

def labeledTag : Nat → String
  | 0 => "none-id" | 1 => "repeated" | 2 => "min" | _ => "max"

/-- **`is_labeled`**: on every non-empty node list (`collect_nodes` always contains the root) the model returns the
reason selected by the coded chain `len(ids) != len(nodes)`, `min(ids) != 0`, `max(ids) != len(ids) - 1`
(ids are naturals in the model, so `None in ids` is `false`). -/
theorem isLabeled_as_coded (n : Net α) (nodes : List Nat) (hne : nodes ≠ []) :
    isLabeled n nodes =
      (Gen.isLabeledChain (idOf n) (chOf n) (wsOf n) (scopeOf n) nodes false
        (minL (nodes.map (idOf n))) (maxL (nodes.map (idOf n)))).map labeledTag := by
  rw [isLabeled_unfold]
  unfold Gen.isLabeledChain
  have hpos : 0 < nodes.length := List.length_pos_iff.2 hne
  have hd := dedup_length_bne (nodes.map (idOf n))
  rw [List.length_map] at hd
  cases hN : nodupB (nodes.map (idOf n)) <;> rw [hN] at hd
  · simp only [natCast_bne, hd]
    rfl
  · -- no repeated id: `len(set(ids))` is `len(nodes)`, which is positive
    have hlen : (Gen.Py.dedup (nodes.map (idOf n))).length = nodes.length := by simpa using hd
    simp only [hlen, natCast_bne_pred _ _ hpos, natCast_bne_zero, List.length_map, bne_self_eq_false, Bool.not_true,
      Bool.false_eq_true, if_false, apply_ite (Option.map labeledTag), Option.map_some, Option.map_none]
    rfl

def kindOfClass : String → Option Kind
  | "Sum" => some .sum | "Product" => some .prod | _ => none

def smoothTag : Nat → String
  | 0 => "nochildren" | 1 => "weights" | _ => "scopes"

theorem wsOf_of (n : Net α) (i : Nat) (x : NNode α) (h : n[i]? = some x) : wsOf n i = x.ws := by
  simp [wsOf, h]

/-- the coded tests of `is_smooth` on a node of the table, with the reasons of the model -/
theorem smoothNode_as_coded (n : Net α) (i : Nat) (x : NNode α) (hx : n[i]? = some x) :
    (Gen.isSmoothNode (idOf n) (chOf n) (wsOf n) (scopeOf n) i).map smoothTag =
      if x.ch.length == 0 then some "nochildren"
      else if x.ch.length != x.ws.length then some "weights"
      else if x.ch.any (fun c => !scopeEqB (scopeOf n c) x.scope) then some "scopes"
      else none := by
  unfold Gen.isSmoothNode
  rw [chOf_some n i x hx, wsOf_of n i x hx, scopeOf_some n i x hx, setEqB_eq]
  simp only [List.any_map, Function.comp_def, natCast_beq_zero, natCast_bne, apply_ite (Option.map smoothTag),
    Option.map_some, Option.map_none]
  rfl

/-- **`is_smooth`** visits the sum nodes and, on each, applies the coded tests in the coded order -/
theorem isSmooth_as_coded (n : Net α) (nodes : List Nat) :
    kindOfClass Gen.isSmoothClass = some .sum ∧
    isSmooth n nodes = nodes.findSome? (fun i => match n[i]? with
      | some x => if x.kind = .sum then
          (Gen.isSmoothNode (idOf n) (chOf n) (wsOf n) (scopeOf n) i).map smoothTag else none
      | none => none) := by
  refine ⟨rfl, ?_⟩
  rw [isSmooth_unfold]
  congr 1; funext i
  cases hx : n[i]? with
  | none => rfl
  | some x => simp only [smoothNode_as_coded n i x hx]

def decompTag : Nat → String
  | 0 => "nochildren" | _ => "scopes"

/-- the coded tests of `is_decomposable` on a node of the table, with the reasons of the model -/
theorem decompNode_as_coded (n : Net α) (i : Nat) (x : NNode α) (hx : n[i]? = some x) :
    (Gen.isDecomposableNode (idOf n) (chOf n) (wsOf n) (scopeOf n) i).map decompTag =
      if x.ch.length == 0 then some "nochildren"
      else if !nodupB (x.ch.map (scopeOf n)).flatten || !scopeEqB x.scope (x.ch.map (scopeOf n)).flatten
        then some "scopes"
      else none := by
  unfold Gen.isDecomposableNode
  rw [chOf_some n i x hx, scopeOf_some n i x hx, setEqB_eq]
  simp only [natCast_beq_zero, natCast_bne, bne_comm (a := (List.flatten _).length), dedup_length_bne,
    apply_ite (Option.map decompTag), Option.map_some, Option.map_none]
  rfl

/-- **`is_decomposable`** visits the product nodes; the test is the length comparison of the concatenated child
scopes with their set (duplicate-freeness) OR-ed with the set comparison with the node's scope -/
theorem isDecomposable_as_coded (n : Net α) (nodes : List Nat) :
    kindOfClass Gen.isDecomposableClass = some .prod ∧
    isDecomposable n nodes = nodes.findSome? (fun i => match n[i]? with
      | some x => if x.kind = .prod then
          (Gen.isDecomposableNode (idOf n) (chOf n) (wsOf n) (scopeOf n) i).map decompTag else none
      | none => none) := by
  refine ⟨rfl, ?_⟩
  rw [isDecomposable_unfold]
  congr 1; funext i
  cases hx : n[i]? with
  | none => rfl
  | some x => simp only [decompNode_as_coded n i x hx]

/-- `check_spn` applies labelled → smooth → decomposable (→ structured decomposable, outside `checkSpn`) in the order
of the model's nested matches -/
theorem checkSpn_order :
    Gen.checkSpnOrder.take 3 = [("labeled", "is_labeled"), ("smooth", "is_smooth"), ("decomposable", "is_decomposable")] ∧
    Gen.checkSpnOrder.drop 3 = [("structured_decomposable", "is_structured_decomposable")] := ⟨rfl, rfl⟩

end Deeprob.Oblig.StructValidity
