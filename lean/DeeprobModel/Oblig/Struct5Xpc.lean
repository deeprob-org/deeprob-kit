import DeeprobModel.Oblig.Struct5Prelude
import DeeprobModel.Model.XpcLoop
import DeeprobModel.Lemmas.PostOrderRLemmas
import DeeprobModel.Lemmas.XpcLemmas
set_option linter.unusedSimpArgs false
set_option linter.unusedSectionVars false
set_option linter.unusedVariables false
/-
Obligations about the loop of `build_xpc` as extracted from the source (`Gen.S5buildXpcStep`, written by tools/listprog.py on every
run): one iteration of the extracted loop is one step of the post-order machine `PostOrder.stepR` (children pushed reversed) with
the combine `xpcComb` (simulation `buildXpcStep_as_coded`), so that `PostOrder.runR_eq_foldR` applies to the code's loop
(`buildXpcLoop_as_coded`); and the fold of that combine over the objects of a partition tree is the hand-written model
`buildXpc` (`fold_buildXpc`).
Objects: `PTree π` (`Model/PostOrderR.lean`), `is_partitioned` = `len(sub_partitions) != 0`, identity membership
`last_part_visited in part.sub_partitions` = membership of the object's id among the children's ids.
-/
namespace Deeprob.Oblig.Struct5X
open Deeprob Deeprob.PostOrder

section sim
variable {π C W : Type} (isHoriz : PTree π → Bool) (rowIds : PTree π → List Nat) (children : C → List C) (isProduct isSum : C → Bool)
  (div : Nat → Nat → W) (mkSum : List W → List C → C) (mkProduct : List C → C) (buildLeaf : PTree π → C)

/-- what `build_xpc` appends to `pc_nodes_stack` when it finishes a partition, from the circuits taken off that stack -/
def xpcComb (t : PTree π) (taken : List C) : C :=
  if t.kids.isEmpty then buildLeaf t
  else if isHoriz t then mkSum (t.kids.map (fun x => div (rowIds x).length (rowIds t).length)) taken
  else mkProduct (taken.flatMap (fun c => if isProduct c || (isSum c && (children c).length == 1) then children c else [c]))

/-- the generated state that corresponds to a machine state -/
def genOfX (last : Option (PTree π)) (s : StR π C) : List (PTree π) × Option (PTree π) × List C := (s.stack, last, s.buf)

/-- one iteration of the extracted loop of `build_xpc`, run on a machine state, gives `PostOrder.stepR`
of that state (and `last_part_visited` keeps naming the object whose id the machine holds). -/
theorem buildXpcStep_as_coded (s : StR π C) (last : Option (PTree π)) (hl : last.map PTree.id = s.last) :
    ∃ last', last'.map PTree.id = (stepR (xpcComb isHoriz rowIds children isProduct isSum div mkSum mkProduct buildLeaf) s).last ∧
      Gen.S5buildXpcStep isPartitioned isHoriz PTree.kids rowIds isInP children isProduct isSum div mkSum mkProduct buildLeaf
          s.stack last s.buf
        = genOfX last' (stepR (xpcComb isHoriz rowIds children isProduct isSum div mkSum mkProduct buildLeaf) s) := by
  unfold Gen.S5buildXpcStep stepR genOfX
  cases hs : s.stack.getLast? with
  | none => exact ⟨last, hl, rfl⟩
  | some node =>
    have hin : isInP last node.kids = lastInKidsR s.last node.kids := by rw [← hl]; rfl
    have hp : isPartitioned node = !node.kids.isEmpty := by unfold isPartitioned; cases node.kids <;> rfl
    dsimp only
    rw [hin, hp]
    cases hleaf : node.kids.isEmpty with
    | true =>
      refine ⟨some node, rfl, ?_⟩
      simp [xpcComb, hleaf]
    | false =>
      have hne : node.kids.length ≠ 0 := fun h => by rw [List.length_eq_zero_iff.1 h] at hleaf; cases hleaf
      cases hk : lastInKidsR s.last node.kids with
      | true =>
        refine ⟨some node, rfl, ?_⟩
        cases hh : isHoriz node <;> simp [xpcComb, hleaf, hh, Gen.Py5.suffix_pos _ _ hne, Gen.Py5.dropLastN]
      | false =>
        refine ⟨last, hl, ?_⟩
        simp

/-- the extracted loop of `build_xpc`, run `2·size` times from `([part_root], None, [])` on a tree of
pairwise distinct objects, ends with an empty stack and one entry on `pc_nodes_stack`: the recursive fold of the combine (the
children's circuits in `sub_partitions` order). -/
theorem buildXpcLoop_as_coded (t : PTree π) (hnd : t.ids.Nodup) :
    ∃ last', genRunX isHoriz rowIds children isProduct isSum div mkSum mkProduct buildLeaf (2 * sizeR t) ([t], none, []) =
      ([], last', [foldR (xpcComb isHoriz rowIds children isProduct isSum div mkSum mkProduct buildLeaf) t]) := by
  obtain ⟨l, _, e⟩ := run_sim (R := fun last s => last.map PTree.id = s.last) (proj := genOfX)
    (runM := runR (xpcComb isHoriz rowIds children isProduct isSum div mkSum mkProduct buildLeaf))
    (runG := genRunX isHoriz rowIds children isProduct isSum div mkSum mkProduct buildLeaf)
    (fun _ => rfl) (fun _ _ => rfl) (fun _ => rfl) (fun _ _ => rfl)
    (fun last s => buildXpcStep_as_coded isHoriz rowIds children isProduct isSum div mkSum mkProduct buildLeaf s last)
    (2 * sizeR t) none ⟨[t], none, []⟩ rfl
  exact ⟨l, e.trans (congrArg (genOfX l) (runR_eq_foldR _ t hnd))⟩

end sim

section number
variable {α : Type}

theorem pay_node {π : Type} (i : Nat) (q : π) (cs : List (PTree π)) : (PTree.node i q cs).pay = q := rfl

theorem number_pay (p : Part α) (n : Nat) : (Part.number p n).pay = p := by
  cases p <;> rfl

theorem number_id (p : Part α) (n : Nat) : (Part.number p n).id = n := by
  cases p <;> rfl

/-- a map over the objects of a list of partitions that does not look at the numbers -/
theorem numberL_map {β : Type} (f : PTree (Part α) → β) (g : Part α → β) (l : List (Part α))
    (h : ∀ s ∈ l, ∀ n, f (Part.number s n) = g s) (n : Nat) : (Part.numberL l n).map f = l.map g := by
  induction l generalizing n with
  | nil => rfl
  | cons s ss ih =>
    rw [Part.numberL, List.map_cons, List.map_cons, h s List.mem_cons_self, ih fun s' hs' => h s' (List.mem_cons_of_mem _ hs')]

theorem numberL_isEmpty (l : List (Part α)) (n : Nat) : (Part.numberL l n).isEmpty = l.isEmpty := by
  cases l <;> rfl

theorem idsL_number (l : List (Part α)) (ih : ∀ s ∈ l, ∀ n, (Part.number s n).ids = List.range' n s.size) (n : Nat) :
    ((Part.numberL l n).map PTree.ids).flatten = List.range' n (Part.sizeL l) := by
  induction l generalizing n with
  | nil => rfl
  | cons s ss ihl =>
    rw [Part.numberL, Part.sizeL, List.map_cons, List.flatten_cons, ih s List.mem_cons_self n,
      ihl (fun s' hs' => ih s' (List.mem_cons_of_mem _ hs')) (n + s.size), List.range'_append_1]

/-- the objects of a partition tree are pairwise distinct: their ids are the pre-order numbers `n, n+1, …, n + size − 1` -/
theorem ids_number (p : Part α) : ∀ n : Nat, (Part.number p n).ids = List.range' n p.size := by
  induction p using Part.inductOn with
  | leaf r c a b d par =>
    intro n
    rw [Part.number, PTree.ids, Part.size]
    rfl
  | horiz r c subs ih =>
    intro n
    rw [Part.number, PTree.ids, Part.size, idsL_number subs ih (n + 1), Nat.add_comm 1, List.range'_succ]
  | vert r c subs ih =>
    intro n
    rw [Part.number, PTree.ids, Part.size, idsL_number subs ih (n + 1), Nat.add_comm 1, List.range'_succ]

theorem ids_number_nodup (p : Part α) (n : Nat) : (Part.number p n).ids.Nodup := by
  rw [ids_number]; exact List.nodup_range'

theorem wellTaggedBL_iff (l : List (Part α)) : Part.wellTaggedBL l = true ↔ ∀ s ∈ l, Part.wellTaggedB s = true := by
  induction l with
  | nil => simp [Part.wellTaggedBL]
  | cons a l ih => simp [Part.wellTaggedBL, ih]

end number

section xfold
variable {α : Type} [Zero α] [One α] [Div α] [NatCast α]

/-- the instantiation of the uninterpreted parameters of `S5buildXpcStep` by the model's partitions and circuits -/
def xcComb (useClt det : Bool) : PTree (Part α) → List (XC α) → XC α :=
  xpcComb isHorizP rowIdsP XC.children XC.isProduct XC.isSum (fun a b => (a : α) / (b : α)) XC.mkSum XC.mkProd (buildLeafP useClt det)

/-- the `for` loop of the product branch, as extracted, is the model's one-level flattening -/
theorem flatten_as_coded (c : XC α) :
    (if XC.isProduct c || (XC.isSum c && (XC.children c).length == 1) then XC.children c else [c]) = flattenChild c := by
  cases c <;> simp [XC.isProduct, XC.isSum, XC.children, flattenChild]

theorem isHorizP_number (rows : List Nat) (subs : List (Part α)) (p : Part α) (hp : p.rows = rows) (n m : Nat) :
    isHorizP (.node n p (Part.numberL subs m)) = Part.isHorizB rows subs := by
  cases subs with
  | nil => rfl
  | cons s ss => simp [isHorizP, PTree.kids, pay_node, Part.numberL, Part.isHorizB, number_pay, hp]

theorem xcComb_inner (useClt det : Bool) (n : Nat) (p : Part α) (kids : List (PTree (Part α))) (hk : kids.isEmpty = false)
    (taken : List (XC α)) :
    xcComb useClt det (.node n p kids) taken =
      if isHorizP (.node n p kids) then XC.mkSum (kids.map (fun x => ((rowIdsP x).length : α) / (p.rows.length : α))) taken
      else XC.mkProd (taken.flatMap flattenChild) := by
  simp only [xcComb, xpcComb, PTree.kids, hk, Bool.false_eq_true, if_false, flatten_as_coded, rowIdsP, PTree.pay]

theorem foldR_inner (useClt det : Bool) (p : Part α) (subs : List (Part α)) (hne : subs.isEmpty = false)
    (ih : ∀ s ∈ subs, ∀ n, foldR (xcComb useClt det) (Part.number s n) = buildXpc useClt det s) (n m : Nat) :
    foldR (xcComb useClt det) (.node n p (Part.numberL subs m)) =
      if Part.isHorizB p.rows subs then
        XC.mkSum (subs.map fun s => (s.rows.length : α) / (p.rows.length : α)) (subs.map (buildXpc useClt det))
      else XC.mkProd ((subs.map (buildXpc useClt det)).flatMap flattenChild) := by
  rw [foldR, numberL_map _ _ subs ih, xcComb_inner _ _ _ _ _ ((numberL_isEmpty subs m).trans hne),
    isHorizP_number p.rows subs p rfl,
    numberL_map _ (fun s => (s.rows.length : α) / (p.rows.length : α)) subs fun s _ k => by rw [rowIdsP, number_pay]]

/-- the recursive fold of the `build_xpc` combine (what the extracted loop computes, `buildXpcLoop_as_coded`)
over the objects of a partition tree is the hand-written model `buildXpc` of that tree — for trees whose inner nodes have
sub-partitions and carry the kind `is_horizontally_partitioned()` answers (`wellTaggedB`). -/
theorem fold_buildXpc (useClt det : Bool) : (p : Part α) → Part.wellTaggedB p = true → ∀ n : Nat,
    foldR (xcComb useClt det) (Part.number p n) = buildXpc useClt det p := by
  intro p
  induction p using Part.inductOn with
  | leaf r c a b d par =>
    intro _ n
    rw [Part.number, foldR, buildXpc_leaf]
    rfl
  | horiz r c subs ih =>
    intro hw n
    simp only [Part.wellTaggedB, Bool.and_eq_true, Bool.not_eq_true', wellTaggedBL_iff] at hw
    obtain ⟨⟨hne, hh⟩, hwl⟩ := hw
    rw [Part.number, foldR_inner _ _ _ _ hne fun s hs => ih s hs (hwl s hs), buildXpc_horiz]
    exact if_pos hh
  | vert r c subs ih =>
    intro hw n
    simp only [Part.wellTaggedB, Bool.and_eq_true, Bool.not_eq_true', wellTaggedBL_iff] at hw
    obtain ⟨⟨hne, hh⟩, hwl⟩ := hw
    rw [Part.number, foldR_inner _ _ _ _ hne fun s hs => ih s hs (hwl s hs), buildXpc_vert]
    exact if_neg (hh ▸ Bool.false_ne_true)

end xfold

/-- a partition tree with a horizontal split, a vertical split over two product leaves (which the product takes over, flattened)
and a conjunction leaf -/
def exPart : Part Rat :=
  .horiz [0, 1, 2, 3] [0, 1]
    [ .vert [0, 1] [0, 1] [ .leaf [0, 1] [0] true true [] { row0 := [1] }, .leaf [0, 1] [1] true true [] { row0 := [0] } ],
      .leaf [2, 3] [0, 1] true true [] { row0 := [0, 1] } ]

/-- non-vacuity: the extracted loop of `build_xpc` on the five objects of `exPart` ends with an empty stack and one circuit on
`pc_nodes_stack`, the model's `buildXpc` -/
example : ∃ last', genRunX isHorizP rowIdsP XC.children XC.isProduct XC.isSum (fun a b => (a : Rat) / (b : Rat)) XC.mkSum XC.mkProd
      (buildLeafP true false) (2 * sizeR (Part.number exPart 0)) ([Part.number exPart 0], none, []) =
    ([], last', [buildXpc true false exPart]) := by
  obtain ⟨l, h⟩ := buildXpcLoop_as_coded isHorizP rowIdsP XC.children XC.isProduct XC.isSum (fun a b => (a : Rat) / (b : Rat))
    XC.mkSum XC.mkProd (buildLeafP true false) (Part.number exPart 0) (ids_number_nodup _ _)
  have hf := fold_buildXpc true false exPart (by decide +kernel) 0
  unfold xcComb at hf
  rw [hf] at h
  exact ⟨l, h⟩

/-- … and that circuit is the sum over the flattened product and the conjunction -/
example : buildXpc true false exPart =
    XC.mkSum [(2 : Rat) / 4, 2 / 4] [XC.mkProd [XC.bern 0 0 1, XC.bern 1 1 0], XC.mkProd [XC.bern 0 1 0, XC.bern 1 0 1]] := by
  rfl

end Deeprob.Oblig.Struct5X
