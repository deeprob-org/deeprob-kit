import DeeprobModel.Generated.Consts
import Mathlib.Tactic.NormNum
/-
Obligations about constants extracted from the current /repo source (C07).
-/
namespace Deeprob.Oblig

/-- `sum_sample` adds i.i.d. *standard right-skewed* Gumbel noise to `log wᵢ + log Lᵢ` before the
arg-max: with the Gumbel-max identity (proved over ℝ: `SamplingFacts.gumbelMaxIdentity_real`; over a general field a
named hypothesis of the sampling theorems of `Props/E2ECirc.lean`) the chosen branch is a draw from
Categorical(wᵢ·Lᵢ / Σⱼ wⱼ·Lⱼ), the branch law `branchPmf` of `topDownPmf`. A left-skewed law
(`gumbel_l`) does not have this property. -/
theorem sum_sample_noise_is_standard_gumbel_r :
    Gen.sumSampleNoise = "gumbel_r" ∧ Gen.sumSampleNoiseLoc = 0 ∧ Gen.sumSampleNoiseScale = 1 := by
  refine ⟨by decide, ?_, ?_⟩ <;> (first | rfl | (unfold Gen.sumSampleNoiseLoc; norm_num) | (unfold Gen.sumSampleNoiseScale; norm_num))

end Deeprob.Oblig
