import DeeprobModel.Generated.Consts
/-
Obligation about the re-queue discipline extracted from the current /repo source (C05): the invariant
`learn_inv` / `learn_final_proportions` is proved for the machine with `front := true`.
-/
namespace Deeprob.Oblig.C05

theorem requeue_is_front : Gen.learnRequeueFront = true ∧ Gen.learnRequeueMixed = false := ⟨rfl, rfl⟩

end Deeprob.Oblig.C05
