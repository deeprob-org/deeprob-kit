import DeeprobModel.Generated.Formulas
import DeeprobModel.Generated.FormulasRat
import Mathlib.Algebra.Order.Field.Rat
/-
The Mathlib-free copies `Deeprob.GenRat.S3…` executed by the driver (`Driver/OpsStruct3.lean`) are, formula by
formula, the generated definitions `Deeprob.Gen.S3…` at the field ℚ — by `rfl` (same role as `Oblig/GenRat.lean`).
-/
namespace Deeprob.Struct3.GenRat
open Deeprob

theorem S3sumLikelihood (w x : List ℚ) : GenRat.S3sumLikelihood w x = Gen.S3sumLikelihood w x := rfl
theorem S3productLikelihood (x : List ℚ) : GenRat.S3productLikelihood x = Gen.S3productLikelihood x := rfl
theorem S3productLogLikelihood (x : List ℚ) : GenRat.S3productLogLikelihood x = Gen.S3productLogLikelihood x := rfl
theorem S3nodeLikelihood (f : List ℚ → ℚ) (x : List ℚ) : GenRat.S3nodeLikelihood f x = Gen.S3nodeLikelihood f x := rfl
theorem S3nodeLogLikelihood (f : List ℚ → ℚ) (x : List ℚ) : GenRat.S3nodeLogLikelihood f x = Gen.S3nodeLogLikelihood f x := rfl
theorem S3evalForwardInner {N : Type} (nid : N → Nat) (children : N → List N) (g : N → List ℚ → ℚ) (ls : Nat → ℚ) (n : N) :
    GenRat.S3evalForwardInner nid children g ls n = Gen.S3evalForwardInner nid children g ls n := rfl
theorem S3bernoulliLikelihood (p : ℚ) (x : Option Nat) : GenRat.S3bernoulliLikelihood p x = Gen.S3bernoulliLikelihood p x := rfl
theorem S3categoricalLikelihood (c : List Nat) (p : List ℚ) (x : Option Nat) :
    GenRat.S3categoricalLikelihood c p x = Gen.S3categoricalLikelihood c p x := rfl
theorem S3leafMoment (s : List Nat) (m : Nat → ℚ) (v : Nat) : GenRat.S3leafMoment s m v = Gen.S3leafMoment s m v := rfl

end Deeprob.Struct3.GenRat
