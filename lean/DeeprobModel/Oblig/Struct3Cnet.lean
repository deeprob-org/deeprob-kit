import DeeprobModel.Oblig.StructPy
import DeeprobModel.Model.Cnet
import DeeprobModel.Lemmas.SumLemmas
import Mathlib.Data.List.Basic
import Mathlib.Algebra.Order.Field.Rat
import Mathlib.Tactic.NormNum
/-
Static tie of `Model/Cnet.lean` (`cnetRun`, `cnetBatch`) to
/repo/deeprob/spn/structure/cnet.py (`BinaryCNet.log_likelihood`, the routing loop) — C18.

`Gen.S3cnetOrStep` is the OR-node part of the loop body executed symbolically on the current AST: which children are
pushed (in which order, with which row / column indices) and which updates `log_likes[rows] += np.log(node.weights[k])`
are made.  The model works in the linear domain (`+= log w` ↦ `*= w`) and does not track column indices (it reads the
cut variable by name): `cols_aligned` states the alignment that justifies it.
-/
set_option linter.unusedSectionVars false
set_option linter.unusedVariables false
namespace Deeprob.Struct3
open Deeprob

/-- the cut value of a row as the integer the code compares with `0` / `1` (missing / NaN: neither) -/
def cutVal : Option Nat → Int
  | none => -1
  | some k => (k : Int)

theorem cutVal_eq (o : Option Nat) (k : Nat) : (cutVal o == (k : Int)) = (o == some k) := by
  cases o with
  | none => exact beq_eq_false_iff_ne.2 (by show (-1 : Int) ≠ (k : Int); omega)
  | some j => exact (Oblig.StructPy.natCast_beq j k).trans (by simp)

theorem rowsWhere_map {β γ : Type} (l : List β) (f : β → γ) (g : γ → Bool) :
    Gen.Py3.rowsWhere l ((l.map f).map g) = l.filter (fun r => g (f r)) := by
  unfold Gen.Py3.rowsWhere
  induction l with
  | nil => rfl
  | cons x xs ih =>
    simp only [List.map_cons, List.zip_cons_cons, List.filter_cons]
    by_cases h : g (f x) = true
    · simp only [h, if_true, List.map_cons, ih]
    · simp only [h, Bool.false_eq_true, if_false, ih]

variable {α : Type} [Zero α] [One α] [Add α] [Mul α]

/-- **the OR-node iteration as coded**: rows whose cut value is 0 go to `children[0]` and receive `weights[0]`, rows whose
cut value is 1 go to `children[1]` and receive `weights[1]`; `children[0]` is pushed before `children[1]`, both at the
back of the work list -/
theorem cnetRun_or_as_coded (rows : Nat → Ev) (fuel : Nat) (s : List Nat) (v : Nat) (w0 w1 : α) (c0 c1 : CNet α)
    (idxs : List Nat) (q : List (CNet α × List Nat)) (acc : List α) (cols : List Nat) (nodeIdx : Nat) :
    cnetRun rows (fuel + 1) ((.or s v w0 w1 c0 c1, idxs) :: q) acc =
      (let st := Gen.S3cnetOrStep idxs cols nodeIdx (idxs.map (fun r => cutVal (rows r v)))
       cnetRun rows fuel (q ++ st.1.map (fun p => (if p.1 = 0 then c0 else c1, p.2.1)))
         (st.2.foldl (fun a p => mulAt a p.1 (fun _ => if p.2 = 0 then w0 else w1)) acc)) := by
  have h0 : ∀ o : Option Nat, (cutVal o == (0 : Int)) = (o == some 0) := fun o => cutVal_eq o 0
  have h1 : ∀ o : Option Nat, (cutVal o == (1 : Int)) = (o == some 1) := fun o => cutVal_eq o 1
  simp only [cnetRun, Gen.S3cnetOrStep, rowsWhere_map, h0, h1, List.map_cons, List.map_nil, List.foldl_cons, List.foldl_nil,
    if_true, Nat.one_ne_zero, if_false]

/-- **the leaf iteration, the pop side, the start** — `log_likes[node.row_indices] += node.clt.log_likelihood(partition)`
(row `j` of the partition is row `row_indices[j]` of the batch), `node_stack.pop(0)` = head of the model's list, rows
`arange(n_samples)`, `log_likes = zeros` (ones in the linear domain) -/
theorem cnetRun_leaf_as_coded (rows : Nat → Ev) (fuel : Nat) (s : List Nat) (f : Ev → α) (idxs : List Nat)
    (q : List (CNet α × List Nat)) (acc : List α) :
    cnetRun rows (fuel + 1) ((.leaf s f, idxs) :: q) acc = cnetRun rows fuel q (mulAt acc idxs (fun r => f (rows r))) ∧
    Gen.S3cnetLeafAdds = ("node.row_indices", "node.clt.log_likelihood(partition).squeeze()") ∧ Gen.S3cnetPop = "pop(0)" :=
  ⟨rfl, rfl, rfl⟩

theorem cnetBatch_init_as_coded (rows : Nat → Ev) (n m : Nat) (c : CNet α) :
    cnetBatch rows n c = cnetRun rows c.size [(c, (Gen.S3cnetInit n m).1)] (List.replicate n 1) := rfl

/-- `np.delete(a, a.index(v))` (also `del a[a.index(v)]`) removes the first `v` -/
theorem delete_idxOf (s : List Nat) (v : Nat) : Gen.Py3.delete s (s.idxOf v) = s.erase v :=
  (List.erase_eq_eraseIdx_of_idxOf rfl).symm

/-- **column alignment**: while `node.col_indices` lists the columns of `node.scope` in order (true at the root of a
network over `0 .. n-1`: `Gen.S3cnetInit`), the cut column `col_indices[node_idx]` is the column of the cut variable and
the children's `np.delete(col_indices, node_idx)` is the scope with the cut variable erased (what `cnetWellFormedB`
requires of the children's scopes) — so reading the cut variable by name, as the model does, is reading the coded column -/
theorem cols_aligned (s : List Nat) (v : Nat) (hv : v ∈ s) :
    s.getD (Gen.S3cnetNodeIdx s v) 0 = v ∧
    (∀ rowIdx cutcol, ∀ p ∈ (Gen.S3cnetOrStep rowIdx s (Gen.S3cnetNodeIdx s v) cutcol).1, p.2.2 = s.erase v) := by
  refine ⟨getD_idxOf hv 0, fun rowIdx cutcol p hp => ?_⟩
  simp only [Gen.S3cnetOrStep, List.mem_cons, List.not_mem_nil, or_false] at hp
  rcases hp with h | h <;> (rw [h]; exact delete_idxOf s v)

/-- non-vacuity: four rows routed at an OR node on variable 1 with weights 1/4, 3/4 -/
example :
    let rows : Nat → Ev := fun r => Ev.ofList ([[some 0, some 1], [some 1, some 0], [some 1, some 1], [some 0, some 0]].getD r [])
    Gen.S3cnetOrStep [0, 1, 2, 3] [0, 1] (Gen.S3cnetNodeIdx [0, 1] 1) ([0, 1, 2, 3].map (fun r => cutVal (rows r 1)))
      = ([(0, [1, 3], [0]), (1, [0, 2], [0])], [([1, 3], 0), ([0, 2], 1)]) ∧
    cnetRun rows 1 [(.or [0, 1] 1 ((1:ℚ)/4) (3/4) (.leaf [0] (fun _ => 1)) (.leaf [0] (fun _ => 1)), [0, 1, 2, 3])] [1, 1, 1, 1]
      = [3/4, 1/4, 3/4, 1/4] := by
  decide +kernel

end Deeprob.Struct3
