import DeeprobModel.Oblig.Struct5Prelude
import DeeprobModel.Model.ToPcLoop
import DeeprobModel.Lemmas.PostOrderLemmas
import DeeprobModel.Lemmas.CltLemmas
import DeeprobModel.Lemmas.CltExample
set_option linter.unusedSimpArgs false
set_option linter.unusedSectionVars false
/-
Obligations about the loops of `BinaryCLT.to_pc` and `BinaryCLT.get_scopes` as extracted from the source
(`Gen.S5toPcStep`, `Gen.S5getScopesStep`, written by tools/listprog.py on every run): one iteration of the extracted loop is
one step of the generic post-order machine `PostOrder.step` with the respective "combine" (simulation `toPcStep_as_coded`,
`getScopesStep_as_coded`), so that `PostOrder.run_eq_fold` applies to the code's loop; and the fold of the `to_pc` combine is
the hand-written unfolding `Clt.pc` (`fold_toPc`), the fold of the `get_scopes` combine is `getScopeTop` with log `getScopes`
(`fold_getScopes`).
Tree nodes: `RTree` (the tree `build_tree_structure` returns), `is_leaf` = no children (`TreeNode.is_leaf`), identity membership
`last_node_visited in node.get_children()` = membership of the node's index among the children's indices.
-/
namespace Deeprob.Oblig.Struct5
open Deeprob Deeprob.PostOrder Deeprob.Clt

theorem suffix_map {β γ : Type} (f : β → γ) (xs : List β) (k : Nat) :
    Gen.Py5.suffix (xs.map f) k = (Gen.Py5.suffix xs k).map f := by
  unfold Gen.Py5.suffix; split <;> simp

theorem delSuffix_map {β γ : Type} (f : β → γ) (xs : List β) (k : Nat) :
    Gen.Py5.delSuffix (xs.map f) k = (Gen.Py5.delSuffix xs k).map f := by
  unfold Gen.Py5.delSuffix; split <;> simp

section topc
variable {C W : Type} (getId : RTree → Nat) (mkB : Nat → Nat → C) (mkP : List C → C) (mkS : List C → W → C) (factors : Nat → Nat → W)

/-- the pair `to_pc` appends to (`neg_buffer`, `pos_buffer`) when it finishes a tree node, from the pairs taken off the buffers -/
def toPcComb (t : RTree) (taken : List (C × C)) : C × C :=
  let ch := if t.kids.isEmpty then [mkB (getId t) 0, mkB (getId t) 1]
            else [mkP ([mkB (getId t) 0] ++ taken.map Prod.fst), mkP ([mkB (getId t) 1] ++ taken.map Prod.snd)]
  (mkS ch (factors (getId t) 0), mkS ch (factors (getId t) 1))

/-- the generated state that corresponds to a machine state: both buffers are the projections of the pair buffer -/
def genOf (last : Option RTree) (s : St (C × C)) : List RTree × Option RTree × List C × List C :=
  (s.stack, last, s.buf.map Prod.fst, s.buf.map Prod.snd)

/-- one iteration of the extracted loop of `to_pc`, run on the projections of a machine state, gives the
projections of `PostOrder.step` of that state (and `last_node_visited` keeps naming the node whose index the machine holds). -/
theorem toPcStep_as_coded (s : St (C × C)) (last : Option RTree) (hl : last.map RTree.idx = s.last) :
    ∃ last', last'.map RTree.idx = (step (toPcComb getId mkB mkP mkS factors) s).last ∧
      Gen.S5toPcStep getId isLeaf RTree.kids isIn mkB mkP mkS factors s.stack last (s.buf.map Prod.fst) (s.buf.map Prod.snd)
        = genOf last' (step (toPcComb getId mkB mkP mkS factors) s) := by
  unfold Gen.S5toPcStep step genOf
  cases hs : s.stack.getLast? with
  | none => exact ⟨last, hl, rfl⟩
  | some node =>
    have hin : isIn last node.kids = lastInKids s.last node.kids := by rw [← hl]; rfl
    dsimp only
    rw [hin, isLeaf]
    cases hleaf : node.kids.isEmpty with
    | true =>
      refine ⟨some node, rfl, ?_⟩
      simp [toPcComb, hleaf]
    | false =>
      have hne : node.kids.length ≠ 0 := fun h => by rw [List.length_eq_zero_iff.1 h] at hleaf; cases hleaf
      cases hk : lastInKids s.last node.kids with
      | true =>
        refine ⟨some node, rfl, ?_⟩
        simp [toPcComb, hleaf, Gen.Py5.suffix_pos _ _ hne, Gen.Py5.delSuffix_pos _ _ hne]
      | false =>
        refine ⟨last, hl, ?_⟩
        simp

/-- the extracted loop of `to_pc`, run `2·size` times from `([root], None, [], [])` on a tree with
pairwise distinct node indices, ends with an empty stack and one entry in each buffer: the two components of the recursive fold. -/
theorem toPcLoop_as_coded (t : RTree) (hnd : t.vars.Nodup) :
    ∃ last', genRun getId mkB mkP mkS factors (2 * size t) ([t], none, [], []) =
      ([], last', [(fold (toPcComb getId mkB mkP mkS factors) t).1], [(fold (toPcComb getId mkB mkP mkS factors) t).2]) := by
  obtain ⟨l, _, e⟩ := run_sim (R := fun last s => last.map RTree.idx = s.last) (proj := genOf)
    (runM := run (toPcComb getId mkB mkP mkS factors)) (runG := genRun getId mkB mkP mkS factors)
    (fun _ => rfl) (fun _ _ => rfl) (fun _ => rfl) (fun _ _ => rfl)
    (fun last s => toPcStep_as_coded getId mkB mkP mkS factors s last) (2 * size t) none ⟨[t], none, []⟩ rfl
  exact ⟨l, e.trans (congrArg (genOf l) (run_eq_fold _ t hnd))⟩

end topc

section pcfold
variable {α : Type} [Zero α] [One α] [Add α] [Mul α]

/-- the instantiation of the uninterpreted constructors of `S5toPcStep` by the circuit constructors of the model -/
def pcComb (scope : List Nat) (cpt : List (List (List α))) : RTree → List (Circ α × Circ α) → Circ α × Circ α :=
  toPcComb (fun t => scope.getD t.idx 0) (fun v p => Circ.catLeaf v (indicator p)) Circ.mkProd (fun cs w => Circ.mkSum w cs)
    (factorsOf scope cpt)

/-- the recursive fold of the `to_pc` combine (what the extracted loop computes, `toPcLoop_as_coded`) is the pair
`(Clt.pc … 0, Clt.pc … 1)` of the hand-written unfolding, for a scope without repetitions covering the tree's indices. -/
theorem fold_toPc (scope : List Nat) (cpt : List (List (List α))) (hnd : scope.Nodup) : (t : RTree) →
    (∀ i ∈ t.vars, i < scope.length) →
    fold (pcComb scope cpt) t = (pc scope cpt t 0, pc scope cpt t 1) := by
  intro t
  induction t using RTree.ind with
  | node i cs ih =>
    intro hlt
    have hi : i < scope.length := hlt i (by simp [RTree.vars])
    have hidx := idxOf_getD hnd hi 0
    have hmap : cs.map (fold (pcComb scope cpt)) = cs.map (fun c => (pc scope cpt c 0, pc scope cpt c 1)) :=
      List.map_congr_left fun c hc => ih c hc (fun j hj => hlt j (vars_child_sub i cs c hc j hj))
    rw [fold, hmap, pc, pc]
    simp only [pcComb, toPcComb, RTree.kids, RTree.idx, factorsOf, hidx, List.map_reverse,
      List.map_map, Function.comp_def, List.singleton_append]
    cases cs.isEmpty <;> rfl

end pcfold

section getscopes
variable (getId : RTree → Nat)

/-- state of `get_scopes`: the buffer entry is the list pushed on `scopes_stack`; `scopes` (the log) is carried along -/
def scopeComb (t : RTree) (taken : List (List Nat)) : List Nat :=
  if t.kids.isEmpty then [getId t] else (taken ++ [[getId t]]).flatten

/-- the instrumented combine: the list pushed on `scopes_stack`, together with everything `scopes` received while the sub-tree was
walked (the children's records in the order they were finished, then the node's own merged scope if it is an inner node) -/
def scopeComb2 (t : RTree) (taken : List (List Nat × List (List Nat))) : List Nat × List (List Nat) :=
  (scopeComb getId t (taken.map Prod.fst),
   (taken.map Prod.snd).flatten ++ (if t.kids.isEmpty then [] else [scopeComb getId t (taken.map Prod.fst)]))

/-- the generated state that corresponds to a machine state over the instrumented buffer: `scopes_stack` is the first projection,
`scopes` the concatenation of the records -/
def genOfS (last : Option RTree) (s : St (List Nat × List (List Nat))) : List RTree × Option RTree × List (List Nat) × List (List Nat) :=
  (s.stack, last, s.buf.map Prod.fst, (s.buf.map Prod.snd).flatten)

/-- one iteration of the extracted loop of `get_scopes`, run on the projections of a machine state,
gives the projections of `PostOrder.step` (instrumented combine) of that state. -/
theorem getScopesStep_as_coded (s : St (List Nat × List (List Nat))) (last : Option RTree) (hl : last.map RTree.idx = s.last) :
    ∃ last', last'.map RTree.idx = (step (scopeComb2 getId) s).last ∧
      Gen.S5getScopesStep getId isLeaf RTree.kids isIn s.stack last (s.buf.map Prod.fst) ((s.buf.map Prod.snd).flatten) =
        genOfS last' (step (scopeComb2 getId) s) := by
  unfold Gen.S5getScopesStep step genOfS
  cases hs : s.stack.getLast? with
  | none => exact ⟨last, hl, rfl⟩
  | some node =>
    have hin : isIn last node.kids = lastInKids s.last node.kids := by rw [← hl]; rfl
    dsimp only
    rw [hin, isLeaf]
    cases hleaf : node.kids.isEmpty with
    | true =>
      refine ⟨some node, rfl, ?_⟩
      simp [scopeComb2, scopeComb, hleaf]
    | false =>
      have hne : node.kids.length ≠ 0 := fun h => by rw [List.length_eq_zero_iff.1 h] at hleaf; cases hleaf
      cases hk : lastInKids s.last node.kids with
      | true =>
        refine ⟨some node, rfl, ?_⟩
        have hfl := List.flatten_append.symm.trans
          (congrArg List.flatten (List.take_append_drop (s.buf.length - node.kids.length) (s.buf.map Prod.snd)))
        simp [scopeComb2, scopeComb, hleaf, Gen.Py5.suffix_pos _ _ hne, Gen.Py5.delSuffix_pos _ _ hne, List.map_take, List.map_drop,
          ← List.append_assoc, hfl]
      | false =>
        refine ⟨last, hl, ?_⟩
        simp

/-- the extracted loop of `get_scopes`, run `2·size` times from `([root], None, [], [])` on a tree
with pairwise distinct node indices, ends with an empty stack, one entry on `scopes_stack` and `scopes` = the record of the fold. -/
theorem getScopesLoop_as_coded (t : RTree) (hnd : t.vars.Nodup) :
    ∃ last', genRunS getId (2 * size t) ([t], none, [], []) =
      ([], last', [(fold (scopeComb2 getId) t).1], (fold (scopeComb2 getId) t).2) := by
  obtain ⟨l, _, e⟩ := run_sim (R := fun last s => last.map RTree.idx = s.last) (proj := genOfS)
    (runM := run (scopeComb2 getId)) (runG := genRunS getId)
    (fun _ => rfl) (fun _ _ => rfl) (fun _ => rfl) (fun _ _ => rfl)
    (fun last s => getScopesStep_as_coded getId s last) (2 * size t) none ⟨[t], none, []⟩ rfl
  exact ⟨l, e.trans ((congrArg (genOfS l) (run_eq_fold _ t hnd)).trans (by simp [genOfS]))⟩

/-- the fold of the instrumented `get_scopes` combine is (`getScopeTop`, `getScopes`): what `get_scopes` pushes
for a tree node, and the list it returns -/
theorem fold_getScopes (scope : List Nat) : (t : RTree) →
    fold (scopeComb2 (fun t => scope.getD t.idx 0)) t = (getScopeTop scope t, getScopes scope t) := by
  intro t
  induction t using RTree.ind with
  | node i cs ih =>
    rw [fold, List.map_congr_left ih, getScopes, getScopeTop]
    simp only [scopeComb2, scopeComb, RTree.kids, RTree.idx, List.map_reverse, List.map_map, Function.comp_def]
    cases cs with
    | nil => rfl
    | cons c cs => simp only [List.isEmpty_cons, Bool.false_eq_true, if_false, List.flatten_append, List.flatten_singleton]

end getscopes

/-- non-vacuity: the extracted loop of `to_pc` on the 4-node example tree of `Lemmas/CltExample.lean` ends with one entry per
buffer, the pair of circuits `Clt.pc` -/
example : ∃ last', genRun (fun t => Clt.Ex.scope.getD t.idx 0) (fun v p => Circ.catLeaf v (indicator p)) Circ.mkProd
      (fun cs w => Circ.mkSum w cs) (factorsOf Clt.Ex.scope Clt.Ex.cpt) (2 * size Clt.Ex.tree)
      ([Clt.Ex.tree], none, [], []) =
    ([], last', [pc Clt.Ex.scope Clt.Ex.cpt Clt.Ex.tree 0], [pc Clt.Ex.scope Clt.Ex.cpt Clt.Ex.tree 1]) := by
  have hnd : Clt.Ex.tree.vars.Nodup := by rw [Clt.Ex.vars_eq]; decide
  obtain ⟨l, h⟩ := toPcLoop_as_coded (fun t => Clt.Ex.scope.getD t.idx 0) (fun v p => Circ.catLeaf v (indicator p)) Circ.mkProd
    (fun cs w => Circ.mkSum w cs) (factorsOf Clt.Ex.scope Clt.Ex.cpt) Clt.Ex.tree hnd
  have hf := fold_toPc Clt.Ex.scope Clt.Ex.cpt (by decide) Clt.Ex.tree
    (by rw [Clt.Ex.vars_eq]; decide)
  unfold pcComb at hf
  rw [hf] at h
  exact ⟨l, h⟩

end Deeprob.Oblig.Struct5
