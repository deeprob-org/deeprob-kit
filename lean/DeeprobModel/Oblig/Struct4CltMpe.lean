import DeeprobModel.Oblig.Struct4Clt
/-
The whole decoding loop of `BinaryCLT.mpe` (as extracted: `Gen.S4cltMpe`) against the recursive
model `Clt.decodeList` / `Clt.decode` of `Model/CltPc.lean` — C06.

The code walks the variables in the order `self.bfs` and reads, for each of them, the value currently stored for its parent;
the model descends the rooted tree.  `mpe_loop_is_decode`: for any order in which every variable comes after its parent
(breadth-first order is one), the row returned by the extracted function agrees with the model's `decode` on every variable
of the tree and is unchanged elsewhere.  (The informal argument in the doc comment of `Clt.decodeList` — "every value depends
only on the parent's value, so the order of the walk does not matter" — made formal, about the code as extracted.)
-/
set_option linter.unusedSectionVars false
namespace Deeprob.Struct4
open Deeprob Deeprob.Clt Deeprob.Oblig.StructPy

section
variable {α : Type} [CommSemiring α] [LinearOrder α] [IsStrictOrderedRing α]

/-- `Dec … t l j o`: the decoding pass on the sub-tree `t`, whose parent received the value `l`, gives the value `o` to the
local index `j` (the pairs of `decodeList`, keyed by local index instead of variable id) -/
inductive Dec (scope : List Nat) (cpt : List (List (List α))) (e : Ev) : RTree → Nat → Nat → Nat → Prop
  | root (i : Nat) (cs : List RTree) (l : Nat) : Dec scope cpt e (.node i cs) l i (chosen scope cpt i cs l e)
  | child (i : Nat) (cs : List RTree) (l : Nat) {c : RTree} {j o : Nat} (hc : c ∈ cs)
      (hd : Dec scope cpt e c (chosen scope cpt i cs l e) j o) : Dec scope cpt e (.node i cs) l j o

theorem dec_node (scope : List Nat) (cpt : List (List (List α))) (e : Ev) (i : Nat) (cs : List RTree) (l j o : Nat) :
    Dec scope cpt e (.node i cs) l j o ↔
      (j = i ∧ o = chosen scope cpt i cs l e) ∨ ∃ c ∈ cs, Dec scope cpt e c (chosen scope cpt i cs l e) j o := by
  constructor
  · intro h
    cases h with
    | root => exact Or.inl ⟨rfl, rfl⟩
    | child _ _ _ hc hd => exact Or.inr ⟨_, hc, hd⟩
  · rintro (⟨rfl, rfl⟩ | ⟨c, hc, hd⟩)
    · exact .root j cs l
    · exact .child i cs l hc hd

/-- the pairs of `decodeList` are the decisions `Dec`, keyed by the variable id of the local index -/
theorem mem_decodeList (scope : List Nat) (cpt : List (List (List α))) (e : Ev) (t : RTree) (l v o : Nat) :
    (v, o) ∈ decodeList scope cpt t l e ↔ ∃ j, v = scope.getD j 0 ∧ Dec scope cpt e t l j o := by
  induction t using RTree.ind generalizing l with
  | node i cs ih =>
    rw [decodeList_node]
    simp only [List.mem_cons, Prod.mk.injEq, List.mem_flatten, List.mem_map, dec_node]
    constructor
    · rintro (⟨hv, ho⟩ | ⟨_, ⟨c, hc, rfl⟩, hm⟩)
      · exact ⟨i, hv, Or.inl ⟨rfl, ho⟩⟩
      · obtain ⟨j, hj, hd⟩ := (ih c hc _).1 hm
        exact ⟨j, hj, Or.inr ⟨c, hc, hd⟩⟩
    · rintro ⟨j, hj, (⟨rfl, ho⟩ | ⟨c, hc, hd⟩)⟩
      · exact Or.inl ⟨hj, ho⟩
      · exact Or.inr ⟨_, ⟨c, hc, rfl⟩, (ih c hc _).2 ⟨j, hj, hd⟩⟩

/-- `p` is the parent of `j` somewhere in `t` -/
def IsChild (t : RTree) (p j : Nat) : Prop := ∃ cs, RTree.node p cs ∈ t.subtrees ∧ ∃ c ∈ cs, c.idx = j

theorem node_idx_kids (t : RTree) : RTree.node t.idx t.kids = t := by
  cases t
  rfl

theorem subtrees_child {i : Nat} {cs : List RTree} {c u : RTree} (hc : c ∈ cs) (hu : u ∈ c.subtrees) :
    u ∈ (RTree.node i cs).subtrees := (subtrees_node i cs u).2 (Or.inr ⟨c, hc, hu⟩)

theorem isChild_lift {i : Nat} {cs : List RTree} {c : RTree} (hc : c ∈ cs) {p j : Nat} (h : IsChild c p j) :
    IsChild (.node i cs) p j := by
  obtain ⟨cs', hm, hex⟩ := h
  exact ⟨cs', subtrees_child hc hm, hex⟩

/-- every decision is the root's, or the decision of a child of an already decided parent, computed from the parent's value -/
theorem dec_parent (scope : List Nat) (cpt : List (List (List α))) (e : Ev) (t : RTree) (l j o : Nat)
    (h : Dec scope cpt e t l j o) :
      (j = t.idx ∧ o = chosen scope cpt t.idx t.kids l e) ∨
      ∃ p op cs, IsChild t p j ∧ Dec scope cpt e t l p op ∧ RTree.node j cs ∈ t.subtrees ∧ o = chosen scope cpt j cs op e := by
  induction h with
  | root i cs l => exact Or.inl ⟨rfl, rfl⟩
  | @child i cs l c j o hc hd ih =>
    right
    rcases ih with ⟨hj, ho⟩ | ⟨p, op, cs', hch, hdp, hm, ho⟩
    · refine ⟨i, _, c.kids, ⟨cs, subtrees_self _, c, hc, hj.symm⟩, .root i cs l, ?_, ho.trans (by rw [hj])⟩
      rw [hj, node_idx_kids]
      exact subtrees_child hc (subtrees_self c)
    · exact ⟨p, op, cs', isChild_lift hc hch, .child i cs l hc hdp, subtrees_child hc hm, ho⟩

/-- the linear-domain reading of the table and of the max-product messages of the tree `t` under the evidence `e` -/
def paramsOf (cpt : List (List (List α))) : Int → Int → Int → α := fun i l k => cptAt cpt i.toNat l.toNat k.toNat

/-- what the model says `messages[j, row, :]` is (linear domain): the product of the children's max-messages -/
def MsgsOK (scope : List Nat) (cpt : List (List (List α))) (e : Ev) (t : RTree) (msgs : Int → List α) : Prop :=
  ∀ j cs, RTree.node j cs ∈ t.subtrees → msgs (j : Int) = [msgMax scope cpt cs 0 e, msgMax scope cpt cs 1 e]

/-- the facts about the data handed to the loop -/
structure LoopOK (scope : List Nat) (cpt : List (List (List α))) (e : Ev) (t : RTree) (tree : List Int) (msgs : Int → List α)
    (x0 : List (Option Nat)) (L : List Nat) : Prop where
  /-- the evidence of the variables is the input row -/
  ev : ∀ j, j < x0.length → e (scope.getD j 0) = x0.getD j none
  /-- `self.tree` gives the parents of `t` -/
  par : ∀ p j, IsChild t p j → Gen.Py4.getI tree (j : Int) 0 = (p : Int)
  msgs : MsgsOK scope cpt e t msgs
  /-- the root is nobody's child -/
  root : ∀ p, ¬ IsChild t p t.idx
  /-- the order: no repetition, the root first (not repeated), every variable after its parent, all inside the row -/
  nodup : L.Nodup
  rootOut : t.idx ∉ L
  parentFirst : ∀ A j B, L = A ++ j :: B → ∀ p, IsChild t p j → p = t.idx ∨ p ∈ A
  bound : ∀ j, (j = t.idx ∨ j ∈ L) → j < x0.length

/-- invariant: the processed indices hold their decisions, the others the input -/
structure Inv (scope : List Nat) (cpt : List (List (List α))) (e : Ev) (t : RTree) (x0 : List (Option Nat)) (P : Nat → Prop)
    (x : List (Option Nat)) : Prop where
  done : ∀ j, P j → ∀ o, Dec scope cpt e t 0 j o → x.getD j none = some o
  rest : ∀ j, ¬ P j → x.getD j none = x0.getD j none
  len : x.length = x0.length

theorem Inv.congr {scope : List Nat} {cpt : List (List (List α))} {e : Ev} {t : RTree} {x0 x : List (Option Nat)}
    {P Q : Nat → Prop} (h : ∀ k, P k ↔ Q k) (inv : Inv scope cpt e t x0 P x) : Inv scope cpt e t x0 Q x :=
  ⟨fun j hj => inv.done j ((h j).2 hj), fun j hj => inv.rest j (fun hp => hj ((h j).1 hp)), inv.len⟩

theorem chosen_observed (scope : List Nat) (cpt : List (List (List α))) (e : Ev) (i : Nat) (cs : List RTree) (l v : Nat)
    (h : e (scope.getD i 0) = some v) : chosen scope cpt i cs l e = v := by
  unfold chosen; rw [h]

section loop
variable (scope : List Nat) (cpt : List (List (List α))) (e : Ev) (t : RTree) (tree : List Int) (msgs : Int → List α)
  (x0 : List (Option Nat)) (L : List Nat) (ok : LoopOK scope cpt e t tree msgs x0 L)
include ok

/-- **the write of the loop**: an index `j` not processed so far, all of whose decisions are made from the parent value `l`.
A missing entry receives `pickOf … j l`; an observed one is left alone and is its own decision. -/
theorem write_inv (P : Nat → Prop) (x : List (Option Nat))
    (inv : Inv scope cpt e t x0 P x) (j : Nat) (hjP : ¬ P j) (hjb : j < x0.length) (l : Nat)
    (hdec : ∀ o, Dec scope cpt e t 0 j o → ∃ cs, RTree.node j cs ∈ t.subtrees ∧ o = chosen scope cpt j cs l e) :
    Inv scope cpt e t x0 (fun k => k = j ∨ P k)
      (if Gen.Py4.getI (x0.map Option.isNone) (j : Int) false then
        Gen.Py4.setI x j (some (@pickOf α ⟨(· * ·)⟩ _ _ (paramsOf cpt) msgs (j : Int) (l : Int)))
       else x) := by
  have he : e (scope.getD j 0) = x0.getD j none := ok.ev j hjb
  rw [getI_map_isNone x0 j hjb]
  cases hx0 : x0.getD j none with
  | some v =>
    rw [Option.isNone_some, if_neg Bool.false_ne_true]
    refine ⟨?_, fun k hk => inv.rest k (fun h => hk (Or.inr h)), inv.len⟩
    rintro k (rfl | hk) o hd
    · obtain ⟨cs, _, rfl⟩ := hdec o hd
      rw [inv.rest k hjP, hx0, chosen_observed scope cpt e k cs l v (he.trans hx0)]
    · exact inv.done k hk o hd
  | none =>
    have hjx : j < x.length := inv.len ▸ hjb
    rw [Option.isNone_none, if_pos rfl]
    refine ⟨?_, ?_, (List.length_set ..).trans inv.len⟩
    · intro k hk o hd
      refine (getD_set x j k _ none).trans ?_
      by_cases hkj : k = j
      · subst hkj
        obtain ⟨cs, hm, rfl⟩ := hdec o hd
        rw [if_pos ⟨rfl, hjx⟩]
        exact congrArg some (pickOf_is_chosen scope cpt k cs l e msgs (ok.msgs k cs hm) (he.trans hx0))
      · rw [if_neg (fun h => hkj h.1)]
        exact inv.done k (hk.resolve_left hkj) o hd
    · intro k hk
      refine (getD_set x j k _ none).trans ?_
      rw [if_neg (fun h => hk (Or.inl h.1))]
      exact inv.rest k (fun h => hk (Or.inr h))

/-- one iteration preserves the invariant: the value read for the parent is the parent's decision -/
theorem step_inv (P : Nat → Prop) (x : List (Option Nat))
    (inv : Inv scope cpt e t x0 P x) (j : Nat) (hjP : ¬ P j) (hjr : j ≠ t.idx) (hjb : j < x0.length)
    (hpar : ∀ p, IsChild t p j → P p) :
    Inv scope cpt e t x0 (fun k => k = j ∨ P k)
      (@mpeStep α ⟨(· * ·)⟩ _ _ (paramsOf cpt) tree msgs (x0.map Option.isNone) x (j : Int)) := by
  unfold mpeStep
  rw [Int.toNat_natCast]
  refine write_inv scope cpt e t tree msgs x0 L ok P x inv j hjP hjb _ (fun o hd => ?_)
  rcases dec_parent scope cpt e t 0 j o hd with ⟨hr, _⟩ | ⟨p, op, cs, hch, hdp, hm, ho⟩
  · exact absurd hr hjr
  · refine ⟨cs, hm, ?_⟩
    rw [ho, ok.par p j hch, getI_natCast, inv.done p (hpar p hch) op hdp]
    rfl

/-- the iterations over the rest of the order -/
theorem loop_inv :
    ∀ (B A : List Nat) (x : List (Option Nat)), L = A ++ B → Inv scope cpt e t x0 (fun k => k = t.idx ∨ k ∈ A) x →
      Inv scope cpt e t x0 (fun k => k = t.idx ∨ k ∈ A ++ B)
        ((B.map (fun (a : Nat) => (a : Int))).foldl (@mpeStep α ⟨(· * ·)⟩ _ _ (paramsOf cpt) tree msgs (x0.map Option.isNone)) x) := by
  intro B
  induction B with
  | nil =>
    intro A x _ inv
    rw [List.append_nil]
    exact inv
  | cons j B ih =>
    intro A x hL inv
    have hjL : j ∈ L := hL ▸ List.mem_append_right A List.mem_cons_self
    have hjA : j ∉ A := fun h =>
      (List.nodup_append.1 (hL ▸ ok.nodup)).2.2 j h j List.mem_cons_self rfl
    have hjr : j ≠ t.idx := fun h => ok.rootOut (h ▸ hjL)
    have hstep := step_inv scope cpt e t tree msgs x0 L ok _ x inv j (fun h => h.elim hjr hjA) hjr (ok.bound j (Or.inr hjL))
      (ok.parentFirst A j B hL)
    rw [List.append_cons]
    refine ih (A ++ [j]) _ (hL.trans (List.append_cons ..)) (hstep.congr fun k => ?_)
    rw [List.mem_append, List.mem_singleton, or_comm (a := k = j), or_assoc]

end loop

/-- **`BinaryCLT.mpe` as extracted is the model's decoding pass, for every parent-first order.**  With the table read in the
linear domain, the messages the model prescribes (`MsgsOK`), `tree` the parent vector of `t`, and the order `root :: L`
listing every variable after its parent: the returned row holds, at every local index `j` of the order, every decision
`Dec … t 0 j o` of the recursive pass, and the input entry everywhere else. -/
theorem mpe_loop_is_dec (scope : List Nat) (cpt : List (List (List α))) (e : Ev) (t : RTree) (tree : List Int)
    (mp : List (Option Nat) → List Bool → Bool → String → Int → List α) (x0 : List (Option Nat)) (L : List Nat)
    (ok : LoopOK scope cpt e t tree (mp x0 (x0.map (fun o => !o.isNone)) false "mpe") x0 L) :
    Inv scope cpt e t x0 (fun k => k = t.idx ∨ k ∈ L)
      (@Gen.S4cltMpe α ⟨(· * ·)⟩ _ _ (paramsOf cpt) (t.idx : Int) ((t.idx :: L).map (fun (a : Nat) => (a : Int))) tree mp x0) := by
  rw [@mpe_as_coded α ⟨(· * ·)⟩ _ _]
  simp only [List.map_cons, List.drop_succ_cons, List.drop_zero, Int.toNat_natCast]
  refine loop_inv scope cpt e t tree _ x0 L ok L [] _ rfl ?_
  -- the root: its decisions are made from the literal 0, and it is nobody's child
  have htm : RTree.node t.idx t.kids ∈ t.subtrees := by
    rw [node_idx_kids]
    exact subtrees_self t
  refine write_inv scope cpt e t tree _ x0 L ok (fun k => k ∈ []) x0 ⟨fun _ h => absurd h List.not_mem_nil, fun _ _ => rfl, rfl⟩
    t.idx List.not_mem_nil (ok.bound t.idx (Or.inl rfl)) 0 (fun o hd => ⟨t.kids, htm, ?_⟩)
  rcases dec_parent scope cpt e t 0 t.idx o hd with ⟨_, ho⟩ | ⟨p, _, _, hch, _, _, _⟩
  · exact ho
  · exact absurd hch (ok.root p)

/-- … hence it is `Clt.decode` on the variables of the tree (variable ids injective on the tree's indices) -/
theorem mpe_loop_is_decode (scope : List Nat) (cpt : List (List (List α))) (e : Ev) (t : RTree) (tree : List Int)
    (mp : List (Option Nat) → List Bool → Bool → String → Int → List α) (x0 : List (Option Nat)) (L : List Nat)
    (ok : LoopOK scope cpt e t tree (mp x0 (x0.map (fun o => !o.isNone)) false "mpe") x0 L)
    (hinj : ∀ i j o o', Dec scope cpt e t 0 i o → Dec scope cpt e t 0 j o' → scope.getD i 0 = scope.getD j 0 → i = j)
    (j o : Nat) (hj : j = t.idx ∨ j ∈ L) (hd : Dec scope cpt e t 0 j o) :
    (@Gen.S4cltMpe α ⟨(· * ·)⟩ _ _ (paramsOf cpt) (t.idx : Int) ((t.idx :: L).map (fun (a : Nat) => (a : Int))) tree mp x0).getD j none
      = decode scope cpt t 0 e (scope.getD j 0) := by
  have inv := mpe_loop_is_dec scope cpt e t tree mp x0 L ok
  rw [inv.done j hj o hd]
  unfold decode
  rcases over_cases (decodeList scope cpt t 0 e) e (scope.getD j 0) with ⟨k, hk, hov⟩ | ⟨hnk, _⟩
  · rw [hov]
    obtain ⟨i, hi, hdi⟩ := (mem_decodeList scope cpt e t 0 _ k).1 hk
    have hij : j = i := hinj j i o k hd hdi hi
    subst hij
    have := inv.done j hj k hdi
    rw [inv.done j hj o hd] at this
    exact this
  · exfalso
    apply hnk
    exact List.mem_map.2 ⟨(scope.getD j 0, o), (mem_decodeList scope cpt e t 0 _ o).2 ⟨j, rfl, hd⟩, rfl⟩

/-! non-vacuity: a star `0 → {1, 2}` with variable 1 observed, in the order `0, 1, 2` -/
namespace ExLoop

def t : RTree := .node 0 [.node 1 [], .node 2 []]
def scope : List Nat := [0, 1, 2]
def cpt : List (List (List ℚ)) := [[[1/2, 1/2], [1/2, 1/2]], [[1/4, 3/4], [2/3, 1/3]], [[1/5, 4/5], [1/2, 1/2]]]
def x0 : List (Option Nat) := [none, some 0, none]
def e : Ev := Ev.ofList x0
def msgs : Int → List ℚ := fun i =>
  if i = 0 then [msgMax scope cpt [.node 1 [], .node 2 []] 0 e, msgMax scope cpt [.node 1 [], .node 2 []] 1 e]
  else [msgMax scope cpt [] 0 e, msgMax scope cpt [] 1 e]

theorem isChild_iff (p j : Nat) : IsChild t p j ↔ p = 0 ∧ (j = 1 ∨ j = 2) := by
  unfold IsChild t
  simp only [RTree.subtrees, List.map_cons, List.map_nil, List.flatten_cons, List.flatten_nil, List.append_nil, List.cons_append,
    List.nil_append, List.mem_cons, List.not_mem_nil, or_false, RTree.node.injEq]
  constructor
  · rintro ⟨cs, (⟨rfl, rfl⟩ | ⟨rfl, rfl⟩ | ⟨rfl, rfl⟩), c, hc, hj⟩
    · simp only [List.mem_cons, List.not_mem_nil, or_false] at hc
      rcases hc with rfl | rfl
      · exact ⟨rfl, Or.inl hj.symm⟩
      · exact ⟨rfl, Or.inr hj.symm⟩
    · simp at hc
    · simp at hc
  · rintro ⟨rfl, (rfl | rfl)⟩
    · exact ⟨_, Or.inl ⟨rfl, rfl⟩, .node 1 [], by simp, rfl⟩
    · exact ⟨_, Or.inl ⟨rfl, rfl⟩, .node 2 [], by simp, rfl⟩

theorem ok : LoopOK scope cpt e t [-1, 0, 0] msgs x0 [1, 2] where
  ev := by
    intro j hj
    match j, hj with
    | 0, _ => rfl
    | 1, _ => rfl
    | 2, _ => rfl
  par := by
    intro p j h
    obtain ⟨rfl, (rfl | rfl)⟩ := (isChild_iff p j).1 h <;> rfl
  msgs := by
    intro j cs h
    unfold t at h
    simp only [RTree.subtrees, List.map_cons, List.map_nil, List.flatten_cons, List.flatten_nil, List.append_nil, List.cons_append,
      List.nil_append, List.mem_cons, List.not_mem_nil, or_false, RTree.node.injEq] at h
    rcases h with ⟨rfl, rfl⟩ | ⟨rfl, rfl⟩ | ⟨rfl, rfl⟩ <;> rfl
  root := by
    intro p h
    have := (isChild_iff p t.idx).1 h
    simp [t, RTree.idx] at this
  nodup := by decide
  rootOut := by decide
  parentFirst := by
    intro A j B hL p hp
    exact Or.inl ((isChild_iff p j).1 hp).1
  bound := by
    intro j hj
    rcases hj with rfl | hj
    · decide
    · simp only [List.mem_cons, List.not_mem_nil, or_false] at hj
      rcases hj with rfl | rfl <;> decide

/-- the extracted function on this row satisfies the invariant of `mpe_loop_is_dec` (all hypotheses discharged) -/
example :
    Inv scope cpt e t x0 (fun k => k = 0 ∨ k ∈ [1, 2])
      (@Gen.S4cltMpe ℚ ⟨(· * ·)⟩ _ _ (paramsOf cpt) 0 [0, 1, 2] [-1, 0, 0] (fun _ _ _ _ => msgs) x0) :=
  mpe_loop_is_dec scope cpt e t [-1, 0, 0] (fun _ _ _ _ => msgs) x0 [1, 2] ok

end ExLoop

end

end Deeprob.Struct4
