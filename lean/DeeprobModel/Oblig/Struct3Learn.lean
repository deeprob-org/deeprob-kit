import DeeprobModel.Oblig.StructPy
import DeeprobModel.Model.Learn
/-
Static tie of `Model/Learn.lean` (`uniqSorted`, `pick`, `slicesOf`, `weightsOf`, `step`, `init`) to
/repo/deeprob/spn/learning/splitting/rows.py (`split_rows_clusters`), …/cols.py (`split_cols_clusters`) and
/repo/deeprob/spn/learning/learnspn.py (`Task`, the operation branches of `learn_spn`) — C05, C04.

`Gen.S3split…` are the loops of the two functions read as maps over `np.unique(clusters)`; `Gen.S3Task` is the
NamedTuple; `Gen.S3learn…` are the `Task(...)` records built by the branches (defaults filled in), the test of the
single-slice branch, the deque method used for the re-queue.  Trusted: `np.unique` = sorted distinct values
(`Gen.Py3.unique`), boolean-mask selection keeps the order (`Gen.Py3.rowsWhere`).
-/
namespace Deeprob.Struct3
open Deeprob Deeprob.Learn Deeprob.Oblig.StructPy

theorem uinsert_eq (x : Int) (l : List Int) : Gen.Py3.uinsert x l = insertSorted x l := by
  induction l with
  | nil => rfl
  | cons y ys ih => simp only [Gen.Py3.uinsert, insertSorted, ih]

/-- the model's `uniqSorted` is the reading of `np.unique` used by the translator -/
theorem unique_eq_uniqSorted (l : List Int) : Gen.Py3.unique l = uniqSorted l := by
  unfold Gen.Py3.unique uniqSorted
  induction l with
  | nil => rfl
  | cons x xs ih => simp only [List.foldr_cons, ih, uinsert_eq]

/-- `data[clusters == c, :]` is the model's `pick` -/
theorem rowsWhere_eq_pick {β : Type} (labels : List Int) (items : List β) (c : Int) :
    Gen.Py3.rowsWhere items (labels.map (fun a => a == c)) = pick labels items c := by
  unfold Gen.Py3.rowsWhere pick
  induction labels generalizing items with
  | nil => cases items <;> simp
  | cons l ls ih =>
    cases items with
    | nil => simp
    | cons x xs =>
      simp only [List.map_cons, List.zip_cons_cons, List.filter_cons]
      by_cases h : (l == c) = true
      · simp only [h, if_true, List.map_cons, ih]
      · simp only [h, Bool.false_eq_true, if_false, ih]

/-- **`split_rows_clusters`, slices**: one slice per label of `np.unique(clusters)`, in that order, each holding the rows
with that label in data order — the model's `slicesOf` -/
theorem slicesOf_as_coded {β : Type} (labels : List Int) (items : List β) :
    slicesOf labels items = Gen.S3splitRowsSlices items labels := by
  unfold slicesOf Gen.S3splitRowsSlices
  simp only [unique_eq_uniqSorted, rowsWhere_eq_pick]

example : Gen.S3splitRowsSlices [10, 11, 12, 13, 14] [2, 0, 2, -1, 0] = [[13], [11, 14], [10, 12]] ∧
    slicesOf [2, 0, 2, -1, 0] [10, 11, 12, 13, 14] = [[13], [11, 14], [10, 12]] := by
  decide +kernel

/-- **`split_rows_clusters`, weights**: `len(local_data) / n_samples` with `n_samples = len(data)`, as exact pairs — the
model's `weightsOf` of the slices -/
theorem weightsOf_as_coded (labels : List Int) (rows : List Nat) :
    (weightsOf (slicesOf labels rows) rows.length).map (fun p => ((p.1 : Int), (p.2 : Int)))
      = Gen.S3splitRowsWeights rows labels := by
  unfold weightsOf slicesOf Gen.S3splitRowsWeights
  simp only [unique_eq_uniqSorted, rowsWhere_eq_pick, List.map_map, Function.comp_def]

example : Gen.S3splitRowsWeights [10, 11, 12, 13, 14] [2, 0, 2, -1, 0] = [(1, 5), (2, 5), (2, 5)] ∧
    weightsOf (slicesOf [2, 0, 2, -1, 0] [10, 11, 12, 13, 14]) 5 = [(1, 5), (2, 5), (2, 5)] := by decide +kernel

/-- **`split_cols_clusters`**: scopes (and column slices) per label of `np.unique(clusters)` — the model's `slicesOf` on
the scope (on the list of columns) -/
theorem colScopes_as_coded {β : Type} (data : List β) (labels : List Int) (scope : List Nat) :
    slicesOf labels scope = Gen.S3splitColsScopes data labels scope ∧
    slicesOf labels data = Gen.S3splitColsSlices data labels scope := by
  unfold slicesOf Gen.S3splitColsScopes Gen.S3splitColsSlices
  simp only [unique_eq_uniqSorted, rowsWhere_eq_pick, and_self]

example : Gen.S3splitColsScopes ["a", "b", "c"] [1, 0, 1] [4, 5, 6] = [[5], [4, 6]] ∧
    Gen.S3splitColsSlices ["a", "b", "c"] [1, 0, 1] [4, 5, 6] = [["b"], ["a", "c"]] := by decide +kernel

/-- the model's `Task` as the NamedTuple of the code: `data` is represented by the row ids -/
def toS3 (t : Task) : Gen.S3Task Nat (List Nat) (List Nat) :=
  { parent := t.parent, data := t.rows, scope := t.scope, no_cols_split := t.noColsSplit, no_rows_split := t.noRowsSplit,
    is_first := t.isFirst }

def ofS3 (t : Gen.S3Task Nat (List Nat) (List Nat)) : Task :=
  { parent := t.parent, rows := t.data, scope := t.scope, noColsSplit := t.no_cols_split, noRowsSplit := t.no_rows_split,
    isFirst := t.is_first }

theorem ofS3_toS3 (t : Task) : ofS3 (toS3 t) = t := rfl

/-- the field defaults of the NamedTuple are the defaults of the model's structure -/
theorem task_defaults_as_coded (p : Nat) (r s : List Nat) :
    ofS3 { parent := p, data := r, scope := s } = { parent := p, rows := r, scope := s } := rfl

/-- **initial task, pop side, result** — `tasks.append(Task(tmp_node, data, initial_scope, is_first=True))`,
`task = tasks.popleft()` (the model's `step` takes the head of the list), `root = tmp_node.children[0]` (`rootId`) -/
theorem learn_loop_as_coded (rows scope : List Nat) (script : List Ans) :
    (initOn rows scope script).queue = [ofS3 (Gen.S3learnInitial 0 rows scope)] ∧
    Gen.S3learnPop = "tasks.popleft()" ∧ Gen.S3learnResult = "tmpNode.children[0]" ∧
    Gen.S3learnOps = ["REM_FEATURES", "CREATE_LEAF", "SPLIT_NAIVE", "SPLIT_ROWS", "SPLIT_COLS"] :=
  ⟨rfl, rfl, rfl, rfl⟩

example : (init 3 2 []).queue = [ofS3 (Gen.S3learnInitial 0 [0, 1, 2] [0, 1])] := (learn_loop_as_coded _ _ _).1

/-- **re-queue side**: both single-slice branches use `tasks.appendleft` — the model's `requeue` with `front = true` (the
discipline `Props/C05` proves its invariant for) -/
theorem requeue_side_as_coded (q : List Task) (t : Task) :
    requeue (Gen.S3learnRowsRequeueAt == "appendleft") q t = t :: q ∧
    requeue (Gen.S3learnColsRequeueAt == "appendleft") q t = t :: q := by
  have h1 : (Gen.S3learnRowsRequeueAt == "appendleft") = true := rfl
  have h2 : (Gen.S3learnColsRequeueAt == "appendleft") = true := rfl
  rw [h1, h2]; exact ⟨rfl, rfl⟩

theorem rowsSingle_eq {D : Type} (sl : List D) : Gen.S3learnRowsSingle sl = decide (sl.length = 1) := natCast_beq_one _

theorem colsSingle_eq {D : Type} (sl : List D) : Gen.S3learnColsSingle sl = decide (sl.length = 1) := natCast_beq_one _

/-- the single-slice test `len(slices) == 1` -/
theorem single_as_coded {D : Type} (sl : List D) :
    (Gen.S3learnRowsSingle sl = true ↔ sl.length = 1) ∧ (Gen.S3learnColsSingle sl = true ↔ sl.length = 1) := by
  rw [rowsSingle_eq, colsSingle_eq, decide_eq_true_eq, and_self]

/-- **SPLIT_ROWS as coded**: on a rows answer of the right length the model's `step` re-queues, with the deque method of
the configuration (`requeue_side_as_coded`: the source uses `appendleft`, the model's `front = true`), exactly the record `Task(task.parent, task.data, task.scope, no_cols_split=False,
no_rows_split=True)` when `split_rows_clusters` returns one slice; otherwise it creates the sum node with the coded
weights, pushes `Task(node, local_data, task.scope)` per slice in order at the back, and attaches the node to the parent -/
theorem step_splitRows_as_coded (cfg : Cfg) (s : St) (t : Task) (q : List Task) (pos : List Nat) (labels : List Int)
    (sc' : List Ans) (hq : s.queue = t :: q) (hs : s.script = .zeroVar pos :: .rows labels :: sc')
    (hpos : pos.any (fun i => decide (t.scope.length ≤ i)) = false)
    (hop : selectOp cfg t (zvMask pos t.scope.length) = .splitRows) (hl : labels.length = t.rows.length) :
    step cfg s =
      (let slices := Gen.S3splitRowsSlices t.rows labels
       if Gen.S3learnRowsSingle slices then
         .ok { s with queue := requeue cfg.front q (ofS3 (Gen.S3learnRowsRequeue (toS3 t))), script := sc' }
       else
         .ok (attach s t q sc'
           { kind := .sum, scope := t.scope, rows := t.rows, weights := weightsOf slices t.rows.length, parts := slices } none
           ((Gen.S3learnRowsSubtasks (toS3 t) s.size slices).map ofS3))) ∧
    Gen.S3learnRowsNodeClass = "Sum" := by
  refine ⟨?_, rfl⟩
  unfold step
  rw [hq, hs]
  simp only [hpos, Bool.false_eq_true, if_false, hop, hl, ne_eq, not_true_eq_false, ← slicesOf_as_coded, rowsSingle_eq,
    decide_eq_true_eq]
  by_cases h1 : (slicesOf labels t.rows).length = 1
  · rw [if_pos h1, if_pos h1]
    rfl
  · rw [if_neg h1, if_neg h1]
    congr 2
    unfold Gen.S3learnRowsSubtasks
    rw [List.map_map]
    rfl

/-- **SPLIT_COLS as coded**: the re-queued record is `Task(task.parent, task.data, task.scope, no_cols_split=True,
no_rows_split=False)`; otherwise a product node, and `Task(node, local_data, scopes[i])` per slice (the data slice of the
model is the unchanged row-id list: `data[:, cols]` keeps every row) -/
theorem step_splitCols_as_coded (cfg : Cfg) (s : St) (t : Task) (q : List Task) (pos : List Nat) (labels : List Int)
    (sc' : List Ans) (hq : s.queue = t :: q) (hs : s.script = .zeroVar pos :: .cols labels :: sc')
    (hpos : pos.any (fun i => decide (t.scope.length ≤ i)) = false)
    (hop : selectOp cfg t (zvMask pos t.scope.length) = .splitCols) (hl : labels.length = t.scope.length) :
    step cfg s =
      (let scopes := Gen.S3splitColsScopes t.scope labels t.scope
       if Gen.S3learnColsSingle scopes then
         .ok { s with queue := requeue cfg.front q (ofS3 (Gen.S3learnColsRequeue (toS3 t))), script := sc' }
       else
         .ok (attach s t q sc' { kind := .prod, scope := t.scope, rows := t.rows, parts := scopes } none
           ((Gen.S3learnColsSubtasks (toS3 t) s.size (scopes.map (fun _ => t.rows)) scopes).map ofS3))) ∧
    Gen.S3learnColsNodeClass = "Product" := by
  refine ⟨?_, rfl⟩
  unfold step
  rw [hq, hs]
  simp only [hpos, Bool.false_eq_true, if_false, hop, hl, ne_eq, not_true_eq_false,
    ← (colScopes_as_coded t.scope labels t.scope).1, colsSingle_eq, decide_eq_true_eq]
  by_cases h1 : (slicesOf labels t.scope).length = 1
  · rw [if_pos h1, if_pos h1]
    rfl
  · rw [if_neg h1, if_neg h1]
    congr 2
    unfold Gen.S3learnColsSubtasks
    generalize slicesOf labels t.scope = sl
    -- slice `k` of the data goes with `scopes[k]`
    apply List.ext_getElem
    · simp only [List.length_map, List.length_zipIdx]
    · intro k h1 h2
      have hk : k < sl.length := by simpa using h1
      simp only [List.getElem_map, List.getElem_zipIdx, Nat.zero_add, Int.toNat_natCast, List.getD_eq_getElem?_getD,
        List.getElem?_eq_getElem hk, Option.getD_some]
      rfl

/-- **REM_FEATURES as coded**: the pushed task is `Task(node, task.data[:, ~mask], oth_scope, is_first = task.is_first and
len(tasks) == 0)` (rows unchanged), `CREATE_LEAF` / `SPLIT_NAIVE` push nothing -/
theorem step_remFeatures_as_coded (cfg : Cfg) (s : St) (t : Task) (q : List Task) (pos : List Nat) (sc : List Ans)
    (hq : s.queue = t :: q) (hs : s.script = .zeroVar pos :: sc)
    (hpos : pos.any (fun i => decide (t.scope.length ≤ i)) = false)
    (hop : selectOp cfg t (zvMask pos t.scope.length) = .remFeatures) :
    step cfg s =
      (let zv := zvMask pos t.scope.length
       .ok (attach s t q sc
         { kind := .prod, scope := t.scope, rows := t.rows, children := [s.size + 1],
           parts := [selectBy zv t.scope true, selectBy zv t.scope false] }
         (some { kind := .naive, scope := selectBy zv t.scope true, rows := t.rows })
         [ofS3 (Gen.S3learnRemSubtask (toS3 t) (q.map toS3) s.size t.rows (selectBy zv t.scope false))])) ∧
    Gen.S3learnLeaf = ("learn_leaf_func", "task.data", "task.scope", "task.parent") ∧
    Gen.S3learnNaive = ("learn_naive_factorization", "task.data", "task.scope", "task.parent") := by
  refine ⟨?_, rfl, rfl⟩
  have he : ((((q.map toS3).length : Nat) : Int) == 0) = q.isEmpty := by
    rw [natCast_beq_zero, List.length_map]
    cases q <;> rfl
  unfold step
  rw [hq, hs]
  simp only [hpos, Bool.false_eq_true, if_false, hop]
  congr 3
  unfold Gen.S3learnRemSubtask ofS3
  simp only [he]
  rfl

/-- non-vacuity: a concrete state in which the rows answer splits 4 rows into slices of sizes 1 and 3 -/
example :
    step { minRows := 1, minCols := 1, front := true }
        { nodes := [{ kind := .prod, scope := [0, 1], rows := [0, 1, 2, 3], parts := [[0, 1]] }],
          queue := [{ parent := 0, rows := [0, 1, 2, 3], scope := [0, 1], isFirst := true }],
          script := [.zeroVar [], .rows [5, 2, 5, 5]] }
      = .ok { nodes := [{ kind := .prod, scope := [0, 1], rows := [0, 1, 2, 3], children := [1], parts := [[0, 1]] },
                        { kind := .sum, scope := [0, 1], rows := [0, 1, 2, 3], weights := [(1, 4), (3, 4)], parts := [[1], [0, 2, 3]] }],
              queue := (Gen.S3learnRowsSubtasks (toS3 { parent := 0, rows := [0, 1, 2, 3], scope := [0, 1], isFirst := true }) 1
                          (Gen.S3splitRowsSlices [0, 1, 2, 3] [5, 2, 5, 5])).map ofS3,
              script := [] } := by
  decide +kernel

end Deeprob.Struct3
